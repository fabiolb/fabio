import Fabio.Lemmas.C01
import Fabio.Lemmas.C14
/-!
The C01 model's reverse string sort and newline join are the ones of C14 / `Model/Parse.lean`.
-/
namespace Fabio.Lemmas.C01Compose
open Fabio Fabio.Model.C01
open Fabio.Model.Parse (join)

theorem strLt_eq : ∀ a b : Str, Fabio.Model.C01.strLt a b = Fabio.Model.Route.strLt a b
  | [], [] => rfl
  | [], _ :: _ => rfl
  | _ :: _, [] => rfl
  | a :: as, b :: bs => by
    simp only [Fabio.Model.C01.strLt, Fabio.Model.Route.strLt, strLt_eq as bs]

theorem sortDesc_eq (l : List Str) : Fabio.Model.C01.sortDesc l = Fabio.Model.C14.sortDesc l := by
  have h : (fun a b : Str => Fabio.Model.C01.strLt b a) = fun a b => Fabio.Model.Route.strLt b a :=
    funext fun a => funext fun b => strLt_eq b a
  rw [Fabio.Lemmas.C01.sortDesc_eq_sortBy, Fabio.Lemmas.C14.sortDesc_eq_sortBy, h]

theorem joinLines_eq (l : List Str) : joinLines l = join ['\n'] l := by
  induction l with
  | nil => rfl
  | cons x xs ih =>
    cases xs with
    | nil => rfl
    | cons y r =>
      simp only [joinLines, join, ih]
      simp

end Fabio.Lemmas.C01Compose
