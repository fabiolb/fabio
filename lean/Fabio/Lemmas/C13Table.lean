import Fabio.Model.C13Table
import Fabio.Lemmas.Basic
import Fabio.Lemmas.C13
import Fabio.Lemmas.C03
/-!
Lemmas about `Model/C13Table.lean` for `Props/C13Table*.lean` and `Props/C13Compose.lean`. The transport `chars` of C13's
byte strings into C03's `List Char`: it is injective and commutes with lower-casing, with the prefix and suffix tests
and with cutting the default port, hence with `normalizeHost` (`normalizeHost_chars`). What C03's `globLib` does on the
two shapes of key the table specification reads, a literal and `*`+literal, is in `Lemmas/C03.lean`.
-/
namespace Fabio.Lemmas.C13Table
open Fabio Fabio.Model Fabio.Model.C13Table

theorem b2c_toNat (x : UInt8) : (b2c x).toNat = x.toNat := toNat_ofNat_byte x

theorem b2c_beq (a b : UInt8) : (b2c a == b2c b) = (a == b) := ofNat_byte_beq a b

theorem lowerChar_b2c (x : UInt8) : lowerChar (b2c x) = b2c (C13.lowerByte x) := by
  have h65 : (65 : UInt8).toNat = 65 := rfl
  have h90 : (90 : UInt8).toNat = 90 := rfl
  have h32 : (32 : UInt8).toNat = 32 := rfl
  rw [← Char.toNat_inj, lowerChar_toNat, b2c_toNat, b2c_toNat, C13.lowerByte]
  simp only [Bool.and_eq_true, decide_eq_true_eq, UInt8.le_iff_toNat_le, h65, h90]
  split
  · rw [UInt8.toNat_add]; omega
  · rfl

theorem chars_inj {a b : C13.Str} (h : chars a = chars b) : a = b := map_ofNat_byte_inj h

theorem chars_beq (a b : C13.Str) : (chars a == chars b) = (a == b) := beq_of_inj chars_inj

theorem chars_eq_nil {s : C13.Str} : chars s = [] ↔ s = [] := by cases s <;> simp [chars]

theorem chars_reverse (a : C13.Str) : chars a.reverse = (chars a).reverse := by simp [chars]

theorem lowerL_chars (s : C13.Str) : lowerL (chars s) = chars (lower s) := by
  induction s with
  | nil => rfl
  | cons x xs ih =>
    simp only [chars, lower, lowerL, List.map_cons, List.cons.injEq] at ih ⊢
    exact ⟨lowerChar_b2c x, ih⟩

theorem isPrefixOf_chars (p s : C13.Str) : (chars p).isPrefixOf (chars s) = p.isPrefixOf s := by
  induction p generalizing s with
  | nil => rfl
  | cons x xs ih =>
    cases s with
    | nil => rfl
    | cons y ys =>
      have := ih ys
      simp only [chars, List.map_cons, List.isPrefixOf] at this ⊢
      rw [b2c_beq, this]

theorem isSuffixOf_chars (p s : C13.Str) : (chars p).isSuffixOf (chars s) = p.isSuffixOf s := by
  simp only [List.isSuffixOf, ← chars_reverse, isPrefixOf_chars]

/-- cutting a port off the end: the specification goes through the reversed string, the model uses `take` -/
theorem cutPort_chars (h p : C13.Str) :
    chars (if p.reverse.isPrefixOf h.reverse then (h.reverse.drop p.length).reverse else h) =
      if C03.hasSuffix (chars h) (chars p) then (chars h).take ((chars h).length - p.length) else chars h := by
  have : p.reverse.isPrefixOf h.reverse = p.isSuffixOf h := rfl
  rw [this, C03.hasSuffix, isSuffixOf_chars, List.drop_reverse, List.reverse_reverse]
  split <;> simp [chars]

theorem normalizeHost_chars (h : C13.Str) (tls : Bool) :
    C03.normalizeHost (chars h) tls = chars (specNorm h tls) := by
  have e80 : C03.port80 = chars (C13.lit ":80") := by decide
  have e443 : C03.port443 = chars (C13.lit ":443") := by decide
  have l80 : (C13.lit ":80").length = 3 := by decide
  have l443 : (C13.lit ":443").length = 4 := by decide
  unfold C03.normalizeHost C03.normalizeHostNoLower specNorm
  rw [← lowerL_chars]
  cases tls
  · simp only [Bool.not_false, Bool.true_and, Bool.false_eq_true, if_false, Bool.false_and]
    rw [cutPort_chars, e80, l80]
  · simp only [Bool.not_true, Bool.false_and, Bool.false_eq_true, if_false, Bool.true_and, if_true]
    rw [cutPort_chars, e443, l443]

theorem hasMeta_chars (k : C13.Str) (h : hasMeta k = false) :
    ∀ c ∈ chars k, (c == '*') = false ∧ (c == '?') = false := by
  intro c hc
  simp only [chars, List.mem_map] at hc
  obtain ⟨x, hx, rfl⟩ := hc
  have := List.any_eq_false.1 h x hx
  rw [show '*' = b2c 42 from rfl, show '?' = b2c 63 from rfl, b2c_beq, b2c_beq]
  have hm : ∀ y ∈ (C13.lit "*?[{\\"), x ≠ y := by
    intro y hy e; subst e
    exact this (by simpa using hy)
  refine ⟨?_, ?_⟩
  · have := hm 42 (by decide); simpa using this
  · have := hm 63 (by decide); simpa using this

theorem skipFor_eq (view : Route.Target → C13.RTarget) (q : CReq) (tg : Route.Target) :
    skipFor view q tg = Lemmas.C13.skipped (scheme q) q.url (view tg) := rfl

end Fabio.Lemmas.C13Table

namespace Fabio.Props.C13Table
open Fabio Fabio.Model Fabio.Model.C13Table

theorem chars_eq_map (s : C13.Str) : chars s = s.map b2c := rfl

theorem chars_append (a b : C13.Str) : chars (a ++ b) = chars a ++ chars b := by simp [chars]

end Fabio.Props.C13Table
