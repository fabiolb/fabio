import Fabio.Model.C04F64
import Fabio.Lemmas.Route
/-!
The route commands over an arbitrary weighing function (`Ops`, `Model/C04F64.lean`): every route of every table
`newTableG O` builds is non-empty and carries targets that came out of `O.W`, provided `O.W` maps non-empty lists
to non-empty lists. The shared ℚ model is the instance `Ops.rat` (`applyDefG_rat`, `applyDefWG_rat`).
-/
namespace Fabio.Lemmas.C04
open Fabio Fabio.Model.Route Fabio.Model.C04
open Fabio.Lemmas.Route (set_pred get_pred forall_replace find_some sortRoutes_perm)

/-! The commands over `Ops.rat` are the commands of the shared model, layer by layer: each definition over `Ops` is a
copy of the one in `Model/Route.lean`, so once the layer below has been rewritten the two sides differ in the names
of their matchers only. Comparing the two in one step makes the unifier unfold all layers at once, which is slow. -/

theorem addTargetG_rat : addTargetG Ops.rat = Route.addTarget := rfl
theorem filterG_rat : filterG Ops.rat = Route.filter := rfl
theorem setWeightG_rat : setWeightG Ops.rat = Route.setWeight := rfl

theorem addRouteG_rat : addRouteG Ops.rat = addRoute := by
  funext env t d; unfold addRouteG addRoute; rw [addTargetG_rat]; rfl

theorem weighRouteG_rat : weighRouteG Ops.rat = weighRoute := by
  funext t d; unfold weighRouteG weighRoute; rw [setWeightG_rat]; rfl

theorem delRouteG_rat : delRouteG Ops.rat = delRoute := by
  funext env t d; unfold delRouteG delRoute; rw [filterG_rat]; rfl

theorem applyDefG_rat : applyDefG Ops.rat = applyDef := by
  funext env t d; unfold applyDefG applyDef; rw [addRouteG_rat, delRouteG_rat, weighRouteG_rat]; rfl

theorem applyDefWG_rat : applyDefWG Ops.rat = applyDefW := by
  funext env t d finite; unfold applyDefWG applyDefW; rw [applyDefG_rat]; rfl

def WeighedG (O : Ops) (r : Route) : Prop := ∃ ts, r.targets = O.W ts
def RouteOKG (O : Ops) (r : Route) : Prop := r.targets ≠ [] ∧ WeighedG O r
def TableOKG (O : Ops) (t : Table) : Prop := ∀ kv ∈ t, ∀ r ∈ kv.2, RouteOKG O r
/-- routes may be empty: the state between `filterG` and `prune` -/
def TableWG (O : Ops) (t : Table) : Prop := ∀ kv ∈ t, ∀ r ∈ kv.2, WeighedG O r

theorem addTarget_okG (O : Ops) (hW : ∀ ts, ts ≠ [] → O.W ts ≠ []) (r : Route) (service url : Str) (fw : Rat)
    (tags : List Str) (opts : List (Str × Str)) (h : RouteOKG O r ∨ r.targets = []) :
    RouteOKG O (addTargetG O r service url fw tags opts) := by
  unfold addTargetG
  simp only
  generalize (if fw < 0 then (0 : Rat) else fw) = fw'
  split
  · rename_i hany
    rcases h with h | h
    · exact h
    · rw [h] at hany; simp at hany
  · exact ⟨hW _ (by simp), _, rfl⟩

theorem filter_weighedG (O : Ops) (r : Route) (skip : Target → Bool) : WeighedG O (filterG O r skip) := ⟨_, rfl⟩

theorem setWeight_okG (O : Ops) (hW : ∀ ts, ts ≠ [] → O.W ts ≠ []) (r : Route) (service : Str) (w : Rat)
    (tags : List Str) (h : RouteOKG O r) : RouteOKG O (setWeightG O r service w tags).1 := by
  unfold setWeightG
  simp only
  split
  · exact h
  · exact ⟨hW _ (fun h0 => h.1 (List.map_eq_nil_iff.mp h0)), _, rfl⟩

theorem prune_okG (O : Ops) (t : Table) (h : TableWG O t) : TableOKG O (prune t) := by
  intro kv hkv r hr
  unfold prune at hkv
  obtain ⟨hkv, _⟩ := List.mem_filter.mp hkv
  obtain ⟨kv0, hkv0, rfl⟩ := List.mem_map.mp hkv
  simp only at hr
  obtain ⟨hr, hne⟩ := List.mem_filter.mp hr
  refine ⟨?_, h kv0 hkv0 r hr⟩
  intro h0; rw [h0] at hne; simp at hne

/-- `route del` by service or tags -/
theorem del_all_okG (O : Ops) (t : Table) (skip : Target → Bool) :
    TableOKG O (prune (mapRoutes t (fun r => filterG O r skip))) := by
  apply prune_okG
  intro kv hkv r hr
  unfold mapRoutes at hkv
  obtain ⟨kv0, _, rfl⟩ := List.mem_map.mp hkv
  simp only at hr
  obtain ⟨r0, _, rfl⟩ := List.mem_map.mp hr
  exact filter_weighedG O r0 skip

/-- `route del` of one route -/
theorem del_one_okG (O : Ops) (t : Table) (host : Str) (r : Route) (skip : Target → Bool) (h : TableOKG O t) :
    TableOKG O (prune (t.set host (replaceRoute (t.get host) (filterG O r skip)))) := by
  have hW : TableWG O t := fun kv hkv r hr => (h kv hkv r hr).2
  apply prune_okG
  apply set_pred (WeighedG O) t host _ hW
  apply forall_replace (P := WeighedG O)
  · exact get_pred (WeighedG O) t host hW
  · exact filter_weighedG O r skip

theorem addRoute_okG (O : Ops) (hW : ∀ ts, ts ≠ [] → O.W ts ≠ []) (env : Env) (t t' : Table) (d : RouteDef)
    (h : TableOKG O t) (he : addRouteG O env t d = .ok t') : TableOKG O t' := by
  -- the route that is stored went through `addTargetG`, starting from nothing or from a route of the table
  have hnew : ∀ host path url, RouteOKG O (addTargetG O ⟨host, path, []⟩ d.service url d.weight d.tags d.opts) :=
    fun _ _ _ => addTarget_okG O hW _ _ _ _ _ _ (Or.inr rfl)
  unfold addRouteG at he
  simp only at he
  -- `rw [if_pos _] at he` on a named condition; `split at he` is slow on a term of this size
  by_cases hs : List.isEmpty d.src = true
  · rw [if_pos hs] at he; cases he
  rw [if_neg hs] at he
  by_cases hd : List.isEmpty d.dst = true
  · rw [if_pos hd] at he; cases he
  rw [if_neg hd] at he
  cases hu : env.normURL d.dst with
  | none => rw [hu] at he; cases he
  | some url =>
    rw [hu] at he
    simp only at he
    split at he
    · split at he
      · cases he
      · split at he
        · cases he
        · cases he
          apply set_pred (RouteOKG O) t _ _ h
          intro r hr
          rw [List.mem_singleton.mp hr]; exact hnew _ _ _
    · split at he
      · split at he
        · cases he
        · cases he
          apply set_pred (RouteOKG O) t _ _ h
          intro r hr
          rcases List.mem_append.mp hr with hr | hr
          · exact get_pred (RouteOKG O) t _ h r hr
          · rw [List.mem_singleton.mp hr]; exact hnew _ _ _
      · rename_i r0 hf
        cases he
        apply set_pred (RouteOKG O) t _ _ h
        apply forall_replace (P := RouteOKG O)
        · exact get_pred (RouteOKG O) t _ h
        · exact addTarget_okG O hW _ _ _ _ _ _ (Or.inl (get_pred (RouteOKG O) t _ h r0 (find_some hf).1))

theorem weighRoute_okG (O : Ops) (hW : ∀ ts, ts ≠ [] → O.W ts ≠ []) (t t' : Table) (d : RouteDef)
    (h : TableOKG O t) (he : weighRouteG O t d = .ok t') : TableOKG O t' := by
  unfold weighRouteG at he
  simp only at he
  split at he
  · cases he
  · split at he
    · cases he
    · rename_i r0 hr0
      split at he
      · cases he
      · cases he
        apply set_pred (RouteOKG O) t _ _ h
        apply forall_replace (P := RouteOKG O)
        · exact get_pred (RouteOKG O) t _ h
        · exact setWeight_okG O hW r0 _ _ _ (get_pred (RouteOKG O) t _ h r0 (find_some hr0).1)

theorem delRoute_okG (O : Ops) (env : Env) (t t' : Table) (d : RouteDef)
    (h : TableOKG O t) (he : delRouteG O env t d = .ok t') : TableOKG O t' := by
  unfold delRouteG at he
  by_cases htags : (!d.tags.isEmpty) = true
  · rw [if_pos htags] at he; cases he; exact del_all_okG O t _
  rw [if_neg htags] at he
  by_cases hall : (d.src.isEmpty && d.dst.isEmpty) = true
  · rw [if_pos hall] at he; cases he; exact del_all_okG O t _
  rw [if_neg hall] at he
  split at he
  · simp only at he
    split at he
    · cases he; exact h
    · cases he; exact del_one_okG O t _ _ _ h
  · split at he
    · cases he
    · simp only at he
      split at he
      · cases he; exact h
      · cases he; exact del_one_okG O t _ _ _ h

theorem applyDef_okG (O : Ops) (hW : ∀ ts, ts ≠ [] → O.W ts ≠ []) (env : Env) (t t' : Table) (d : RouteDef)
    (h : TableOKG O t) (he : applyDefG O env t d = .ok t') : TableOKG O t' := by
  unfold applyDefG at he
  split at he
  · exact addRoute_okG O hW env t t' d h he
  · exact delRoute_okG O env t t' d h he
  · exact weighRoute_okG O hW t t' d h he
  · cases he

theorem newTable_okG (O : Ops) (hW : ∀ ts, ts ≠ [] → O.W ts ≠ []) (env : Env) (defs : List RouteDef) (t : Table)
    (he : newTableG O env defs = .ok t) : TableOKG O t := by
  unfold newTableG at he
  split at he
  · cases he
  · rename_i t0 h0
    cases he
    have hok : TableOKG O t0 := Lemmas.Route.foldlM_invariant defs
      (fun s s' d _ hs h => applyDef_okG O hW env s s' d hs h) (by intro kv hkv; cases hkv) h0
    intro kv hkv r hr
    obtain ⟨kv0, hkv0, rfl⟩ := List.mem_map.mp hkv
    exact hok kv0 hkv0 r ((sortRoutes_perm _).mem_iff.mp hr)

end Fabio.Lemmas.C04
