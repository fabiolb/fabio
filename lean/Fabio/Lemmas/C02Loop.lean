import Fabio.Model.C02Loop
import Fabio.Lemmas.C02
import Fabio.Lemmas.Route
/-!
For `Props/C02Loop.lean`: the seven ways one iteration of the update loop with its glue can go (`StepCase`,
`stepO_case`), from which the statements about an iteration are read off; the line loop of the parser model keeps one
definition per command line.
-/
namespace Fabio.Lemmas.C02Loop
open Fabio Fabio.Model.C02 Fabio.Model.C02Loop Fabio.Model.Parse Fabio.Model.Route Fabio.Lemmas.C02

/-- the seven ways one iteration can go, in program order; `st1` = the locals after the receive -/
inductive StepCase {T : Type} (g : Glue T) (st1 : WB T) : List (Eff T) × Outcome (WB T) → Prop
  | skip : st1.nextText = st1.lastTable → StepCase g st1 ([], .ok st1)
  | aliasesPanic {w} : st1.nextText ≠ st1.lastTable → g.aliases st1.nextText = .panic w → StepCase g st1 ([], .panic w)
  | registerPanic {al w} : st1.nextText ≠ st1.lastTable → g.aliases st1.nextText = .ok al → g.register al = .panic w →
      StepCase g st1 ([], .panic w)
  | buildPanic {al w} : st1.nextText ≠ st1.lastTable → g.aliases st1.nextText = .ok al → g.register al = .ok () →
      g.build st1.nextText = .panic w → StepCase g st1 ([.register al], .panic w)
  | rejected {al} : st1.nextText ≠ st1.lastTable → g.aliases st1.nextText = .ok al → g.register al = .ok () →
      g.build st1.nextText = .ok none → StepCase g st1 ([.register al], .ok st1)
  | logPanic {al t w} : st1.nextText ≠ st1.lastTable → g.aliases st1.nextText = .ok al → g.register al = .ok () →
      g.build st1.nextText = .ok (some t) → g.log t st1.lastTable st1.nextText = .panic w →
      StepCase g st1 ([.register al, .setTable t], .panic w)
  | installed {al t} : st1.nextText ≠ st1.lastTable → g.aliases st1.nextText = .ok al → g.register al = .ok () →
      g.build st1.nextText = .ok (some t) → g.log t st1.lastTable st1.nextText = .ok () →
      StepCase g st1 ([.register al, .setTable t, .logRoutes t st1.lastTable st1.nextText],
        .ok { st1 with active := t, lastTable := st1.nextText })

theorem stepO_case {T : Type} (g : Glue T) (st : WB T) (e : Ev) : StepCase g (st.recv e) (stepO g st e) := by
  unfold stepO
  by_cases hs : (st.recv e).nextText = (st.recv e).lastTable
  · simp only [hs, if_true]; exact .skip hs
  · simp only [hs, if_false]
    cases ha : g.aliases (st.recv e).nextText with
    | panic w => exact .aliasesPanic hs ha
    | ok al =>
      cases hr : g.register al with
      | panic w => simp only [hr]; exact .registerPanic hs ha hr
      | ok u =>
        cases hb : g.build (st.recv e).nextText with
        | panic w => simp only [hr]; exact .buildPanic hs ha hr hb
        | ok o =>
          cases o with
          | none => simp only [hr]; exact .rejected hs ha hr hb
          | some t =>
            cases hl : g.log t (st.recv e).lastTable (st.recv e).nextText with
            | panic w => simp only [hr, hl]; exact .logPanic hs ha hr hb hl
            | ok u2 => simp only [hr, hl]; exact .installed hs ha hr hb hl

theorem buildOpt_of_ok {T : Type} {g : Glue T} {s : Text} {o : Option T} (h : g.build s = .ok o) : g.buildOpt s = o := by
  unfold Glue.buildOpt; rw [h]

theorem stepO_ok {T : Type} (g : Glue T) (st st' : WB T) (e : Ev) (h : (stepO g st e).2 = .ok st') :
    st' = WB.step g.buildOpt st e ∧ installsOf (stepO g st e).1 = (WB.installed g.buildOpt st e).toList := by
  have hc := stepO_case g st e
  generalize stepO g st e = r at hc h ⊢
  rw [step_eq]
  cases hc with
  | skip hs => cases h; rw [installed_eq_none_iff.2 (.inl hs)]; exact ⟨rfl, rfl⟩
  | rejected hs _ _ hb => cases h; rw [installed_eq_none_iff.2 (.inr (buildOpt_of_ok hb))]; exact ⟨rfl, rfl⟩
  | installed hs _ _ hb => cases h; rw [installed_eq_some_iff.2 ⟨hs, buildOpt_of_ok hb⟩]; exact ⟨rfl, rfl⟩
  | _ => cases h

section loop
variable {T : Type}

theorem stepO_never_panics (g : Glue T) (hg : g.Total) (st : WB T) (e : Ev) : ((stepO g st e).2).isPanic = false := by
  have hc := stepO_case g st e
  generalize stepO g st e = r at hc ⊢
  cases hc with
  | skip | rejected | installed => rfl
  | aliasesPanic _ ha => have := hg.aliases (st.recv e).nextText; rwa [ha] at this
  | @registerPanic al _ _ _ hr => have := hg.register al; rwa [hr] at this
  | buildPanic _ _ _ hb => have := hg.build (st.recv e).nextText; rwa [hb] at this
  | @logPanic _ t _ _ _ _ _ hl => have := hg.log t (st.recv e).lastTable (st.recv e).nextText; rwa [hl] at this

theorem installsOf_append (a b : List (Eff T)) : installsOf (a ++ b) = installsOf a ++ installsOf b := by
  induction a with
  | nil => rfl
  | cons x xs ih => cases x <;> simp [installsOf, ih]

theorem runO_ok (g : Glue T) (es : List Ev) (st st' : WB T) (h : (runO g st es).2 = .ok st') :
    st' = WB.run g.buildOpt st es ∧ installsOf (runO g st es).1 = WB.installs g.buildOpt st es := by
  fun_induction runO g st es with
  | case1 st => cases h; exact ⟨rfl, rfl⟩
  | case2 st e es effs w hstep => cases h
  | case3 st e es effs st1 hstep r ih =>
    obtain ⟨h1, h2⟩ := stepO_ok g st st1 e (by rw [hstep])
    rw [hstep] at h2
    obtain ⟨i1, i2⟩ := ih h
    exact ⟨by rw [i1, h1]; rfl, by rw [installsOf_append, i2, h2, h1]; rfl⟩

end loop

theorem isSome_of_map_some_ok {ε α : Type} {x : Except ε α} {o : Option α} (h : x.map some = .ok o) :
    o.isSome = true := by
  obtain ⟨_, _, rfl⟩ := Fabio.Lemmas.Route.of_map_eq_ok h; rfl

theorem parseLine_isSome (pf : ParseFloat) (raw : Str) (o : Option RouteDef)
    (h : parseLine pf (dropCR raw) = .ok o) : o.isSome = isCommandLine raw := by
  unfold parseLine at h
  unfold isCommandLine
  by_cases hc : (isComment (trimSpace (dropCR raw)) || isBlank (trimSpace (dropCR raw))) = true
  · simp only [hc, if_true] at h
    cases h; simp [hc]
  · -- a command line: whichever of the three command parsers takes it answers `some`
    simp only [hc, Bool.false_eq_true, if_false, Bool.not_false] at h ⊢
    split at h
    · exact isSome_of_map_some_ok h
    · split at h
      · exact isSome_of_map_some_ok h
      · split at h
        · exact isSome_of_map_some_ok h
        · cases h

theorem parseLines_complete (pf : ParseFloat) (ls : List Str) (i : Nat) (ds : List RouteDef)
    (h : parseLines pf i ls = .ok ds) : ds.length = (ls.filter isCommandLine).length := by
  fun_induction parseLines pf i ls generalizing ds with
  | case5 i raw rest _ hp ih =>  -- `raw` yields no definition, the result is that of `rest`
    have := parseLine_isSome pf raw none hp
    simp_all [List.filter]
  | case7 i raw rest _ d hp ds' hr ih =>  -- `raw` yields `d`, `rest` yields `ds'`
    cases h
    have := parseLine_isSome pf raw (some d) hp
    simp_all [List.filter]
  | _ => simp_all  -- the empty list, and the error cases

end Fabio.Lemmas.C02Loop
