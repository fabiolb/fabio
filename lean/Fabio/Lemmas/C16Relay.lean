import Fabio.Model.C16Relay
/-! The relay model of C16: `Relay.step` as a relation with guards (`Fires`: the micro-steps that change the state;
`Blocked`: why an event does not), what no run changes (`Ends`), and the invariant `Inv` from which the theorems of
`Props/C16Relay.lean` are read off. -/
namespace Fabio.Lemmas.C16Relay
open Fabio.Model.C16.Spec (SMD)
open Fabio.Model.C16.Relay

/-- The enabled micro-steps of `Relay.step`, one constructor per branch that changes the state, with the
branch's guards as hypotheses. -/
inductive Fires (s : St) : Ev → St → Prop
  | callerSend (m : Msg) : s.cClosed = false →
      Fires s (.callerSend m) { s with cSent := s.cSent ++ [m], qA := s.qA ++ [m] }
  | callerClose : Fires s .callerClose { s with cClosed := true }
  | recvHeader (h : SMD) (r : List Item) : s.qD = .header h :: r →
      Fires s .callerRecv { s with qD := r, cHdr := some h }
  | recvMsg (m : Msg) (r : List Item) : s.qD = .msg m :: r →
      Fires s .callerRecv { s with qD := r, cGot := s.cGot ++ [m] }
  | recvFin (f : SMD × Status) : s.qD = [] → s.dFin = some f → Fires s .callerRecv { s with cFin := some f }
  | backendRecv (m : Msg) (r : List Msg) : s.bFin = none → s.qB = m :: r →
      Fires s .backendRecv { s with qB := r, bGot := s.bGot ++ [m] }
  | backendEOF : s.bFin = none → s.qB = [] → s.bClosed = true → Fires s .backendRecv { s with bEOF := true }
  | backendHeader (h : SMD) : s.bFin = none → s.bSent = [] → Fires s (.backendHeader h) { s with bHdr := h }
  | backendSend (m : Msg) : s.bFin = none →
      Fires s (.backendSend m) { s with bSent := s.bSent ++ [m], qC := s.qC ++ [m] }
  | backendFinish (tr : SMD) (st : Status) : s.bFin = none →
      Fires s (.backendFinish tr st) { s with bFin := some (tr, st) }
  | s2cFail : s.s2c = .recv → s.dFin.isSome = true → Fires s .s2cStep { s with s2c := .failed }
  | s2cTake (m : Msg) (r : List Msg) : s.s2c = .recv → s.dFin = none → s.qA = m :: r →
      Fires s .s2cStep { s with qA := r, s2c := .send m }
  | s2cEOF : s.s2c = .recv → s.dFin = none → s.qA = [] → s.cClosed = true → Fires s .s2cStep { s with s2c := .eof }
  | s2cPut (m : Msg) : s.s2c = .send m → Fires s .s2cStep { s with qB := s.qB ++ [m], s2c := .recv }
  | c2sTake (m : Msg) (r : List Msg) : s.c2s = .recv → s.qC = m :: r →
      Fires s .c2sStep { s with qC := r, c2s := if s.first then .hdr m else .send m }
  | c2sFin (tr : SMD) (st : Status) : s.c2s = .recv → s.qC = [] → s.bFin = some (tr, st) →
      Fires s .c2sStep { s with c2s := .done tr st }
  | c2sHdr (m : Msg) : s.c2s = .hdr m →
      Fires s .c2sStep { s with qD := s.qD ++ [.header s.bHdr], first := false, c2s := .send m }
  | c2sPut (m : Msg) : s.c2s = .send m → Fires s .c2sStep { s with qD := s.qD ++ [.msg m], c2s := .recv }
  | selS2C : s.s2c = .eof → s.s2cSeen = false → s.dFin = none →
      Fires s .selS2C { s with s2cSeen := true, bClosed := true }
  | selC2S (tr : SMD) (st : Status) : s.c2s = .done tr st → s.dFin = none →
      Fires s .selC2S { s with dFin := some (tr, st.norm) }

/-- Why an event that does not fire leaves the state alone: the guards that fail, one constructor per stutter branch
of `Relay.step`. -/
inductive Blocked (s : St) : Ev → Prop
  | callerSend (m : Msg) : s.cClosed = true → Blocked s (.callerSend m)
  | callerRecv : s.qD = [] → s.dFin = none → Blocked s .callerRecv
  | backendRecvFin : s.bFin.isSome = true → Blocked s .backendRecv
  | backendRecvWait : s.qB = [] → s.bClosed = false → Blocked s .backendRecv
  | backendHeader (h : SMD) : s.bFin.isSome = true ∨ s.bSent ≠ [] → Blocked s (.backendHeader h)
  | backendSend (m : Msg) : s.bFin.isSome = true → Blocked s (.backendSend m)
  | backendFinish (tr : SMD) (st : Status) : s.bFin.isSome = true → Blocked s (.backendFinish tr st)
  | s2cWait : s.s2c = .recv → s.dFin = none → s.qA = [] → s.cClosed = false → Blocked s .s2cStep
  | s2cEnded : s.s2c = .eof ∨ s.s2c = .failed → Blocked s .s2cStep
  | c2sWait : s.c2s = .recv → s.qC = [] → s.bFin = none → Blocked s .c2sStep
  | c2sEnded (tr : SMD) (st : Status) : s.c2s = .done tr st → Blocked s .c2sStep
  | selS2C : ¬ (s.s2c = .eof ∧ s.s2cSeen = false ∧ s.dFin = none) → Blocked s .selS2C
  | selC2SRunning : (∀ tr st, s.c2s ≠ .done tr st) → Blocked s .selC2S
  | selC2SReturned : s.dFin.isSome = true → Blocked s .selC2S

theorem step_cases (s : St) (e : Ev) : step s e = s ∧ Blocked s e ∨ Fires s e (step s e) := by
  -- one bullet per branch of `step`, in the order of its definition
  fun_cases step s e
  · exact .inl ⟨rfl, .callerSend _ ‹_›⟩
  · exact .inr (.callerSend _ (Bool.eq_false_iff.mpr ‹_›))
  · exact .inr .callerClose
  · exact .inr (.recvHeader _ _ ‹_›)
  · exact .inr (.recvMsg _ _ ‹_›)
  · exact .inr (.recvFin _ ‹_› ‹_›)
  · exact .inl ⟨rfl, .callerRecv ‹_› ‹_›⟩
  · exact .inl ⟨rfl, .backendRecvFin ‹_›⟩
  · exact .inr (.backendRecv _ _ (Option.not_isSome_iff_eq_none.mp ‹_›) ‹_›)
  · exact .inr (.backendEOF (Option.not_isSome_iff_eq_none.mp ‹_›) ‹_› ‹_›)
  · exact .inl ⟨rfl, .backendRecvWait ‹_› (Bool.eq_false_iff.mpr ‹_›)⟩
  · rename_i hc
    simp only [Bool.or_eq_true, Bool.not_eq_true', List.isEmpty_eq_false_iff] at hc
    exact .inl ⟨rfl, .backendHeader _ hc⟩
  · rename_i hc
    simp only [Bool.or_eq_true, Bool.not_eq_true', not_or, Bool.not_eq_true, Option.isSome_eq_false_iff,
      Option.isNone_iff_eq_none, Bool.not_eq_false, List.isEmpty_iff] at hc
    exact .inr (.backendHeader _ hc.1 hc.2)
  · exact .inl ⟨rfl, .backendSend _ ‹_›⟩
  · exact .inr (.backendSend _ (Option.not_isSome_iff_eq_none.mp ‹_›))
  · exact .inl ⟨rfl, .backendFinish _ _ ‹_›⟩
  · exact .inr (.backendFinish _ _ (Option.not_isSome_iff_eq_none.mp ‹_›))
  · exact .inr (.s2cFail ‹_› ‹_›)
  · exact .inr (.s2cTake _ _ ‹_› (Option.not_isSome_iff_eq_none.mp ‹_›) ‹_›)
  · exact .inr (.s2cEOF ‹_› (Option.not_isSome_iff_eq_none.mp ‹_›) ‹_› ‹_›)
  · exact .inl ⟨rfl, .s2cWait ‹_› (Option.not_isSome_iff_eq_none.mp ‹_›) ‹_› (Bool.eq_false_iff.mpr ‹_›)⟩
  · exact .inr (.s2cPut _ ‹_›)
  · exact .inl ⟨rfl, .s2cEnded (.inl ‹_›)⟩
  · exact .inl ⟨rfl, .s2cEnded (.inr ‹_›)⟩
  · exact .inr (.c2sTake _ _ ‹_› ‹_›)
  · exact .inr (.c2sFin _ _ ‹_› ‹_› ‹_›)
  · exact .inl ⟨rfl, .c2sWait ‹_› ‹_› ‹_›⟩
  · exact .inr (.c2sHdr _ ‹_›)
  · exact .inr (.c2sPut _ ‹_›)
  · exact .inl ⟨rfl, .c2sEnded _ _ ‹_›⟩
  · rename_i hc
    simp only [Bool.and_eq_true, decide_eq_true_eq, Bool.not_eq_true', Option.isNone_iff_eq_none] at hc
    exact .inr (.selS2C hc.1.1 hc.1.2 hc.2)
  · rename_i hc
    simp only [Bool.and_eq_true, decide_eq_true_eq, Bool.not_eq_true', Option.isNone_iff_eq_none, and_assoc] at hc
    exact .inl ⟨rfl, .selS2C hc⟩
  · exact .inr (.selC2S _ _ ‹_› (Option.isNone_iff_eq_none.mp ‹_›))
  · exact .inl ⟨rfl, .selC2SReturned (by cases hd : s.dFin <;> simp_all)⟩
  · exact .inl ⟨rfl, .selC2SRunning ‹_›⟩

/-- What the events `es` cannot have done on the way from `s` to `s'`: the backend's method and metadata are fixed; a
half-close, a seen end of stream and a seen end of call stay; what an end has sent, and the backend's outcome, change
only by that end's own event. -/
structure Ends (s s' : St) (es : List Ev) : Prop where
  bMethod : s'.bMethod = s.bMethod
  bMD : s'.bMD = s.bMD
  cClosed : s.cClosed = true → s'.cClosed = true
  bEOF : s.bEOF = true → s'.bEOF = true
  cFin : s.cFin.isSome = true → s'.cFin.isSome = true
  cSent : (∀ m, .callerSend m ∉ es) → s'.cSent = s.cSent
  bSent : (∀ m, .backendSend m ∉ es) → s'.bSent = s.bSent
  bFin : (∀ tr st, .backendFinish tr st ∉ es) → s'.bFin = s.bFin

theorem step_ends (s : St) (e : Ev) : Ends s (step s e) [e] := by
  rcases step_cases s e with ⟨hs, _⟩ | hf
  · rw [hs]; exact ⟨rfl, rfl, id, id, id, fun _ => rfl, fun _ => rfl, fun _ => rfl⟩
  generalize step s e = s' at hf
  cases hf with
  | callerClose => exact ⟨rfl, rfl, fun _ => rfl, id, id, fun _ => rfl, fun _ => rfl, fun _ => rfl⟩
  | backendEOF => exact ⟨rfl, rfl, id, fun _ => rfl, id, fun _ => rfl, fun _ => rfl, fun _ => rfl⟩
  | recvFin => exact ⟨rfl, rfl, id, id, fun _ => rfl, fun _ => rfl, fun _ => rfl, fun _ => rfl⟩
  | callerSend m => exact ⟨rfl, rfl, id, id, id, fun h => absurd List.mem_cons_self (h m), fun _ => rfl, fun _ => rfl⟩
  | backendSend m => exact ⟨rfl, rfl, id, id, id, fun _ => rfl, fun h => absurd List.mem_cons_self (h m), fun _ => rfl⟩
  | backendFinish tr st =>
    exact ⟨rfl, rfl, id, id, id, fun _ => rfl, fun _ => rfl, fun h => absurd List.mem_cons_self (h tr st)⟩
  | _ => exact ⟨rfl, rfl, id, id, id, fun _ => rfl, fun _ => rfl, fun _ => rfl⟩

theorem Ends.trans {s t u : St} {es fs : List Ev} (a : Ends s t es) (b : Ends t u fs) : Ends s u (es ++ fs) where
  bMethod := b.bMethod.trans a.bMethod
  bMD := b.bMD.trans a.bMD
  cClosed := fun h => b.cClosed (a.cClosed h)
  bEOF := fun h => b.bEOF (a.bEOF h)
  cFin := fun h => b.cFin (a.cFin h)
  cSent := fun h => (b.cSent fun m hm => h m (List.mem_append_right _ hm)).trans
    (a.cSent fun m hm => h m (List.mem_append_left _ hm))
  bSent := fun h => (b.bSent fun m hm => h m (List.mem_append_right _ hm)).trans
    (a.bSent fun m hm => h m (List.mem_append_left _ hm))
  bFin := fun h => (b.bFin fun tr st hm => h tr st (List.mem_append_right _ hm)).trans
    (a.bFin fun tr st hm => h tr st (List.mem_append_left _ hm))

theorem run_ends (s : St) (es : List Ev) : Ends s (run s es) es := by
  induction es generalizing s with
  | nil => exact ⟨rfl, rfl, id, id, id, fun _ => rfl, fun _ => rfl, fun _ => rfl⟩
  | cons e es ih => exact (step_ends s e).trans (ih (step s e))

theorem mem_settle {e : Ev} : ∀ {n : Nat}, e ∈ settle n → e ∈ round
  | 0, h => nomatch h
  | _ + 1, h => (List.mem_append.mp h).elim id mem_settle

/-- rounds are made of events of the proxy and of receives: neither end sends or finishes -/
theorem run_settle (s : St) (n : Nat) : Ends s (run s (settle n)) round :=
  { run_ends s (settle n) with
    cSent := fun h => (run_ends s (settle n)).cSent fun m hm => h m (mem_settle hm)
    bSent := fun h => (run_ends s (settle n)).bSent fun m hm => h m (mem_settle hm)
    bFin := fun h => (run_ends s (settle n)).bFin fun tr st hm => h tr st (mem_settle hm) }

theorem msgsOf_append (a b : List Item) : msgsOf (a ++ b) = msgsOf a ++ msgsOf b := by
  simp [msgsOf, List.filterMap_append]

@[simp] theorem msgsOf_header_cons (h : SMD) (q : List Item) : msgsOf (.header h :: q) = msgsOf q := rfl
@[simp] theorem msgsOf_msg_cons (m : Msg) (q : List Item) : msgsOf (.msg m :: q) = m :: msgsOf q := rfl
@[simp] theorem msgsOf_nil : msgsOf [] = [] := rfl

def NoHdr (q : List Item) : Prop := ∀ h, Item.header h ∉ q

theorem noHdr_append_msg {q : List Item} (h : NoHdr q) (m : Msg) : NoHdr (q ++ [.msg m]) := by
  intro x hx
  rcases List.mem_append.mp hx with hx | hx
  · exact h x hx
  · simp at hx

theorem noHdr_tail {i : Item} {q : List Item} (h : NoHdr (i :: q)) : NoHdr q :=
  fun x hx => h x (List.mem_cons_of_mem _ hx)

/-- The invariant of the relay. `fwd`/`bwd`: per direction, what one end sent is what the other end received
followed by what is in flight (second stream, the message a forwarder holds, first stream) — nothing lost,
duplicated, reordered or altered anywhere.  `hdr1`/`hdr0` say where the backend's header is, the remaining fields order
the control events. -/
structure Inv (s : St) : Prop where
  fwd : s.cSent = s.bGot ++ s.qB ++ s.s2c.held ++ s.qA
  bwd : s.bSent = s.cGot ++ msgsOf s.qD ++ s.c2s.held ++ s.qC
  /-- `forwardServerToClient` ends with `io.EOF` only on the caller's half-close, all its messages read -/
  eofA : s.s2c = .eof → s.qA = [] ∧ s.cClosed = true
  closedB : s.bClosed = true → s.s2c = .eof
  eofB : s.bEOF = true → s.qB = [] ∧ s.bClosed = true
  /-- before `forwardClientToServer` has sent the header (`i == 0`) nothing at all has gone to the caller -/
  hdr1 : s.first = true → s.qD = [] ∧ s.cGot = [] ∧ s.cHdr = none ∧ ∀ m, s.c2s ≠ .send m
  /-- after it (it takes a message of the backend, so `bHdr` is final: `backendHeader` needs `bSent = []`) exactly
  one header has gone to the caller, the backend's, ahead of every message.  This is why the caller's header is the
  backend's whenever the caller got a message. -/
  hdr0 : s.first = false → s.bSent ≠ [] ∧ (∀ m, s.c2s ≠ .hdr m) ∧
    ((s.cHdr = some s.bHdr ∧ NoHdr s.qD) ∨ (s.cHdr = none ∧ s.cGot = [] ∧ ∃ r, s.qD = .header s.bHdr :: r ∧ NoHdr r))
  done : ∀ tr st, s.c2s = .done tr st → s.bFin = some (tr, st) ∧ s.qC = []
  dfin : ∀ f, s.dFin = some f → ∃ tr st, s.c2s = .done tr st ∧ f = (tr, st.norm)
  cfin : ∀ f, s.cFin = some f → s.dFin = some f ∧ s.qD = []
  failed : s.s2c = .failed → s.dFin.isSome = true
  seen : s.bClosed = s.s2cSeen

theorem inv_init (method : String) (md : SMD) : Inv (init method md) := by
  constructor <;> simp [init, S2C.held, C2S.held]

theorem Inv.hdrm {s : St} (h : Inv s) (m : Msg) (hs : s.c2s = .hdr m) : s.bSent ≠ [] := by
  rw [h.bwd, hs]; simp [C2S.held]

/-- while `forwardClientToServer` runs the handler has not returned -/
theorem Inv.dFin_none {s : St} (h : Inv s) (hc : ∀ tr st, s.c2s ≠ .done tr st) : s.dFin = none := by
  cases hd : s.dFin with
  | none => rfl
  | some f => obtain ⟨tr, st, h1, _⟩ := h.dfin f hd; exact absurd h1 (hc tr st)

theorem Inv.running {s : St} (h : Inv s) (hb : s.bFin = none) : s.dFin = none :=
  h.dFin_none fun tr st hc => by have := (h.done tr st hc).1; rw [hb] at this; cases this

theorem Inv.first_false_of_qD {s : St} (h : Inv s) {i : Item} {r : List Item} (hq : s.qD = i :: r) :
    s.first = false := by
  cases hf : s.first with
  | false => rfl
  | true => have := (h.hdr1 hf).1; rw [this] at hq; cases hq

/-- `hdr1`/`hdr0` as the caller sees them -/
theorem Inv.header_cases {s : St} (h : Inv s) :
    (s.cHdr = none ∧ s.cGot = []) ∨ (s.cHdr = some s.bHdr ∧ s.bSent ≠ []) := by
  cases hf : s.first with
  | true => exact .inl ⟨(h.hdr1 hf).2.2.1, (h.hdr1 hf).2.1⟩
  | false =>
    obtain ⟨hne, _, ⟨h1, _⟩ | ⟨h1, h2, _⟩⟩ := h.hdr0 hf
    · exact .inr ⟨h1, hne⟩
    · exact .inl ⟨h1, h2⟩

theorem inv_step (s : St) (e : Ev) (h : Inv s) : Inv (step s e) := by
  rcases step_cases s e with ⟨hs, _⟩ | hf
  · rw [hs]; exact h
  generalize step s e = s' at hf
  cases hf with
  | callerSend m hc =>
    exact { h with
      fwd := by simp [h.fwd]
      eofA := fun he => by have := (h.eofA he).2; rw [hc] at this; cases this }
  | callerClose => exact { h with eofA := fun he => ⟨(h.eofA he).1, rfl⟩ }
  | recvHeader hd r hq =>
    have hf := h.first_false_of_qD hq
    obtain ⟨hne, hnh, hcase⟩ := h.hdr0 hf
    obtain ⟨ehd, hno⟩ : hd = s.bHdr ∧ NoHdr r := by
      rcases hcase with ⟨_, hno⟩ | ⟨_, _, r', hr', hno⟩
      · exact absurd (by rw [hq]; exact List.mem_cons_self) (hno hd)
      · rw [hq] at hr'; injection hr' with e1 e2; injection e1 with e1; subst e2; exact ⟨e1, hno⟩
    exact { h with
      bwd := by rw [h.bwd, hq]; rfl
      hdr1 := fun hfe => by simp [hf] at hfe
      hdr0 := fun _ => ⟨hne, hnh, Or.inl ⟨by rw [ehd], hno⟩⟩
      cfin := fun f hcf => by have := (h.cfin f hcf).2; rw [this] at hq; cases hq }
  | recvMsg m r hq =>
    have hf := h.first_false_of_qD hq
    obtain ⟨hne, hnh, hcase⟩ := h.hdr0 hf
    obtain ⟨hch, hno⟩ : s.cHdr = some s.bHdr ∧ NoHdr s.qD := by
      rcases hcase with h1 | ⟨_, _, r', hr', _⟩
      · exact h1
      · rw [hq] at hr'; injection hr' with e1 _; cases e1
    exact { h with
      bwd := by rw [h.bwd, hq]; simp
      hdr1 := fun hfe => by simp [hf] at hfe
      hdr0 := fun _ => ⟨hne, hnh, Or.inl ⟨hch, noHdr_tail (by rw [← hq]; exact hno)⟩⟩
      cfin := fun f hcf => by have := (h.cfin f hcf).2; rw [this] at hq; cases hq }
  | recvFin f hq hdf =>
    exact { h with cfin := fun f' hf' => by cases hf'; exact ⟨hdf, hq⟩ }
  | backendRecv m r hb hq =>
    exact { h with
      fwd := by rw [h.fwd, hq]; simp
      eofB := fun he => by have := (h.eofB he).1; rw [this] at hq; cases hq }
  | backendEOF hb hq hc => exact { h with eofB := fun _ => ⟨hq, hc⟩ }
  | backendHeader hd hb hemp => exact { h with hdr0 := fun hf => absurd hemp (h.hdr0 hf).1 }
  | backendSend m hb =>
    exact { h with
      bwd := by simp [h.bwd]
      hdr0 := fun hf => ⟨by simp, (h.hdr0 hf).2⟩
      done := fun tr st hd => by have := (h.done tr st hd).1; rw [hb] at this; cases this }
  | backendFinish tr st hb =>
    exact { h with done := fun tr' st' hd => by have := (h.done tr' st' hd).1; rw [hb] at this; cases this }
  | s2cFail hs hd =>
    exact { h with
      fwd := by rw [h.fwd, hs]; rfl
      eofA := fun he => by cases he
      closedB := fun hb => by have := h.closedB hb; rw [hs] at this; cases this
      failed := fun _ => hd }
  | s2cTake m r hs hd hq =>
    exact { h with
      fwd := by rw [h.fwd, hs, hq]; simp [S2C.held]
      eofA := fun he => by cases he
      closedB := fun hb => by have := h.closedB hb; rw [hs] at this; cases this
      failed := fun he => by cases he }
  | s2cEOF hs hd hq hc =>
    exact { h with
      fwd := by rw [h.fwd, hs]; rfl
      eofA := fun _ => ⟨hq, hc⟩
      closedB := fun _ => rfl
      failed := fun he => by cases he }
  | s2cPut m hs =>
    have hopen : s.bClosed = false := by
      cases hb : s.bClosed with
      | false => rfl
      | true => have := h.closedB hb; rw [hs] at this; cases this
    exact { h with
      fwd := by rw [h.fwd, hs]; simp [S2C.held]
      eofA := fun he => by cases he
      closedB := fun hb => by rw [hopen] at hb; cases hb
      eofB := fun he => by have := (h.eofB he).2; rw [hopen] at this; cases this
      failed := fun he => by cases he }
  | c2sTake m r hs hq =>
    have hdn := h.dFin_none (by rw [hs]; intro _ _ hh; cases hh)
    have hheld : (if s.first = true then C2S.hdr m else C2S.send m).held = [m] := by split <;> rfl
    exact { h with
      bwd := by rw [h.bwd, hs, hq, hheld]; simp [C2S.held]
      hdr1 := fun (hf : s.first = true) => ⟨(h.hdr1 hf).1, (h.hdr1 hf).2.1, (h.hdr1 hf).2.2.1, by simp [hf]⟩
      hdr0 := fun (hf : s.first = false) => ⟨(h.hdr0 hf).1, by simp [hf], (h.hdr0 hf).2.2⟩
      done := fun _ _ hd => by split at hd <;> cases hd
      dfin := fun f hd => by rw [hdn] at hd; cases hd }
  | c2sFin tr st hs hq hb =>
    have hdn := h.dFin_none (by rw [hs]; intro _ _ hh; cases hh)
    exact { h with
      bwd := by rw [h.bwd, hs]; rfl
      hdr1 := fun hf => ⟨(h.hdr1 hf).1, (h.hdr1 hf).2.1, (h.hdr1 hf).2.2.1, (fun _ hh => nomatch hh)⟩
      hdr0 := fun hf => ⟨(h.hdr0 hf).1, (fun _ hh => nomatch hh), (h.hdr0 hf).2.2⟩
      done := fun _ _ hd => by cases hd; exact ⟨hb, hq⟩
      dfin := fun f hd => by rw [hdn] at hd; cases hd }
  | c2sHdr m hs =>
    -- `src.Header()`, `dst.SendHeader(md)`
    have hf : s.first = true := by
      cases hfe : s.first with
      | true => rfl
      | false => exact absurd hs ((h.hdr0 hfe).2.1 m)
    obtain ⟨h1, h2, h3, _⟩ := h.hdr1 hf
    have hdn := h.dFin_none (by rw [hs]; intro _ _ hh; cases hh)
    exact { h with
      bwd := by rw [h.bwd, hs, h1]; rfl
      hdr1 := fun hfe => by cases hfe
      hdr0 := fun _ => ⟨h.hdrm m hs, (fun _ hh => nomatch hh),
        Or.inr ⟨h3, h2, [], by rw [h1]; rfl, fun _ hx => by cases hx⟩⟩
      done := fun _ _ hd => by cases hd
      dfin := fun f hd => by rw [hdn] at hd; cases hd
      cfin := fun f hc => by have := (h.cfin f hc).1; rw [hdn] at this; cases this }
  | c2sPut m hs =>
    have hf : s.first = false := by
      cases hfe : s.first with
      | false => rfl
      | true => exact absurd hs ((h.hdr1 hfe).2.2.2 m)
    obtain ⟨hne, _, hcase⟩ := h.hdr0 hf
    have hdn := h.dFin_none (by rw [hs]; intro _ _ hh; cases hh)
    exact { h with
      bwd := by rw [h.bwd, hs]; simp [C2S.held, msgsOf_append]
      hdr1 := fun hfe => by simp [hf] at hfe
      hdr0 := fun _ => ⟨hne, (fun _ hh => nomatch hh), hcase.imp
        (fun ⟨a, b⟩ => ⟨a, noHdr_append_msg b m⟩)
        (fun ⟨a, b, r, hr, hno⟩ => ⟨a, b, r ++ [.msg m], by rw [hr]; rfl, noHdr_append_msg hno m⟩)⟩
      done := fun _ _ hd => by cases hd
      dfin := fun f hd => by rw [hdn] at hd; cases hd
      cfin := fun f hc => by have := (h.cfin f hc).1; rw [hdn] at this; cases this }
  | selS2C hs hseen hd =>
    exact { h with
      closedB := fun _ => hs
      eofB := fun he => ⟨(h.eofB he).1, rfl⟩
      seen := rfl }
  | selC2S tr st hs hd =>
    exact { h with
      dfin := fun f hf => by cases hf; exact ⟨tr, st, hs, rfl⟩
      cfin := fun f hc => by have := (h.cfin f hc).1; rw [hd] at this; cases this
      failed := fun _ => rfl }

theorem inv_run (s : St) (es : List Ev) (h : Inv s) : Inv (run s es) :=
  List.foldlRecOn es step h fun s hs e _ => inv_step s e hs

end Fabio.Lemmas.C16Relay
