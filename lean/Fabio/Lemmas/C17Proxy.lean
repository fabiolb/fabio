import Fabio.Model.C17Fault
import Fabio.Lemmas.C17
/-!
Helper lemmas for `Fabio.Model.C17Proxy` (core Lean only). The pool a response starts from cannot be told from the
response. The reverse proxy's header calls and relayed 1xx responses are `quiet` — they neither decide nor write —, so
what its relay decides and writes is read off the final `WriteHeader` and the copy loop.
-/
namespace Fabio.Lemmas.C17
open Fabio.Model.C17

variable {Z : Type}

/-- Holds because a recycled writer is `Reset` and the round-trip law is assumed from every state. -/
theorem engaged_view_pool (C : Cfg Z) (hrt : C.comp.RoundTrip) (hdr : Hdr) (p q : List Z) (ops : List Op) :
    (engaged C hdr p ops).view C = (engaged C hdr q ops).view C := by
  unfold GW.view engaged
  have hp := engaged_cases C ops hdr p
  have hq := engaged_cases C ops hdr q
  cases hd : decision C false hdr ops with
  | none => rw [hp.1 hd, hq.1 hd]
  | some hc =>
    obtain ⟨h, c⟩ := hc
    cases hcond : bodyAllowedForStatus c && isCompressable C h with
    | true =>
      obtain ⟨a1, a2, _⟩ := (hp.2 h c hd).1 hcond
      obtain ⟨b1, b2, _⟩ := (hq.2 h c hd).1 hcond
      simp only [a1, b1, a2, b2, gzipDown_obs, if_true, gzipDown_decode C hrt]
    | false =>
      obtain ⟨a1, a2, _⟩ := (hp.2 h c hd).2 hcond
      obtain ⟨b1, b2, _⟩ := (hq.2 h c hd).2 hcond
      simp only [a1, b1, a2, b2, Down.obs]

def quiet : Op → Bool
  | .set _ _ => true
  | .add _ _ => true
  | .del _ => true
  | .unset _ => true
  | .wh c => informational c
  | _ => false

theorem decision_quiet (C : Cfg Z) (cf : Bool) (pre rest : List Op) (h : Hdr) (hq : pre.all quiet = true) :
    decision C cf h (pre ++ rest) = decision C cf (hops pre h) rest := by
  induction pre generalizing h with
  | nil => rfl
  | cons o r ih =>
    simp only [List.all_cons, Bool.and_eq_true] at hq
    have ih' := ih (hop o h) hq.2
    cases o with
    | wh c => simpa [decision, show informational c = true from hq.1, hops, hop] using ih'
    | w b => cases hq.1
    | fl => cases hq.1
    | _ => exact ih'

theorem addAll_quiet (l : List (String × String)) : (addAll l).all quiet = true := by
  induction l with
  | nil => rfl
  | cons p r ih => simp [addAll, quiet] at ih ⊢

theorem delAll_quiet (l : List String) : (delAll l).all quiet = true := by
  induction l with
  | nil => rfl
  | cons p r ih => simp [delAll, quiet] at ih ⊢

theorem relayInfo_quiet (before : List String) (i : Nat × List (String × String)) (hi : informational i.1 = true) :
    (relayInfo before i).all quiet = true := by
  unfold relayInfo
  rw [List.all_append, List.all_append, addAll_quiet, delAll_quiet]
  simp [quiet, hi]

theorem relayPrefix_quiet (before : List String) (is : List (Nat × List (String × String)))
    (hi : ∀ i ∈ is, informational i.1 = true) :
    ((is.map (relayInfo before)).flatten).all quiet = true := by
  induction is with
  | nil => rfl
  | cons i r ih =>
    simp only [List.map_cons, List.flatten_cons, List.all_append, Bool.and_eq_true]
    exact ⟨relayInfo_quiet before i (hi i List.mem_cons_self), ih (fun j hj => hi j (List.mem_cons_of_mem _ hj))⟩

/-- the header map when the reverse proxy calls `WriteHeader(code)` for the final response. -/
def liveAtStatus (before : List String) (u : UpResp) (h : Hdr) : Hdr :=
  hops (addAll u.hdr) (hops ((u.info.map (relayInfo before)).flatten) h)

theorem relay_decision (C : Cfg Z) (cf : Bool) (before : List String) (u : UpResp) (h : Hdr)
    (hinfo : ∀ i ∈ u.info, informational i.1 = true) (hfin : informational u.code = false) :
    decision C cf h (relay before u) = some (liveAtStatus before u h, u.code) := by
  unfold relay relayFinal
  rw [decision_quiet C cf _ _ h (relayPrefix_quiet before u.info hinfo),
      decision_quiet C cf _ _ _ (addAll_quiet u.hdr)]
  simp [decision, hfin, liveAtStatus]

theorem writesOf_quiet (pre rest : List Op) (hq : pre.all quiet = true) : writesOf (pre ++ rest) = writesOf rest := by
  induction pre with
  | nil => rfl
  | cons o r ih =>
    simp only [List.all_cons, Bool.and_eq_true] at hq
    cases o with
    | w b => cases hq.1
    | fl => cases hq.1
    | _ => exact ih hq.2

theorem writesOf_copyBody (f : Bool) (cs : List Bytes) : writesOf (copyBody f cs) = cs := by
  induction cs with
  | nil => rfl
  | cons b r ih => cases f <;> simp [copyBody, writesOf, ih]

theorem relay_writes (before : List String) (u : UpResp) (hinfo : ∀ i ∈ u.info, informational i.1 = true) :
    writesOf (relay before u) = u.chunks := by
  unfold relay relayFinal
  rw [writesOf_quiet _ _ (relayPrefix_quiet before u.info hinfo), writesOf_quiet _ _ (addAll_quiet u.hdr)]
  simp [writesOf, writesOf_copyBody]

/-- `proxyServe` with an expression configured: the handler of `NewGzipHandler` on the reverse proxy's relay, whose
`clear(h)` deletes the keys of the map that holds the `Vary` line. Use it with `simp only`, which also reduces the
projections: behind `rw` the unifier is left with them and unfolds `serve` first. -/
theorem proxyServe_on (C : Cfg Z) (head dfl : Bool) (req h0 : Hdr) (pool : List Z) (u : UpResp) :
    proxyServe C true head dfl req h0 pool u =
      { compressed := (serve C head dfl req h0 pool (relay ((hadd h0 hVary hAcceptEncoding).map (·.1)) u)).compressed,
        obs := (serve C head dfl req h0 pool (relay ((hadd h0 hVary hAcceptEncoding).map (·.1)) u)).obs,
        fwd := req,
        pool := (serve C head dfl req h0 pool (relay ((hadd h0 hVary hAcceptEncoding).map (·.1)) u)).pool } := rfl

def lineVals (l : List (String × String)) (ck : String) : List String :=
  (l.filter (fun p => canonKey p.1 == ck)).map (·.2)

theorem hraw_addAll (l : List (String × String)) (h : Hdr) (ck : String) :
    hraw (hops (addAll l) h) ck =
      if lineVals l ck = [] then hraw h ck else some ((hraw h ck).getD [] ++ lineVals l ck) := by
  induction l generalizing h with
  | nil => simp [addAll, hops, lineVals]
  | cons p r ih =>
    obtain ⟨k, v⟩ := p
    have hstep : hops (addAll ((k, v) :: r)) h = hops (addAll r) (hadd h k v) := rfl
    rw [hstep, ih, hraw_hadd]
    by_cases h1 : ck = canonKey k
    · simp only [h1, if_true, lineVals, List.filter_cons, beq_self_eq_true, List.map_cons, Option.getD_some]
      by_cases h2 : List.map (fun x => x.2) (List.filter (fun p => canonKey p.1 == canonKey k) r) = []
      · simp [h2]
      · simp [h2, List.append_assoc]
    · have hb : (canonKey k == ck) = false := by simp [beq_eq_false_iff_ne, Ne.symm h1]
      simp only [h1, if_false, lineVals, List.filter_cons, hb, Bool.false_eq_true]

theorem encoded_line_seen (l : List (String × String)) (h : Hdr) (v : String) (rest : List String)
    (hnone : hraw h hContentEncoding = none) (hl : lineVals l hContentEncoding = v :: rest) :
    hget (hops (addAll l) h) hContentEncoding = v := by
  unfold hget
  rw [canon_ContentEncoding, hraw_addAll, hnone, hl]
  simp [firstOr]

end Fabio.Lemmas.C17
