import Fabio.Lemmas.C02Lines
/-!
What ties the scanner loop of the buffer model to the parser model (core Lean only): a loop that is never told to stop
is `scanAll`; the line where it is told to stop (`stopLineAux`) is read off the result of `parseLines`. From these,
`Props/C02Lines.lean` has that an accepted text is read to its end and `Props/C02Stop.lean` where a rejected one stops.
-/
namespace Fabio.Lemmas.C02Drain
open Fabio Fabio.Model.C02Buf Fabio.Model.Parse Fabio.Model.Route
open Fabio.Lemmas.C02Scan Fabio.Lemmas.C02ScanAll Fabio.Lemmas.C02Lines

theorem scanLoop_eq_scanAll (cfg : ScanCfg) (data : Array Bool) : ∀ (fuel i : Nat) (s : Scan),
    (scanLoop cfg data (fun _ => false) fuel i s).1 = (scanAll cfg data fuel s).2 := by
  intro fuel
  induction fuel with
  | zero => intro i s; rfl
  | succ fuel ih =>
    intro i s
    unfold scanLoop scanAll
    cases h : Scan.next cfg data (data.size + 40) s with
    | mk o s' =>
      cases o with
      | none => rfl
      | some t => simp only [Bool.false_eq_true, if_false]; exact ih (i + 1) s'

/-- Where the scanner loop stops, read off the parser model's result: at the line of its syntax error, and nowhere when
it accepts the text or meets an over-long line. (A non-finite weight is an error of the parser model but not of Go's line
parser: the loop goes on behind such a line, so that result says nothing.) -/
theorem stopLineAux_eq (pf : ParseFloat) (ls : List Str) (i : Nat)
    (h : ∀ j v, parseLines pf i ls ≠ .error (.nonFinite j v)) :
    stopLineAux pf i ls = match parseLines pf i ls with
      | .error (.syn j _) => some j
      | _ => none := by
  -- `stopLineAux` makes the same tests as `parseLines`, so in each case of the recursion of `parseLines` its equation
  -- reduces by the hypotheses of that case. (`Nat.not_le` would turn the hypothesis `¬ maxToken ≤ byteLen raw` into a `<`,
  -- which does not rewrite the `if` of `stopLineAux`.)
  fun_induction parseLines pf i ls <;> simp_all [stopLineAux, -Nat.not_le]

theorem parseLines_ok_no_long_line (pf : ParseFloat) (ls : List Str) (i : Nat) (ds : List RouteDef)
    (h : parseLines pf i ls = .ok ds) : (cutLens maxToken (ls.map byteLen)).2 = false := by
  -- as in `stopLineAux_eq`: `cutLens` tests `maxToken ≤ byteLen raw` line by line as `parseLines` does
  fun_induction parseLines pf i ls generalizing ds <;> simp_all [cutLens, -Nat.not_le]

end Fabio.Lemmas.C02Drain
