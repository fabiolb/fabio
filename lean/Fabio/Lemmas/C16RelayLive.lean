import Fabio.Lemmas.C16Relay
/-! Liveness of the relay model of C16: each direction of the relay projected onto the part of the state it reads and
writes (`Down`, `Up`) with a progress measure (`nu`, `mu`).  On the relation `Fires`: a micro-step of that direction
that fires takes from the measure, one of the other direction leaves the projection alone; and the three events of
that direction in a fair round cannot all be `Blocked`.  So every round decreases the measure until that direction
has delivered. -/
namespace Fabio.Lemmas.C16RelayLive
open Fabio.Model.C16.Spec (SMD)
open Fabio.Model.C16.Relay Fabio.Lemmas.C16Relay

def iter {α : Type} (f : α → α) : Nat → α → α
  | 0, a => a
  | n + 1, a => iter f n (f a)

theorem iter_keeps {α : Type} (f : α → α) (P : α → Prop) (keep : ∀ a, P a → P (f a)) :
    ∀ n a, P a → P (iter f n a)
  | 0, _, h => h
  | n + 1, a, h => iter_keeps f P keep n (f a) (keep a h)

theorem iter_reaches {α : Type} (f : α → α) (m : α → Nat) (P : α → Prop) (g : α → Bool)
    (keepP : ∀ a, P a → P (f a)) (keep : ∀ a, g a = true → g (f a) = true)
    (dec : ∀ a, P a → g a = false → m (f a) < m a) :
    ∀ n a, P a → m a ≤ n → g (iter f n a) = true := by
  intro n
  induction n with
  | zero =>
    intro a hP hn
    cases hg : g a with
    | true => exact hg
    | false => have := dec a hP hg; omega
  | succ n ih =>
    intro a hP hn
    cases hg : g a with
    | true => exact iter_keeps f (g · = true) keep (n + 1) a hg
    | false => exact ih (f a) (keepP a hP) (by have := dec a hP hg; omega)

theorem run_settle_iter (n : Nat) (s : St) : run s (settle n) = iter (run · round) n s := by
  induction n generalizing s with
  | zero => rfl
  | succ n ih => rw [settle, run, List.foldl_append]; exact ih _

/-- the events of a round that belong to the caller → backend half, and to the backend → caller half -/
def upEv : Ev → Bool
  | .s2cStep | .selS2C | .backendRecv => true
  | _ => false

def downEv : Ev → Bool
  | .c2sStep | .selC2S | .callerRecv => true
  | _ => false

/-- Three events of one direction (`ev`) in a row, not all three `Blocked`: when no event of that direction raises `m`
and each that fires at `s` lowers it, the three lower it.  (Those that are `Blocked` leave the state alone, so the first
one that fires does so at `s`.) -/
theorem round3 {m : St → Nat} {ev : Ev → Bool} (le : ∀ t e, ev e = true → m (step t e) ≤ m t) {s : St}
    (lt : ∀ e s', ev e = true → Fires s e s' → m s' < m s) {e₁ e₂ e₃ : Ev}
    (h₁ : ev e₁ = true) (h₂ : ev e₂ = true) (h₃ : ev e₃ = true)
    (live : ¬ (Blocked s e₁ ∧ Blocked s e₂ ∧ Blocked s e₃)) : m (step (step (step s e₁) e₂) e₃) < m s := by
  have l2 := le (step s e₁) e₂ h₂
  have l3 := le (step (step s e₁) e₂) e₃ h₃
  rcases step_cases s e₁ with ⟨x1, b1⟩ | f1
  · rw [x1] at l3 ⊢
    rcases step_cases s e₂ with ⟨x2, b2⟩ | f2
    · rw [x2]
      rcases step_cases s e₃ with ⟨_, b3⟩ | f3
      · exact absurd ⟨b1, b2, b3⟩ live
      · exact lt _ _ h₃ f3
    · have := lt _ _ h₂ f2; omega
  · have := lt _ _ h₁ f1; omega

/-- the part of the state the backend → caller direction reads and writes -/
structure Down where
  bHdr : SMD
  bFin : Option (SMD × Status)
  qC : List Msg
  c2s : C2S
  first : Bool
  qD : List Item
  dFin : Option (SMD × Status)
  cHdr : Option SMD
  cGot : List Msg
  cFin : Option (SMD × Status)
deriving DecidableEq

def down (s : St) : Down :=
  { bHdr := s.bHdr, bFin := s.bFin, qC := s.qC, c2s := s.c2s, first := s.first, qD := s.qD, dFin := s.dFin,
    cHdr := s.cHdr, cGot := s.cGot, cFin := s.cFin }

theorem down_of_up_event (s : St) (e : Ev) (he : upEv e = true) : down (step s e) = down s := by
  rcases step_cases s e with ⟨hs, _⟩ | hf
  · rw [hs]
  generalize step s e = s' at hf
  cases hf <;> first | rfl | cases he

/-! The measure `nu` counts, with weights, the micro-steps the backend → caller direction still has to take.  Each
step of `forwardClientToServer` moves weight towards the caller and must lose more than it adds: `.send m` becomes
`.recv` and one item in `qD` (3 > 1 + 1); `.hdr m` becomes `.send m` and the header item in `qD` (6 > 3 + 1); a
message leaves `qC` for `.hdr m` or `.send m` at `.recv` (6 + 1 > 6); at `.recv` with `qC` empty the backend's
outcome is taken (1 > 0).  An item of `qD` and each of the two ends of the call (`dFin`, `cFin`) cost the one event
that consumes them. -/

def wC2S : C2S → Nat
  | .recv => 1
  | .hdr _ => 6
  | .send _ => 3
  | .done _ _ => 0

def nu (d : Down) : Nat :=
  6 * d.qC.length + wC2S d.c2s + d.qD.length + (if d.dFin.isNone then 1 else 0) + (if d.cFin.isNone then 1 else 0)

/-- A micro-step of the backend → caller half that fires takes from `nu`; only the caller's receive of an end of call
it has seen already does not. -/
theorem nu_fires {s s' : St} {e : Ev} (h : Fires s e s') (he : downEv e = true) :
    nu (down s') < nu (down s) ∨ s.cFin.isSome = true ∧ nu (down s') ≤ nu (down s) := by
  cases h with
  | recvHeader _ _ hq | recvMsg _ _ hq => simp [nu, down, hq]
  | recvFin _ _ hd => cases hc : s.cFin <;> simp [nu, down, hc]
  | c2sTake _ _ hs hq => left; cases hf : s.first <;> simp [nu, down, wC2S, hs, hq] <;> omega
  | c2sFin _ _ hs | c2sHdr _ hs | c2sPut _ hs => left; simp [nu, down, wC2S, hs] <;> omega
  | selC2S _ _ _ hd => simp [nu, down, hd]
  | _ => cases he

theorem nu_le (s : St) (e : Ev) (he : downEv e = true) : nu (down (step s e)) ≤ nu (down s) := by
  rcases step_cases s e with ⟨hs, _⟩ | hf
  · rw [hs]; exact Nat.le_refl _
  · exact (nu_fires hf he).elim Nat.le_of_lt (·.2)

theorem nu_round (s : St) (hb : s.bFin.isSome = true) (hc : s.cFin = none) :
    nu (down (run s round)) < nu (down s) := by
  simp only [run, round, List.foldl_cons, List.foldl_nil]
  have e3 : down (step (step (step s .s2cStep) .selS2C) .backendRecv) = down s := by
    rw [down_of_up_event _ _ rfl, down_of_up_event _ _ rfl, down_of_up_event _ _ rfl]
  generalize step (step (step s .s2cStep) .selS2C) .backendRecv = t at e3 ⊢
  have hb' : t.bFin.isSome = true := (congrArg (·.bFin.isSome) e3).trans hb
  have hc' : t.cFin = none := (congrArg Down.cFin e3).trans hc
  rw [← e3]
  refine round3 (m := fun s => nu (down s)) nu_le (fun e s' he f => (nu_fires f he).resolve_right (by simp [hc']))
    rfl rfl rfl ?_
  -- the forwarder moves, or it has ended and the `select` moves, or the handler has returned and the caller moves
  rintro ⟨b4, b5, b6⟩
  cases b6 with
  | callerRecv _ hd =>
    cases b5 with
    | selC2SRunning hr =>
      cases b4 with
      | c2sWait _ _ hn => rw [hn] at hb'; cases hb'
      | c2sEnded tr st h => exact absurd h (hr tr st)
    | selC2SReturned h => rw [hd] at h; cases h

theorem rounds_reach_caller (s : St) (n : Nat) (hb : s.bFin.isSome = true) (hn : nu (down s) ≤ n) :
    (run s (settle n)).cFin.isSome = true := by
  rw [run_settle_iter]
  exact iter_reaches (run · round) (fun s => nu (down s)) (fun s => s.bFin.isSome = true) (fun s => s.cFin.isSome)
    (fun s h => by rw [(run_ends s round).bFin (by simp [round])]; exact h)
    (fun s => (run_ends s round).cFin)
    (fun s h hc => nu_round s h (Option.isNone_iff_eq_none.mp (Option.isSome_eq_false_iff.mp hc)))
    n s hb hn

/-- the part of the state the caller → backend direction reads and writes while the backend has not finished -/
structure Up where
  cClosed : Bool
  qA : List Msg
  s2c : S2C
  qB : List Msg
  bClosed : Bool
  s2cSeen : Bool
  bGot : List Msg
  bEOF : Bool
deriving DecidableEq

def up (s : St) : Up :=
  { cClosed := s.cClosed, qA := s.qA, s2c := s.s2c, qB := s.qB, bClosed := s.bClosed, s2cSeen := s.s2cSeen,
    bGot := s.bGot, bEOF := s.bEOF }

theorem up_of_down_event (s : St) (e : Ev) (he : downEv e = true) : up (step s e) = up s := by
  rcases step_cases s e with ⟨hs, _⟩ | hf
  · rw [hs]
  generalize step s e = s' at hf
  cases hf <;> first | rfl | cases he

/-! `mu` is the same count for the caller → backend direction, where there is no header step: `.send m` becomes
`.recv` and one message in `qB` (3 > 1 + 1), a message leaves `qA` for `.send m` at `.recv` (3 + 1 > 3), at `.recv`
with `qA` empty the half-close is taken (1 > 0); a message of `qB`, the `select` case and the backend's end of
stream cost one event each. -/

def wS2C : S2C → Nat
  | .recv => 1
  | .send _ => 3
  | .eof => 0
  | .failed => 0

def mu (u : Up) : Nat :=
  3 * u.qA.length + wS2C u.s2c + (if u.s2cSeen then 0 else 1) + u.qB.length + (if u.bEOF then 0 else 1)

theorem mu_fires {s s' : St} {e : Ev} (h : Fires s e s') (he : upEv e = true) :
    mu (up s') < mu (up s) ∨ s.bEOF = true ∧ mu (up s') ≤ mu (up s) := by
  cases h with
  | backendRecv _ _ _ hq => dsimp only [mu, up]; simp [hq]
  | backendEOF => dsimp only [mu, up]; cases hb : s.bEOF <;> simp
  | s2cTake _ _ hs _ hq => left; dsimp only [mu, up]; simp [wS2C, hs, hq]; omega
  | s2cFail hs | s2cEOF hs | s2cPut _ hs => left; dsimp only [mu, up]; simp [wS2C, hs] <;> omega
  | selS2C _ hseen => dsimp only [mu, up]; simp [hseen]
  | _ => cases he

theorem mu_le (s : St) (e : Ev) (he : upEv e = true) : mu (up (step s e)) ≤ mu (up s) := by
  rcases step_cases s e with ⟨hs, _⟩ | hf
  · rw [hs]; exact Nat.le_refl _
  · exact (mu_fires hf he).elim Nat.le_of_lt (·.2)

theorem mu_round (s : St) (inv : Inv s) (hc : s.cClosed = true) (hb : s.bFin = none) (he : s.bEOF = false) :
    mu (up (run s round)) < mu (up s) := by
  simp only [run, round, List.foldl_cons, List.foldl_nil]
  rw [up_of_down_event _ _ rfl, up_of_down_event _ _ rfl, up_of_down_event _ _ rfl]
  refine round3 (m := fun s => mu (up s)) mu_le (fun e s' hu f => (mu_fires f hu).resolve_right (by simp [he]))
    rfl rfl rfl ?_
  -- the forwarder moves, or it has ended and the `select` moves, or the stream is closed and the backend moves
  rintro ⟨b1, b2, b3⟩
  cases b3 with
  | backendRecvFin h => rw [hb] at h; cases h
  | backendRecvWait _ hcl =>
    cases b1 with
    | s2cWait _ _ _ h => rw [hc] at h; cases h
    | s2cEnded h =>
      rcases h with h | h
      · cases hs : s.s2cSeen with
        | false => cases b2 with | selS2C hn => exact absurd ⟨h, hs, inv.running hb⟩ hn
        | true => rw [inv.seen, hs] at hcl; cases hcl
      · have := inv.failed h; rw [inv.running hb] at this; cases this

theorem rounds_reach_backend (s : St) (n : Nat) (inv : Inv s) (hc : s.cClosed = true) (hb : s.bFin = none)
    (hn : mu (up s) ≤ n) : (run s (settle n)).bEOF = true := by
  let P (s : St) : Prop := Inv s ∧ s.cClosed = true ∧ s.bFin = none
  rw [run_settle_iter]
  exact iter_reaches (run · round) (fun s => mu (up s)) P (fun s => s.bEOF)
    (fun s ⟨i, c, b⟩ => ⟨inv_run s round i, (run_ends s round).cClosed c, ((run_ends s round).bFin (by simp [round])).trans b⟩)
    (fun s => (run_ends s round).bEOF) (fun s ⟨i, c, b⟩ he => mu_round s i c b he) n s ⟨inv, hc, hb⟩ hn

end Fabio.Lemmas.C16RelayLive
