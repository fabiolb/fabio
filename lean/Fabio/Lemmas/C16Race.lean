import Fabio.Model.C16Race
import Fabio.Lemmas.Basic
import Fabio.Lemmas.C16
/-! The N-caller race of C16: a caller's micro-step as a relation (`Move`), what a move does to the accounting of
dialled connections and to the dial budget (shared with the race under cleanup, `Lemmas/C16RaceEnv.lean`), and the
invariant `J` of `RaceN.step` (repaired `Set`). -/
namespace Fabio.Lemmas.C16Race
open Fabio.Model.Route (Str)
open Fabio.Model.C16 Fabio.Model.C16.RaceN Fabio.Lemmas.C16
open Fabio.Model.C16.Race (TState tstep isDone)

theorem getElem?_set_cases {α} {l : List α} {i j : Nat} {a x : α} (h : (l.set i a)[j]? = some x) :
    x = a ∨ l[j]? = some x := by
  rw [List.getElem?_set] at h
  split at h
  · split at h
    · exact .inl (Option.some.inj h).symm
    · cases h
  · exact .inr h

/-- a thread that has not dialled yet may still dial once -/
def credit : TState → Nat
  | .start => 1
  | .missed => 1
  | _ => 0

def total (ts : List TState) : Nat := (ts.map credit).sum

theorem total_set (ts : List TState) (i : Nat) (t t' : TState) (h : ts[i]? = some t) :
    total (ts.set i t') + credit t = total ts + credit t' :=
  sum_map_set credit h t'

theorem total_replicate_start (n : Nat) : total (List.replicate n TState.start) = n := by
  induction n with
  | zero => rfl
  | succ n ih => simp only [total, List.replicate_succ, List.map_cons, List.sum_cons, credit] at ih ⊢; omega

theorem getElem?_replicate_start {n j : Nat} {t : TState} (h : (List.replicate n TState.start)[j]? = some t) :
    t = .start := by
  rw [List.getElem?_replicate] at h
  split at h
  · exact (Option.some.inj h).symm
  · cases h

/-- `Move k pool next closed t r`: a caller in state `t` moves to `r` = (pool, dial counter, closed list, its new
state) — `Race.tstep` with the repaired `Set`, one constructor per branch. -/
inductive Move (k : Str) (pool : Pool) (next : Nat) (closed : List Nat) : TState → Pool × Nat × List Nat × TState → Prop
  | miss : (∀ c, pool.find k = some c → c.shut = true) → Move k pool next closed .start (pool, next, closed, .missed)
  | hit (c : Conn) : pool.find k = some c → c.shut = false →
      Move k pool next closed .start (pool, next, closed, .done (.reused c.id))
  | dial : Move k pool next closed .missed (pool, next + 1, closed, .dialled next)
  | store (id : Nat) : (∀ c, pool.find k = some c → c.shut = true) →
      Move k pool next closed (.dialled id) (pool.put k { id := id }, next, closed, .done (.dialled id))
  | lose (id : Nat) (c : Conn) : pool.find k = some c → c.shut = false →
      Move k pool next closed (.dialled id) (pool, next, closed ++ [id], .done (.reused c.id))
  | stay (r : GetRes) : Move k pool next closed (.done r) (pool, next, closed, .done r)

theorem tstep_move (k : Str) (pool : Pool) (next : Nat) (closed : List Nat) (t : TState) :
    Move k pool next closed t (tstep true k pool next closed t) := by
  cases t with
  | start =>
    rcases live_or_none pool k with ⟨c, hf, hs⟩ | hno
    · simp only [tstep, hf, hs]; exact .hit c hf hs
    · cases hf : pool.find k with
      | none => simp only [tstep, hf]; exact .miss hno
      | some c => simp only [tstep, hf, hno c hf]; exact .miss hno
  | missed => exact .dial
  | dialled id =>
    rcases live_or_none pool k with ⟨c, hf, hs⟩ | hno
    · simp only [tstep, hf, hs]; exact .lose id c hf hs
    · cases hf : pool.find k with
      | none => simp only [tstep, hf]; exact .store id hno
      | some c => simp only [tstep, hf, hno c hf]; exact .store id hno
  | done r => exact .stay r

/-- where a connection dialled in the race is, as long as no cleanup runs: pooled and live, closed by `Set`, or in
the hands of the caller that dialled it.  `J.acct` unfolds to this; `Accounted` of `Lemmas/C16RaceEnv.lean` has the
closer's list as a fourth place. -/
def Acct (k : Str) (pool : Pool) (closed : List Nat) (ts : List TState) (x : Nat) : Prop :=
  (∃ c, pool.find k = some c ∧ c.id = x ∧ c.shut = false) ∨ x ∈ closed ∨ ∃ j : Nat, ts[j]? = some (TState.dialled x)

section
variable {k : Str} {pool : Pool} {next : Nat} {closed : List Nat} {ts : List TState} {i : Nat} {t : TState}
  {r : Pool × Nat × List Nat × TState}

theorem Acct.move {x : Nat} (hm : Move k pool next closed t r) (hi : ts[i]? = some t)
    (h : Acct k pool closed ts x) : Acct k r.1 r.2.2.1 (ts.set i r.2.2.2) x := by
  have other : ∀ {t' : TState}, (∀ y, t ≠ .dialled y) → Acct k pool closed (ts.set i t') x := by
    intro t' hnd
    refine h.imp_right (Or.imp_right fun ⟨j, hj⟩ => ⟨j, ?_⟩)
    have : j ≠ i := by rintro rfl; rw [hi] at hj; exact hnd x (Option.some.inj hj)
    rw [List.getElem?_set_ne (Ne.symm this)]; exact hj
  cases hm with
  | miss _ => exact other nofun
  | hit c _ _ => exact other nofun
  | dial => exact other nofun
  | stay _ => exact other nofun
  | store id hno =>
    rcases h with ⟨c, hc, _, hl⟩ | a | ⟨j, hj⟩
    · have := hno c hc; rw [hl] at this; cases this
    · exact .inr (.inl a)
    · by_cases hji : j = i
      · subst hji; rw [hi] at hj; cases hj
        exact .inl ⟨{ id := x }, find_put_same _ _ _, rfl, rfl⟩
      · exact .inr (.inr ⟨j, by rw [List.getElem?_set_ne (Ne.symm hji)]; exact hj⟩)
  | lose id c _ _ =>
    rcases h with a | a | ⟨j, hj⟩
    · exact .inl a
    · exact .inr (.inl (List.mem_append_left _ a))
    · by_cases hji : j = i
      · subst hji; rw [hi] at hj; cases hj
        exact .inr (.inl (List.mem_append_right _ List.mem_cons_self))
      · exact .inr (.inr ⟨j, by rw [List.getElem?_set_ne (Ne.symm hji)]; exact hj⟩)

/-- an accounted connection passes one of the tests of `orphans` -/
theorem Acct.seen {x : Nat} (h : Acct k pool closed ts x) :
    (pool.any fun kc => kc.2.id == x) = true ∨ closed.contains x = true ∨ ts.contains (TState.dialled x) = true := by
  rcases h with ⟨c, hc, hid, _⟩ | a | ⟨j, hj⟩
  · exact .inl (List.any_eq_true.mpr ⟨(k, c), find_mem hc, by simp [hid]⟩)
  · exact .inr (.inl (by simpa using a))
  · exact .inr (.inr (by simpa using List.mem_of_getElem? hj))

theorem Acct.of_allDone {x : Nat} (hd : ts.all isDone = true) (h : Acct k pool closed ts x) :
    (∃ c, pool.find k = some c ∧ c.id = x ∧ c.shut = false) ∨ x ∈ closed := by
  rcases h with a | a | ⟨j, hj⟩
  · exact .inl a
  · exact .inr a
  · have := List.all_eq_true.mp hd _ (List.mem_of_getElem? hj)
    simp [isDone] at this

/-- `E`: other places a connection may have gone to (the closer's list, in the race under cleanup) -/
theorem acct_move {E : Nat → Prop} {next0 : Nat} (hm : Move k pool next closed t r) (hi : ts[i]? = some t)
    (h : ∀ x, next0 ≤ x → x < next → Acct k pool closed ts x ∨ E x) :
    ∀ x, next0 ≤ x → x < r.2.1 → Acct k r.1 r.2.2.1 (ts.set i r.2.2.2) x ∨ E x := by
  intro x h0 h1
  by_cases hx : x < next
  · exact (h x h0 hx).imp_left (Acct.move hm hi)
  · cases hm with
    | dial =>
      have : x = next := by have : x < next + 1 := h1; omega
      subst this
      exact .inl (.inr (.inr ⟨i, List.getElem?_set_self (List.getElem?_eq_some_iff.mp hi).1⟩))
    | _ => exact absurd h1 hx

theorem budget_move (hm : Move k pool next closed t r) (hi : ts[i]? = some t) :
    next ≤ r.2.1 ∧ r.2.1 + total (ts.set i r.2.2.2) ≤ next + total ts := by
  have ht := total_set ts i t r.2.2.2 hi
  cases hm <;> simp only [credit] at ht ⊢ <;> omega

end

/-- The invariant, relative to the pool `p0` and the dial counter `next0` the race started from. -/
structure J (p0 : Pool) (next0 : Nat) (k : Str) (s : NState) : Prop where
  acct : ∀ i : Nat, next0 ≤ i → i < s.next →
    (∃ c, s.pool.find k = some c ∧ c.id = i ∧ c.shut = false) ∨ i ∈ s.closed ∨ (∃ j : Nat, s.ts[j]? = some (TState.dialled i))
  done : ∀ (j : Nat) (r : GetRes), s.ts[j]? = some (TState.done r) → ∃ c, s.pool.find k = some c ∧ c.shut = false ∧ r.conn? = some c.id
  /-- at most one dial per caller -/
  budget : s.next + total s.ts ≤ next0 + s.ts.length
  mono : next0 ≤ s.next
  held : ∀ j i : Nat, s.ts[j]? = some (TState.dialled i) → next0 ≤ i ∧ i < s.next
  others : ∀ k', k' ≠ k → s.pool.find k' = p0.find k'
  pooled : ∀ c, s.pool.find k = some c → c.id < s.next

theorem j_start (p : Pool) (next n : Nat) (k : Str) (hp : ∀ c, p.find k = some c → c.id < next) :
    J p next k (start p next n) where
  acct := fun i h1 h2 => absurd h2 (Nat.not_lt.mpr h1)
  done := fun j r h => nomatch getElem?_replicate_start h
  budget := by simp [start, total_replicate_start]
  mono := Nat.le_refl _
  held := fun j i h => nomatch getElem?_replicate_start h
  others := fun _ _ => rfl
  pooled := hp

theorem j_step (p0 : Pool) (next0 : Nat) (k : Str) (s : NState) (i : Nat) (h : J p0 next0 k s) :
    J p0 next0 k (step true k s i) := by
  unfold step
  cases hi : s.ts[i]? with
  | none => exact h
  | some t =>
    have hm := tstep_move k s.pool s.next s.closed t
    have hbud := budget_move hm hi
    dsimp only
    generalize tstep true k s.pool s.next s.closed t = r at hm hbud ⊢
    refine {
      acct := fun x h0 h1 =>
        (acct_move (E := fun _ => False) hm hi (fun x h0 h1 => .inl (h.acct x h0 h1)) x h0 h1).resolve_right id
      budget := by rw [List.length_set]; exact Nat.le_trans hbud.2 h.budget
      mono := Nat.le_trans h.mono hbud.1
      done := ?done, held := ?held, others := ?others, pooled := ?pooled }
    case done =>
      intro j g hj
      rcases getElem?_set_cases hj with e | hj'
      · cases hm with
        | hit c hf hl => cases e; exact ⟨c, hf, hl, rfl⟩
        | lose id c hf hl => cases e; exact ⟨c, hf, hl, rfl⟩
        | store id hno => cases e; exact ⟨{ id := id }, find_put_same _ _ _, rfl, rfl⟩
        | stay g' => cases e; exact h.done i g hi
        | miss _ => cases e
        | dial => cases e
      · -- a caller that returned earlier holds the live pooled connection, so nothing is stored over it
        obtain ⟨c, hc, hl, hg⟩ := h.done j g hj'
        cases hm with
        | store id hno => rw [hno c hc] at hl; cases hl
        | _ => exact ⟨c, hc, hl, hg⟩
    case held =>
      intro j x hj
      rcases getElem?_set_cases hj with e | hj'
      · -- only `dial` leaves the mover with a connection in its hands: the one just dialled
        cases hm <;> cases e
        exact ⟨h.mono, Nat.lt_succ_self _⟩
      · exact ⟨(h.held j x hj').1, Nat.lt_of_lt_of_le (h.held j x hj').2 hbud.1⟩
    case others =>
      intro k' hk'
      cases hm with
      | store id _ => exact (find_put_other _ _ _ _ hk').trans (h.others k' hk')
      | _ => exact h.others k' hk'
    case pooled =>
      intro c hc
      cases hm with
      | store id _ =>
        have : c = { id := id } := Option.some.inj (hc.symm.trans (find_put_same _ _ _))
        rw [this]; exact (h.held i id hi).2
      | _ => exact Nat.lt_of_lt_of_le (h.pooled c hc) hbud.1

theorem j_run (p0 : Pool) (next0 : Nat) (k : Str) (s : NState) (sched : List Nat) (h : J p0 next0 k s) :
    J p0 next0 k (run true k s sched) :=
  List.foldlRecOn sched (step true k) h fun s hs i _ => j_step p0 next0 k s i hs

theorem step_length (fixed : Bool) (k : Str) (s : NState) (i : Nat) : (step fixed k s i).ts.length = s.ts.length := by
  unfold step
  cases s.ts[i]? with
  | none => rfl
  | some t => simp

theorem run_length (fixed : Bool) (k : Str) (s : NState) (sched : List Nat) :
    (run fixed k s sched).ts.length = s.ts.length :=
  List.foldlRecOn (motive := fun t => t.ts.length = s.ts.length) sched (step fixed k) rfl
    fun t ht i _ => (step_length fixed k t i).trans ht

end Fabio.Lemmas.C16Race
