import Fabio.Lemmas.Route
/-!
C05 — `route del`: a command is read once (`delSel`: where it deletes, which targets); the concrete `delRoute` then does
`delAt` (`delAll`: every route filtered, then `prune`; `delOne`: a `put` at the key of the source, then `prune`) where
`specDel` does `specDelAt` (the pointwise `dropSel`; `upd`) — `delRoute_eq`, `specDel_eq`. Hence it preserves the table
invariant and refines `specDel` under `abs`, for every table with unique hosts and paths.
-/
namespace Fabio.Lemmas.C05Del
open Fabio Fabio.Model.Route Fabio.Model.C05Spec Fabio.Lemmas.Route

theorem weigh_length (ts : List Target) : (weigh ts).length = ts.length :=
  Route.weigh_length ts

def tgs (rs : List Route) (p : Str) : List Target :=
  match findRoute rs p with
  | some r => r.targets
  | none => []

theorem tgs_nil (p : Str) : tgs [] p = [] := rfl

def delAll (t : Table) (skip : Target → Bool) : Table := prune (mapRoutes t (fun r => r.filter skip))

def delOne (t : Table) (host path : Str) (skip : Target → Bool) : Table :=
  match t.route host path with
  | none => t
  | some _ => prune (put t host path (dropSel skip (abs t host path)))

theorem wf_mapFilter {t : Table} (skip : Target → Bool) (hw : WF t) :
    WF (mapRoutes t (fun r => r.filter skip)) :=
  wf_mapRoutes _ (fun _ => rfl) (fun _ => rfl) hw

theorem weighed_mapFilter (t : Table) (skip : Target → Bool) : Weighed (mapRoutes t (fun r => r.filter skip)) :=
  List.forall_mem_map.2 fun _ _ => List.forall_mem_map.2 fun _ _ => weigh_weigh _

theorem inv_delAll {t : Table} (skip : Target → Bool) (hw : WF t) : Inv (delAll t skip) :=
  ⟨wf_prune (wf_mapFilter skip hw), prune_noEmpty _, weighed_prune (weighed_mapFilter t skip)⟩

theorem abs_delAll {t : Table} (skip : Target → Bool) (hw : WF t) :
    abs (delAll t skip) = fun h p => dropSel skip (abs t h p) := by
  unfold delAll
  rw [abs_prune (wf_mapFilter skip hw)]
  funext h p
  rw [abs_eq, get_mapRoutes]
  exact tgs_map (fun r => r.filter skip) (dropSel skip) (fun _ => rfl) (fun _ => rfl) rfl _ p

theorem inv_delOne {t : Table} (host path : Str) (skip : Target → Bool) (hi : Inv t) :
    Inv (delOne t host path skip) := by
  unfold delOne
  split
  · exact hi
  · exact ⟨wf_prune (wf_put hi.wf ..), prune_noEmpty _, weighed_prune (weighed_put hi.weighed _ _ (weigh_weigh _))⟩

theorem abs_delOne {t : Table} (host path : Str) (skip : Target → Bool) (hw : WF t) :
    abs (delOne t host path skip) = upd (abs t) host path (dropSel skip (abs t host path)) := by
  unfold delOne
  split
  · rename_i h
    have habs : abs t host path = [] := abs_of_find_none h
    rw [habs]
    exact (upd_eq_self habs).symm
  · rw [abs_prune (wf_put hw ..), abs_put]

theorem delOne_of_route (t : Table) (host path : Str) (skip : Target → Bool) :
    (match t.route host path with
      | none => .ok t
      | some r => .ok (prune (t.set host (replaceRoute (t.get host) (r.filter skip))))) =
      (.ok (delOne t host path skip) : Except Err Table) := by
  unfold delOne
  cases hr : t.route host path with
  | none => rfl
  | some r => dsimp only; rw [put_of_find_some _ hr, abs_of_find_some hr]; rfl

/-- a `route del` read, the same for the table and for the spec machine: where it deletes (`none`: under every host
and path; else at the key of its source) and which targets -/
def delSel (env : Env) (d : RouteDef) : Except Err (Option (Str × Str) × (Target → Bool)) :=
  if !d.tags.isEmpty then .ok (none, delSelTags d)
  else if d.src.isEmpty && d.dst.isEmpty then .ok (none, delSelSvc d)
  else if d.dst.isEmpty then .ok (some (key d.src), delSelSvc d)
  else match env.normURL d.dst with
    | none => .error .badURL
    | some url => .ok (some (key d.src), delSelSvcDst d url)

def delAt (t : Table) : Option (Str × Str) × (Target → Bool) → Table
  | (none, sel) => delAll t sel
  | (some k, sel) => delOne t k.1 k.2 sel

def specDelAt (S : Spec) : Option (Str × Str) × (Target → Bool) → Spec
  | (none, sel) => fun h p => dropSel sel (S h p)
  | (some k, sel) => upd S k.1 k.2 (dropSel sel (S k.1 k.2))

theorem delRoute_eq (env : Env) (t : Table) (d : RouteDef) : delRoute env t d = (delSel env d).map (delAt t) := by
  unfold delRoute delSel key
  generalize hostpath d.src = hp
  obtain ⟨a, b⟩ := hp
  dsimp only
  split
  · rfl
  · split
    · rfl
    · split
      · exact delOne_of_route ..
      · cases env.normURL d.dst with
        | none => rfl
        | some url => exact delOne_of_route ..

theorem specDel_eq (env : Env) (S : Spec) (d : RouteDef) : specDel env S d = (delSel env d).map (specDelAt S) := by
  unfold specDel delSel
  dsimp only
  split
  · rfl
  · split
    · rfl
    · split
      · rfl
      · cases env.normURL d.dst <;> rfl

theorem abs_delAt {t : Table} (hw : WF t) : ∀ w, abs (delAt t w) = specDelAt (abs t) w
  | (none, sel) => abs_delAll sel hw
  | (some k, sel) => abs_delOne k.1 k.2 sel hw

theorem inv_delAt {t : Table} (hi : Inv t) : ∀ w, Inv (delAt t w)
  | (none, sel) => inv_delAll sel hi.wf
  | (some k, sel) => inv_delOne k.1 k.2 sel hi

section main
variable {env : Env} {t t1 : Table} {d : RouteDef}

theorem delRoute_ok (h : delRoute env t d = .ok t1) : ∃ w, t1 = delAt t w :=
  let ⟨w, _, hw⟩ := of_map_eq_ok ((delRoute_eq env t d).symm.trans h)
  ⟨w, hw.symm⟩

theorem inv_del (hi : Inv t) (h : delRoute env t d = .ok t1) : Inv t1 := by
  obtain ⟨w, rfl⟩ := delRoute_ok h
  exact inv_delAt hi w

theorem del_refines (hw : WF t) : (delRoute env t d).map abs = specDel env (abs t) d := by
  rw [delRoute_eq, specDel_eq]
  cases delSel env d with
  | error e => rfl
  | ok w => exact congrArg Except.ok (abs_delAt hw w)

theorem del_ok (hw : WF t) (h : delRoute env t d = .ok t1) : specDel env (abs t) d = .ok (abs t1) :=
  ok_of_map_eq (del_refines hw) h

theorem specDel_tags {S : Spec} (ht : d.tags ≠ []) :
    specDel env S d = .ok fun h p => dropSel (delSelTags d) (S h p) := by
  unfold specDel
  rw [if_pos (by simpa using ht)]

theorem specDel_svc {S : Spec} (ht : d.tags = []) (hs : d.src = []) (hd : d.dst = []) :
    specDel env S d = .ok fun h p => dropSel (delSelSvc d) (S h p) := by
  simp [specDel, ht, hs, hd]

theorem specDel_src {S : Spec} (ht : d.tags = []) (hs : d.src ≠ []) (hd : d.dst = []) : specDel env S d =
    .ok (upd S (key d.src).1 (key d.src).2 (dropSel (delSelSvc d) (S (key d.src).1 (key d.src).2))) := by
  simp [specDel, ht, hs, hd]

theorem specDel_dst {S : Spec} {url : Str} (ht : d.tags = []) (hd : d.dst ≠ []) (hu : env.normURL d.dst = some url) :
    specDel env S d =
      .ok (upd S (key d.src).1 (key d.src).2 (dropSel (delSelSvcDst d url) (S (key d.src).1 (key d.src).2))) := by
  simp [specDel, ht, hd, hu]

theorem del_leaves_no_empty (hn : NoEmpty t) (h : delRoute env t d = .ok t1) : NoEmpty t1 := by
  obtain ⟨⟨_ | k, sel⟩, rfl⟩ := delRoute_ok h
  · exact prune_noEmpty _
  · show NoEmpty (delOne t k.1 k.2 sel)
    unfold delOne
    split
    · exact hn
    · exact prune_noEmpty _

theorem host_case_del (s' : Str) (hk : key d.src = key s') (he : d.src.isEmpty = s'.isEmpty) :
    delRoute env t d = delRoute env t { d with src := s' } := by
  rw [delRoute_eq, delRoute_eq]
  unfold delSel
  simp only [hk, he]
  rfl

end main

section examples

def env0 : Env := { normURL := fun s => some s, globOK := fun _ => true }

def tA (w : Rat) : Target :=
  { service := ['a'], tags := [['x']], opts := [], url := ['u', 'a'], fixedWeight := 0, weight := w }
def tB (w : Rat) : Target :=
  { service := ['b'], tags := [['y']], opts := [], url := ['u', 'b'], fixedWeight := 0, weight := w }

/-- host `h`: `/` ↦ a (1/2), b (1/2); `/p` ↦ a (1) -/
def tab0 : Table :=
  [(['h'], [⟨['h'], ['/'], [tA (1/2), tB (1/2)]⟩, ⟨['h'], ['/', 'p'], [tA 1]⟩])]

/-- after `route del a`: target a is gone from `/`, route `/p` is gone -/
def tab1 : Table := [(['h'], [⟨['h'], ['/'], [tB 1]⟩])]

/-- after `route del a H/p`: only route `/p` is gone -/
def tab2 : Table := [(['h'], [⟨['h'], ['/'], [tA (1/2), tB (1/2)]⟩])]

/-- after `route del a h/ ua`: target a is gone from `/` only -/
def tab3 : Table := [(['h'], [⟨['h'], ['/'], [tB 1]⟩, ⟨['h'], ['/', 'p'], [tA 1]⟩])]

def dSvc : RouteDef := { cmd := .del, service := ['a'] }
def dTags : RouteDef := { cmd := .del, tags := [['x']] }
def dSrc : RouteDef := { cmd := .del, service := ['a'], src := ['H', '/', 'p'] }
def dDst : RouteDef := { cmd := .del, service := ['a'], src := ['h', '/'], dst := ['u', 'a'] }

theorem inv_tab0 : Inv tab0 :=
  ⟨⟨by decide, by decide, by decide⟩, by unfold NoEmpty; decide, by unfold Weighed; decide +kernel⟩

theorem del_svc : delRoute env0 tab0 dSvc = .ok tab1 := by decide +kernel
theorem del_tags : delRoute env0 tab0 dTags = .ok tab1 := by decide +kernel
theorem del_src : delRoute env0 tab0 dSrc = .ok tab2 := by decide +kernel
theorem del_dst : delRoute env0 tab0 dDst = .ok tab3 := by decide +kernel

-- `inv_del`: the hypotheses hold and the result is a different table (a target and a route really went away)
example : Inv tab1 ∧ tab1 ≠ tab0 := ⟨inv_del inv_tab0 del_svc, by decide +kernel⟩
example : Inv tab1 := inv_del inv_tab0 del_tags
example : Inv tab2 ∧ tab2 ≠ tab0 := ⟨inv_del inv_tab0 del_src, by decide +kernel⟩
example : Inv tab3 ∧ tab3 ≠ tab0 := ⟨inv_del inv_tab0 del_dst, by decide +kernel⟩

-- `del_refines`: both sides are `.ok`, and the common value differs from `abs tab0`
example : specDel env0 (abs tab0) dSvc = .ok (abs tab1) := by
  rw [← del_refines inv_tab0.wf, del_svc]; rfl
example : specDel env0 (abs tab0) dSrc = .ok (abs tab2) := by
  rw [← del_refines inv_tab0.wf, del_src]; rfl
example : specDel env0 (abs tab0) dDst = .ok (abs tab3) := by
  rw [← del_refines inv_tab0.wf, del_dst]; rfl
example : abs tab0 ['h'] ['/', 'p'] = [tA 1] ∧ abs tab1 ['h'] ['/', 'p'] = [] ∧
    abs tab0 ['h'] ['/'] = [tA (1/2), tB (1/2)] ∧ abs tab1 ['h'] ['/'] = [tB 1] := by decide +kernel
-- the error branch is refined too
example : (delRoute { env0 with normURL := fun _ => none } tab0 dDst).map abs = .error .badURL := by
  rw [del_refines inv_tab0.wf]; rfl

example : NoEmpty tab1 := del_leaves_no_empty inv_tab0.noEmpty del_svc
example : NoEmpty tab2 := del_leaves_no_empty inv_tab0.noEmpty del_src

-- `prune_noEmpty`: pruning really removes an empty route and then its host
example : prune [(['g'], [⟨['g'], ['/'], []⟩]), (['h'], [⟨['h'], ['/'], [tB 1]⟩, ⟨['h'], ['/', 'q'], []⟩])] = tab1 := by
  decide +kernel
example : NoEmpty (prune [(['g'], [⟨['g'], ['/'], []⟩]), (['h'], [⟨['h'], ['/'], [tB 1]⟩, ⟨['h'], ['/', 'q'], []⟩])]) :=
  prune_noEmpty _
example : ¬ NoEmpty [(['g'], [⟨['g'], ['/'], ([] : List Target)⟩])] := by unfold NoEmpty; decide

-- `host_case_del`: `H/p` and `h/p` delete the same thing
example : delRoute env0 tab0 dSrc = delRoute env0 tab0 { dSrc with src := ['h', '/', 'p'] } :=
  host_case_del ['h', '/', 'p'] (by decide) (by decide)
example : dSrc.src ≠ ['h', '/', 'p'] := by decide

end examples

end Fabio.Lemmas.C05Del
