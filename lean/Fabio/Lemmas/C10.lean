import Fabio.Model.C10
/-!
C10 — fabio's index/slice parser (`Model/C10.lean`) on its own. Each stage is rewritten once as an equation on a list
given by its first bytes; the size function and the record layer (`sniRoute`) are read off those equations. What the
parser does on a whole message — no panic, encoded hellos, truncation — goes through the vector reader and is in
`Lemmas/C10Std.lean`. Core Lean only.
-/
namespace Fabio.Lemmas.C10
open Fabio Fabio.Model.C10

@[simp] theorem ok_bind {α β} (a : α) (f : α → R β) : (R.ok a >>= f) = f a := rfl
@[simp] theorem reject_bind {α β} (s : String) (f : α → R β) : (R.reject s >>= f) = R.reject s := rfl
@[simp] theorem panic_bind {α β} (s : String) (f : α → R β) : (R.panic s >>= f) = R.panic s := rfl
@[simp] theorem pure_eq {α} (a : α) : (pure a : R α) = R.ok a := rfl
theorem bind_ok_right {α} (x : R α) : (x >>= fun a => R.ok a) = x := by
  cases x <;> rfl

@[simp] theorem isPanic_ok {α} (a : α) : (R.ok a).isPanic = false := rfl
@[simp] theorem isPanic_reject {α} (s : String) : (R.reject s : R α).isPanic = false := rfl
@[simp] theorem isPanic_panic {α} (s : String) : (R.panic s : R α).isPanic = true := rfl
@[simp] theorem isReject_ok {α} (a : α) : (R.ok a).isReject = false := rfl
@[simp] theorem isReject_reject {α} (s : String) : (R.reject s : R α).isReject = true := rfl

theorem isPanic_bind {α β} (x : R α) (f : α → R β) (hx : x.isPanic = false)
    (hf : ∀ a, (f a).isPanic = false) : (x >>= f).isPanic = false := by
  cases x with
  | ok a => exact hf a
  | reject s => rfl
  | panic w => simp at hx

theorem be16_eq (hi lo : UInt8) : be16 hi lo = hi.toNat * 256 + lo.toNat := by
  unfold be16
  have h : lo.toNat < 2 ^ 8 := lo.toNat_lt
  rw [← Nat.shiftLeft_add_eq_or_of_lt h, Nat.shiftLeft_eq]

theorem be24_eq (a b c : UInt8) : be24 a b c = a.toNat * 65536 + b.toNat * 256 + c.toNat := by
  unfold be24
  have hb : b.toNat < 2 ^ 8 := b.toNat_lt
  have hc : c.toNat < 2 ^ 8 := c.toNat_lt
  have hb' : b.toNat <<< 8 < 2 ^ 16 := by rw [Nat.shiftLeft_eq]; omega
  have e1 : a.toNat <<< 16 ||| b.toNat <<< 8 = a.toNat <<< 16 + b.toNat <<< 8 :=
    (Nat.shiftLeft_add_eq_or_of_lt hb' _).symm
  have e2 : a.toNat <<< 16 + b.toNat <<< 8 = (a.toNat * 256 + b.toNat) <<< 8 := by
    simp only [Nat.shiftLeft_eq]; omega
  rw [e1, e2, ← Nat.shiftLeft_add_eq_or_of_lt hc, Nat.shiftLeft_eq]
  omega

theorem be16_lt (hi lo : UInt8) : be16 hi lo < 65536 := by
  rw [be16_eq]; have := hi.toNat_lt; have := lo.toNat_lt; omega

theorem idx_ok {d : Bytes} {i : Nat} (h : i < d.length) : idx d i = .ok d[i] := by
  simp [idx, List.getElem?_eq_getElem h]

theorem idx_isPanic {d : Bytes} {i : Nat} (h : i < d.length) : (idx d i).isPanic = false := by
  rw [idx_ok h]; rfl

theorem sliceFrom_ok {d : Bytes} {a : Nat} (h : a ≤ d.length) : sliceFrom d a = .ok (d.drop a) := by
  simp [sliceFrom, h]

theorem sliceTo_ok {d : Bytes} {b : Nat} (h : b ≤ d.length) : sliceTo d b = .ok (d.take b) := by
  simp [sliceTo, h]

theorem slice_ok {d : Bytes} {a b : Nat} (h1 : a ≤ b) (h2 : b ≤ d.length) :
    slice d a b = .ok ((d.take b).drop a) := by
  simp [slice, h1, h2]

theorem idx_zero (a : UInt8) (t : Bytes) : idx (a :: t) 0 = .ok a := rfl
theorem idx_succ (a : UInt8) (t : Bytes) (i : Nat) : idx (a :: t) (i+1) = idx t i := by
  simp [idx]

/-- The decision `clientHelloBufferSize` takes, as a function of the four header fields it reads: record type,
record length, handshake type, handshake length (`recordLength-4` is computed in Go's `int`; in `Nat` the last
check reads `recLen < hsLen + 4`). -/
def headerSize (t : UInt8) (recLen : Nat) (ht : UInt8) (hsLen : Nat) : R Nat :=
  if t ≠ 0x16 then .reject "not-handshake" else
  if recLen = 0 ∨ 16384 < recLen then .reject "record-length" else
  if ht ≠ 0x01 then .reject "not-client-hello" else
  if hsLen = 0 ∨ recLen < hsLen + 4 then .reject "handshake-length" else .ok (hsLen + 9)

theorem headerSize_no_panic (t : UInt8) (recLen : Nat) (ht : UInt8) (hsLen : Nat) :
    (headerSize t recLen ht hsLen).isPanic = false := by
  unfold headerSize
  repeat' split
  all_goals rfl

theorem headerSize_ok {t ht : UInt8} {recLen hsLen n : Nat} (h : headerSize t recLen ht hsLen = .ok n) :
    t = 0x16 ∧ ht = 0x01 ∧ n = hsLen + 9 ∧ 0 < hsLen ∧ hsLen + 4 ≤ recLen ∧ recLen ≤ 16384 := by
  unfold headerSize at h
  split at h
  · cases h
  rename_i h0
  split at h
  · cases h
  split at h
  · cases h
  rename_i h5
  split at h
  · cases h
  cases h
  exact ⟨Classical.not_not.mp h0, Classical.not_not.mp h5, rfl, by omega, by omega, by omega⟩

theorem headerSize_of {recLen hsLen : Nat} (hr : 0 < recLen ∧ recLen ≤ 16384) (hh : 0 < hsLen ∧ hsLen + 4 ≤ recLen) :
    headerSize 0x16 recLen 0x01 hsLen = .ok (hsLen + 9) := by
  unfold headerSize
  rw [if_neg (by simp), if_neg (by omega), if_neg (by simp), if_neg (by omega)]

theorem bufsize_short (d : Bytes) (h : d.length < 9) : clientHelloBufferSize d = .reject "short" := by
  unfold clientHelloBufferSize; rw [if_pos h]

theorem nine_of_le (d : Bytes) (h : 9 ≤ d.length) :
    ∃ x0 x1 x2 x3 x4 x5 x6 x7 x8 rest, d = x0 :: x1 :: x2 :: x3 :: x4 :: x5 :: x6 :: x7 :: x8 :: rest :=
  match d, h with
  | x0 :: x1 :: x2 :: x3 :: x4 :: x5 :: x6 :: x7 :: x8 :: rest, _ => ⟨x0, x1, x2, x3, x4, x5, x6, x7, x8, rest, rfl⟩

theorem bufsize_cons (t v1 v2 r1 r0 ht b2 b1 b0 : UInt8) (rest : Bytes) :
    clientHelloBufferSize (t :: v1 :: v2 :: r1 :: r0 :: ht :: b2 :: b1 :: b0 :: rest) =
      headerSize t (be16 r1 r0) ht (be24 b2 b1 b0) := by
  unfold clientHelloBufferSize headerSize
  rw [if_neg (by simp only [List.length_cons, peekLen]; omega)]
  simp only [idx_zero, idx_succ, ok_bind, bne_iff_ne, ne_eq, maxRecordLen, hsHdrLen, recTypeHandshake,
    hsTypeClientHello, peekLen]
  have e1 : ∀ r : Nat, (r ≤ 0 ∨ r > 16384) = (r = 0 ∨ 16384 < r) := fun r => propext (by omega)
  have e2 : ∀ r l : Nat, (l ≤ 0 ∨ (l : Int) > (r : Int) - ((4 : Nat) : Int)) = (l = 0 ∨ r < l + 4) :=
    fun r l => propext (by omega)
  simp only [e1, e2]

theorem bufsize_ok (d : Bytes) (n : Nat) (h : clientHelloBufferSize d = .ok n) :
    ∃ t v1 v2 r1 r0 ht b2 b1 b0 rest, d = t :: v1 :: v2 :: r1 :: r0 :: ht :: b2 :: b1 :: b0 :: rest ∧
      headerSize t (be16 r1 r0) ht (be24 b2 b1 b0) = .ok n := by
  by_cases h9 : d.length < 9
  · rw [bufsize_short d h9] at h; cases h
  · obtain ⟨t, v1, v2, r1, r0, ht, b2, b1, b0, rest, rfl⟩ := nine_of_le d (by omega)
    exact ⟨t, v1, v2, r1, r0, ht, b2, b1, b0, rest, rfl, by rw [← bufsize_cons]; exact h⟩

/-- 10: nine header bytes and a non-empty handshake message. -/
theorem bufsize_ge (d : Bytes) (n : Nat) (h : clientHelloBufferSize d = .ok n) : 10 ≤ n := by
  obtain ⟨_, _, _, _, _, _, _, _, _, _, _, h⟩ := bufsize_ok d n h
  have := headerSize_ok h
  omega

theorem parseCiphers_nil : parseCiphers [] = .reject "cipher-len" := rfl
theorem parseCiphers_one (a : UInt8) : parseCiphers [a] = .reject "cipher-len" := rfl
theorem parseCiphers_cons (a b : UInt8) (t : Bytes) :
    parseCiphers (a :: b :: t) =
      if be16 a b % 2 = 1 ∨ t.length < be16 a b then .reject "cipher-suites" else .ok (t.drop (be16 a b)) := by
  unfold parseCiphers
  have h : ¬ (a :: b :: t).length < 2 := by simp
  rw [if_neg h]
  simp only [idx_zero, idx_succ, ok_bind]
  by_cases c : be16 a b % 2 = 1 ∨ t.length < be16 a b
  · have c' : be16 a b % 2 = 1 ∨ (a :: b :: t).length < 2 + be16 a b := by
      simp only [List.length_cons]; omega
    rw [if_pos c, if_pos c']
  · have c' : ¬ (be16 a b % 2 = 1 ∨ (a :: b :: t).length < 2 + be16 a b) := by
      simp only [List.length_cons]; omega
    rw [if_neg c, if_neg c', sliceFrom_ok (by simp only [List.length_cons]; omega)]
    have : 2 + be16 a b = be16 a b + 1 + 1 := by omega
    rw [this, List.drop_succ_cons, List.drop_succ_cons]

theorem parseCompression_nil : parseCompression [] = .reject "compression-len" := rfl
theorem parseCompression_cons (c : UInt8) (t : Bytes) :
    parseCompression (c :: t) =
      if t.length < c.toNat then .reject "compression-methods" else .ok (t.drop c.toNat) := by
  unfold parseCompression
  have h : ¬ (c :: t).length < 1 := by simp
  rw [if_neg h]
  simp only [idx_zero, ok_bind]
  by_cases k : t.length < c.toNat
  · have k' : (c :: t).length < 1 + c.toNat := by simp only [List.length_cons]; omega
    rw [if_pos k, if_pos k']
  · have k' : ¬ (c :: t).length < 1 + c.toNat := by simp only [List.length_cons]; omega
    rw [if_neg k, if_neg k', slice_ok (by omega) (by simp only [List.length_cons]; omega), ok_bind,
      sliceFrom_ok (by simp only [List.length_cons]; omega)]
    have : 1 + c.toNat = c.toNat + 1 := by omega
    rw [this, List.drop_succ_cons]

theorem parseHead_short (d : Bytes) (h : d.length < 42) : parseHead d = .reject "len<42" := by
  unfold parseHead; rw [if_pos h]

theorem parseHead_eq (d : Bytes) (h : 42 ≤ d.length) :
    parseHead d =
      if (d[38]'(by omega)).toNat > 32 ∨ d.length < 39 + (d[38]'(by omega)).toNat then .reject "session-id"
      else .ok (d.drop (39 + (d[38]'(by omega)).toNat)) := by
  unfold parseHead
  simp only [minHelloLen, randomOff, sidLenOff, sidOff, maxSidLen]
  rw [if_neg (by omega)]
  simp (disch := omega) only [idx_ok, ok_bind, slice_ok]
  split
  · rfl
  · simp (disch := omega) only [ok_bind, slice_ok, sliceFrom_ok]

theorem parseExtensions_nil : parseExtensions [] = .ok [] := rfl
theorem parseExtensions_one (a : UInt8) : parseExtensions [a] = .reject "ext-block-len" := rfl
theorem parseExtensions_cons (a b : UInt8) (t : Bytes) :
    parseExtensions (a :: b :: t) =
      if be16 a b ≠ t.length then .reject "ext-block-length" else extLoop (t.length + 1) t [] := by
  unfold parseExtensions
  have h1 : ¬ (a :: b :: t).length = 0 := by simp
  have h2 : ¬ (a :: b :: t).length < 2 := by simp
  rw [if_neg h1, if_neg h2]
  simp only [idx_zero, idx_succ, ok_bind]
  rw [sliceFrom_ok (by simp)]
  simp only [ok_bind, List.drop_succ_cons, List.drop_zero]

theorem extLoop_nil (fuel : Nat) (cur : Bytes) : extLoop (fuel+1) [] cur = .ok cur := rfl

theorem extLoop_cons (fuel : Nat) (a b c e : UInt8) (t cur : Bytes) :
    extLoop (fuel+1) (a :: b :: c :: e :: t) cur =
      if t.length < be16 c e then .reject "ext-length" else
        (if be16 a b = extensionServerName then serverNameExt (t.take (be16 c e)) cur else .ok cur) >>=
          fun cur' => extLoop fuel (t.drop (be16 c e)) cur' := by
  rw [extLoop]
  have h1 : ¬ (a :: b :: c :: e :: t).length = 0 := by simp
  have h2 : ¬ (a :: b :: c :: e :: t).length < 4 := by simp
  rw [if_neg h1, if_neg h2]
  simp only [idx_zero, idx_succ, ok_bind]
  rw [sliceFrom_ok (by simp)]
  simp only [ok_bind, List.drop_succ_cons, List.drop_zero]
  split
  · rfl
  · rename_i h3
    rw [sliceTo_ok (by omega), sliceFrom_ok (by omega)]
    simp only [ok_bind]

theorem serverNameExt_cons (a b : UInt8) (t cur : Bytes) :
    serverNameExt (a :: b :: t) cur =
      if t.length ≠ be16 a b then .reject "sni-list-length" else
        nameLoop (t.length + 1) t >>= fun r => .ok (r.getD cur) := by
  unfold serverNameExt
  have h2 : ¬ (a :: b :: t).length < 2 := by simp
  rw [if_neg h2]
  simp only [idx_zero, idx_succ, ok_bind]
  rw [sliceFrom_ok (by simp)]
  simp only [ok_bind, List.drop_succ_cons, List.drop_zero]
  split
  · rfl
  · congr 1; funext r; cases r <;> rfl

theorem nameLoop_nil (fuel : Nat) : nameLoop (fuel+1) [] = .ok none := rfl

theorem nameLoop_short (fuel : Nat) (d : Bytes) (h0 : d.length ≠ 0) (h3 : d.length < 3) :
    nameLoop (fuel+1) d = .reject "name-entry-header" := by
  rw [nameLoop, if_neg h0, if_pos h3]

theorem nameLoop_cons (fuel : Nat) (ty a b : UInt8) (t : Bytes) :
    nameLoop (fuel+1) (ty :: a :: b :: t) =
      if t.length < be16 a b then .reject "name-length" else
        if ty = nameTypeHost then .ok (some (t.take (be16 a b))) else nameLoop fuel (t.drop (be16 a b)) := by
  rw [nameLoop]
  have h1 : ¬ (ty :: a :: b :: t).length = 0 := by simp
  have h2 : ¬ (ty :: a :: b :: t).length < 3 := by simp
  rw [if_neg h1, if_neg h2]
  simp only [idx_zero, idx_succ, ok_bind]
  rw [sliceFrom_ok (by simp)]
  simp only [ok_bind, List.drop_succ_cons, List.drop_zero]
  split
  · rfl
  · rename_i h3
    rw [sliceTo_ok (by omega), sliceFrom_ok (by omega)]
    simp only [ok_bind]

/-! The name loop consumes at least three bytes per round, so fuel `length + 1` suffices. -/

theorem nameLoop_no_panic : ∀ (fuel : Nat) (d : Bytes), d.length < fuel → (nameLoop fuel d).isPanic = false
  | 0, _, h => by omega
  | _+1, [], _ => rfl
  | _+1, [_], _ => rfl
  | _+1, [_, _], _ => rfl
  | fuel+1, ty :: a :: b :: t, h => by
    rw [nameLoop_cons]
    split
    · rfl
    split
    · rfl
    · apply nameLoop_no_panic
      simp only [List.length_cons, List.length_drop] at h ⊢; omega

theorem serverNameExt_no_panic : ∀ d cur : Bytes, (serverNameExt d cur).isPanic = false
  | [], _ => rfl
  | [_], _ => rfl
  | a :: b :: t, cur => by
    rw [serverNameExt_cons]
    split
    · rfl
    · exact isPanic_bind _ _ (nameLoop_no_panic _ _ (by omega)) (fun _ => rfl)

theorem readServerName_of_ok {b nm : Bytes} (h : unmarshal b = .ok nm) : readServerName b = .ok (nm, true) := by
  unfold readServerName; rw [h]

theorem readServerName_of_reject {b : Bytes} (h : (unmarshal b).isReject = true) :
    readServerName b = .ok ([], false) := by
  unfold readServerName
  cases hu : unmarshal b with
  | ok nm => rw [hu] at h; cases h
  | reject s => rfl
  | panic w => rw [hu] at h; cases h

theorem unmarshal_of_accepted {b name : Bytes} (h : readServerName b = .ok (name, true)) : unmarshal b = .ok name := by
  unfold readServerName at h
  cases hu : unmarshal b with
  | ok nm =>
    rw [hu] at h
    simp only [Outcome.ok.injEq, Prod.mk.injEq, and_true] at h
    rw [h]
  | reject s => rw [hu] at h; cases h
  | panic w => rw [hu] at h; cases h

theorem be16_enc16 (n : Nat) (h : n < 65536) : be16 (UInt8.ofNat (n / 256)) (UInt8.ofNat (n % 256)) = n := by
  rw [be16_eq]; simp; omega

theorem be24_enc24 (n : Nat) (h : n < 16777216) :
    be24 (UInt8.ofNat (n / 65536)) (UInt8.ofNat (n / 256 % 256)) (UInt8.ofNat (n % 256)) = n := by
  rw [be24_eq]; simp; omega

theorem enc16_length (n : Nat) : (enc16 n).length = 2 := rfl
theorem enc24_length (n : Nat) : (enc24 n).length = 3 := rfl

theorem extOk_typ_lt {e : Ext} (h : ExtOk e) : e.typ < 65536 := by
  cases e with
  | serverName es => simp [Ext.typ]
  | other t b => exact h.2.1

theorem extOk_body_lt {e : Ext} (h : ExtOk e) : e.body.length < 65536 := by
  cases e with
  | serverName es =>
    have := h.2.2.2
    simp only [Ext.body, List.length_append, enc16_length]; omega
  | other t b => exact h.2.2

theorem sniBody_shape (entries : List (UInt8 × Bytes)) :
    Ext.body (.serverName entries) =
      UInt8.ofNat ((encNameList entries).length / 256) :: UInt8.ofNat ((encNameList entries).length % 256) ::
        encNameList entries := by
  simp [Ext.body, enc16]

theorem encCiphers_length (cs : List (UInt8 × UInt8)) : (encCiphers cs).length = 2 * cs.length := by
  induction cs with
  | nil => rfl
  | cons c cs ih => simp only [encCiphers, List.length_cons, ih]; omega

theorem encode_length (h : Hello) : (encode h).length = 4 + (encBody h).length := by
  simp only [encode, enc24, List.length_cons, List.cons_append, List.nil_append]
  omega

theorem encBody_pos (h : Hello) : 0 < (encBody h).length := by
  simp [encBody, encHeadBody]

theorem record_shape (a b : UInt8) (h : Hello) :
    record a b h = 0x16 :: a :: b :: UInt8.ofNat ((encode h).length / 256) :: UInt8.ofNat ((encode h).length % 256) ::
      1 :: UInt8.ofNat ((encBody h).length / 65536) :: UInt8.ofNat ((encBody h).length / 256 % 256) ::
      UInt8.ofNat ((encBody h).length % 256) :: encBody h := by
  simp [record, encode, enc16, enc24]

theorem record_length (a b : UInt8) (h : Hello) : (record a b h).length = 9 + (encBody h).length := by
  rw [record_shape]; simp only [List.length_cons]; omega

theorem record_drop5 (a b : UInt8) (h : Hello) : (record a b h).drop 5 = encode h := by
  simp [record, enc16]

/-- The start of `ServeTCP` without its slicing: no slice can be out of range because an accepted size is at least 10. -/
theorem sniRoute_eq (s : Bytes) :
    sniRoute s =
      if s.length < 9 then .reject "peek" else
        clientHelloBufferSize (s.take 9) >>= fun n =>
          if s.length < n then .reject "read-full" else unmarshal ((s.take n).drop 5) := by
  unfold sniRoute
  simp only [peekLen, recHdrLen]
  split
  · rfl
  rename_i h9
  rw [sliceTo_ok (by omega), ok_bind]
  cases hb : clientHelloBufferSize (s.take 9) with
  | reject e => rfl
  | panic e => rfl
  | ok n =>
    have h10 := bufsize_ge _ _ hb
    rw [ok_bind, ok_bind]
    split
    · rfl
    · rw [sliceTo_ok (by omega), ok_bind, sliceFrom_ok (by rw [List.length_take]; omega), ok_bind]

theorem sniRoute_of_size (s : Bytes) (n : Nat) (hn : clientHelloBufferSize (s.take 9) = .ok n) (hle : n ≤ s.length) :
    sniRoute s = unmarshal ((s.take n).drop 5) := by
  have h10 := bufsize_ge _ _ hn
  rw [sniRoute_eq, if_neg (by omega), hn, ok_bind, if_neg (by omega)]

theorem sniRoute_ok_iff (s name : Bytes) :
    sniRoute s = .ok name ↔
      ∃ n, clientHelloBufferSize (s.take 9) = .ok n ∧ n ≤ s.length ∧ unmarshal ((s.take n).drop 5) = .ok name := by
  refine ⟨fun h => ?_, fun ⟨n, hn, hle, hu⟩ => (sniRoute_of_size s n hn hle).trans hu⟩
  rw [sniRoute_eq] at h
  split at h
  · cases h
  cases hb : clientHelloBufferSize (s.take 9) with
  | reject e => rw [hb] at h; cases h
  | panic e => rw [hb] at h; cases h
  | ok n =>
    rw [hb, ok_bind] at h
    split at h
    · cases h
    exact ⟨n, rfl, by omega, h⟩

theorem sniRoute_short (s : Bytes) (n k : Nat) (hn : clientHelloBufferSize (s.take 9) = .ok n) (hk : k < n)
    (hs : k ≤ s.length) : (sniRoute (s.take k)).isReject = true := by
  have hlen : (s.take k).length = k := by rw [List.length_take]; omega
  rw [sniRoute_eq]
  split
  · rfl
  rw [List.take_take, Nat.min_eq_left (by omega), hn, ok_bind, if_pos (by omega)]
  rfl

end Fabio.Lemmas.C10
