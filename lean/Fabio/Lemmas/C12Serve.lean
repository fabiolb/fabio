import Fabio.Model.C12Serve
/-! When the proxies attempt a connection; request threads on a shared rule map (the invariant behind
`first_requests_agree`). -/
namespace Fabio.Lemmas.C12
open Fabio Fabio.Model.C12

section refused
variable {P : Parsers} {p : Proto} {lk : Nat → Option TargetM} {alive : Nat → Bool} {t : TargetM} {peer : TCPPeer}
  {remote : List Char} {xff : List (List Char)} {authOK : TargetM → Bool}

theorem serveTCP_denied (hl : lookupPhase p lk = some t) (hd : accessDeniedTCP t.rules peer = true) :
    serveTCP p lk alive peer = .forbidden := by
  simp [serveTCP, hl, hd]

theorem serveHTTP_denied (hl : lk 0 = some t) (hd : accessDeniedHTTP P t.rules remote xff = true) :
    serveHTTP P lk alive remote xff authOK = .forbidden := by
  simp [serveHTTP, hl, hd]

theorem serveHTTP_unauthorized (hl : lk 0 = some t) (hd : accessDeniedHTTP P t.rules remote xff = false)
    (ha : authOK t = false) : serveHTTP P lk alive remote xff authOK = .unauthorized := by
  simp [serveHTTP, hl, hd, ha]

end refused

theorem serveTCP_attempted_iff (p : Proto) (lk : Nat → Option TargetM) (alive : Nat → Bool) (peer : TCPPeer) (u : Nat) :
    (serveTCP p lk alive peer).attempted = some u ↔
      ∃ t, lookupPhase p lk = some t ∧ t.up = u ∧ accessDeniedTCP t.rules peer = false := by
  unfold serveTCP
  cases lookupPhase p lk with
  | none => simp [Result.attempted]
  | some t => cases hd : accessDeniedTCP t.rules peer <;> cases hv : alive t.up <;> simp [Result.attempted, hd, hv]

theorem serveHTTP_attempted_iff (P : Parsers) (lk : Nat → Option TargetM) (alive : Nat → Bool) (remote : List Char)
    (xff : List (List Char)) (authOK : TargetM → Bool) (u : Nat) :
    (serveHTTP P lk alive remote xff authOK).attempted = some u ↔
      ∃ t, lk 0 = some t ∧ t.up = u ∧ accessDeniedHTTP P t.rules remote xff = false ∧ authOK t = true ∧
        t.redirect = 0 := by
  unfold serveHTTP
  cases lk 0 with
  | none => simp [Result.attempted]
  | some t =>
    cases hd : accessDeniedHTTP P t.rules remote xff
    · cases ha : authOK t
      · simp [Result.attempted, hd, ha]
      · by_cases hr : t.redirect = 0
        · cases hv : alive t.up <;> simp [Result.attempted, hd, ha, hr, hv]
        · simp [Result.attempted, hd, ha, hr]
    · simp [Result.attempted, hd]

/-- the state a request thread can be in while nobody writes the rule map `cell` -/
def ReaderOK (cell : Rules) (peer : TCPPeer) (rd : Reader) : Prop :=
  (rd.pc = 0 ∧ rd.result = none) ∨
  (rd.pc = 1 ∧ rd.result = none ∧ cell.isEmpty = false) ∨
  (rd.pc = 2 ∧ rd.result = some (accessDeniedTCP cell peer))

theorem ReaderOK.init (cell : Rules) (peer : TCPPeer) : ReaderOK cell peer {} := .inl ⟨rfl, rfl⟩

theorem ReaderOK.done {cell : Rules} {peer : TCPPeer} {rd : Reader} (h : ReaderOK cell peer rd) (hpc : rd.pc = 2) :
    rd.result = some (accessDeniedTCP cell peer) := by
  rcases h with ⟨h, _⟩ | ⟨h, _, _⟩ | ⟨_, h⟩
  · omega
  · omega
  · exact h

theorem stepReader_ok (cell : Rules) (peer : TCPPeer) (rd : Reader) (h : ReaderOK cell peer rd) :
    ReaderOK cell peer (stepReader cell peer rd) := by
  unfold stepReader
  rcases h with ⟨h0, _⟩ | ⟨h1, _, he⟩ | ⟨h2, hr⟩
  · rw [h0]; cases he : cell.isEmpty <;> simp [ReaderOK, he, accessDeniedTCP]
  · rw [h1]; cases peer <;> simp [ReaderOK, he, accessDeniedTCP]
  · rw [h2]; exact .inr (.inr ⟨h2, hr⟩)

theorem stepAt_ok (cell : Rules) (peer : TCPPeer) (rs : List Reader) (tid : Nat)
    (h : ∀ rd ∈ rs, ReaderOK cell peer rd) : ∀ rd ∈ stepAt cell peer rs tid, ReaderOK cell peer rd := by
  induction rs generalizing tid with
  | nil => exact h
  | cons r rs ih =>
    rw [List.forall_mem_cons] at h
    cases tid with
    | zero => exact List.forall_mem_cons.mpr ⟨stepReader_ok cell peer r h.1, h.2⟩
    | succ n => exact List.forall_mem_cons.mpr ⟨h.1, ih n h.2⟩

theorem runSched_reads_ok (peer : TCPPeer) (cell : Rules) (rs : List Reader) (sched : List Action)
    (hs : sched.all Action.isRead = true) (h : ∀ rd ∈ rs, ReaderOK cell peer rd) :
    (runSched peer (cell, rs) sched).1 = cell ∧ ∀ rd ∈ (runSched peer (cell, rs) sched).2, ReaderOK cell peer rd := by
  induction sched generalizing rs with
  | nil => exact ⟨rfl, h⟩
  | cons a as ih =>
    cases a with
    | write r => simp [Action.isRead] at hs
    | read tid =>
      simp only [List.all_cons, Action.isRead, Bool.true_and] at hs
      simp only [runSched]
      exact ih (stepAt cell peer rs tid) hs (stepAt_ok cell peer rs tid h)

end Fabio.Lemmas.C12
