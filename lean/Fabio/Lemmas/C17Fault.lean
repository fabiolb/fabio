import Fabio.Model.C17Fault
import Fabio.Lemmas.C17Proxy
/-!
Helper lemmas for `Fabio.Model.C17Fault` (core Lean only): the machine never reads the body it has sent, so cutting
the connection commutes with every step; only the step that takes the decision reads the pool; which runs execute
`Get` (`trace_eq`); the guards of the checked pool model never fire on a schedule in program order.
-/
namespace Fabio.Lemmas.C17
open Fabio.Model.C17

variable {Z : Type}

def cutS (cap : Nat) (s : GW Z) : GW Z := { s with down := s.down.cut cap }

theorem cut_writeHeader (cap : Nat) (d : Down) (h : Hdr) (c : Nat) :
    (d.cut cap).writeHeader h c = (d.writeHeader h c).cut cap := by
  obtain ⟨st, sent, body⟩ := d
  cases st with
  | some v => rfl
  | none =>
    simp only [Down.writeHeader, Down.cut]
    split <;> rfl

theorem cut_implicit (C : Cfg Z) (cap : Nat) (d : Down) (h : Hdr) (b : Bytes) :
    (d.cut cap).implicit C h b = (d.implicit C h b).cut cap := by
  obtain ⟨st, sent, body⟩ := d
  cases st <;> rfl

theorem implicit_body (C : Cfg Z) (d : Down) (h : Hdr) (b : Bytes) : (d.implicit C h b).body = d.body := by
  obtain ⟨st, sent, body⟩ := d
  cases st <;> rfl

theorem writeF_cut (C : Cfg Z) (cap : Nat) (d : Down) (h : Hdr) (b : Bytes) :
    ((d.cut cap).writeF C cap h b).1 = (d.write C h b).cut cap := by
  unfold Down.writeF Down.write
  rw [cut_implicit]
  simp only [Down.cut, implicit_body, List.take_append, List.length_take]
  congr 2
  congr 1
  omega

theorem cutS_writeHeader (C : Cfg Z) (cap : Nat) (s : GW Z) (code : Nat) :
    GW.writeHeader C (cutS cap s) code = cutS cap (GW.writeHeader C s code) := by
  obtain ⟨dec, hdr, down, pool⟩ := s
  unfold GW.writeHeader cutS
  simp only
  split
  · simp [cut_writeHeader]
  · cases dec with
    | undecided => simp only; split <;> simp [cut_writeHeader]
    | _ => simp [cut_writeHeader]

theorem cutS_decideOnWrite (C : Cfg Z) (cap : Nat) (s : GW Z) (b : Bytes) :
    GW.decideOnWrite C (cutS cap s) b = cutS cap (GW.decideOnWrite C s b) := by
  obtain ⟨dec, hdr, down, pool⟩ := s
  cases dec with
  | undecided =>
    rw [decideOnWrite_undecided, ← cutS_writeHeader]
    exact decideOnWrite_undecided C hdr (down.cut cap) pool b
  | gzip z => rfl
  | plain => rfl

theorem writeF_cutS (C : Cfg Z) (cap : Nat) (s : GW Z) (b : Bytes) :
    (GW.writeF C cap (cutS cap s) b).1 = cutS cap (GW.write C s b) := by
  unfold GW.writeF GW.write
  rw [cutS_decideOnWrite]
  generalize GW.decideOnWrite C s b = s'
  obtain ⟨dec, hdr, down, pool⟩ := s'
  cases dec <;> simp [cutS, writeF_cut]

theorem closeF_cutS (C : Cfg Z) (cap : Nat) (s : GW Z) :
    GW.closeF C cap (cutS cap s) = cutS cap (GW.close C s) := by
  obtain ⟨dec, hdr, down, pool⟩ := s
  cases dec with
  | undecided => rfl
  | gzip z => simp [GW.closeF, GW.close, cutS, writeF_cut]
  | plain => rfl

theorem writeF_err_full (C : Cfg Z) (cap : Nat) (s : GW Z) (b : Bytes)
    (herr : (GW.writeF C cap (cutS cap s) b).2 = true) : cap ≤ (GW.write C s b).down.body.length := by
  have hdown : ∀ (d : Down) (h : Hdr) (x : Bytes), ((d.cut cap).writeF C cap h x).2 = true →
      cap ≤ (d.write C h x).body.length := by
    intro d h x hx
    simp only [Down.writeF, Down.cut, List.length_take, decide_eq_true_eq] at hx
    simp only [Down.write, implicit_body, List.length_append]
    omega
  unfold GW.writeF at herr
  unfold GW.write
  rw [cutS_decideOnWrite] at herr
  generalize GW.decideOnWrite C s b = s' at herr ⊢
  obtain ⟨dec, hdr, down, pool⟩ := s'
  cases dec <;> exact hdown _ _ _ herr

theorem close_run_full (C : Cfg Z) (cap : Nat) (s : GW Z) (c : Nat) (hd : s.dec.isUndecided = false)
    (hs : s.down.status = some c) (hfull : cap ≤ s.down.body.length) (ops : List Op) :
    (GW.close C (GW.run C s ops)).down.cut cap = s.down.cut cap ∧
    (GW.close C (GW.run C s ops)).dec.isGzip = s.dec.isGzip ∧
    (GW.close C (GW.run C s ops)).pool.length = (GW.close C s).pool.length := by
  rw [run_decided C ops s c hd hs]
  obtain ⟨dec, hdr, ⟨st, sent, body⟩, pool⟩ := s
  simp only at hs hfull
  subst hs
  cases dec with
  | undecided => cases hd
  | gzip z =>
    refine ⟨?_, rfl, rfl⟩
    simp [GW.close, emit, Down.write, Down.implicit, Down.cut, List.take_append_of_le_length hfull]
  | plain => exact ⟨by simp [GW.close, emit, Down.cut, List.take_append_of_le_length hfull], rfl, rfl⟩

theorem runF_close (C : Cfg Z) (cap : Nat) (stop : Bool) (ops : List Op) (s : GW Z) :
    (GW.closeF C cap (GW.runF C cap stop (cutS cap s) ops)).down = (GW.close C (GW.run C s ops)).down.cut cap ∧
    (GW.closeF C cap (GW.runF C cap stop (cutS cap s) ops)).dec.isGzip = (GW.close C (GW.run C s ops)).dec.isGzip ∧
    (GW.closeF C cap (GW.runF C cap stop (cutS cap s) ops)).pool.length = (GW.close C (GW.run C s ops)).pool.length := by
  induction ops generalizing s with
  | nil => rw [GW.runF, closeF_cutS]; exact ⟨rfl, rfl, rfl⟩
  | cons o r ih =>
    have ih' := ih (GW.step C s o)
    cases o with
    | w b =>
      rw [GW.runF, writeF_cutS, run_cons]
      split
      · -- the handler returns at the failed `Write`: the connection is full, nothing it skipped would have arrived
        next hstop =>
        rw [closeF_cutS]
        obtain ⟨hd, c, hs⟩ := write_decided C s b
        have hfull := writeF_err_full C cap s b (by simp only [Bool.and_eq_true] at hstop; exact hstop.1)
        obtain ⟨a1, a2, a3⟩ := close_run_full C cap _ c hd hs hfull r
        obtain ⟨b1, b2, b3⟩ := close_run_full C cap _ c hd hs hfull []
        exact ⟨b1.trans a1.symm, b2.trans a2.symm, b3.trans a3.symm⟩
      · exact ih'
    | wh c => simp only [GW.runF, GW.step, cutS_writeHeader]; exact ih'
    | _ => exact ih'

def setPool (s : GW Z) (p : List Z) : GW Z := { s with pool := p }

/-- The pool is read by one kind of step only: the one that takes the decision. -/
theorem step_setPool (C : Cfg Z) (s : GW Z) (o : Op) (p : List Z)
    (h : s.dec.isUndecided = false ∨ (GW.step C s o).dec.isUndecided = true) :
    GW.step C (setPool s p) o = setPool (GW.step C s o) p := by
  cases o with
  | wh c =>
    cases hi : informational c with
    | true => simp only [GW.step, writeHeader_info C _ hi]
    | false =>
      have hd : s.dec.isUndecided = false := h.resolve_right (by rw [GW.step, writeHeader_decided C s c hi]; simp)
      obtain ⟨dec, hdr, down, pool⟩ := s
      cases dec with
      | undecided => cases hd
      | _ => simp [GW.step, GW.writeHeader, setPool, hi]
  | w b =>
    have hd : s.dec.isUndecided = false := h.resolve_right (by rw [GW.step, (write_decided C s b).1]; simp)
    obtain ⟨dec, hdr, down, pool⟩ := s
    cases dec with
    | undecided => cases hd
    | _ => rfl
  | _ => rfl

theorem run_setPool (C : Cfg Z) (ops : List Op) (s : GW Z) (p : List Z)
    (h : s.dec.isUndecided = false ∨ (GW.run C s ops).dec.isUndecided = true) :
    GW.run C (setPool s p) ops = setPool (GW.run C s ops) p := by
  induction ops generalizing s with
  | nil => rfl
  | cons o r ih =>
    rw [run_cons] at h
    -- a machine that ends undecided was undecided all along
    have h1 : s.dec.isUndecided = false ∨ (GW.step C s o).dec.isUndecided = true :=
      h.imp_right fun hr => by
        cases hd : (GW.step C s o).dec.isUndecided with
        | true => rfl
        | false => rw [(run_dec C r _ hd).1] at hr; cases hr
    rw [run_cons, run_cons, step_setPool C s o p h1]
    exact ih _ (h.imp_left fun hd => (step_decided C s o hd).1)

/-- Whatever the others do to the pool between the segments, the machine ends as if it had run the whole script alone
with some pool `p₀` (the one it found at its decision), up to what is in the pool afterwards. -/
theorem runP_eq_run (C : Cfg Z) (segs : List (List Op × (List Z → List Z))) (s : GW Z) :
    ∃ p₀ p₁, GW.runP C s segs = setPool (GW.run C (setPool s p₀) (segOps segs)) p₁ := by
  induction segs generalizing s with
  | nil => exact ⟨s.pool, s.pool, rfl⟩
  | cons sg r ih =>
    obtain ⟨ops, f⟩ := sg
    obtain ⟨p₀, p₁, hp⟩ := ih (setPool (GW.run C s ops) (f (GW.run C s ops).pool))
    rw [show segOps ((ops, f) :: r) = ops ++ segOps r from rfl]
    simp only [run_append]
    cases hd : (GW.run C s ops).dec.isUndecided with
    | true =>
      -- nothing decided in this segment: the pool it started from does not matter
      exact ⟨p₀, p₁, by rw [run_setPool C ops s p₀ (Or.inr hd)]; exact hp⟩
    | false =>
      -- decided in this segment or before: the pool is not read again
      refine ⟨s.pool, p₁, hp.trans ?_⟩
      show setPool (GW.run C (setPool (GW.run C s ops) p₀) (segOps r)) p₁ =
        setPool (GW.run C (GW.run C s ops) (segOps r)) p₁
      rw [run_setPool C _ _ p₀ (Or.inl hd)]
      rfl

theorem close_setPool_view (C : Cfg Z) (s : GW Z) (p : List Z) :
    (GW.close C (setPool s p)).view C = (GW.close C s).view C := by
  obtain ⟨dec, hdr, down, pool⟩ := s
  cases dec <;> rfl

theorem not_gzip_of_undecided {d : Dec Z} (h : d.isUndecided = true) : d.isGzip = false := by
  cases d <;> first | rfl | cases h

theorem trace_eq (C : Cfg Z) (ops : List Op) (s : GW Z) :
    GW.trace C s ops = if s.dec.isUndecided && (GW.run C s ops).dec.isGzip then [.get] else [] := by
  induction ops generalizing s with
  | nil => cases hd : s.dec.isUndecided <;> simp [GW.trace, GW.run, not_gzip_of_undecided, hd]
  | cons o r ih =>
    rw [GW.trace, ih, run_cons, stepEv]
    cases hd : s.dec.isUndecided with
    | false => simp only [(step_decided C s o hd).1, Bool.false_and, Bool.false_eq_true, if_false, List.append_nil]
    | true =>
      cases hd' : (GW.step C s o).dec.isUndecided with
      | false =>
        -- the step that decides: the writer it selects stays
        simp only [(run_dec C r _ hd').2, Bool.true_and, Bool.false_and, Bool.false_eq_true, if_false, List.append_nil]
      | true =>
        simp only [not_gzip_of_undecided hd', Bool.true_and, Bool.false_eq_true, if_false, List.nil_append]

theorem served_trace_run (C : Cfg Z) (ops : List Op) (hdr : Hdr) (pool : List Z) :
    GW.trace C { dec := .undecided, hdr := hdr, down := {}, pool := pool } ops ++
        closeEv (GW.run C { dec := .undecided, hdr := hdr, down := {}, pool := pool } ops) =
      if (GW.run C { dec := .undecided, hdr := hdr, down := {}, pool := pool } ops).dec.isGzip then [.get, .put] else [] := by
  rw [trace_eq, closeEv]
  cases (GW.run C { dec := .undecided, hdr := hdr, down := {}, pool := pool } ops).dec.isGzip <;> rfl

theorem close_isGzip (C : Cfg Z) (s : GW Z) : (GW.close C s).dec.isGzip = s.dec.isGzip := by
  obtain ⟨dec, hdr, down, pool⟩ := s
  cases dec <;> rfl

theorem prefix_get_put (l : List PK) (h : l <+: [PK.get, PK.put]) : l = [] ∨ l = [.get] ∨ l = [.get, .put] := by
  obtain ⟨r, hr⟩ := h
  match l, hr with
  | [], _ => exact Or.inl rfl
  | [a], hr => simp at hr; exact Or.inr (Or.inl (by rw [hr.1]))
  | [a, b], hr => simp at hr; exact Or.inr (Or.inr (by rw [hr.1, hr.2.1]))
  | a :: b :: c :: l', hr => simp at hr

/-- what handler `t` may still do: `Put` if it holds a writer, else its whole program -/
def Compatible (s : PState) (rest : List PEv) : Prop :=
  ∀ t, eventsOf t rest <+: if (heldBy s t).isSome then [.put] else [.get, .put]

theorem heldBy_get (s : PState) (t i t' : Nat) (hn : heldBy s t = none) :
    (heldBy (pstep s (.get t i)) t').isSome = (if t' = t then true else (heldBy s t').isSome) := by
  simp only [pstep, hn]
  by_cases h : t' = t
  · subst h
    split <;> simp [heldBy]
  · have hb : (t' == t) = false := by simp [h]
    split <;> simp [heldBy, List.lookup_cons, hb]

theorem heldBy_put (s : PState) (t z t' : Nat) (hs : heldBy s t = some z) :
    heldBy (pstep s (.put t)) t' = if t' = t then none else heldBy s t' := by
  have hs' : List.lookup t s.held = some z := hs
  simp only [pstep, heldBy, hs', lookup_filter_key, beq_iff_eq]

theorem chk_of_compatible (rest : List PEv) (s : PState) (hc : Compatible s rest) :
    prunChk s rest = some (prun s rest) := by
  induction rest generalizing s with
  | nil => rfl
  | cons e r ih =>
    have hstep : pstepChk s e = some (pstep s e) ∧ Compatible (pstep s e) r := by
      cases e with
      | drop i => exact ⟨rfl, hc⟩
      | get t i =>
        have ht := hc t
        cases hh : heldBy s t with
        | some z => simp [eventsOf, hh] at ht
        | none =>
          refine ⟨by simp [pstepChk, hh], fun t' => ?_⟩
          rw [heldBy_get s t i t' hh]
          by_cases h : t' = t
          · subst h
            simpa [eventsOf, hh] using ht
          · simpa [eventsOf, h, Ne.symm h] using hc t'
      | put t =>
        have ht := hc t
        cases hh : heldBy s t with
        | none => simp [eventsOf, hh] at ht
        | some z =>
          refine ⟨by simp [pstepChk, hh], fun t' => ?_⟩
          rw [heldBy_put s t z t' hh]
          by_cases h : t' = t
          · subst h
            have : eventsOf t' r = [] := by simpa [eventsOf, hh] using ht
            simp [this]
          · simpa [eventsOf, h, Ne.symm h] using hc t'
    rw [prunChk, hstep.1]
    exact ih _ hstep.2

end Fabio.Lemmas.C17
