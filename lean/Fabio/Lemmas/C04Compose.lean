import Fabio.Lemmas.C04Weights
import Fabio.Model.C04
import Fabio.Model.C06
/-!
For C04 ∘ C06: a ring without nil slots read as the slot ↦ target map of the interleaving model (`slotTargets`,
counts preserved). For `route weight`: the sum of the requested weights it writes (`spread`, `Lemmas/C04Weights.lean`),
and the combined effective weight of the matching targets (`shareOf_weigh_spread`).
-/
namespace Fabio.Lemmas.C04
open Fabio Fabio.Model.Route Fabio.Model.C04

/-- the ring as the interleaving model of C06 sees it: slot ↦ index of the target -/
def slotTargets (ring : Ring) : List Nat := ring.map (fun s => s.getD 0)

theorem slotTargets_length (ring : Ring) : (slotTargets ring).length = ring.length := by simp [slotTargets]

theorem slotTargets_count (ring : Ring) (h : ∀ s ∈ ring, s ≠ none) (i : Nat) :
    (slotTargets ring).count i = ring.count (some i) := by
  induction ring with
  | nil => rfl
  | cons s rest ih =>
    have hs : s ≠ none := h s (by simp)
    have ih' := ih (fun x hx => h x (by simp [hx]))
    cases s with
    | none => exact absurd rfl hs
    | some j =>
      simp only [slotTargets, List.map_cons, Option.getD_some, List.count_cons] at ih' ⊢
      rw [ih']
      by_cases hji : j = i <;> simp [hji]

abbrev hitsOf (ring : Ring) (ks : List Nat) (s : Model.C06.State) (sch : List Nat) (i : Nat) : Nat :=
  ((Model.C06.allPicks (Model.C06.run sch (ks.map (Model.C06.rrThreadRepaired ring.length)) s).2).map
    (fun j => (slotTargets ring)[j]?.getD 0)).count i

abbrev picksDone (ring : Ring) (ks : List Nat) (s : Model.C06.State) (sch : List Nat) : Nat :=
  (Model.C06.run sch (ks.map (Model.C06.rrThreadRepaired ring.length)) s).1.total - s.total

theorem succ_div_le_ceil (K N : Nat) (hN : 0 < N) (h : K % N ≠ 0) : K / N + 1 ≤ (K + N - 1) / N := by
  rw [Nat.le_div_iff_mul_le hN, Nat.add_mul, Nat.one_mul, Nat.mul_comm]
  have := Nat.div_add_mod K N
  omega

theorem sumFixed_cons (t : Target) (l : List Target) :
    sumFixed (t :: l) = (if 0 < t.fixedWeight then t.fixedWeight else 0) + sumFixed l := by
  rw [sumFixed_def, sumFixed_def]
  by_cases h : 0 < t.fixedWeight
  · have : isFixed t = true := by simp [isFixed, h]
    simp [this, h]
  · have : isFixed t = false := by simp [isFixed, h]
    simp [this, h]

theorem sumFixed_spread (m : Target → Bool) (c : Rat) (hc : 0 < c) (ts : List Target) :
    sumFixed (spread m c ts) = c * ((ts.filter m).length : Rat) + sumFixed (ts.filter (fun t => !m t)) := by
  induction ts with
  | nil => simp [spread, sumFixed_def]
  | cons t rest ih =>
    unfold spread at ih ⊢
    rw [List.map_cons, sumFixed_cons, ih]
    by_cases hm : m t
    · simp [hm, hc]; ring
    · simp [hm, sumFixed_cons]; ring

def shareOf (m : Target → Bool) (ts : List Target) : Rat := ((ts.filter m).map (·.weight)).sum

/-- `m` looks at service and tags only (as `matchesWeight` does) -/
def OnlyServiceTags (m : Target → Bool) : Prop := ∀ t t' : Target, t.service = t'.service → t.tags = t'.tags → m t = m t'

theorem filter_map_comm {α} (m : α → Bool) (g : α → α) (hg : ∀ t, m (g t) = m t) (ts : List α) :
    (ts.map g).filter m = (ts.filter m).map g := by
  rw [List.filter_map, show m ∘ g = m from funext hg]

theorem shareOf_weigh_spread (m : Target → Bool) (c : Rat) (hc : 0 < c) (ts : List Target)
    (hm : OnlyServiceTags m) (hn : (ts.filter m).length ≠ 0) :
    shareOf m (weigh (spread m c ts)) = c * ((ts.filter m).length : Rat) * scaleOf (spread m c ts) := by
  have hnf : nFixed (spread m c ts) ≠ 0 := by
    obtain ⟨t, ht⟩ := List.exists_mem_of_length_pos (Nat.pos_of_ne_zero hn)
    obtain ⟨ht1, ht2⟩ := List.mem_filter.mp ht
    exact nFixed_ne_zero_of_mem (t := { t with fixedWeight := c })
      (by unfold spread; exact List.mem_map.mpr ⟨t, ht1, by simp [ht2]⟩) hc
  unfold shareOf
  rw [weigh_eq]
  generalize hS : scaleOf (spread m c ts) = sc
  generalize hE : eff (spread m c ts) = ef
  have hef : ∀ t : Target, ef ({ t with fixedWeight := c }) = c * sc := by
    intro t
    rw [← hE, ← hS]; exact eff_of_fixed hnf hc
  rw [filter_map_comm m (fun t : Target => { t with weight := ef t }) (fun t => hm _ _ rfl rfl)]
  unfold spread
  rw [filter_map_comm m (fun t : Target => if m t = true then { t with fixedWeight := c } else t)
    (fun t => by split <;> exact hm _ _ rfl rfl)]
  simp only [List.map_map]
  rw [List.map_congr_left (g := fun _ => c * sc) (fun t ht => by
    simp only [Function.comp, (List.mem_filter.mp ht).2, if_true]; exact hef t), sum_const]
  ring

end Fabio.Lemmas.C04
