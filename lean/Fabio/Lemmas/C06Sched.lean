import Fabio.Model.C06
import Fabio.Lemmas.Basic
/-!
Induction over the schedules of `Model/C06.lean` (`run_ind`), for any shared state `S` and thread-local state `L`.
-/
namespace Fabio.Lemmas.C06
open Fabio.Model.C06

section sem
variable {S L : Type}

theorem stepAt_eq {i : Nat} {ts : List (Thread S L)} {t : Thread S L} {f : Step S L} {rest : List (Step S L)}
    (h : ts[i]? = some t) (hs : t.steps = f :: rest) (s : S) :
    stepAt i ts s = ((f s t.loc).1, ts.set i { steps := rest, loc := (f s t.loc).2 }) := by
  simp only [stepAt, h, hs]

theorem stepAt_skip {i : Nat} {ts : List (Thread S L)} (h : ∀ t, ts[i]? = some t → t.steps = []) (s : S) :
    stepAt i ts s = (s, ts) := by
  unfold stepAt
  cases hget : ts[i]? with
  | none => rfl
  | some t => simp only [h t hget]

theorem stepAt_cases (i : Nat) (ts : List (Thread S L)) (s : S) :
    stepAt i ts s = (s, ts) ∨
    ∃ t f rest, ts[i]? = some t ∧ t.steps = f :: rest ∧
      stepAt i ts s = ((f s t.loc).1, ts.set i { steps := rest, loc := (f s t.loc).2 }) := by
  cases h : ts[i]? with
  | none => exact .inl (stepAt_skip (by simp [h]) s)
  | some t =>
    cases hs : t.steps with
    | nil => exact .inl (stepAt_skip (by simp [h, hs]) s)
    | cons f rest => exact .inr ⟨t, f, rest, rfl, hs, stepAt_eq h hs s⟩

/-- `G` relates the shared state to the whole thread list: what is counted over all goroutines (`allPicks`,
`remaining`) is stated there. -/
theorem run_ind (P : Step S L → Prop) (J : L → Prop) (G : S → List (Thread S L) → Prop)
    (hstep : ∀ i ts s t f rest, ts[i]? = some t → t.steps = f :: rest → P f → J t.loc → G s ts →
      J (f s t.loc).2 ∧ G (f s t.loc).1 (ts.set i { steps := rest, loc := (f s t.loc).2 }))
    (sch : List Nat) : ∀ (ts : List (Thread S L)) (s : S),
      (∀ t ∈ ts, ∀ f ∈ t.steps, P f) → (∀ t ∈ ts, J t.loc) → G s ts →
      (∀ t ∈ (run sch ts s).2, ∀ f ∈ t.steps, P f) ∧ (∀ t ∈ (run sch ts s).2, J t.loc) ∧
        G (run sch ts s).1 (run sch ts s).2 := by
  induction sch with
  | nil => intro ts s hP hJ hG; exact ⟨hP, hJ, hG⟩
  | cons i sch ih =>
    intro ts s hP hJ hG
    simp only [run]
    rcases stepAt_cases i ts s with e | ⟨t, f, rest, hget, hst, e⟩
    · rw [e]; exact ih ts s hP hJ hG
    · rw [e]
      have htm : t ∈ ts := List.mem_of_getElem? hget
      have hPt : ∀ g ∈ f :: rest, P g := hst ▸ hP t htm
      obtain ⟨hJ', hG'⟩ := hstep i ts s t f rest hget hst (hPt f List.mem_cons_self) (hJ t htm) hG
      refine ih _ _ ?_ ?_ hG'
      · intro t' ht'
        rcases List.mem_or_eq_of_mem_set ht' with h1 | rfl
        · exact hP t' h1
        · exact fun g hg => hPt g (List.mem_cons_of_mem _ hg)
      · intro t' ht'
        rcases List.mem_or_eq_of_mem_set ht' with h1 | rfl
        · exact hJ t' h1
        · exact hJ'

theorem run_inv (I : S → Prop) (J : L → Prop) (P : Step S L → Prop)
    (hP : ∀ f, P f → ∀ s l, I s → J l → I (f s l).1 ∧ J (f s l).2)
    (sch : List Nat) (ts : List (Thread S L)) (s : S)
    (hsteps : ∀ t ∈ ts, ∀ f ∈ t.steps, P f) (hI : I s) (hJ : ∀ t ∈ ts, J t.loc) :
    I (run sch ts s).1 ∧ (∀ t ∈ (run sch ts s).2, J t.loc) ∧ (∀ t ∈ (run sch ts s).2, ∀ f ∈ t.steps, P f) := by
  have h := run_ind P J (fun s _ => I s)
    (fun _ _ s t f _ _ _ hf hJ hI => (hP f hf s t.loc hI hJ).symm) sch ts s hsteps hJ hI
  exact ⟨h.2.2, h.2.1, h.1⟩

theorem atomicSeq_fix (fs : List (Step S L)) (s : S) (l : L) (h : ∀ f ∈ fs, f s l = (s, l)) :
    atomicSeq fs s l = (s, l) :=
  foldl_fixed h

end sem

end Fabio.Lemmas.C06
