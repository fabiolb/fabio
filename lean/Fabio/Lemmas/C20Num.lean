import Fabio.Lemmas.C20Host
/-! C20 helper lemmas: the number formatters against `Nat.toDigits`, the field renderers against the
reference rendering, absence of panics in the renderers. -/
namespace Fabio.Lemmas.C20
open Fabio Fabio.Model.C20

/-- All numeric inputs of an event are int64 values and the month is one `time.Month` can take. -/
structure EventInRange (e : Event) : Prop where
  status : -2^63 ≤ e.status ∧ e.status < 2^63
  contentLength : -2^63 ≤ e.contentLength ∧ e.contentLength < 2^63
  durNs : -2^63 ≤ e.durNs ∧ e.durNs < 2^63
  unixNano : -2^63 ≤ e.unixNano ∧ e.unixNano < 2^63
  year : -2^63 ≤ e.year ∧ e.year < 2^63
  month : 0 ≤ e.month ∧ e.month ≤ 12
  day : -2^63 ≤ e.day ∧ e.day < 2^63
  hour : -2^63 ≤ e.hour ∧ e.hour < 2^63
  minute : -2^63 ≤ e.minute ∧ e.minute < 2^63
  second : -2^63 ≤ e.second ∧ e.second < 2^63
  nanos : -2^63 ≤ e.nanos ∧ e.nanos < 2^63

/-- A wall-clock reading as Go's `time` produces it. -/
structure EventCalendar (e : Event) : Prop where
  year : 0 ≤ e.year ∧ e.year ≤ 9999
  month : 1 ≤ e.month ∧ e.month ≤ 12
  day : 1 ≤ e.day ∧ e.day ≤ 31
  hour : 0 ≤ e.hour ∧ e.hour ≤ 23
  minute : 0 ≤ e.minute ∧ e.minute ≤ 59
  second : 0 ≤ e.second ∧ e.second ≤ 59
  nanos : 0 ≤ e.nanos ∧ e.nanos ≤ 999999999

/-- The domain of the property's first sentence: int64 inputs, a wall-clock reading, `End` not before `Start`, and no
`MinInt64` where `atoi` would print a bare sign (`atoi_minInt64`). -/
structure Renderable (e : Event) : Prop where
  range : EventInRange e
  calendar : EventCalendar e
  dur : 0 ≤ e.durNs
  notMin : -2^63 < e.status ∧ -2^63 < e.contentLength ∧ -2^63 < e.unixNano

theorem digitByte_eq (i : Nat) : digitByte i = Nat.digitChar (i % 10) := by
  have h : ∀ d < 10, Char.ofNat (48 + d) = Nat.digitChar d := by decide +kernel
  exact h _ (Nat.mod_lt _ (by decide))

theorem pushFront_ok (cap : Nat) (c : Char) (acc : List Char) (h : acc.length < cap) :
    pushFront cap c acc = .ok (c :: acc) := if_pos h

theorem digitsLoop_lt10 (cap fuel i : Nat) (acc : List Char) (hlt : i < 10) (hacc : acc.length < cap) :
    digitsLoop cap (fuel + 1) i acc = .ok (Nat.digitChar i :: acc) := by
  simp only [digitsLoop, pushFront_ok _ _ _ hacc, show i / 10 = 0 by omega, if_true, digitByte_eq,
    Nat.mod_eq_of_lt hlt]

theorem digitsLoop_ok (cap : Nat) : ∀ (fuel i : Nat) (acc : List Char), i < 10 ^ (fuel + 1) →
    acc.length + (Nat.toDigits 10 i).length ≤ cap →
    digitsLoop cap (fuel + 1) i acc = .ok (Nat.toDigits 10 i ++ acc) := by
  intro fuel
  induction fuel with
  | zero =>
    intro i acc hi hlen
    rw [Nat.toDigits_of_lt_base hi] at hlen ⊢
    exact digitsLoop_lt10 cap 0 i acc hi (by simp at hlen; omega)
  | succ f ih =>
    intro i acc hi hlen
    by_cases hlt : i < 10
    · rw [Nat.toDigits_of_lt_base hlt] at hlen ⊢
      exact digitsLoop_lt10 cap _ i acc hlt (by simp at hlen; omega)
    · rw [Nat.toDigits_of_base_le (by decide) (by omega), List.length_append] at hlen
      rw [Nat.toDigits_of_base_le (by decide) (by omega)]
      simp only [List.length_singleton] at hlen
      rw [digitsLoop]
      simp only [pushFront_ok cap _ acc (by omega), show i / 10 ≠ 0 by omega, if_false]
      rw [ih _ _ (by rw [Nat.pow_succ] at hi; omega) (by simp; omega), digitByte_eq]
      simp

theorem padLoop_ok (cap : Nat) : ∀ (k : Nat) (acc : List Char), acc.length + k ≤ cap →
    padLoop cap k acc = .ok (List.replicate k '0' ++ acc) := by
  intro k
  induction k with
  | zero => intro acc _; rfl
  | succ k ih =>
    intro acc h
    simp only [padLoop, pushFront_ok cap _ acc (by omega)]
    rw [ih _ (by simp; omega), List.replicate_succ']
    simp

theorem wrap64_of_range (x : Int) (h0 : -2^63 ≤ x) (h1 : x < 2^63) : wrap64 x = x := by
  unfold wrap64; omega

theorem digits_pad_ok (m pad : Nat) (h : m < 2^63) (hpad : pad ≤ 127) {β} (g : List Char → Outcome β) :
    ((digitsLoop 128 20 m []).bind fun ds => (padLoop 128 (pad - ds.length) ds).bind g)
      = g (Spec.zpad pad (Nat.toDigits 10 m)) := by
  have hl : (Nat.toDigits 10 m).length ≤ 19 :=
    (Nat.length_toDigits_le_iff (by decide) (by decide)).2 (by omega)
  rw [digitsLoop_ok 128 19 m [] (by omega) (by simp; omega), bind_ok, List.append_nil,
    padLoop_ok 128 _ _ (by omega), bind_ok]
  rfl

theorem atoi_eq_decimal (i : Int) (pad : Nat) (hlo : -2^63 < i) (hhi : i < 2^63) (hpad : pad ≤ 127) :
    atoi i pad = .ok (Spec.decimal i pad) := by
  have hm : i.natAbs < 2^63 := by omega
  have hl : (Nat.toDigits 10 i.natAbs).length ≤ 19 :=
    (Nat.length_toDigits_le_iff (by decide) (by decide)).2 (by omega)
  unfold atoi Spec.decimal
  by_cases hneg : i < 0
  · have hn : (-i).toNat = i.natAbs := by omega
    simp only [hneg, decide_true, if_true, wrap64_of_range (-i) (by omega) (by omega),
      show ¬ (-i < 0) by omega, if_false, hn]
    rw [digits_pad_ok _ _ hm hpad, pushFront_ok _ _ _ (by simp [Spec.zpad]; omega)]
    rfl
  · have hn : i.toNat = i.natAbs := by omega
    simp only [hneg, decide_false, if_false, hn, Bool.false_eq_true]
    rw [digits_pad_ok _ _ hm hpad]
    rfl

theorem atoi_minInt64 (pad : Nat) (hpad : pad ≤ 127) :
    atoi minInt64 pad = .ok ('-' :: List.replicate pad '0') := by
  have h1 : minInt64 < 0 := by decide
  have hw : wrap64 (-minInt64) = minInt64 := by decide
  unfold atoi
  simp only [h1, decide_true, if_true, hw, bind_ok, List.length_nil, Nat.sub_zero]
  rw [padLoop_ok 128 _ _ (by simp; omega), bind_ok, pushFront_ok _ _ _ (by simp; omega), List.append_nil]

theorem atoi_total (i : Int) (pad : Nat) (h : -2^63 ≤ i ∧ i < 2^63) (hpad : pad ≤ 127) :
    (atoi i pad).isPanic = false := by
  by_cases hmin : i = minInt64
  · rw [hmin, atoi_minInt64 pad hpad]; rfl
  · rw [atoi_eq_decimal i pad (by unfold minInt64 at hmin; omega) h.2 hpad]; rfl

theorem i32toa_eq_decimal (n : Int) (hlo : -2^31 ≤ n) (hhi : n < 2^31) :
    i32toa n = .ok (Spec.itoa n) := by
  have hl : (Nat.toDigits 10 n.natAbs).length ≤ 10 :=
    (Nat.length_toDigits_le_iff (by decide) (by decide)).2 (by omega)
  have hd := digitsLoop_ok 11 10 n.natAbs [] (by omega) (by simp; omega)
  unfold i32toa Spec.itoa Spec.decimal
  by_cases hneg : n < 0
  · have hn : (-n).toNat = n.natAbs := by omega
    simp only [hneg, decide_true, if_true, hn, hd, bind_ok, List.append_nil]
    rw [pushFront_ok _ _ _ (by omega)]
    simp [Spec.zpad]
  · have hn : n.toNat = n.natAbs := by omega
    simp [hneg, hn, hd, Spec.zpad]

theorem zpad_zero (l : List Char) : Spec.zpad 0 l = l := by simp [Spec.zpad]

theorem zpad_one (b n : Nat) (h : n < b) : Spec.zpad 1 (Nat.toDigits b n) = [Nat.digitChar n] := by
  rw [Nat.toDigits_of_lt_base h]; rfl

theorem zpad_succ (b k n : Nat) (hb : 1 < b) (hk : 0 < k) :
    Spec.zpad (k + 1) (Nat.toDigits b n) = Spec.zpad k (Nat.toDigits b (n / b)) ++ [Nat.digitChar (n % b)] := by
  rw [Nat.toDigits_eq_if hb (n := n)]
  by_cases hlt : n < b
  · have hd : n / b = 0 := Nat.div_eq_of_lt hlt
    simp only [hlt, if_true, hd, Nat.toDigits_zero, Nat.mod_eq_of_lt hlt]
    obtain ⟨j, rfl⟩ : ∃ j, k = j + 1 := ⟨k - 1, by omega⟩
    simp [Spec.zpad, ← List.replicate_succ']
  · simp only [hlt, if_false]
    simp [Spec.zpad]

theorem getIdx_lt {α} (d : List α) (i : Nat) (h : i < d.length) : getIdx d i = .ok d[i] := by
  simp [getIdx, List.getElem?_eq_getElem h]

/-- `uuid/format.go` and `proxy/http_headers.go` each have their own table of the sixteen hex digits -/
theorem halfbyte2hexchar_eq : halfbyte2hexchar = digit16 := by decide +kernel

theorem getIdx_digit16 (k : Nat) (h : k < 16) : getIdx digit16 k = .ok (Nat.digitChar k) := by
  have : ∀ k < 16, digit16[k]? = some (Nat.digitChar k) := by decide +kernel
  simp [getIdx, this k h]

theorem nibble (n mask s : Nat) (hm : mask >>> s = 15) : (n &&& mask) >>> s = n / 2 ^ s % 16 := by
  rw [Nat.shiftRight_and_distrib, hm, Nat.shiftRight_eq_div_pow]
  exact Nat.and_two_pow_sub_one_eq_mod _ 4

theorem uint16base16_eq_hex4 (n : Nat) (h : n < 65536) :
    uint16base16 n = .ok (Spec.hex4 n) := by
  unfold uint16base16 Spec.hex4
  rw [Nat.and_two_pow_sub_one_eq_mod n 4, nibble n 0x00f0 4 rfl, nibble n 0x0f00 8 rfl, nibble n 0xf000 12 rfl,
    getIdx_digit16 _ (by omega), getIdx_digit16 _ (by omega), getIdx_digit16 _ (by omega),
    getIdx_digit16 _ (by omega)]
  simp only [bind_ok]
  rw [zpad_succ 16 3 n (by decide) (by decide), zpad_succ 16 2 _ (by decide) (by decide),
    zpad_succ 16 1 _ (by decide) (by decide), zpad_one 16 _ (by omega)]
  have e1 : n / 2 ^ 4 % 16 = n / 16 % 16 := by omega
  have e2 : n / 2 ^ 8 % 16 = n / 16 / 16 % 16 := by omega
  have e3 : n / 2 ^ 12 % 16 = n / 16 / 16 / 16 := by omega
  rw [e1, e2, e3]
  rfl

theorem tdiv_cases (a b : Int) :
    (0 ≤ a ∧ a.tdiv b = a / b) ∨ (a < 0 ∧ a.tdiv b = -((-a) / b)) := by
  by_cases h : 0 ≤ a
  · exact .inl ⟨h, Int.tdiv_eq_ediv_of_nonneg h⟩
  · refine .inr ⟨by omega, ?_⟩
    have : a = -(-a) := by omega
    rw (occs := [1]) [this]
    rw [Int.neg_tdiv, Int.tdiv_eq_ediv_of_nonneg (by omega)]

theorem tmod_cases (a b : Int) :
    (0 ≤ a ∧ a.tmod b = a % b) ∨ (a < 0 ∧ a.tmod b = -((-a) % b)) := by
  by_cases h : 0 ≤ a
  · exact .inl ⟨h, Int.tmod_eq_emod_of_nonneg h⟩
  · refine .inr ⟨by omega, ?_⟩
    have : a = -(-a) := by omega
    rw (occs := [1]) [this]
    rw [Int.neg_tmod, Int.tmod_eq_emod_of_nonneg (by omega)]

theorem tdiv_range (a b N : Int) (hb : 0 < b) (h : -N ≤ a ∧ a < N) : -N ≤ a.tdiv b ∧ a.tdiv b < N := by
  have hle := Int.natAbs_tdiv_le_natAbs a b
  rcases tdiv_cases a b with ⟨h0, e⟩ | ⟨h0, e⟩
  · have : 0 ≤ a / b := Int.ediv_nonneg h0 (by omega)
    rw [← e] at this; omega
  · have : 0 ≤ (-a) / b := Int.ediv_nonneg (by omega) (by omega)
    omega

/-- division by at least 2 keeps an int64 away from MinInt64 -/
theorem tdiv_range_strict (a b : Int) (hb : 2 ≤ b) (h : -2^63 ≤ a ∧ a < 2^63) :
    -2^63 < a.tdiv b ∧ a.tdiv b < 2^63 := by
  have h1 : (a.tdiv b).natAbs = a.natAbs / b.natAbs := Int.natAbs_tdiv a b
  have h2 : a.natAbs / b.natAbs ≤ a.natAbs / 2 := Nat.div_le_div_left (by omega) (by decide)
  omega

theorem atoi_natCast (m pad : Nat) (hm : m < 2^63) (hpad : pad ≤ 127) :
    atoi (m : Int) pad = .ok (Spec.zpad pad (Nat.toDigits 10 m)) := by
  rw [atoi_eq_decimal _ pad (by omega) (by omega) hpad]
  simp [Spec.decimal]

theorem atoi_itoa (i : Int) (h : -2^63 < i ∧ i < 2^63) : atoi i 0 = .ok (Spec.itoa i) :=
  atoi_eq_decimal i 0 h.1 h.2 (by decide)

theorem atoi_tdiv_itoa (a b : Int) (hb : 2 ≤ b) (h : -2^63 ≤ a ∧ a < 2^63) :
    atoi (a.tdiv b) 0 = .ok (Spec.itoa (a.tdiv b)) :=
  atoi_itoa _ (tdiv_range_strict a b hb h)

/-- a calendar field or fraction of a second, with the bounds `EventCalendar` gives for it -/
theorem atoi_small (i : Int) (pad : Nat) {lo hi : Int} (h : lo ≤ i ∧ i ≤ hi) (hlo : 0 ≤ lo := by decide)
    (hhi : hi ≤ 999999999 := by decide) (hpad : pad ≤ 127 := by decide) : atoi i pad = .ok (Spec.decimal i pad) :=
  atoi_eq_decimal i pad (by omega) (by omega) hpad

theorem atoi_tdiv_total (a b : Int) (pad : Nat) (ha : -2^63 ≤ a ∧ a < 2^63) (hb : 0 < b) (hp : pad ≤ 127) :
    (atoi (a.tdiv b) pad).isPanic = false :=
  atoi_total _ _ (tdiv_range a b _ hb ha) hp

theorem seqOut_nil : seqOut [] = .ok [] := rfl
theorem seqOut_cons_ok (a : List Char) (xs) :
    seqOut (.ok a :: xs) = (seqOut xs).bind fun b => .ok (a ++ b) := rfl

theorem seqOut_append (xs ys : List (Outcome (List Char))) :
    seqOut (xs ++ ys) = (seqOut xs).bind fun a => (seqOut ys).bind fun b => .ok (a ++ b) := by
  induction xs with
  | nil => rw [List.nil_append, seqOut_nil, bind_ok]; cases seqOut ys <;> rfl
  | cons x xs ih =>
    cases x with
    | panic w => rfl
    | ok a =>
      rw [List.cons_append, seqOut_cons_ok, seqOut_cons_ok, ih]
      cases seqOut xs <;> cases seqOut ys <;> simp [Outcome.bind]

theorem seqOut_ok (ys : List (List Char)) : seqOut (ys.map Outcome.ok) = .ok ys.flatten := by
  induction ys with
  | nil => rfl
  | cons y ys ih => rw [List.map_cons, seqOut_cons_ok, ih]; rfl

theorem seqOut_total (l : List (Outcome (List Char))) (h : ∀ x ∈ l, x.isPanic = false) :
    (seqOut l).isPanic = false := by
  induction l with
  | nil => rfl
  | cons x xs ih =>
    obtain ⟨a, ha⟩ := (Outcome.isPanic_false_iff x).1 (h x (by simp))
    obtain ⟨b, hb⟩ := (Outcome.isPanic_false_iff _).1 (ih (fun y hy => h y (List.mem_cons_of_mem _ hy)))
    simp [seqOut, ha, hb]

theorem responseTime_eq (e : Event) (h0 : 0 ≤ e.durNs) (h1 : e.durNs < 2^63) (unit pad : Nat) (hpad : pad ≤ 127) :
    responseTime e unit pad = .ok ((toString (e.durNs.toNat / 1000000000)).toList ++ ['.'] ++
      Spec.zpad pad (toString (e.durNs.toNat % 1000000000 / unit)).toList) := by
  obtain ⟨n, hn⟩ := Int.eq_ofNat_of_zero_le h0
  have hq : (n : Int).tdiv secondNs = ((n / 1000000000 : Nat) : Int) := (Int.ofNat_tdiv n 1000000000).symm
  have hr : ((n : Int).tmod secondNs).tdiv unit = ((n % 1000000000 / unit : Nat) : Int) := by
    rw [show (n : Int).tmod secondNs = ((n % 1000000000 : Nat) : Int) from (Int.ofNat_tmod n 1000000000).symm]
    exact (Int.ofNat_tdiv _ unit).symm
  have hlt : n % 1000000000 / unit < 2^63 :=
    Nat.lt_of_le_of_lt (Nat.div_le_self _ _) (by omega)
  unfold responseTime
  simp only [hn, hq, hr, Int.toNat_natCast, atoi_natCast _ _ (show n / 1000000000 < 2^63 by omega) (Nat.zero_le _),
    atoi_natCast _ _ hlt hpad, lit, seqOut_cons_ok, seqOut_nil, bind_ok, Nat.toString_eq_repr, Nat.toList_repr, zpad_zero]
  simp

theorem durations (e : Event) (h0 : 0 ≤ e.durNs) (h1 : e.durNs < 2^63) :
    responseTime e 1000000 3 = .ok (Spec.refSeconds e.durNs 3) ∧
    responseTime e 1000 6 = .ok (Spec.refSeconds e.durNs 6) ∧
    responseTime e 1 9 = .ok (Spec.refSeconds e.durNs 9) :=
  ⟨responseTime_eq e h0 h1 1000000 3 (by decide), responseTime_eq e h0 h1 1000 6 (by decide),
   responseTime_eq e h0 h1 1 9 (by decide)⟩

theorem monthName_total (m : Int) (h : 0 ≤ m ∧ m ≤ 12) : (monthName m).isPanic = false := by
  have : ∀ k < 13, (getIdx shortMonthNames k).isPanic = false := by decide +kernel
  rw [monthName, if_neg (by omega)]
  exact this _ (by omega)

theorem responseTime_total (e : Event) (h : -2^63 ≤ e.durNs ∧ e.durNs < 2^63)
    (unit : Int) (pad : Nat) (hu : 0 < unit) (hp : pad ≤ 127) : (responseTime e unit pad).isPanic = false := by
  have hs : (0:Int) < secondNs := by decide
  have m1 := Int.tmod_lt_of_pos e.durNs hs
  have m2 := Int.lt_tmod_of_pos e.durNs hs
  have : secondNs = 1000000000 := rfl
  refine seqOut_total _ ?_
  simp only [List.forall_mem_cons]
  exact ⟨atoi_tdiv_total _ _ _ h hs (by decide), rfl, atoi_tdiv_total _ _ _ (by omega) hu hp,
    List.forall_mem_nil _⟩

theorem rfc3339Head_total (e : Event) (hr : EventInRange e) : ∀ x ∈ rfc3339Head e, x.isPanic = false := by
  simp only [rfc3339Head, List.forall_mem_cons]
  exact ⟨atoi_total _ _ hr.year (by decide), rfl, atoi_total _ _ (by have := hr.month; omega) (by decide), rfl,
    atoi_total _ _ hr.day (by decide), rfl, atoi_total _ _ hr.hour (by decide), rfl,
    atoi_total _ _ hr.minute (by decide), rfl, atoi_total _ _ hr.second (by decide), List.forall_mem_nil _⟩

theorem field_total (e : Event) (hr : EventInRange e)
    (name : String) (f : Event → Outcome (List Char)) (hf : fieldTable.lookup name = some f) :
    (f e).isPanic = false := by
  have hp : ∀ (a : List Char) (g : List Char × List Char → List Char), ((hostport a).map g).isPanic = false :=
    fun a g => (Outcome.isPanic_map _ g).trans (hostport_total a)
  have hq : ∀ (a : List Char) (g : List Char × List Char → List Char),
      (if e.hasRequest then (hostport a).map g else Outcome.ok []).isPanic = false := by
    intro a g; split
    · exact hp a g
    · rfl
  -- the four `$time_rfc3339*` renderers: the shared head, then literals around at most one fraction `x`
  have hh : ∀ tl : List (Outcome (List Char)), (∀ x ∈ tl, x.isPanic = false) →
      (seqOut (rfc3339Head e ++ tl)).isPanic = false := fun tl htl =>
    seqOut_total _ fun x hx => (List.mem_append.1 hx).elim (rfc3339Head_total e hr x) (htl x)
  have hfr : ∀ x : Outcome (List Char), x.isPanic = false →
      (seqOut (rfc3339Head e ++ [lit ".", x, lit "Z"])).isPanic = false := fun x hx =>
    hh _ (by simp only [List.forall_mem_cons]; exact ⟨rfl, hx, rfl, List.forall_mem_nil _⟩)
  have R := responseTime_total e hr.durNs
  -- one entry per row of `fieldTable`, in the order of the table
  have key : ∀ x ∈ fieldTable, (x.2 e).isPanic = false := by
    simp only [fieldTable, List.forall_mem_cons]
    exact ⟨rfl, hq _ _, hq _ _, rfl, rfl, rfl, rfl, rfl, rfl, rfl, rfl,
      atoi_total _ _ hr.contentLength (by decide), atoi_total _ _ hr.status (by decide),
      R _ _ (by decide) (by decide), R _ _ (by decide) (by decide), R _ _ (by decide) (by decide),
      atoi_tdiv_total _ _ _ hr.unixNano (by decide) (by decide), atoi_tdiv_total _ _ _ hr.unixNano (by decide) (by decide),
      atoi_total _ _ hr.unixNano (by decide),
      seqOut_total _ (by
        simp only [List.forall_mem_cons]
        exact ⟨atoi_total _ _ hr.day (by decide), rfl, monthName_total _ hr.month, rfl,
          atoi_total _ _ hr.year (by decide), rfl, atoi_total _ _ hr.hour (by decide), rfl,
          atoi_total _ _ hr.minute (by decide), rfl, atoi_total _ _ hr.second (by decide), rfl,
          List.forall_mem_nil _⟩),
      hh _ (by simp only [List.forall_mem_cons]; exact ⟨rfl, List.forall_mem_nil _⟩),
      hfr _ (atoi_tdiv_total _ _ _ hr.nanos (by decide) (by decide)),
      hfr _ (atoi_tdiv_total _ _ _ hr.nanos (by decide) (by decide)),
      hfr _ (atoi_total _ _ hr.nanos (by decide)),
      rfl, hp _ _, hp _ _, rfl, rfl, rfl, rfl, List.forall_mem_nil _⟩
  exact key _ (mem_of_lookup hf)

theorem renderItem_total (e : Event) (he : EventInRange e) (it : Item)
    (h : ∀ n, it = Item.field n → knownField n = true) : (renderItem e it).isPanic = false := by
  cases it with
  | text s => rfl
  | header name =>
    simp only [renderItem]
    split <;> rfl
  | field name =>
    obtain ⟨f, hf⟩ := lookup_of_contains fieldTable (String.ofList name) (h name rfl)
    simp only [renderItem, hf]
    exact field_total e he _ f hf

theorem render_total (p : List Item) (e : Event) (hp : ∀ n, Item.field n ∈ p → knownField n = true)
    (he : EventInRange e) : (render p e).isPanic = false := by
  refine seqOut_total _ fun x hx => ?_
  obtain ⟨it, hit, rfl⟩ := List.mem_map.1 hx
  exact renderItem_total e he it (fun n hn => hp n (hn ▸ hit))

theorem monthName_eq (m : Int) (h : 1 ≤ m ∧ m ≤ 12) :
    monthName m = .ok ((Spec.monthNames.getD (m.toNat - 1) "???").toList) := by
  have : ∀ k < 13, 1 ≤ k →
      getIdx shortMonthNames k = .ok ((Spec.monthNames.getD (k - 1) "???").toList) := by decide +kernel
  rw [monthName, if_neg (by omega)]
  exact this _ (by omega) (by omega)

theorem rfc3339Head_eq (e : Event) (hc : EventCalendar e) : seqOut (rfc3339Head e) = .ok (Spec.refRfc3339 e) := by
  simp only [rfc3339Head, atoi_small _ 4 hc.year, atoi_small _ 2 hc.month, atoi_small _ 2 hc.day,
    atoi_small _ 2 hc.hour, atoi_small _ 2 hc.minute, atoi_small _ 2 hc.second,
    lit, seqOut_cons_ok, seqOut_nil, bind_ok]
  simp [Spec.refRfc3339, Spec.d2]

/-- All 31 fields of the table equal the reference rendering — the four that go through `hostport` included
(`hostport_eq_split`) — provided status, content length and `UnixNano` are not `MinInt64`. -/
theorem fields_eq_reference_all (e : Event) (he : Renderable e)
    (name : String) (f : Event → Outcome (List Char)) (hf : fieldTable.lookup name = some f) :
    ∃ r, Spec.refField e name = some r ∧ f e = .ok r := by
  obtain ⟨hr, hc, hd, hmin⟩ := he
  obtain ⟨d1, d2, d3⟩ := durations e hd hr.durNs.2
  have hh : ∀ (tl : List (Outcome (List Char))) (t : List Char), seqOut tl = .ok t →
      seqOut (rfc3339Head e ++ tl) = .ok (Spec.refRfc3339 e ++ t) := by
    intro tl t h; rw [seqOut_append, rfc3339Head_eq e hc, h]; rfl
  have t3 : e.nanos.tdiv 1000000 = e.nanos / 1000000 := Int.tdiv_eq_ediv_of_nonneg hc.nanos.1
  have t6 : e.nanos.tdiv 1000 = e.nanos / 1000 := Int.tdiv_eq_ediv_of_nonneg hc.nanos.1
  have frac : ∀ (x : Int) (p : Nat), 0 ≤ x ∧ x ≤ 999999999 → p ≤ 127 →
      seqOut (rfc3339Head e ++ [lit ".", atoi x p, lit "Z"]) =
        .ok (Spec.refRfc3339 e ++ ['.'] ++ Spec.decimal x p ++ ['Z']) := by
    intro x p hx hp
    rw [hh _ _ (by simp only [atoi_small x p hx (hpad := hp), lit, seqOut_cons_ok, seqOut_nil, bind_ok]; rfl)]
    simp
  have hp : ∀ (a : List Char) (g : List Char × List Char → List Char),
      (hostport a).map g = .ok (g (Spec.splitLastColon a)) := fun a g => by rw [hostport_eq_split]; rfl
  have hq : ∀ (a : List Char) (g : List Char × List Char → List Char),
      (if e.hasRequest then (hostport a).map g else Outcome.ok []) =
        .ok (if e.hasRequest then g (Spec.splitLastColon a) else []) := by
    intro a g; rw [hp]; cases e.hasRequest <;> rfl
  -- one entry per row of `fieldTable`, in the order of the table; `rfl` checks the name against `Spec.refField`
  have key : ∀ x ∈ fieldTable, ∃ r, Spec.refField e x.1 = some r ∧ x.2 e = .ok r := by
    simp only [fieldTable, List.forall_mem_cons]
    refine ⟨⟨_, rfl, rfl⟩, ⟨_, rfl, hq _ _⟩, ⟨_, rfl, hq _ _⟩, ⟨_, rfl, rfl⟩,
      ⟨_, rfl, rfl⟩, ⟨_, rfl, rfl⟩, ⟨_, rfl, rfl⟩, ⟨_, rfl, rfl⟩,
      ⟨_, rfl, rfl⟩, ⟨_, rfl, rfl⟩, ⟨_, rfl, rfl⟩,
      ⟨_, rfl, atoi_itoa _ ⟨hmin.2.1, hr.contentLength.2⟩⟩,
      ⟨_, rfl, atoi_itoa _ ⟨hmin.1, hr.status.2⟩⟩,
      ⟨_, rfl, d1⟩, ⟨_, rfl, d2⟩, ⟨_, rfl, d3⟩,
      ⟨_, rfl, atoi_tdiv_itoa _ _ (by decide) hr.unixNano⟩,
      ⟨_, rfl, atoi_tdiv_itoa _ _ (by decide) hr.unixNano⟩,
      ⟨_, rfl, atoi_itoa _ ⟨hmin.2.2, hr.unixNano.2⟩⟩,
      ⟨_, rfl, ?common⟩,
      ⟨_, rfl, hh _ _ rfl⟩,
      ⟨_, rfl, t3 ▸ frac _ 3 (by have := hc.nanos; omega) (by decide)⟩,
      ⟨_, rfl, t6 ▸ frac _ 6 (by have := hc.nanos; omega) (by decide)⟩,
      ⟨_, rfl, frac _ 9 hc.nanos (by decide)⟩,
      ⟨_, rfl, rfl⟩, ⟨_, rfl, hp _ _⟩, ⟨_, rfl, hp _ _⟩, ⟨_, rfl, rfl⟩,
      ⟨_, rfl, rfl⟩, ⟨_, rfl, rfl⟩, ⟨_, rfl, rfl⟩, List.forall_mem_nil _⟩
    case common =>
      simp only [atoi_small _ 2 hc.day, atoi_small _ 4 hc.year, atoi_small _ 2 hc.hour, atoi_small _ 2 hc.minute,
        atoi_small _ 2 hc.second,
        monthName_eq e.month hc.month, lit, seqOut_cons_ok, seqOut_nil, bind_ok]
      simp [Spec.d2]
  exact key _ (mem_of_lookup hf)

theorem renderItem_eq_reference (e : Event) (he : Renderable e) (it : Item)
    (h : ∀ n, it = Item.field n → knownField n = true) : renderItem e it = .ok (Spec.refItemText e it) := by
  cases it with
  | text s => rfl
  | header name =>
    simp only [renderItem, Spec.refItemText]
    cases e.hasRequest <;> cases e.header <;> rfl
  | field name =>
    obtain ⟨f, hf⟩ := lookup_of_contains fieldTable (String.ofList name) (h name rfl)
    obtain ⟨r, h1, h2⟩ := fields_eq_reference_all e he _ f hf
    simp only [renderItem, hf, h2, Spec.refItemText, h1, Option.getD_some]

theorem render_eq_reference (p : List Item) (e : Event) (hp : ∀ n, Item.field n ∈ p → knownField n = true)
    (he : Renderable e) :
    render p e = .ok (Spec.refLine p e) := by
  have : p.map (renderItem e) = (p.map (Spec.refItemText e)).map Outcome.ok := by
    rw [List.map_map]
    exact List.map_congr_left fun it hit =>
      renderItem_eq_reference e he it (fun n hn => hp n (hn ▸ hit))
  rw [render, this, seqOut_ok, Spec.refLine, List.flatMap_def]

theorem write_of_render {p : List Item} {e : Event} {b : List Char} (h : render p e = .ok b) :
    write p e = .ok (if b.isEmpty then [] else b ++ ['\n']) := by
  unfold write
  rw [h, bind_ok]
  cases b <;> rfl

theorem newAndLog_of_parse {format : List Char} {it : Item} {rest : List Item} (e : Event)
    (hp : parse format = .ok (.ok (it :: rest))) : newAndLog format e = (write (it :: rest) e).map .written := by
  unfold newAndLog
  rw [hp]
  rfl

end Fabio.Lemmas.C20
