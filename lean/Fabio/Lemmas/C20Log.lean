import Fabio.Model.C20Log
import Fabio.Lemmas.Basic
/-! C20: the buffer-ownership invariant of `Log`, kept by every step of every schedule (`inv_run`). -/
namespace Fabio.Lemmas.C20Log
open Fabio.Model.C20Log

variable {Ev : Type}

/-- between `get` and `put` -/
def holding (th : Thread Ev) : Prop := 1 ≤ th.pc ∧ th.pc ≤ 5

structure Inv (render : Ev → List Char) (s : St Ev) : Prop where
  sink : SinkIntact render s
  own : ∀ (i : Nat) (th : Thread Ev), s.threads[i]? = some th → holding th → ∃ b, th.buf = some b ∧ b < s.bufs.length ∧ b ∉ s.free
  /-- after `render` and until `put` the buffer holds the rendering of the thread's current event -/
  content : ∀ (i : Nat) (th : Thread Ev), s.threads[i]? = some th → 2 ≤ th.pc → th.pc ≤ 5 →
    ∃ b e rest, th.buf = some b ∧ th.todo = e :: rest ∧ s.bufs[b]? = some (render e)
  excl : ∀ (i j : Nat) (thi thj : Thread Ev), i ≠ j → s.threads[i]? = some thi → s.threads[j]? = some thj →
    holding thi → holding thj → thi.buf ≠ thj.buf
  freeLt : ∀ b ∈ s.free, b < s.bufs.length
  nodup : s.free.Nodup

/-- Frame lemma: thread `t` moves from `th` to `th'`. A step writes at most one buffer `b` and moves at most `b` into or
out of the pool, and `b` is `th`'s to touch: pooled, new, or held by it. -/
theorem inv_touch {render : Ev → List Char} {s : St Ev} (hinv : Inv render s) {t : Nat} {th th' : Thread Ev}
    (ht : s.threads[t]? = some th) (b : Nat) {bufs' : List (List Char)} {free' : List Nat} {lock' : Option Nat}
    {sink' : List (List Char × Ev)} (hsink : ∀ x ∈ sink', x.1 = render x.2)
    (hb : b ∈ s.free ∨ s.bufs.length ≤ b ∨ (holding th ∧ th.buf = some b))
    (hbufs : ∀ b', b' ≠ b → b' < s.bufs.length → bufs'[b']? = s.bufs[b']?)
    (hfree : ∀ b' ∈ free', b' ≠ b → b' ∈ s.free) (hnodup : free'.Nodup)
    (hbfree : b ∈ free' → b < bufs'.length)
    (hown : holding th' → th'.buf = some b ∧ b < bufs'.length ∧ b ∉ free')
    (hcontent : 2 ≤ th'.pc → th'.pc ≤ 5 → ∃ e rest, th'.todo = e :: rest ∧ bufs'[b]? = some (render e)) :
    Inv render { bufs := bufs', free := free', lock := lock', sink := sink', threads := s.threads.set t th' } := by
  have hget : ∀ i thi, (s.threads.set t th')[i]? = some thi → (i = t ∧ thi = th') ∨ (i ≠ t ∧ s.threads[i]? = some thi) := by
    intro i thi h
    by_cases hit : i = t
    · subst hit
      rw [List.getElem?_set_self (List.getElem?_eq_some_iff.mp ht).1] at h
      exact Or.inl ⟨rfl, (Option.some.inj h).symm⟩
    · rw [List.getElem?_set_ne (Ne.symm hit)] at h
      exact Or.inr ⟨hit, h⟩
  have hlen : ∀ b', b' ≠ b → b' < s.bufs.length → b' < bufs'.length := fun b' hne hlt =>
    (List.getElem?_eq_some_iff.mp ((hbufs b' hne hlt).trans (List.getElem?_eq_getElem hlt))).1
  -- an other holder's buffer is not `b`, so it stays as it is
  have hother : ∀ i thi, i ≠ t → s.threads[i]? = some thi → holding thi →
      ∃ b0, thi.buf = some b0 ∧ b0 ≠ b ∧ b0 < bufs'.length ∧ b0 ∉ free' ∧ bufs'[b0]? = s.bufs[b0]? := by
    intro i thi hit hi hh
    obtain ⟨b0, hb0, hlt, hnf⟩ := hinv.own i thi hi hh
    have hne : b0 ≠ b := by
      rintro rfl
      rcases hb with hbf | hge | ⟨hth, hbt⟩
      · exact hnf hbf
      · exact Nat.lt_irrefl _ (Nat.lt_of_lt_of_le hlt hge)
      · exact hinv.excl t i th thi (Ne.symm hit) ht hi hth hh (by rw [hbt, hb0])
    exact ⟨b0, hb0, hne, hlen b0 hne hlt, fun hm => hnf (hfree b0 hm hne), hbufs b0 hne hlt⟩
  constructor
  · exact hsink
  · intro i thi hi hh
    rcases hget i thi hi with ⟨_, rfl⟩ | ⟨hit, hi'⟩
    · exact ⟨b, hown hh⟩
    · obtain ⟨b0, hb0, _, hlt, hnf, _⟩ := hother i thi hit hi' hh
      exact ⟨b0, hb0, hlt, hnf⟩
  · intro i thi hi h2 h5
    have hh : holding thi := ⟨Nat.le_of_succ_le h2, h5⟩
    rcases hget i thi hi with ⟨_, rfl⟩ | ⟨hit, hi'⟩
    · obtain ⟨e, rest, htodo, hc⟩ := hcontent h2 h5
      exact ⟨b, e, rest, (hown hh).1, htodo, hc⟩
    · obtain ⟨b1, e, rest, hb1, htodo, hc⟩ := hinv.content i thi hi' h2 h5
      obtain ⟨b0, hb0, _, _, _, hsame⟩ := hother i thi hit hi' hh
      obtain rfl : b0 = b1 := Option.some.inj (hb0.symm.trans hb1)
      exact ⟨b0, e, rest, hb0, htodo, hsame.trans hc⟩
  · intro i j thi thj hij hi hj hhi hhj
    rcases hget i thi hi with ⟨rfl, rfl⟩ | ⟨hit, hi'⟩
    · rcases hget j thj hj with ⟨rfl, _⟩ | ⟨hjt, hj'⟩
      · exact absurd rfl hij
      · obtain ⟨b0, hb0, hne, _⟩ := hother j thj hjt hj' hhj
        rw [(hown hhi).1, hb0]
        exact fun h => hne (Option.some.inj h).symm
    · rcases hget j thj hj with ⟨rfl, rfl⟩ | ⟨hjt, hj'⟩
      · obtain ⟨b0, hb0, hne, _⟩ := hother i thi hit hi' hhi
        rw [(hown hhj).1, hb0]
        exact fun h => hne (Option.some.inj h)
      · exact hinv.excl i j thi thj hij hi' hj' hhi hhj
  · intro b' hb'
    by_cases hbb : b' = b
    · subst hbb
      exact hbfree hb'
    · exact hlen b' hbb (hinv.freeLt b' (hfree b' hb' hbb))
  · exact hnodup

theorem inv_init (render : Ev → List Char) (evs : List (List Ev)) : Inv render (init evs) := by
  have hpc : ∀ (i : Nat) (th : Thread Ev), (init evs).threads[i]? = some th → th.pc = 0 := by
    intro i th h
    simp [init, List.getElem?_map] at h
    obtain ⟨es, _, rfl⟩ := h
    rfl
  constructor
  · intro x hx; simp [init] at hx
  · intro i th h hh; have := hpc i th h; unfold holding at hh; omega
  · intro i th h h2; have := hpc i th h; omega
  · intro i j thi thj _ hi _ hh; have := hpc i thi hi; unfold holding at hh; omega
  · intro b hb; simp [init] at hb
  · simp [init]

/-- the steps `lock`, `write`, `unlock` and the return of `Log`: buffers and pool stay as they are, and `th'` holds
no more than `th` did -/
theorem inv_keep {render : Ev → List Char} {s : St Ev} (hinv : Inv render s) {t : Nat} {th th' : Thread Ev}
    (ht : s.threads[t]? = some th) {lock' : Option Nat} {sink' : List (List Char × Ev)}
    (hsink : ∀ x ∈ sink', x.1 = render x.2) (hh : holding th' → holding th ∧ th'.buf = th.buf)
    (hc : 2 ≤ th'.pc → th'.pc ≤ 5 → 2 ≤ th.pc ∧ th.pc ≤ 5 ∧ th'.todo = th.todo) :
    Inv render { bufs := s.bufs, free := s.free, lock := lock', sink := sink', threads := s.threads.set t th' } := by
  by_cases hth : holding th
  · obtain ⟨b, hb, hlt, hnf⟩ := hinv.own t th ht hth
    refine inv_touch hinv ht b hsink (.inr (.inr ⟨hth, hb⟩)) (fun _ _ _ => rfl) (fun _ hm _ => hm) hinv.nodup
      (fun hm => absurd hm hnf) (fun h' => ⟨(hh h').2.trans hb, hlt, hnf⟩) ?_
    intro h2 h5
    obtain ⟨h2, h5, htodo⟩ := hc h2 h5
    obtain ⟨b1, e, rest, hb1, htodo1, hc1⟩ := hinv.content t th ht h2 h5
    obtain rfl : b = b1 := Option.some.inj (hb.symm.trans hb1)
    exact ⟨e, rest, htodo.trans htodo1, hc1⟩
  · refine inv_touch hinv ht s.bufs.length hsink (.inr (.inl (Nat.le_refl _))) (fun _ _ _ => rfl) (fun _ hm _ => hm)
      hinv.nodup (hinv.freeLt _) (fun h' => absurd (hh h').1 hth) ?_
    intro h2 h5
    obtain ⟨h2, h5, _⟩ := hc h2 h5
    exact absurd ⟨Nat.le_of_succ_le h2, h5⟩ hth

/-- `goodProg` lists the micro-steps in the order of `Op`'s constructors -/
theorem pc_of_op {pc : Nat} {op : Op} (h : goodProg[pc]? = some op) : pc = op.ctorIdx := by
  rcases pc with _ | _ | _ | _ | _ | _ | _ <;> cases h <;> rfl

theorem inv_step (render : Ev → List Char) (t c : Nat) (s : St Ev) (hinv : Inv render s) :
    Inv render (step goodProg render t c s) := by
  unfold step
  cases ht : s.threads[t]? with
  | none => exact hinv
  | some th =>
    obtain ⟨todo, pc, buf⟩ := th
    cases todo with
    | nil => exact hinv
    | cons e rest =>
      simp only
      -- by micro-step first: each goal then holds one alternative of `step`, and `pc` follows from the step
      split <;> rename_i hop
      · exact inv_keep hinv ht hinv.sink (fun h => by simp [holding] at h) (fun h2 _ => by simp at h2)
      · obtain rfl : pc = 0 := pc_of_op hop
        cases hk : s.free[c % (s.free.length + 1)]? with
        | some b =>
          have hbf : b ∈ s.free := List.mem_of_getElem? hk
          have hnf := not_mem_eraseIdx_of_nodup hinv.nodup hk
          refine inv_touch hinv ht b hinv.sink (.inl hbf) (fun _ hne _ => List.getElem?_set_ne (Ne.symm hne))
            (fun _ hm _ => (List.eraseIdx_sublist _ _).subset hm) (hinv.nodup.sublist (List.eraseIdx_sublist _ _))
            (fun hm => absurd hm hnf) ?_ (fun h2 _ => by simp at h2)
          intro _
          exact ⟨rfl, by rw [List.length_set]; exact hinv.freeLt b hbf, hnf⟩
        | none =>
          refine inv_touch hinv ht s.bufs.length hinv.sink (.inr (.inl (Nat.le_refl _)))
            (fun _ _ hlt => List.getElem?_append_left hlt) (fun _ hm _ => hm) hinv.nodup (fun _ => by simp) ?_
            (fun h2 _ => by simp at h2)
          intro _
          exact ⟨rfl, by simp, fun hm => Nat.lt_irrefl _ (hinv.freeLt _ hm)⟩
      · obtain rfl : pc = 1 := pc_of_op hop
        have hh : holding (⟨e :: rest, 1, buf⟩ : Thread Ev) := ⟨by simp, by simp⟩
        obtain ⟨b, hb, hlt, hnf⟩ := hinv.own t _ ht hh
        simp only at hb
        subst hb
        refine inv_touch hinv ht b hinv.sink (.inr (.inr ⟨hh, rfl⟩)) (fun _ hne _ => List.getElem?_set_ne (Ne.symm hne))
          (fun _ hm _ => hm) hinv.nodup (fun hm => absurd hm hnf) ?_ ?_
        · intro _
          exact ⟨rfl, by rw [List.length_set]; exact hlt, hnf⟩
        · intro _ _
          exact ⟨e, rest, rfl, by simp [hlt]⟩
      · obtain rfl : pc = 2 := pc_of_op hop
        split
        · exact inv_keep hinv ht hinv.sink (by simp [holding]) (by simp)
        · exact hinv
      · obtain rfl : pc = 3 := pc_of_op hop
        obtain ⟨b, e', rest', hb, htodo', hc⟩ := hinv.content t _ ht (by simp) (by simp)
        simp only at hb htodo'
        subst hb
        have he : e' = e := (List.cons.inj htodo').1.symm
        subst he
        refine inv_keep hinv ht ?_ (by simp [holding]) (by simp)
        intro x hx
        rcases List.mem_append.mp hx with hx | hx
        · exact hinv.sink x hx
        · simp at hx; subst hx
          simp [hc]
      · obtain rfl : pc = 4 := pc_of_op hop
        exact inv_keep hinv ht hinv.sink (by simp [holding]) (by simp)
      · obtain rfl : pc = 5 := pc_of_op hop
        have hh : holding (⟨e :: rest, 5, buf⟩ : Thread Ev) := ⟨by simp, by simp⟩
        obtain ⟨b, hb, hlt, hnf⟩ := hinv.own t _ ht hh
        simp only at hb
        subst hb
        exact inv_touch hinv ht b hinv.sink (.inr (.inr ⟨hh, rfl⟩)) (fun _ _ _ => rfl)
          (fun _ hm hne => (List.mem_cons.mp hm).resolve_left hne) (List.nodup_cons.mpr ⟨hnf, hinv.nodup⟩) (fun _ => hlt)
          (fun h => by simp [holding] at h) (fun _ h5 => by simp at h5)

theorem inv_run (render : Ev → List Char) (sched : List (Nat × Nat)) (s : St Ev) (hinv : Inv render s) :
    Inv render (run goodProg render sched s) :=
  List.foldlRecOn sched _ hinv fun _ hb tc _ => inv_step render tc.1 tc.2 _ hb

def r1 (c : Char) : List Char := [c]

end Fabio.Lemmas.C20Log
