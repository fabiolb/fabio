import Fabio.Model.C12Auth
import Fabio.Lemmas.C12
import Fabio.Lemmas.Lit
/-! `Model/C12Auth.lean`: the base64 round trip quantum by quantum, the comma join of the `X-Forwarded-For` lines undone by
the split, `BasicAuth()` as a read of the first `Authorization` line. Core Lean only. -/
namespace Fabio.Lemmas.C12
open Fabio Fabio.Model.C12

theorem b64Val_b64Char (v : Nat) (h : v < 64) : b64Val (b64Char v) = some v := by
  have : ∀ v : Fin 64, b64Val (b64Char v.val) = some v.val := by
    unfold b64Char b64Alphabet; simp only [toList_lit rfl]; decide +kernel
  exact this ⟨v, h⟩

theorem b64Val_pad : b64Val '=' = none := by decide

theorem b64Val_newline {c : Char} (h : isNewline c = true) : b64Val c = none := by
  simp only [isNewline, Bool.or_eq_true, beq_iff_eq] at h
  rcases h with rfl | rfl <;> decide

/-- An alphabet character has a value, so is no newline; beyond the table `getD` gives `=`. -/
theorem b64Char_not_newline (v : Nat) : isNewline (b64Char v) = false := by
  refine Bool.of_not_eq_true fun hn => ?_
  by_cases h : v < 64
  · have := b64Val_newline hn
    rw [b64Val_b64Char v h] at this; cases this
  · have hl : b64Alphabet.length ≤ v := by
      unfold b64Alphabet; simp only [toList_lit rfl]; exact Nat.le_of_not_lt h
    rw [b64Char, List.getD_eq_getElem?_getD, List.getElem?_eq_none hl] at hn
    cases hn

section quantum
variable {a b c d : Char} {va vb vc vd : Nat}

theorem b64Dec_quantum {rest : List Char} {more : List Nat} (ha : b64Val a = some va) (hb : b64Val b = some vb)
    (hc : b64Val c = some vc) (hd : b64Val d = some vd) (h : b64Dec rest = some more) :
    b64Dec (a :: b :: c :: d :: rest) =
      some ((va * 4 + vb / 16) :: (vb % 16 * 16 + vc / 4) :: (vc % 4 * 64 + vd) :: more) := by
  simp only [b64Dec, ha, hb, hc, hd, h]

theorem b64Dec_pad1 (ha : b64Val a = some va) (hb : b64Val b = some vb) (hc : b64Val c = some vc) :
    b64Dec [a, b, c, '='] = some [va * 4 + vb / 16, vb % 16 * 16 + vc / 4] := by
  simp [b64Dec, ha, hb, hc, b64Val_pad]

theorem b64Dec_pad2 (ha : b64Val a = some va) (hb : b64Val b = some vb) :
    b64Dec [a, b, '=', '='] = some [va * 4 + vb / 16] := by
  simp [b64Dec, ha, hb, b64Val_pad]

end quantum

/-- Three bytes as four 6-bit values and back. -/
theorem sextets (x y z : Nat) (hx : x < 256) (hy : y < 256) (hz : z < 256) :
    (x / 4 < 64 ∧ x % 4 * 16 + y / 16 < 64 ∧ y % 16 * 4 + z / 64 < 64 ∧ z % 64 < 64) ∧
    x / 4 * 4 + (x % 4 * 16 + y / 16) / 16 = x ∧
    (x % 4 * 16 + y / 16) % 16 * 16 + (y % 16 * 4 + z / 64) / 4 = y ∧
    (y % 16 * 4 + z / 64) % 4 * 64 + z % 64 = z := by
  omega

/-- The two padded endings are the full quantum with the missing bytes read as 0. -/
theorem b64Dec_b64Enc (bs : List Nat) (h : ∀ b ∈ bs, b < 256) : b64Dec (b64Enc bs) = some bs := by
  induction bs using b64Enc.induct with
  | case1 => rfl
  | case2 x =>
    have s := sextets x 0 0 (h x (by simp)) (by decide) (by decide)
    simp only [Nat.zero_div, Nat.add_zero] at s
    obtain ⟨⟨b1, b2, _⟩, e1, _⟩ := s
    rw [b64Enc, b64Dec_pad2 (b64Val_b64Char _ b1) (b64Val_b64Char _ b2), e1]
  | case3 x y =>
    have s := sextets x y 0 (h x (by simp)) (h y (by simp)) (by decide)
    simp only [Nat.zero_div, Nat.add_zero] at s
    obtain ⟨⟨b1, b2, b3, _⟩, e1, e2, _⟩ := s
    rw [b64Enc, b64Dec_pad1 (b64Val_b64Char _ b1) (b64Val_b64Char _ b2) (b64Val_b64Char _ b3), e1, e2]
  | case4 x y z rest ih =>
    obtain ⟨⟨b1, b2, b3, b4⟩, e1, e2, e3⟩ := sextets x y z (h x (by simp)) (h y (by simp)) (h z (by simp))
    rw [b64Enc, b64Dec_quantum (b64Val_b64Char _ b1) (b64Val_b64Char _ b2) (b64Val_b64Char _ b3) (b64Val_b64Char _ b4)
      (ih fun b hb => h b (by simp [hb])), e1, e2, e3]

theorem b64Enc_no_newline (bs : List Nat) : (b64Enc bs).filter (fun c => !isNewline c) = b64Enc bs := by
  have hp : isNewline '=' = false := by decide
  induction bs using b64Enc.induct <;> simp_all [b64Enc, b64Char_not_newline]

theorem b64DecodeString_b64Enc (bs : List Nat) (h : ∀ b ∈ bs, b < 256) : b64DecodeString (b64Enc bs) = some bs := by
  rw [b64DecodeString, b64Enc_no_newline, b64Dec_b64Enc bs h]

/-- Go: `strings.Split(strings.Join(lines, ","), ",")`. -/
theorem splitOn_joinComma (l : List Char) (ls : List (List Char)) :
    splitOn ',' (joinComma (l :: ls)) = (l :: ls).flatMap (splitOn ',') := by
  induction ls generalizing l with
  | nil => simp [joinComma]
  | cons m ms ih =>
    have : joinComma (l :: m :: ms) = l ++ ',' :: joinComma (m :: ms) := rfl
    rw [this, splitOn_append_sep, ih]
    simp

theorem headerGet_head (k v : List Char) (rest : List (List Char × List Char)) : headerGet k ((k, v) :: rest) = v := by
  simp [headerGet, headerValues]

/-- An absent line reads as the empty text, which is too short to parse. -/
theorem basicAuthOf_eq (r : Req) : basicAuthOf r = parseBasicAuth (headerGet hAuthorization r.headers) := by
  unfold basicAuthOf
  cases headerGet hAuthorization r.headers <;> rfl

/-- `Target.Authorized` for a scheme whose verdict `V` reads the scheme's state and the credentials of the request:
`authorizedReq` is this at `V = basicVerdict` (stored pairs), `authorizedFile` at `V = fileVerdict H` (the file text). -/
theorem authorized_basic_iff {σ} (V : σ → Option (List Char × List Char) → Bool) (scheme : List Char)
    (schemes : List (List Char × σ)) (r : Req) :
    authorized scheme schemes (fun s => V s (basicAuthOf r)) = true ↔
      scheme = [] ∨ ∃ s, schemes.lookup scheme = some s ∧
        V s (parseBasicAuth (headerGet hAuthorization r.headers)) = true := by
  rw [authorized_iff, basicAuthOf_eq]

/-- What authentication asks of a request, in the words of the property: the route names no scheme, or a registered one
whose htpasswd file stores the pair of the request's first `Authorization` line. -/
def Accepts (schemes : List (List Char × List (List Char × List Char))) (scheme : List Char) (r : Req) : Prop :=
  scheme = [] ∨ ∃ file u p, schemes.lookup scheme = some file ∧
    parseBasicAuth (headerGet hAuthorization r.headers) = some (u, p) ∧ file.lookup u = some p

theorem bytesToChars_charsToBytes (cs : List Char) : bytesToChars (charsToBytes cs) = cs := by
  simp [bytesToChars, charsToBytes, Function.comp_def, Char.ofNat_toNat]

theorem parseBasicAuth_basic (rest : List Char) :
    parseBasicAuth ("Basic ".toList ++ rest) = (b64DecodeString rest).bind fun bs => cut ':' (bytesToChars bs) := by
  have hlow : lowerL ("Basic ".toList ++ rest |>.take 6) = ['b', 'a', 's', 'i', 'c', ' '] := by simp; decide
  have hlen : ¬ ("Basic ".toList ++ rest).length < 6 := by simp
  have hdrop : ("Basic ".toList ++ rest).drop 6 = rest := by simp
  simp only [parseBasicAuth, hlen, hlow, hdrop, ↓reduceIte, ne_eq, not_true_eq_false]
  cases b64DecodeString rest <;> rfl

end Fabio.Lemmas.C12
