import Fabio.Model.C11
import Fabio.Lemmas.C11Base
/-!
One statement per definition of `Model/C11.lean` — an equation, a case distinction or an iff — from which the theorems
of `Props/C11*.lean` are read off without unfolding the model. Core Lean only.
-/
namespace Fabio.Lemmas.C11
open Fabio Fabio.Model.C11

theorem ixFind_cons (a : Name) (v : Cert) (m : Index) (k : Name) :
    ixFind ((a, v) :: m) k = if a == k then some v else ixFind m k := by
  simp only [ixFind, List.lookup_cons, Bool.beq_comm (a := k)]
  cases a == k <;> rfl

theorem find_foldl_names (v : Cert) (ns : List Name) (m : Index) (k : Name) :
    ixFind (ns.foldl (fun m n => (keyOf n, v) :: m) m) k
      = if ns.any (fun n => keyOf n == k) then some v else ixFind m k := by
  induction ns generalizing m with
  | nil => rfl
  | cons n ns ih =>
    simp only [List.foldl_cons, ih, List.any_cons, ixFind_cons]
    by_cases h : (keyOf n == k) = true <;> simp [h]

theorem find_indexCert (m : Index) (c : Cert) (k : Name) :
    ixFind (indexCert m c) k = if hasKey k c then some c else ixFind m k :=
  find_foldl_names c c.names m k

theorem lastWith_eq_find? (cs : CertSet) (k : Name) : lastWith cs k = cs.reverse.find? (hasKey k) :=
  List.getLast?_filter

theorem find_foldl_indexCert (cs : CertSet) (m : Index) (k : Name) :
    ixFind (cs.foldl indexCert m) k = (lastWith cs k).or (ixFind m k) := by
  rw [foldl_last indexCert (ixFind · k) (Option.guard (hasKey k)) some
    (fun m c => by rw [find_indexCert, Option.guard]; cases hasKey k c <;> rfl), List.filterMap_eq_filter, lastWith]
  cases (cs.filter (hasKey k)).getLast? <;> rfl

/-- `BuildNameToCertificate`: for a name two certificates share, the later one overrides the earlier. -/
theorem find_buildNameIndex (cs : CertSet) (k : Name) : ixFind (buildNameIndex cs) k = lastWith cs k := by
  rw [buildNameIndex, find_foldl_indexCert]
  exact Option.or_none

theorem lastWith_none_iff (cs : CertSet) (k : Name) :
    lastWith cs k = none ↔ ∀ c ∈ cs, hasKey k c = false := by
  unfold lastWith; simp

theorem lastWith_some_iff (cs : CertSet) (k : Name) (c : Cert) :
    lastWith cs k = some c ↔
      ∃ pre post, cs = pre ++ c :: post ∧ hasKey k c = true ∧ ∀ d ∈ post, hasKey k d = false := by
  rw [lastWith_eq_find?, List.find?_eq_some_iff_append]
  constructor
  · rintro ⟨hk, as, bs, e, h⟩
    refine ⟨bs.reverse, as.reverse, ?_, hk, by simpa using h⟩
    simpa using congrArg List.reverse e
  · rintro ⟨pre, post, rfl, hk, h⟩
    exact ⟨hk, post.reverse, pre.reverse, by simp, by simpa using h⟩

theorem lastWith_mem {cs : CertSet} {k : Name} {c : Cert} (h : lastWith cs k = some c) :
    c ∈ cs ∧ hasKey k c = true := by
  obtain ⟨pre, post, rfl, hk, _⟩ := (lastWith_some_iff cs k c).mp h
  exact ⟨by simp, hk⟩

theorem specAnswer_exact {cs : CertSet} {server : Name} {c : Cert} (strict : Bool)
    (h : lastWith cs (normName server) = some c) : specAnswer cs server strict = .cert c := by
  cases cs with
  | nil => cases h
  | cons first rest => simp only [specAnswer, h]

theorem specAnswer_wildcard {cs : CertSet} {server : Name} {c : Cert} (strict : Bool)
    (h : lastWith cs (normName server) = none)
    (hw : (candidates (splitDots (normName server))).findSome? (lastWith cs) = some c) :
    specAnswer cs server strict = .cert c := by
  cases cs with
  | nil => obtain ⟨_, _, hk⟩ := List.exists_of_findSome?_eq_some hw; cases hk
  | cons first rest => simp only [specAnswer, h, hw]

theorem specAnswer_default {first : Cert} {rest : CertSet} {server : Name} (strict : Bool)
    (h : lastWith (first :: rest) (normName server) = none)
    (hw : (candidates (splitDots (normName server))).findSome? (lastWith (first :: rest)) = none) :
    specAnswer (first :: rest) server strict = if strict then .noCert else .cert first := by
  simp only [specAnswer, h, hw]

theorem specAnswer_cert_cases {cs : CertSet} {server : Name} {strict : Bool} {c : Cert}
    (h : specAnswer cs server strict = .cert c) :
    lastWith cs (normName server) = some c ∨
    (∃ k ∈ candidates (splitDots (normName server)), lastWith cs k = some c) ∨
    (strict = false ∧ cs.head? = some c) := by
  cases cs with
  | nil => cases h
  | cons first rest =>
    cases h1 : lastWith (first :: rest) (normName server) with
    | some d => rw [specAnswer_exact strict h1] at h; exact .inl (by rw [Answer.cert.inj h])
    | none =>
      cases h2 : (candidates (splitDots (normName server))).findSome? (lastWith (first :: rest)) with
      | some d =>
        rw [specAnswer_wildcard strict h1 h2, Answer.cert.injEq] at h; subst h
        obtain ⟨k, hk, hkd⟩ := List.exists_of_findSome?_eq_some h2
        exact .inr (.inl ⟨k, hk, hkd⟩)
      | none =>
        rw [specAnswer_default strict h1 h2] at h
        cases strict with
        | true => cases h
        | false => exact .inr (.inr ⟨rfl, by simpa using h⟩)

theorem specAnswer_single (first : Cert) (server : Name) : specAnswer [first] server false = .cert first := by
  have one : ∀ {k c}, lastWith [first] k = some c → c = first := fun h => by simpa using (lastWith_mem h).1
  cases h1 : lastWith [first] (normName server) with
  | some d => rw [specAnswer_exact false h1, one h1]
  | none =>
    cases h2 : (candidates (splitDots (normName server))).findSome? (lastWith [first]) with
    | some d =>
      obtain ⟨k, _, hk⟩ := List.exists_of_findSome?_eq_some h2
      rw [specAnswer_wildcard false h1 h2, one hk]
    | none => exact specAnswer_default false h1 h2

theorem stripDots_append_dots (s : Name) (k : Nat) : stripDots (s ++ List.replicate k '.') = stripDots s := by
  simp only [stripDots, List.reverse_append, List.reverse_replicate]
  congr 1
  induction k with
  | zero => rfl
  | succ k ih => rw [List.replicate_succ, List.cons_append, List.dropWhile_cons_of_pos (by rfl), ih]

theorem stripDots_lowerL (s : Name) : stripDots (lowerL s) = lowerL (stripDots s) := by
  have hp : (· == '.') ∘ lowerChar = (· == '.') := funext fun c => by
    rw [Function.comp_apply, Bool.eq_iff_iff, beq_iff_eq, beq_iff_eq]; exact lowerChar_eq_iff (by decide)
  simp only [stripDots, lowerL, ← List.map_reverse, List.dropWhile_map, hp]

theorem stripDots_idem (s : Name) : stripDots (stripDots s) = stripDots s := by
  simp only [stripDots, List.reverse_reverse, dropWhile_dropWhile]

theorem step_cell (strict : Bool) (s : Sys) (op : Op) :
    (s.step strict op).1.cell = match op with
      | .publish cs => mkPublished cs
      | _ => s.cell := by
  cases op with
  | hsAnswer t sv => simp only [Sys.step]; split <;> rfl
  | _ => rfl

theorem step_snaps (strict : Bool) (s : Sys) (op : Op) :
    (s.step strict op).1.snaps = match op with
      | .hsLoad t => (t, s.cell) :: s.snaps
      | _ => s.snaps := by
  cases op with
  | hsAnswer t sv => simp only [Sys.step]; split <;> rfl
  | _ => rfl

theorem step_answers (strict : Bool) (s : Sys) (op : Op) :
    (s.step strict op).2 = match op with
      | .hsAnswer t sv => ((s.snaps.lookup t).map fun p => (t, getCertificateP p sv strict)).toList
      | _ => [] := by
  cases op with
  | hsAnswer t sv => simp only [Sys.step]; split <;> simp [*]
  | _ => rfl

theorem exec_append (strict : Bool) (s : Sys) (a b : List Op) :
    Sys.exec strict s (a ++ b) =
      ((Sys.exec strict (Sys.exec strict s a).1 b).1,
       (Sys.exec strict s a).2 ++ (Sys.exec strict (Sys.exec strict s a).1 b).2) := by
  induction a generalizing s with
  | nil => rfl
  | cons op a ih => simp only [List.cons_append, Sys.exec, ih, List.append_assoc]

theorem exec_cell (strict : Bool) (s : Sys) (cs0 : CertSet) (ops : List Op) (h : s.cell = mkPublished cs0) :
    (Sys.exec strict s ops).1.cell = mkPublished (currentSet cs0 ops) := by
  induction ops generalizing s cs0 with
  | nil => exact h
  | cons op ops ih =>
    cases op with
    | publish cs => exact ih _ cs (step_cell ..)
    | hsLoad t => exact ih _ cs0 ((step_cell ..).trans h)
    | hsAnswer t sv => exact ih _ cs0 ((step_cell ..).trans h)

theorem exec_snap_preserved (strict : Bool) (s : Sys) (t : Nat) (mid : List Op)
    (h : ∀ op ∈ mid, op ≠ .hsLoad t) :
    (Sys.exec strict s mid).1.snaps.lookup t = s.snaps.lookup t := by
  induction mid generalizing s with
  | nil => rfl
  | cons op mid ih =>
    simp only [Sys.exec]
    rw [ih _ (fun o ho => h o (List.mem_cons_of_mem _ ho)), step_snaps]
    cases op with
    | hsLoad t' =>
      have hne : (t == t') = false := beq_false_of_ne fun e => h (.hsLoad t') (by simp) (e ▸ rfl)
      simp only [List.lookup_cons, hne]
    | _ => rfl

theorem exec_snap_of_load (strict : Bool) (s : Sys) (cs0 : CertSet) (pre mid : List Op) (t : Nat)
    (h : s.cell = mkPublished cs0) (hmid : ∀ op ∈ mid, op ≠ .hsLoad t) :
    (Sys.exec strict s (pre ++ .hsLoad t :: mid)).1.snaps.lookup t = some (mkPublished (currentSet cs0 pre)) := by
  rw [exec_append]
  simp only [Sys.exec]
  rw [exec_snap_preserved strict _ t mid hmid, step_snaps, List.lookup_cons_self, exec_cell strict s cs0 pre h]

theorem exec_answers (strict : Bool) (s : Sys) (ops : List Op) :
    ∀ ta ∈ (Sys.exec strict s ops).2, ∃ p server, ta.2 = getCertificateP p server strict ∧
      (p = s.cell ∨ (∃ t, (t, p) ∈ s.snaps) ∨ ∃ cs, Op.publish cs ∈ ops ∧ p = mkPublished cs) := by
  induction ops generalizing s with
  | nil => intro ta hta; cases hta
  | cons op ops ih =>
    intro ta hta
    simp only [Sys.exec, List.mem_append] at hta
    rcases hta with hta | hta
    · rw [step_answers] at hta
      cases op with
      | hsAnswer t sv =>
        rw [Option.mem_toList, Option.map_eq_some_iff] at hta
        obtain ⟨p, hp, rfl⟩ := hta
        exact ⟨p, sv, rfl, .inr (.inl ⟨t, mem_of_lookup hp⟩)⟩
      | _ => cases hta
    · -- answered later: the values the step leaves behind are old ones or the one it published
      obtain ⟨p, sv, e, h⟩ := ih _ ta hta
      refine ⟨p, sv, e, ?_⟩
      rw [step_cell, step_snaps] at h
      rcases h with h | ⟨t, h⟩ | ⟨cs, h, e⟩
      · cases op with
        | publish cs => exact .inr (.inr ⟨cs, by simp, h⟩)
        | _ => exact .inl h
      · cases op with
        | hsLoad t' =>
          rcases List.mem_cons.mp h with e | h
          · exact .inl (Prod.mk.inj e).2
          · exact .inr (.inl ⟨t, h⟩)
        | _ => exact .inr (.inl ⟨t, h⟩)
      · exact .inr (.inr ⟨cs, List.mem_cons_of_mem _ h, e⟩)

theorem currentSet_append (cs0 : CertSet) (a b : List Op) :
    currentSet cs0 (a ++ b) = currentSet (currentSet cs0 a) b := by
  induction a generalizing cs0 with
  | nil => rfl
  | cons p a ih => cases p <;> exact ih _

theorem currentSet_of_no_publish (cs : CertSet) (gap : List Op) (hgap : ∀ op ∈ gap, ∀ x, op ≠ Op.publish x) :
    currentSet cs gap = cs := by
  induction gap with
  | nil => rfl
  | cons g gap ih =>
    cases g with
    | publish x => exact absurd rfl (hgap _ (by simp) x)
    | _ => exact ih fun o ho => hgap o (List.mem_cons_of_mem _ ho)

section watch
variable {M S : Type} [DecidableEq M]

theorem effRefresh_ge (refresh : Int) : second ≤ effRefresh refresh ∧ refresh ≤ effRefresh refresh := by
  unfold effRefresh; split <;> omega

theorem step_good (b : Bool) {mk : M → Option S} (refresh : Int) {st : St M} {m : M} {s : S}
    (hm : mk m = some s) (hne : m ≠ st.last) :
    step b mk refresh st (.blocks m) = (⟨m, once refresh⟩, [.publish m s]) := by
  simp only [step, hne, hm, if_false]

/-- `b = false` is the loop before the repair of D15: on material `loadCertificates` rejects it does nothing at
all, not even sleep. -/
theorem step_cases (b : Bool) (mk : M → Option S) (refresh : Int) (st : St M) (r : LoadResult M) :
    (step b mk refresh st r = (st, [.sleep (effRefresh refresh)]) ∨
      (b = false ∧ badLoad mk r = true ∧ step b mk refresh st r = (st, []))) ∨
    ∃ m s, r = .blocks m ∧ m ≠ st.last ∧ mk m = some s ∧
      step b mk refresh st r = (⟨m, once refresh⟩, [.publish m s]) := by
  cases r with
  | err => exact .inl (.inl rfl)
  | blocks m =>
    by_cases h : m = st.last
    · exact .inl (.inl (by simp only [step, h, if_true]))
    · cases hm : mk m with
      | none =>
        cases b
        · exact .inl (.inr ⟨rfl, by simp only [badLoad, hm, Option.isNone_none], by simp [step, h, hm]⟩)
        · exact .inl (.inl (by simp [step, h, hm]))
      | some s => exact .inr ⟨m, s, rfl, h, hm, step_good b refresh hm h⟩

theorem applyOuts_sleeps {M : Type} (cell : Published) (os : List (Out M CertSet))
    (h : ∀ o ∈ os, ∃ d, o = .sleep d) : applyOuts cell os = cell := by
  induction os with
  | nil => rfl
  | cons o os ih =>
    obtain ⟨d, rfl⟩ := h o (by simp)
    exact ih (fun o ho => h o (List.mem_cons_of_mem _ ho))

omit [DecidableEq M] in
theorem outsOf_append (a b : List (Ev M S)) : outsOf (a ++ b) = outsOf a ++ outsOf b := by
  induction a with
  | nil => rfl
  | cons e a ih => cases e <;> simp [outsOf, ih]

omit [DecidableEq M] in
theorem outsOf_map_out (os : List (Out M S)) : outsOf (os.map Ev.out) = os := by
  induction os with
  | nil => rfl
  | cons o os ih => simp [outsOf, ih]

omit [DecidableEq M] in
theorem publications_eq (es : List (Ev M S)) :
    publications es = (outsOf es).filterMap fun | .publish _ s => some s | .sleep _ => none := by
  induction es with
  | nil => rfl
  | cons e es ih =>
    match e with
    | .load => exact ih
    | .out (.sleep _) => exact ih
    | .out (.publish _ s) => simp [publications, outsOf, ih]

theorem outsOf_trace_cons (b : Bool) (mk : M → Option S) (refresh : Int) (st : St M) (r : LoadResult M)
    (rs : List (LoadResult M)) :
    outsOf (trace b mk refresh st (r :: rs)) =
      if st.returned then [] else
        (step b mk refresh st r).2 ++ outsOf (trace b mk refresh (step b mk refresh st r).1 rs) := by
  rw [trace]
  split
  · rfl
  · rw [outsOf, outsOf_append, outsOf_map_out]

theorem bad_step_publishes_nothing (b : Bool) (mk : M → Option S) (refresh : Int) (st : St M) (r : LoadResult M)
    (hbad : badLoad mk r = true) :
    (step b mk refresh st r).1 = st ∧ ∀ o ∈ (step b mk refresh st r).2, ∃ d, o = .sleep d := by
  rcases step_cases b mk refresh st r with (e | ⟨_, _, e⟩) | ⟨m, s, rfl, _, hm, _⟩
  · rw [e]; exact ⟨rfl, by simp⟩
  · rw [e]; exact ⟨rfl, by simp⟩
  · simp [badLoad, hm] at hbad

theorem bad_script (b : Bool) (mk : M → Option S) (refresh : Int) (st : St M) (script : List (LoadResult M))
    (hbad : ∀ r ∈ script, badLoad mk r = true) :
    runSt b mk refresh st script = st ∧
    (∀ o ∈ outsOf (trace b mk refresh st script), ∃ d, o = .sleep d) ∧
    publications (trace b mk refresh st script) = [] := by
  -- a trace that emits only sleeps publishes nothing
  refine And.imp_right (fun h => ⟨h, ?_⟩) ?_
  · rw [publications_eq, List.filterMap_eq_nil_iff]
    intro o ho
    obtain ⟨d, rfl⟩ := h o ho
    rfl
  induction script with
  | nil => exact ⟨rfl, by simp [trace, outsOf]⟩
  | cons r rs ih =>
    obtain ⟨hst, hout⟩ := bad_step_publishes_nothing b mk refresh st r (hbad r (by simp))
    obtain ⟨ih1, ih2⟩ := ih (fun r hr => hbad r (List.mem_cons_of_mem _ hr))
    rw [outsOf_trace_cons, runSt, hst]
    split
    · exact ⟨rfl, by simp⟩
    · exact ⟨ih1, fun o ho => (List.mem_append.mp ho).elim (hout o) (ih2 o)⟩

theorem noSpin_split (floor : Int) (prev : M) (armed : Bool) (pre rest : List (Ev M S))
    (h : noSpin floor prev armed (pre ++ rest) = true) :
    ∃ armed', noSpin floor (lastPubM prev pre) armed' rest = true := by
  induction pre generalizing prev armed with
  | nil => exact ⟨armed, h⟩
  | cons e pre ih =>
    match e with
    | .load => exact ih prev true (Bool.and_eq_true_iff.mp h).2
    | .out (.sleep d) => exact ih prev _ h
    | .out (.publish m s) => exact ih m _ h

theorem noSpin_gap (floor : Int) (prev : M) (mid post : List (Ev M S))
    (hmid : ∀ e ∈ mid, e ≠ Ev.load)
    (h : noSpin floor prev true (mid ++ Ev.load :: post) = true) :
    (∃ d, Ev.out (Out.sleep d) ∈ mid ∧ floor ≤ d) ∨
    (∃ m s a b, mid = a ++ Ev.out (Out.publish m s) :: b ∧ m ≠ lastPubM prev a) := by
  induction mid generalizing prev with
  | nil => simp [noSpin] at h
  | cons e mid ih =>
    have hm : ∀ e ∈ mid, e ≠ Ev.load := fun x hx => hmid x (List.mem_cons_of_mem _ hx)
    match e with
    | .load => exact absurd rfl (hmid _ (by simp))
    | .out (.sleep d) =>
      simp only [List.cons_append, noSpin, Bool.true_and] at h
      by_cases hd : d < floor
      · -- too short: the monitor stays armed
        rcases ih prev hm (by simpa [hd] using h) with ⟨d', hd', hf⟩ | ⟨m, s, a, b, rfl, hne⟩
        · exact .inl ⟨d', List.mem_cons_of_mem _ hd', hf⟩
        · exact .inr ⟨m, s, _ :: a, b, rfl, hne⟩
      · exact .inl ⟨d, by simp, by omega⟩
    | .out (.publish m s) =>
      simp only [List.cons_append, noSpin, Bool.true_and] at h
      by_cases hp : m = prev
      · -- the same material again: the monitor stays armed
        rcases ih m hm (by simpa [hp] using h) with ⟨d', hd', hf⟩ | ⟨m', s', a, b, rfl, hne⟩
        · exact .inl ⟨d', List.mem_cons_of_mem _ hd', hf⟩
        · exact .inr ⟨m', s', _ :: a, b, rfl, hne⟩
      · exact .inr ⟨m, s, [], mid, rfl, hp⟩

end watch

theorem lexLe_iff_le (a b : Name) : lexLe a b = true ↔ a ≤ b := by
  induction a generalizing b with
  | nil => simp [lexLe]
  | cons x xs ih =>
    cases b with
    | nil => simp [lexLe]
    | cons y ys =>
      simp only [lexLe, Bool.or_eq_true, Bool.and_eq_true, decide_eq_true_eq, beq_iff_eq]
      rw [List.cons_le_cons_iff, ih, Char.toNat_inj, Char.lt_def, UInt32.lt_iff_toNat_lt]
      rfl

theorem lexLe_total (a b : Name) : (lexLe a b || lexLe b a) = true := by
  simpa only [Bool.or_eq_true, lexLe_iff_le] using List.le_total a b

theorem lexLe_trans (a b c : Name) (h1 : lexLe a b = true) (h2 : lexLe b c = true) : lexLe a c = true :=
  (lexLe_iff_le a c).mpr (List.le_trans ((lexLe_iff_le a b).mp h1) ((lexLe_iff_le b c).mp h2))

theorem lexLe_antisymm (a b : Name) (h1 : lexLe a b = true) (h2 : lexLe b a = true) : a = b :=
  List.le_antisymm ((lexLe_iff_le a b).mp h1) ((lexLe_iff_le b a).mp h2)

theorem loadCertificates_eq_some {blocks : Blocks} {order : List Name} {l : List (Name × Nat)} :
    loadCertificates blocks order = some l ↔
      (order.foldl (loadOne blocks) ⟨[], false⟩).failed = false ∧
      isort (fun a b => lexLe a.1 b.1) (order.foldl (loadOne blocks) ⟨[], false⟩).done = l := by
  simp only [loadCertificates]
  split <;> simp [*]

theorem loadCertificates_eq_none {blocks : Blocks} {order : List Name} :
    loadCertificates blocks order = none ↔ (order.foldl (loadOne blocks) ⟨[], false⟩).failed = true := by
  simp only [loadCertificates]
  split <;> simp [*]

end Fabio.Lemmas.C11
