import Fabio.Model.C10Std
import Fabio.Lemmas.C10
/-!
C10 — fabio's index/slice parser (`Model/C10.lean`) against the vector reader (`Model/C10Std.lean`). The readers are
characterised against their printers (`Reads`), and from that `frame` against `reassemble`, on complete messages and on their
strict prefixes. Stage by stage fabio's parser is the reader followed by the lenient view (`Factors`), so what is shown of
`frame` — no panic, encoded hellos (`encode h` is `reassemble (rawHello h)`), truncation — carries over to `unmarshal`.
Core Lean only.
-/
namespace Fabio.Lemmas.C10
open Fabio Fabio.Model.C10

theorem rdBytes_some {n : Nat} {d : Bytes} (h : n ≤ d.length) : rdBytes n d = some (d.take n, d.drop n) := by
  unfold rdBytes; rw [if_pos h]

theorem rdBytes_none {n : Nat} {d : Bytes} (h : ¬ n ≤ d.length) : rdBytes n d = none := by
  unfold rdBytes; rw [if_neg h]

theorem rdVec16_cons (a b : UInt8) (t : Bytes) : rdVec16 (a :: b :: t) = rdBytes (be16 a b) t := by
  rw [be16_eq]; rfl

theorem rdVec8_cons (a : UInt8) (t : Bytes) : rdVec8 (a :: t) = rdBytes a.toNat t := rfl

theorem hostName_eq_find (ns : List (UInt8 × Bytes)) :
    hostName ns = (ns.find? (fun e => e.1 == 0)).map (·.2) := by
  induction ns with
  | nil => rfl
  | cons e es ih =>
    by_cases h0 : e.1 = 0
    · rw [hostName, if_pos h0, List.find?_cons_of_pos (by simpa using h0)]; rfl
    · rw [hostName, if_neg h0, List.find?_cons_of_neg (by simpa using h0), ih]

theorem nameLoop_split : ∀ (fuel : Nat) (d : Bytes) (entries : List (UInt8 × Bytes)),
    splitNames fuel d = some entries → nameLoop fuel d = .ok (hostName entries)
  | 0, _, _, h => by simp [splitNames] at h
  | fuel+1, [], entries, h => by
    simp only [splitNames, Option.some.injEq] at h
    subst h; rfl
  | fuel+1, [_], _, h => by simp [splitNames, rdVec16] at h
  | fuel+1, [_, _], _, h => by simp [splitNames, rdVec16] at h
  | fuel+1, ty :: a :: b :: t, entries, h => by
    rw [splitNames, rdVec16_cons] at h
    rw [nameLoop_cons]
    by_cases hl : be16 a b ≤ t.length
    · rw [rdBytes_some hl] at h
      obtain ⟨es, hs, rfl⟩ := Option.map_eq_some_iff.mp h
      rw [if_neg (by omega)]
      by_cases hty : ty = nameTypeHost
      · rw [if_pos hty, hostName, if_pos hty]
      · rw [if_neg hty, nameLoop_split fuel _ es hs, hostName, if_neg hty]
    · rw [rdBytes_none hl] at h; cases h

theorem frameExts_cons (a b : UInt8) (t : Bytes) :
    frameExts (a :: b :: t) =
      if be16 a b = t.length then (splitExts (t.length + 1) t).map some else none := by
  unfold frameExts
  rw [if_neg (by simp), rdVec16_cons]
  by_cases hl : be16 a b ≤ t.length
  · rw [rdBytes_some hl]
    simp only [List.length_drop, List.length_take]
    by_cases he : be16 a b = t.length
    · rw [if_pos he, he, if_neg (by omega), List.take_length, Nat.min_self]
    · rw [if_neg he, if_pos (by omega)]
  · rw [rdBytes_none hl, if_neg (by omega)]

theorem frameCompression_cons (c : UInt8) (t : Bytes) :
    frameCompression (c :: t) =
      if t.length < c.toNat then none else (frameExts (t.drop c.toNat)).map (fun o => (t.take c.toNat, o)) := by
  unfold frameCompression
  rw [rdVec8_cons]
  by_cases hl : c.toNat ≤ t.length
  · rw [rdBytes_some hl, if_neg (by omega)]
  · rw [rdBytes_none hl, if_pos (by omega)]

theorem frameCiphers_cons (a b : UInt8) (t : Bytes) :
    frameCiphers (a :: b :: t) =
      if be16 a b % 2 = 1 ∨ t.length < be16 a b then none
      else (frameCompression (t.drop (be16 a b))).map (fun p => (t.take (be16 a b), p)) := by
  unfold frameCiphers
  rw [rdVec16_cons]
  by_cases hl : be16 a b ≤ t.length
  · rw [rdBytes_some hl]
    simp only [List.length_take, Nat.min_eq_left hl]
    by_cases ho : be16 a b % 2 = 1
    · rw [if_pos ho, if_pos (Or.inl ho)]
    · rw [if_neg ho, if_neg (by omega)]
  · rw [rdBytes_none hl, if_pos (by omega)]

theorem frame_eq (b : Bytes) (h : 39 ≤ b.length) :
    frame b =
      if b.length < 39 + (b[38]'(by omega)).toNat then none
      else (frameCiphers (b.drop (39 + (b[38]'(by omega)).toNat))).map (fun p =>
        { fixed := b.take 38, sessionId := (b.drop 39).take (b[38]'(by omega)).toNat, cipherSuites := p.1,
          compressionMethods := p.2.1, extensions := p.2.2 }) := by
  unfold frame
  rw [rdBytes_some (by omega)]
  simp only
  rw [List.drop_eq_getElem_cons (by omega), rdVec8_cons]
  by_cases hl : (b[38]'(by omega)).toNat ≤ (b.drop 39).length
  · rw [rdBytes_some hl]
    simp only [List.length_drop] at hl
    rw [if_neg (by omega)]
    simp only [List.drop_drop]
  · rw [rdBytes_none hl]
    simp only [List.length_drop] at hl
    rw [if_pos (by omega)]

def encRawExts : List (Nat × Bytes) → Bytes
  | [] => []
  | e :: es => enc16 e.1 ++ (enc16 e.2.length ++ e.2) ++ encRawExts es

def reassemble (rh : RawHello) : Bytes :=
  rh.fixed ++ ((UInt8.ofNat rh.sessionId.length :: rh.sessionId) ++
    ((enc16 rh.cipherSuites.length ++ rh.cipherSuites) ++
      ((UInt8.ofNat rh.compressionMethods.length :: rh.compressionMethods) ++
        (match rh.extensions with
         | none => []
         | some es => enc16 (encRawExts es).length ++ encRawExts es))))

theorem enc16_be (a b : UInt8) : enc16 (a.toNat * 256 + b.toNat) = [a, b] := by
  have ha := a.toNat_lt
  have hb := b.toNat_lt
  have h1 : (a.toNat * 256 + b.toNat) / 256 = a.toNat := by omega
  have h2 : (a.toNat * 256 + b.toNat) % 256 = b.toNat := by omega
  simp [enc16, h1, h2]

theorem rdBytes_eq {n : Nat} {d x r : Bytes} (h : rdBytes n d = some (x, r)) : x ++ r = d ∧ x.length = n := by
  unfold rdBytes at h
  split at h
  · rename_i hl
    simp only [Option.some.injEq, Prod.mk.injEq] at h
    obtain ⟨h1, h2⟩ := h
    subst h1 h2
    exact ⟨List.take_append_drop n d, by rw [List.length_take]; omega⟩
  · cases h

def encRawBlock : Option (List (Nat × Bytes)) → Bytes
  | none => []
  | some es => enc16 (encRawExts es).length ++ encRawExts es

theorem reassemble_eq (rh : RawHello) :
    reassemble rh = rh.fixed ++ ((UInt8.ofNat rh.sessionId.length :: rh.sessionId) ++
      ((enc16 rh.cipherSuites.length ++ rh.cipherSuites) ++
        ((UInt8.ofNat rh.compressionMethods.length :: rh.compressionMethods) ++ encRawBlock rh.extensions))) := by
  unfold reassemble encRawBlock
  cases rh.extensions <;> rfl

/-- `rd` reads exactly `p` and returns `x`: whatever follows `p` is handed back untouched, and no proper prefix of `p`
is accepted. -/
structure Reads {α : Type} (rd : Bytes → Option (α × Bytes)) (p : Bytes) (x : α) : Prop where
  ok : ∀ r, rd (p ++ r) = some (x, r)
  short : ∀ k, k < p.length → rd (p.take k) = none

theorem Reads.take {α : Type} {rd : Bytes → Option (α × Bytes)} {p : Bytes} {x : α} (h : Reads rd p x)
    (r : Bytes) (k : Nat) :
    rd ((p ++ r).take k) = if k < p.length then none else some (x, r.take (k - p.length)) := by
  split
  · next hk => rw [List.take_append_of_le_length (by omega)]; exact h.short k hk
  · next hk => rw [List.take_append, List.take_of_length_le (by omega)]; exact h.ok _

theorem reads_bytes (x : Bytes) : Reads (rdBytes x.length) x x where
  ok r := by rw [rdBytes_some (by simp), List.take_left' rfl, List.drop_left' rfl]
  short k hk := rdBytes_none (by rw [List.length_take]; omega)

theorem reads_vec8 {x : Bytes} (hx : x.length < 256) : Reads rdVec8 (UInt8.ofNat x.length :: x) x where
  ok r := by rw [List.cons_append, rdVec8_cons, UInt8.toNat_ofNat_of_lt' hx]; exact (reads_bytes x).ok r
  short
    | 0, _ => rfl
    | k+1, hk => by
      rw [List.take_succ_cons, rdVec8_cons, UInt8.toNat_ofNat_of_lt' hx]
      exact (reads_bytes x).short k (by simpa using hk)

theorem reads_vec16 {x : Bytes} (hx : x.length < 65536) : Reads rdVec16 (enc16 x.length ++ x) x where
  ok r := by
    show rdVec16 (_ :: _ :: (x ++ r)) = _
    rw [rdVec16_cons, be16_enc16 _ hx]; exact (reads_bytes x).ok r
  short
    | 0, _ => rfl
    | 1, _ => rfl
    | k+2, hk => by
      show rdVec16 (_ :: _ :: x.take k) = _
      rw [rdVec16_cons, be16_enc16 _ hx]
      exact (reads_bytes x).short k (by simpa [enc16] using hk)

/-! Conversely whatever a reader accepts is its printer's output, so each is characterised by an equivalence. -/

theorem rdVec8_iff {d x r : Bytes} :
    rdVec8 d = some (x, r) ↔ (UInt8.ofNat x.length :: x) ++ r = d ∧ x.length < 256 := by
  refine ⟨fun h => ?_, fun ⟨hd, hx⟩ => hd ▸ (reads_vec8 hx).ok r⟩
  match d, h with
  | a :: t, h =>
    obtain ⟨h1, h2⟩ := rdBytes_eq h
    rw [h2, List.cons_append, h1]
    exact ⟨by simp, a.toNat_lt⟩

theorem rdVec16_iff {d x r : Bytes} :
    rdVec16 d = some (x, r) ↔ enc16 x.length ++ x ++ r = d ∧ x.length < 65536 := by
  refine ⟨fun h => ?_, fun ⟨hd, hx⟩ => hd ▸ List.append_assoc .. ▸ (reads_vec16 hx).ok r⟩
  match d, h with
  | a :: b :: t, h =>
    rw [rdVec16_cons] at h
    obtain ⟨h1, h2⟩ := rdBytes_eq h
    rw [h2, be16_eq, enc16_be, List.append_assoc, h1, ← be16_eq]
    exact ⟨rfl, be16_lt a b⟩

theorem splitExts_eq : ∀ (fuel : Nat) (d : Bytes) (es : List (Nat × Bytes)), splitExts fuel d = some es →
    encRawExts es = d ∧ ∀ e ∈ es, e.1 < 65536 ∧ e.2.length < 65536
  | 0, _, _, h => by simp [splitExts] at h
  | fuel+1, [], es, h => by
    simp only [splitExts, Option.some.injEq] at h
    subst h; exact ⟨rfl, fun _ h => nomatch h⟩
  | fuel+1, [_], _, h => by simp [splitExts] at h
  | fuel+1, a :: b :: t, es, h => by
    rw [splitExts] at h
    split at h
    · cases h
    rename_i body rest hv
    obtain ⟨es', hs, rfl⟩ := Option.map_eq_some_iff.mp h
    obtain ⟨he, ht⟩ := splitExts_eq fuel rest es' hs
    obtain ⟨hd, hb⟩ := rdVec16_iff.mp hv
    refine ⟨by rw [encRawExts, enc16_be, he, ← hd]; simp, fun e hm => ?_⟩
    rcases List.mem_cons.mp hm with rfl | hm
    · exact ⟨by rw [← be16_eq]; exact be16_lt a b, hb⟩
    · exact ht e hm

theorem splitExts_raw : ∀ (es : List (Nat × Bytes)), (∀ e ∈ es, e.1 < 65536 ∧ e.2.length < 65536) →
    ∀ fuel, (encRawExts es).length < fuel → splitExts fuel (encRawExts es) = some es
  | _, _, 0, hf => by omega
  | [], _, _+1, _ => rfl
  | e :: es, hok, f+1, hf => by
    have hsh : encRawExts (e :: es) =
        UInt8.ofNat (e.1 / 256) :: UInt8.ofNat (e.1 % 256) :: ((enc16 e.2.length ++ e.2) ++ encRawExts es) := rfl
    obtain ⟨ht, hb⟩ := hok e (List.mem_cons_self ..)
    rw [hsh] at hf ⊢
    simp only [List.length_cons, List.length_append, enc16_length] at hf
    rw [splitExts, (reads_vec16 hb).ok]
    simp only
    rw [splitExts_raw es (fun x hx => hok x (List.mem_cons_of_mem _ hx)) f (by omega)]
    have : (UInt8.ofNat (e.1 / 256)).toNat * 256 + (UInt8.ofNat (e.1 % 256)).toNat = e.1 := by
      rw [← be16_eq, be16_enc16 _ ht]
    simp only [Option.map_some, this]

def ExtsFit : Option (List (Nat × Bytes)) → Prop
  | none => True
  | some es => (encRawExts es).length < 65536 ∧ ∀ e ∈ es, e.1 < 65536 ∧ e.2.length < 65536

/-- The parts fit their length prefixes: what `reassemble` writes of them, `frame` reads back. -/
structure RawFits (rh : RawHello) : Prop where
  fixed : rh.fixed.length = 38
  sid : rh.sessionId.length < 256
  ciphers : rh.cipherSuites.length < 65536 ∧ rh.cipherSuites.length % 2 = 0
  comp : rh.compressionMethods.length < 256
  exts : ExtsFit rh.extensions

theorem frameExts_iff {d : Bytes} {o : Option (List (Nat × Bytes))} :
    frameExts d = some o ↔ encRawBlock o = d ∧ ExtsFit o := by
  unfold frameExts
  constructor
  · intro h
    split at h
    · next h0 => cases h; exact ⟨(List.eq_nil_of_length_eq_zero h0).symm, trivial⟩
    split at h
    · cases h
    rename_i ext rest hv
    split at h
    · cases h
    rename_i hr
    obtain ⟨es, hs, rfl⟩ := Option.map_eq_some_iff.mp h
    obtain ⟨hd, hb⟩ := rdVec16_iff.mp hv
    obtain ⟨he, ht⟩ := splitExts_eq _ _ _ hs
    rw [List.eq_nil_of_length_eq_zero (Classical.not_not.mp hr), List.append_nil] at hd
    exact ⟨by rw [← hd, encRawBlock, he], by rw [ExtsFit, he]; exact ⟨hb, ht⟩⟩
  · rintro ⟨rfl, hf⟩
    cases o with
    | none => rfl
    | some es =>
      have hr := (reads_vec16 hf.1).ok []
      rw [List.append_nil] at hr
      rw [encRawBlock, if_neg (by simp [enc16]), hr]
      simp only [List.length_nil, ne_eq, not_true_eq_false, if_false]
      rw [splitExts_raw es hf.2 _ (by omega)]
      rfl

theorem frameCompression_iff {d comp : Bytes} {o : Option (List (Nat × Bytes))} :
    frameCompression d = some (comp, o) ↔
      (UInt8.ofNat comp.length :: comp) ++ encRawBlock o = d ∧ comp.length < 256 ∧ ExtsFit o := by
  unfold frameCompression
  constructor
  · intro h
    split at h
    · cases h
    rename_i c d' hv
    obtain ⟨o', ho, he⟩ := Option.map_eq_some_iff.mp h
    cases he
    obtain ⟨hd, hb⟩ := rdVec8_iff.mp hv
    obtain ⟨he, hf⟩ := frameExts_iff.mp ho
    exact ⟨by rw [← hd, he], hb, hf⟩
  · rintro ⟨rfl, hb, hf⟩
    rw [(reads_vec8 hb).ok]
    simp only
    rw [frameExts_iff.mpr ⟨rfl, hf⟩]
    rfl

theorem frameCiphers_iff {d cs comp : Bytes} {o : Option (List (Nat × Bytes))} :
    frameCiphers d = some (cs, comp, o) ↔
      (enc16 cs.length ++ cs) ++ ((UInt8.ofNat comp.length :: comp) ++ encRawBlock o) = d ∧
        (cs.length < 65536 ∧ cs.length % 2 = 0) ∧ comp.length < 256 ∧ ExtsFit o := by
  unfold frameCiphers
  constructor
  · intro h
    split at h
    · cases h
    rename_i c d' hv
    split at h
    · cases h
    rename_i hev
    obtain ⟨p, hp, he⟩ := Option.map_eq_some_iff.mp h
    cases he
    obtain ⟨hd, hb⟩ := rdVec16_iff.mp hv
    obtain ⟨he, hf⟩ := frameCompression_iff.mp hp
    exact ⟨by rw [← hd, he], ⟨hb, by omega⟩, hf⟩
  · rintro ⟨rfl, hb, hf⟩
    rw [(reads_vec16 hb.1).ok]
    simp only
    rw [if_neg (by omega), frameCompression_iff.mpr ⟨rfl, hf⟩]
    rfl

theorem frame_iff {b : Bytes} {rh : RawHello} : frame b = some rh ↔ reassemble rh = b ∧ RawFits rh := by
  rw [reassemble_eq]
  unfold frame
  constructor
  · intro h
    split at h
    · cases h
    rename_i fixed d1 h1
    split at h
    · cases h
    rename_i sid d2 h2
    obtain ⟨⟨cs, comp, o⟩, hp, rfl⟩ := Option.map_eq_some_iff.mp h
    obtain ⟨e1, b1⟩ := rdBytes_eq h1
    obtain ⟨e2, b2⟩ := rdVec8_iff.mp h2
    obtain ⟨e3, b3, b4, b5⟩ := frameCiphers_iff.mp hp
    exact ⟨by rw [← e1, ← e2, ← e3], b1, b2, b3, b4, b5⟩
  · rintro ⟨rfl, hf⟩
    rw [← hf.fixed, (reads_bytes rh.fixed).ok]
    simp only
    rw [(reads_vec8 hf.sid).ok]
    simp only
    rw [frameCiphers_iff.mpr ⟨rfl, hf.ciphers, hf.comp, hf.exts⟩]
    rfl

/-- where the compression methods end -/
def cutOf (rh : RawHello) : Nat :=
  rh.fixed.length + (1 + rh.sessionId.length) + (2 + rh.cipherSuites.length) + (1 + rh.compressionMethods.length)

theorem reassemble_length (rh : RawHello) :
    (reassemble rh).length = cutOf rh + (encRawBlock rh.extensions).length := by
  rw [reassemble_eq]
  simp only [List.length_append, List.length_cons, enc16_length, cutOf]
  omega

theorem frameExts_take (o : Option (List (Nat × Bytes))) (h : ExtsFit o) (k : Nat) (hk : k < (encRawBlock o).length) :
    frameExts ((encRawBlock o).take k) = if k = 0 then some none else none := by
  cases o with
  | none => cases hk
  | some es =>
    cases k with
    | zero => rfl
    | succ k =>
      unfold frameExts
      rw [if_neg (by simp [encRawBlock, enc16]), if_neg (by omega)]
      unfold encRawBlock at hk ⊢
      rw [(reads_vec16 h.1).short _ hk]

/-- A framed message has at most one framed strict prefix: the one that ends behind the compression methods, a
complete message without extension block. Every reader fails inside its own part and steps over it otherwise. -/
theorem frame_take (rh : RawHello) (hf : RawFits rh) (k : Nat) (hk : k < (reassemble rh).length) :
    frame ((reassemble rh).take k) = if k = cutOf rh then some { rh with extensions := none } else none := by
  rw [reassemble_length] at hk
  rw [reassemble_eq]
  unfold frame frameCiphers frameCompression
  unfold cutOf at hk ⊢
  have h38 := hf.fixed
  rw [← h38, (reads_bytes rh.fixed).take]
  by_cases h1 : k < rh.fixed.length
  · rw [if_pos h1, if_neg (by omega)]
  rw [if_neg h1]
  simp only
  rw [(reads_vec8 hf.sid).take, List.length_cons]
  by_cases h2 : k - rh.fixed.length < rh.sessionId.length + 1
  · rw [if_pos h2, if_neg (by omega)]
  rw [if_neg h2]
  simp only
  rw [(reads_vec16 hf.ciphers.1).take, List.length_append, enc16_length]
  by_cases h3 : k - rh.fixed.length - (rh.sessionId.length + 1) < 2 + rh.cipherSuites.length
  · rw [if_pos h3, if_neg (by omega)]; rfl
  rw [if_neg h3]
  simp only
  rw [if_neg (by have := hf.ciphers.2; omega), (reads_vec8 hf.comp).take, List.length_cons]
  by_cases h4 : k - rh.fixed.length - (rh.sessionId.length + 1) - (2 + rh.cipherSuites.length) <
      rh.compressionMethods.length + 1
  · rw [if_pos h4, if_neg (by omega)]; rfl
  rw [if_neg h4]
  simp only
  rw [frameExts_take _ hf.exts _ (by omega)]
  split
  · rw [if_pos (by omega)]; rfl
  · rw [if_neg (by omega)]; rfl

theorem frame_prefix {b : Bytes} {rh : RawHello} (h : frame b = some rh) (k : Nat) (hk : k < b.length) :
    frame (b.take k) = if k = cutOf rh then some { rh with extensions := none } else none := by
  obtain ⟨rfl, hf⟩ := frame_iff.mp h
  exact frame_take rh hf k hk

/-- 38 fixed bytes and the length prefixes of three vectors, 1 + 2 + 1 -/
theorem frame_some_length (b : Bytes) (rh : RawHello) (h : frame b = some rh) : 42 ≤ b.length := by
  obtain ⟨rfl, hf⟩ := frame_iff.mp h
  rw [reassemble_length, cutOf, hf.fixed]
  omega

def Factors {α : Type} (o : Option α) (r : R Bytes) (view : α → R Bytes) : Prop :=
  match o with
  | some x => r = view x
  | none => r.isReject = true

theorem Factors.map {α β : Type} {o : Option α} {r : R Bytes} {f : α → β} {view : β → R Bytes}
    (h : Factors o r (fun x => view (f x))) : Factors (o.map f) r view := by
  cases o <;> exact h

theorem Factors.bind {α : Type} {o : Option α} (x : R Bytes) (hx : x.isPanic = false) {k : Bytes → R Bytes}
    {view : α → Bytes → R Bytes} (h : ∀ c, Factors o (k c) (fun a => view a c)) :
    Factors o (x >>= k) (fun a => x >>= view a) := by
  cases o with
  | some a => exact congrArg (x >>= ·) (funext fun c => h c)
  | none =>
    cases x with
    | ok c => exact h c
    | reject s => rfl
    | panic w => cases hx

theorem extLoop_factors : ∀ (fuel : Nat) (d : Bytes), d.length < fuel → ∀ cur,
    Factors (splitExts fuel d) (extLoop fuel d cur) (fun es => lenientFold es cur)
  | 0, _, hf, _ => by omega
  | _+1, [], _, _ => rfl
  | _+1, [_], _, _ => rfl
  | _+1, [_, _], _, _ => rfl
  | _+1, [_, _, _], _, _ => rfl
  | fuel+1, a :: b :: c :: e :: t, hf, cur => by
    rw [splitExts, rdVec16_cons, extLoop_cons]
    by_cases hl : be16 c e ≤ t.length
    · rw [rdBytes_some hl, if_neg (by omega)]
      apply Factors.map
      simp only [lenientFold, ← be16_eq]
      apply Factors.bind
      · split
        · exact serverNameExt_no_panic _ _
        · rfl
      · intro cur'
        apply extLoop_factors
        simp only [List.length_cons, List.length_drop] at hf ⊢; omega
    · rw [rdBytes_none hl, if_pos (by omega)]; rfl

theorem parseExtensions_factors : ∀ d : Bytes, Factors (frameExts d) (parseExtensions d) viewExts
  | [] => rfl
  | [_] => rfl
  | a :: b :: t => by
    rw [frameExts_cons, parseExtensions_cons]
    by_cases he : be16 a b = t.length
    · rw [if_pos he, if_neg (by omega)]
      exact Factors.map (extLoop_factors _ _ (by omega) [])
    · rw [if_neg he, if_pos he]; rfl

theorem compression_factors : ∀ d : Bytes,
    Factors (frameCompression d) (parseCompression d >>= parseExtensions) (fun p => viewExts p.2)
  | [] => rfl
  | c :: t => by
    rw [frameCompression_cons, parseCompression_cons]
    split
    · rfl
    · rw [ok_bind]; exact Factors.map (parseExtensions_factors _)

theorem ciphers_factors : ∀ d : Bytes,
    Factors (frameCiphers d) (parseCiphers d >>= parseCompression >>= parseExtensions) (fun p => viewExts p.2.2)
  | [] => rfl
  | [_] => rfl
  | a :: b :: t => by
    rw [frameCiphers_cons, parseCiphers_cons]
    split
    · rfl
    · rw [ok_bind]; exact Factors.map (compression_factors _)

theorem unmarshal_factors (b : Bytes) : Factors (frame b) (unmarshal b) fabioView := by
  unfold unmarshal
  by_cases h42 : b.length < 42
  · have hn : frame b = none := by
      cases hf : frame b with
      | none => rfl
      | some rh => exact absurd (frame_some_length b rh hf) (by omega)
    rw [hn, parseHead_short b h42]; rfl
  · rw [frame_eq b (by omega), parseHead_eq b (by omega)]
    by_cases hl : b.length < 39 + (b[38]'(by omega)).toNat
    · rw [if_pos hl, if_pos (Or.inr hl)]; rfl
    · rw [if_neg hl]
      apply Factors.map
      have hsid : ((b.drop 39).take (b[38]'(by omega)).toNat).length = (b[38]'(by omega)).toNat := by
        simp only [List.length_take, List.length_drop]; omega
      unfold fabioView
      simp only [hsid, maxSidLen]
      by_cases h32 : (b[38]'(by omega)).toNat > 32
      · rw [if_pos (Or.inl h32)]
        simp only [if_pos h32]
        cases frameCiphers (b.drop (39 + (b[38]'(by omega)).toNat)) <;> rfl
      · rw [if_neg (by omega), ok_bind]
        simp only [if_neg h32]
        exact ciphers_factors _

theorem unmarshal_frame_some (b : Bytes) (rh : RawHello) (h : frame b = some rh) : unmarshal b = fabioView rh := by
  have := unmarshal_factors b
  rw [h] at this; exact this

theorem unmarshal_frame_none (b : Bytes) (h : frame b = none) : (unmarshal b).isReject = true := by
  have := unmarshal_factors b
  rw [h] at this; exact this

theorem Factors.no_panic {α : Type} {o : Option α} {r : R Bytes} {view : α → R Bytes} (h : Factors o r view)
    (hv : ∀ x, (view x).isPanic = false) : r.isPanic = false := by
  cases o with
  | some x => exact h ▸ hv x
  | none =>
    cases r with
    | panic w => cases h
    | _ => rfl

theorem lenientFold_no_panic : ∀ (es : List (Nat × Bytes)) (cur : Bytes), (lenientFold es cur).isPanic = false
  | [], _ => rfl
  | e :: es, cur => by
    rw [lenientFold]
    refine isPanic_bind _ _ ?_ (lenientFold_no_panic es)
    split
    · exact serverNameExt_no_panic _ _
    · rfl

theorem viewExts_no_panic : ∀ o : Option (List (Nat × Bytes)), (viewExts o).isPanic = false
  | none => rfl
  | some es => lenientFold_no_panic es []

theorem fabioView_no_panic (rh : RawHello) : (fabioView rh).isPanic = false := by
  unfold fabioView
  split
  · rfl
  · exact viewExts_no_panic _

theorem unmarshal_prefix {b : Bytes} {rh : RawHello} (h : frame b = some rh) (k : Nat) (hk : k < b.length) :
    Factors (if k = cutOf rh then some { rh with extensions := none } else none) (unmarshal (b.take k)) fabioView := by
  rw [← frame_prefix h k hk]; exact unmarshal_factors _

theorem fabioView_of_sid {rh : RawHello} (h : rh.sessionId.length ≤ 32) : fabioView rh = viewExts rh.extensions := by
  unfold fabioView; rw [if_neg (by simp only [maxSidLen]; omega)]

theorem fabioView_long {rh : RawHello} (h : 32 < rh.sessionId.length) : fabioView rh = .reject "session-id" := by
  unfold fabioView; rw [if_pos (by simp only [maxSidLen]; omega)]

theorem rdVec16_exact (a b : UInt8) (t list rest : Bytes) (h : rdVec16 (a :: b :: t) = some (list, rest))
    (hr : rest.length = 0) : be16 a b = t.length ∧ list = t := by
  rw [rdVec16_cons] at h
  obtain ⟨h1, h2⟩ := rdBytes_eq h
  rw [List.eq_nil_of_length_eq_zero hr, List.append_nil] at h1
  subst h1
  exact ⟨h2.symm, rfl⟩

/-- Only for `cur = ""`: with a current name and a list without `host_name`, `stdSni` gives `""` and fabio keeps `cur`. -/
theorem serverNameExt_std (body name : Bytes) (h : stdSni body = some name) :
    serverNameExt body [] = .ok name := by
  match body, h with
  | [], h => simp [stdSni, rdVec16] at h
  | [_], h => simp [stdSni, rdVec16] at h
  | a :: b :: t, h =>
    unfold stdSni at h
    split at h
    · cases h
    rename_i list rest hv
    split at h
    · cases h
    rename_i hc
    obtain ⟨hlen, rfl⟩ := rdVec16_exact a b t list rest hv (by omega)
    split at h
    · cases h
    rename_i entries hs
    rw [serverNameExt_cons, if_neg (by omega), nameLoop_split _ _ entries hs, ok_bind, hostName_eq_find]
    -- no empty name, at most one `host_name`: what is left of `stdSni` is the first `host_name` without trailing dot
    split at h
    · cases h
    simp only at h
    split at h
    · cases h
    rw [List.head?_filter] at h
    cases hf : entries.find? (fun e => e.1 == 0) with
    | none => rw [hf] at h; cases h; rfl
    | some e =>
      rw [hf] at h
      simp only at h
      split at h
      · cases h
      · cases h; rfl

theorem lenientFold_no_sni : ∀ (es : List (Nat × Bytes)) (cur : Bytes), (∀ e ∈ es, e.1 ≠ 0) →
    lenientFold es cur = .ok cur
  | [], _, _ => rfl
  | e :: es, cur, h => by
    have h0 : ¬ e.1 = extensionServerName := h e (List.mem_cons_self ..)
    rw [lenientFold, if_neg h0, ok_bind]
    exact lenientFold_no_sni es cur (fun x hx => h x (List.mem_cons_of_mem _ hx))

theorem lenientFold_unique : ∀ (es : List (Nat × Bytes)) (cur : Bytes), (es.map (·.1)).Nodup →
    lenientFold es cur =
      match es.find? (fun e => e.1 == 0) with
      | none => .ok cur
      | some e => serverNameExt e.2 cur
  | [], _, _ => rfl
  | e :: es, cur, hn => by
    rw [List.map_cons, List.nodup_cons] at hn
    by_cases h0 : e.1 = 0
    · -- no other extension has type 0: the rest of the fold leaves the name alone
      have hno : ∀ x ∈ es, x.1 ≠ 0 := fun x hx hx0 => hn.1 (by rw [h0, ← hx0]; exact List.mem_map_of_mem hx)
      have hk : (fun cur' => lenientFold es cur') = fun c => R.ok c :=
        funext fun c => lenientFold_no_sni es c hno
      rw [List.find?_cons_of_pos (by simpa using h0), lenientFold, if_pos h0, hk, bind_ok_right]
    · rw [List.find?_cons_of_neg (by simpa using h0), lenientFold, if_neg h0, ok_bind]
      exact lenientFold_unique es cur hn.2

theorem stdName_view (m : Nat) (rh : RawHello) (name : Bytes) (h : stdName m rh = some name) :
    viewExts rh.extensions = .ok name := by
  unfold stdName at h
  split at h
  · cases h
  · cases he : rh.extensions with
    | none => rw [he] at h; simp only [Option.some.injEq] at h; subst h; rfl
    | some es =>
      rw [he] at h
      simp only at h
      split at h
      · cases h
      · rename_i hnd
        have hnd' : (es.map (·.1)).Nodup := Classical.not_not.mp hnd
        unfold viewExts
        simp only
        rw [lenientFold_unique es [] hnd']
        cases hf : es.find? (fun e => e.1 == 0) with
        | none => rw [hf] at h; simp only [Option.some.injEq] at h; subst h; rfl
        | some e => rw [hf] at h; exact serverNameExt_std _ _ h

theorem stdServerName_of_frame {m : Nat} {b : Bytes} {rh : RawHello} (hf : frame b = some rh) :
    stdServerName m b = stdName m rh := by
  unfold stdServerName; rw [hf]

theorem stdServerName_some {m : Nat} {b name : Bytes} (h : stdServerName m b = some name) :
    ∃ rh, frame b = some rh ∧ stdName m rh = some name := by
  unfold stdServerName at h
  cases hf : frame b with
  | none => rw [hf] at h; cases h
  | some rh => rw [hf] at h; exact ⟨rh, rfl, h⟩

theorem std_agree_of_sid (m : Nat) (b name : Bytes) (rh : RawHello) (hf : frame b = some rh)
    (hs : stdName m rh = some name) (h32 : rh.sessionId.length ≤ 32) : unmarshal b = .ok name := by
  rw [unmarshal_frame_some b rh hf, fabioView_of_sid h32]
  exact stdName_view m rh name hs

theorem stdName_sid (m : Nat) (rh : RawHello) (name : Bytes) (h : stdName m rh = some name) :
    rh.sessionId.length ≤ m := by
  unfold stdName at h
  split at h
  · cases h
  · omega

/-- The message a standard server takes from the first record is what `ServeTCP` cuts out of the stream: the size function
accepts the same header and announces the message's length (+ 9), and the message is `data[5:]`. An empty message body
is the one thing `firstMessage` lets through and the size function refuses. -/
theorem firstMessage_size (s msg : Bytes) (hm : firstMessage maxRecordLen s = some msg) (h4 : 4 < msg.length) :
    ∃ n, clientHelloBufferSize (s.take 9) = .ok n ∧ n ≤ s.length ∧ msg = (s.take n).drop 5 := by
  match s, hm with
  | ty :: v1 :: v2 :: r1 :: r0 :: mt :: a :: b :: c :: t, hm =>
    unfold firstMessage at hm
    simp only [← be16_eq, ← be24_eq, maxRecordLen] at hm
    split at hm
    · cases hm
    rename_i hc
    cases hm
    simp only [List.length_cons, List.length_take] at h4
    simp only [not_or] at hc
    obtain ⟨c1, c2, c3, c4, c5, c6⟩ := hc
    obtain rfl : ty = 0x16 := Classical.not_not.mp c1
    obtain rfl : mt = 0x01 := Classical.not_not.mp c5
    refine ⟨be24 a b c + 9, ?_, by simp only [List.length_cons]; omega, ?_⟩
    · simp only [List.take_succ_cons, List.take_zero]
      rw [bufsize_cons, headerSize_of ⟨by omega, by omega⟩ ⟨by omega, by omega⟩]
    · simp only [List.take_succ_cons, List.drop_succ_cons, List.drop_zero]

theorem sniRoute_of_message (m : Nat) (s msg name : Bytes) (rh : RawHello)
    (hm : firstMessage maxRecordLen s = some msg) (hf : frame msg = some rh) (h : stdName m rh = some name)
    (hsid : rh.sessionId.length ≤ 32) : sniRoute s = .ok name := by
  obtain ⟨n, hn, hle, rfl⟩ := firstMessage_size s msg hm (by have := frame_some_length _ _ hf; omega)
  rw [sniRoute_of_size s n hn hle]
  exact std_agree_of_sid m _ name rh hf h hsid

def rawExts (es : List Ext) : List (Nat × Bytes) := es.map (fun e => (e.typ, e.body))

def rawHello (h : Hello) : RawHello where
  fixed := 1 :: (enc24 (encBody h).length ++ ([h.versHi, h.versLo] ++ h.random))
  sessionId := h.sessionId
  cipherSuites := encCiphers h.cipherSuites
  compressionMethods := h.compressionMethods
  extensions := h.extensions.map rawExts

theorem encRawExts_raw (es : List Ext) : encRawExts (rawExts es) = encExts es := by
  induction es with
  | nil => rfl
  | cons e es ih => simp only [rawExts, List.map_cons, encRawExts, encExts, encExt, List.append_assoc] at ih ⊢; rw [ih]

theorem reassemble_rawHello (h : Hello) : reassemble (rawHello h) = encode h := by
  rw [reassemble_eq]
  cases he : h.extensions <;>
    simp [rawHello, he, encRawBlock, encRawExts_raw, encode, encBody, encHeadBody, encCipherBlock, encCompressionBlock,
      encExtBlock]

theorem rawHello_fits (h : Hello) (hw : WellFormed h) : RawFits (rawHello h) where
  fixed := by simp [rawHello, enc24, hw.random]
  sid := Nat.lt_of_le_of_lt hw.sessionId (by decide)
  ciphers := by
    show (encCiphers _).length < _ ∧ (encCiphers _).length % 2 = 0
    rw [encCiphers_length]; have := hw.ciphers; omega
  comp := hw.compression
  exts := by
    have hx := hw.exts
    show ExtsFit (h.extensions.map rawExts)
    cases hext : h.extensions with
    | none => trivial
    | some es =>
      rw [hext] at hx
      refine ⟨by rw [encRawExts_raw]; exact hx.2.2, fun e he => ?_⟩
      obtain ⟨x, hx', rfl⟩ := List.mem_map.mp he
      exact ⟨extOk_typ_lt (hx.1 x hx'), extOk_body_lt (hx.1 x hx')⟩

theorem frame_encode (h : Hello) (hw : WellFormed h) : frame (encode h) = some (rawHello h) :=
  frame_iff.mpr ⟨reassemble_rawHello h, rawHello_fits h hw⟩

theorem cutOf_rawHello (h : Hello) : cutOf (rawHello h) = cutAfterCompression h := by
  simp [cutOf, rawHello, cutAfterCompression, encHeadBody, encCipherBlock, encCompressionBlock, enc24, enc16]
  omega

theorem cut_lt (h : Hello) (es : List Ext) (he : h.extensions = some es) :
    cutAfterCompression h < (encode h).length := by
  have := reassemble_length (rawHello h)
  rw [reassemble_rawHello, cutOf_rawHello] at this
  simp only [rawHello, he, Option.map_some, encRawBlock, List.length_append, enc16_length] at this
  omega

theorem splitNames_enc : ∀ (entries : List (UInt8 × Bytes)), (∀ e ∈ entries, e.2.length < 65536) →
    ∀ fuel, (encNameList entries).length < fuel → splitNames fuel (encNameList entries) = some entries
  | _, _, 0, hf => by omega
  | [], _, _+1, _ => rfl
  | e :: es, hok, f+1, hf => by
    have hlen : e.2.length < 65536 := hok e (List.mem_cons_self ..)
    have hshape : encNameList (e :: es) =
        e.1 :: UInt8.ofNat (e.2.length / 256) :: UInt8.ofNat (e.2.length % 256) :: (e.2 ++ encNameList es) := by
      simp [encNameList, encNameEntry, enc16]
    rw [hshape] at hf ⊢
    rw [splitNames, rdVec16_cons, be16_enc16 _ hlen, rdBytes_some (by simp)]
    simp only [List.take_left' rfl, List.drop_left' rfl]
    rw [splitNames_enc es (fun x hx => hok x (List.mem_cons_of_mem _ hx)) f (by
      simp only [List.length_cons, List.length_append] at hf; omega)]
    rfl

theorem splitExts_enc (es : List Ext) (hok : ∀ e ∈ es, ExtOk e) (fuel : Nat)
    (hf : (encExts es).length < fuel) : splitExts fuel (encExts es) = some (rawExts es) := by
  rw [← encRawExts_raw] at hf ⊢
  refine splitExts_raw _ (fun e he => ?_) fuel hf
  obtain ⟨x, hx, rfl⟩ := List.mem_map.mp he
  exact ⟨extOk_typ_lt (hok x hx), extOk_body_lt (hok x hx)⟩

theorem nameLoop_enc (entries : List (UInt8 × Bytes)) (hok : ∀ e ∈ entries, e.2.length < 65536) :
    ∀ fuel, (encNameList entries).length < fuel → nameLoop fuel (encNameList entries) = .ok (hostName entries) :=
  fun fuel hf => nameLoop_split fuel _ entries (splitNames_enc entries hok fuel hf)

theorem serverNameExt_enc (entries : List (UInt8 × Bytes)) (cur : Bytes) (hok : ExtOk (.serverName entries)) :
    serverNameExt (Ext.body (.serverName entries)) cur = .ok ((hostName entries).getD cur) := by
  have hlen : (encNameList entries).length < 65536 := by have := hok.2.2.2; omega
  rw [sniBody_shape, serverNameExt_cons, be16_enc16 _ hlen]
  simp only [ne_eq, not_true_eq_false, if_false]
  rw [nameLoop_enc entries (fun x hx => (hok.2.1 x hx).2.1) _ (by omega)]
  rfl

theorem lenientFold_raw (es : List Ext) (hok : ∀ e ∈ es, ExtOk e) :
    ∀ cur, lenientFold (rawExts es) cur = .ok (sniFold es cur) := by
  induction es with
  | nil => intro cur; rfl
  | cons e es ih =>
    intro cur
    have he : ExtOk e := hok e (List.mem_cons_self ..)
    have hes : ∀ x ∈ es, ExtOk x := fun x hx => hok x (List.mem_cons_of_mem _ hx)
    cases e with
    | serverName entries =>
      show (serverNameExt (Ext.body (.serverName entries)) cur >>= fun cur' => lenientFold (rawExts es) cur') = _
      rw [serverNameExt_enc entries cur he, ok_bind]
      exact ih hes _
    | other t b =>
      have ht : ¬ t = extensionServerName := he.1
      show ((if t = extensionServerName then serverNameExt b cur else .ok cur) >>=
        fun cur' => lenientFold (rawExts es) cur') = _
      rw [if_neg ht, ok_bind]
      exact ih hes _

theorem rawExts_types (es : List Ext) : (rawExts es).map (·.1) = es.map Ext.typ := by
  simp [rawExts]

theorem find_rawExts (es : List Ext) :
    (rawExts es).find? (fun e => e.1 == 0) = (es.find? (fun e => e.typ == 0)).map (fun e => (e.typ, e.body)) := by
  unfold rawExts
  rw [List.find?_map]
  rfl

/-- With pairwise distinct extension types "the last `server_name` extension with a host name wins" is "the
`server_name` extension". `sniFold` is `lenientFold` on the parts (`lenientFold_raw`), so `lenientFold_unique` carries over. -/
theorem sniFold_unique (es : List Ext) (cur : Bytes) (hok : ∀ e ∈ es, ExtOk e) (hn : (es.map Ext.typ).Nodup) :
    sniFold es cur =
      match es.find? (fun e => e.typ == 0) with
      | some (.serverName ns) => (hostName ns).getD cur
      | _ => cur := by
  have h := (lenientFold_raw es hok cur).symm.trans
    (lenientFold_unique (rawExts es) cur (by rw [rawExts_types]; exact hn))
  rw [find_rawExts] at h
  cases hf : es.find? (fun e => e.typ == 0) with
  | none => rw [hf] at h; exact R.ok.inj h
  | some e =>
    rw [hf] at h
    have he := hok e (List.mem_of_find?_eq_some hf)
    cases e with
    | serverName ns =>
      simp only [Option.map_some] at h
      rw [serverNameExt_enc ns cur he] at h
      exact R.ok.inj h
    | other t b => exact absurd (by simpa [Ext.typ] using List.find?_some hf) he.1

theorem extLoop_enc (es : List Ext) (hok : ∀ e ∈ es, ExtOk e) :
    ∀ fuel cur, (encExts es).length < fuel → extLoop fuel (encExts es) cur = .ok (sniFold es cur) := by
  intro fuel cur hf
  have h := extLoop_factors fuel (encExts es) hf cur
  rw [splitExts_enc es hok fuel hf] at h
  exact h.trans (lenientFold_raw es hok cur)

theorem unmarshal_encode (h : Hello) (hw : WellFormed h) : unmarshal (encode h) = .ok (sniOf h) := by
  rw [unmarshal_frame_some _ _ (frame_encode h hw), fabioView_of_sid hw.sessionId]
  have hx := hw.exts
  show viewExts (h.extensions.map rawExts) = _
  unfold sniOf
  cases hext : h.extensions with
  | none => rfl
  | some es =>
    rw [hext] at hx
    exact (lenientFold_raw es hx.1 []).trans (congrArg _ (sniFold_unique es [] hx.1 hx.2.1))

theorem filter_nodup_le_one (ns : List (UInt8 × Bytes)) (hn : (ns.map (·.1)).Nodup) :
    (ns.filter (fun e => e.1 == 0)).length ≤ 1 := by
  have := List.nodup_iff_count.mp hn 0
  rwa [List.count_eq_countP, List.countP_map, List.countP_eq_length_filter] at this

theorem encNameList_pos (ns : List (UInt8 × Bytes)) (h : ns ≠ []) : 0 < (encNameList ns).length := by
  cases ns with
  | nil => exact absurd rfl h
  | cons e es => simp [encNameList, encNameEntry]

theorem stdSni_enc (ns : List (UInt8 × Bytes)) (hok : ExtOk (.serverName ns)) :
    stdSni (Ext.body (.serverName ns)) = some ((hostName ns).getD []) := by
  obtain ⟨hne, hent, hnd, hlen⟩ := hok
  have hl : (encNameList ns).length < 65536 := by omega
  have hpos := encNameList_pos ns hne
  unfold stdSni
  rw [sniBody_shape, rdVec16_cons, be16_enc16 _ hl, rdBytes_some (Nat.le_refl _), List.take_length, List.drop_length]
  simp only [List.length_nil]
  rw [if_neg (by omega), splitNames_enc ns (fun e he => (hent e he).2.1) _ (by omega)]
  simp only
  have hany : ns.any (fun e => e.2.length == 0) = false := by
    rw [List.any_eq_false]
    intro e he
    have := (hent e he).1
    simp only [beq_iff_eq]; omega
  rw [hany]
  simp only [Bool.false_eq_true, if_false]
  rw [if_neg (by have := filter_nodup_le_one ns hnd; omega), List.head?_filter, hostName_eq_find]
  cases hf : ns.find? (fun e => e.1 == 0) with
  | none => rfl
  | some e =>
    have hmem := List.mem_of_find?_eq_some hf
    have h0 : e.1 = 0 := by simpa using List.find?_some hf
    simp only [Option.map_some, Option.getD_some]
    rw [if_neg ((hent e hmem).2.2 h0)]

theorem unmarshal_trunc (h : Hello) (hw : WellFormed h) (k : Nat) (hk : k < (encode h).length)
    (hne : k ≠ cutAfterCompression h) : (unmarshal ((encode h).take k)).isReject = true := by
  have := unmarshal_prefix (frame_encode h hw) k hk
  rwa [cutOf_rawHello h, if_neg hne] at this

theorem unmarshal_cut (h : Hello) (hw : WellFormed h) (hk : cutAfterCompression h < (encode h).length) :
    unmarshal ((encode h).take (cutAfterCompression h)) = .ok [] := by
  have := unmarshal_prefix (frame_encode h hw) _ hk
  rw [cutOf_rawHello h, if_pos rfl] at this
  exact this.trans (fabioView_of_sid hw.sessionId)

theorem stdName_encode (h : Hello) (hw : WellFormed h) : stdName 32 (rawHello h) = some (sniOf h) := by
  have hs : (rawHello h).sessionId = h.sessionId := rfl
  have he' : (rawHello h).extensions = h.extensions.map rawExts := rfl
  unfold stdName sniOf
  rw [hs, he', if_neg (Nat.not_lt.mpr hw.sessionId)]
  have hx := hw.exts
  cases he : h.extensions with
  | none => rfl
  | some es =>
    rw [he] at hx
    simp only [Option.map_some]
    have hnd : ((rawExts es).map (·.1)).Nodup := by rw [rawExts_types]; exact hx.2.1
    rw [if_neg (by simpa using hnd), find_rawExts]
    cases hf : es.find? (fun e => e.typ == 0) with
    | none => rfl
    | some e =>
      have hmem := List.mem_of_find?_eq_some hf
      have h0 : e.typ = 0 := by simpa using List.find?_some hf
      simp only [Option.map_some]
      cases e with
      | serverName ns => exact stdSni_enc ns (hx.1 _ hmem)
      | other t b => exact absurd h0 (hx.1 _ hmem).1

theorem firstMessage_record (a b : UInt8) (h : Hello) (hf : FitsRecord h) (tail : Bytes) :
    firstMessage maxRecordLen (record a b h ++ tail) = some (encode h) := by
  have hfit : (encode h).length ≤ 16384 := hf
  have hel := encode_length h
  have hpos := encBody_pos h
  rw [record_shape]
  simp only [List.cons_append]
  unfold firstMessage
  simp only [← be16_eq, ← be24_eq, maxRecordLen]
  rw [be16_enc16 _ (by omega), be24_enc24 _ (by omega)]
  rw [if_neg (by simp only [List.length_append, ne_eq, not_true_eq_false, false_or]; omega), List.take_left' rfl]
  simp [encode, enc24]

theorem bufSizeOf_of_ok {s : Bytes} {n : Nat} (h : clientHelloBufferSize (s.take 9) = .ok n) : bufSizeOf s = n := by
  unfold bufSizeOf
  simp only [peekLen]
  rw [h]

theorem serveTCP_eq (s : Bytes) :
    serveTCP s =
      match sniRoute s with
      | .panic w => .panic w
      | .reject r => .drop r
      | .ok host =>
        if host.length = 0 then .drop "server-name-missing"
        else .lookup host (s.take (bufSizeOf s)) (s.drop (bufSizeOf s)) := by
  rw [sniRoute_eq]
  unfold serveTCP bufSizeOf
  simp only [peekLen, recHdrLen]
  by_cases h9 : s.length < 9
  · rw [if_pos h9, if_pos h9]
  · rw [if_neg h9, if_neg h9, sliceTo_ok (by omega), ok_bind]
    cases hb : clientHelloBufferSize (s.take 9) with
    | reject e => rfl
    | panic e => rfl
    | ok n =>
      have h10 := bufsize_ge _ _ hb
      simp only [ok_bind]
      by_cases hlen : s.length < n
      · rw [if_pos hlen, if_pos hlen]
      · rw [if_neg hlen, if_neg hlen, sliceTo_ok (by omega)]
        simp only
        rw [sliceFrom_ok (by rw [List.length_take]; omega), ok_bind]
        cases unmarshal ((s.take n).drop 5) <;> rfl

end Fabio.Lemmas.C10
