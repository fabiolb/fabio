import Fabio.Model.C17
import Fabio.Lemmas.Lit
import Fabio.Lemmas.Basic
/-!
Helper lemmas for `Fabio.Model.C17` (core Lean only). The writer machine is taken apart at its one decision: up to it
only the header map moves (`run_fresh`), after it it only feeds the writer it selected (`run_decided`); `engaged_cases` puts the two
together with the deferred `Close`, `bare_obs` is the same for the bare writer, `serve_cases` is `serve` by `shouldCompress`.
`PInv` is the ownership invariant of the pool.
-/
namespace Fabio.Lemmas.C17
open Fabio.Model.C17

variable {Z : Type}

theorem snd_unique {α β : Type} {l : List (α × β)} (hn : (l.map Prod.snd).Nodup) {a b : α} {z : β}
    (ha : (a, z) ∈ l) (hb : (b, z) ∈ l) : a = b :=
  (Prod.mk.inj (eq_of_map_eq hn ha hb rfl)).1

theorem hraw_hdelRaw (h : Hdr) (k k' : String) : hraw (hdelRaw h k) k' = if k' = k then none else hraw h k' := by
  simp [hraw, hdelRaw, lookup_filter_key]

theorem hraw_hsetRaw (h : Hdr) (k v k' : String) :
    hraw (hsetRaw h k v) k' = if k' = k then some [v] else hraw h k' := by
  by_cases hk : k' = k <;> simp [hraw, hsetRaw, hdelRaw, lookup_append_single, lookup_filter_key, hk]

theorem hraw_hadd (h : Hdr) (k v k' : String) :
    hraw (hadd h k v) k' = if k' = canonKey k then some ((hraw h k').getD [] ++ [v]) else hraw h k' := by
  unfold hadd
  simp only [hraw]
  cases hk : h.lookup (canonKey k) with
  | some vs =>
    rw [lookup_map_key h (canonKey k) k' (· ++ [v])]
    by_cases h1 : k' = canonKey k <;> simp [h1, hk]
  | none =>
    rw [lookup_append_single]
    by_cases h1 : k' = canonKey k <;> simp [h1, hk]

/- the header names the model uses are canonical already (after unfolding the literal, `String.ofList` of the
canonicalised characters is the literal again by `rfl`; comparing the two strings by evaluation is much slower) -/
theorem canon_ContentType : canonKey hContentType = hContentType := by
  unfold canonKey hContentType
  simp only [toList_lit rfl]
  rfl
theorem canon_ContentLength : canonKey hContentLength = hContentLength := by
  unfold canonKey hContentLength
  simp only [toList_lit rfl]
  rfl
theorem canon_ContentEncoding : canonKey hContentEncoding = hContentEncoding := by
  unfold canonKey hContentEncoding
  simp only [toList_lit rfl]
  rfl
theorem canon_Vary : canonKey hVary = hVary := by
  unfold canonKey hVary
  simp only [toList_lit rfl]
  rfl

theorem acceptsL_sound (es : List (List Char)) (h : acceptsL es = true) :
    ∃ e ∈ es, trim (cut ';' e).1 = encGzip.toList ∧ zeroWeight (cut ';' e).2 = false := by
  induction es with
  | nil => cases h
  | cons e r ih =>
    unfold acceptsL at h
    split at h
    · next he => exact ⟨e, List.mem_cons_self, by simpa using he, by simpa using h⟩
    · obtain ⟨e', hm, hp⟩ := ih h
      exact ⟨e', List.mem_cons_of_mem _ hm, hp⟩

theorem feed_cons (c : Comp Z) (z : Z) (b : Bytes) (bs : List Bytes) :
    c.feed z (b :: bs) = ((c.feed (c.write z b).1 bs).1, (c.write z b).2 ++ (c.feed (c.write z b).1 bs).2) := rfl

theorem feed_passthrough (c : Comp Z) (hw : ∀ z b, (c.write z b).2 = b) (z : Z) (cs : List Bytes) :
    (c.feed z cs).2 = cs.flatten := by
  induction cs generalizing z with
  | nil => rfl
  | cons b r ih => rw [feed_cons, List.flatten_cons, hw, ih]

theorem down_writeHeader_some {d : Down} {c : Nat} (hs : d.status = some c) (h : Hdr) (code : Nat) :
    d.writeHeader h code = d := by
  simp [Down.writeHeader, hs]

theorem down_writeHeader_info (d : Down) (h : Hdr) {code : Nat} (hi : informational code = true) :
    d.writeHeader h code = d := by
  unfold Down.writeHeader
  cases d.status <;> simp [hi]

theorem down_write_some (C : Cfg Z) {d : Down} {c : Nat} (hs : d.status = some c) (h : Hdr) (b : Bytes) :
    d.write C h b = { d with body := d.body ++ b } := by
  simp [Down.write, Down.implicit, hs]

theorem hops_cons (o : Op) (r : List Op) (h : Hdr) : hops (o :: r) h = hops r (hop o h) := rfl

theorem info200 : informational 200 = false := rfl

theorem run_cons (C : Cfg Z) (s : GW Z) (o : Op) (r : List Op) : GW.run C s (o :: r) = GW.run C (GW.step C s o) r := rfl

theorem run_append (C : Cfg Z) (s : GW Z) (a b : List Op) : GW.run C s (a ++ b) = GW.run C (GW.run C s a) b := by
  simp [GW.run, List.foldl_append]

theorem writeHeader_info (C : Cfg Z) (s : GW Z) {code : Nat} (hi : informational code = true) :
    GW.writeHeader C s code = s := by
  simp [GW.writeHeader, hi, down_writeHeader_info]

theorem writeHeader_decided (C : Cfg Z) (s : GW Z) (code : Nat) (hfin : informational code = false) :
    (GW.writeHeader C s code).dec.isUndecided = false := by
  obtain ⟨dec, hdr, down, pool⟩ := s
  cases dec with
  | undecided => simp only [GW.writeHeader, hfin, Bool.false_eq_true, if_false]; split <;> rfl
  | gzip z => simp [GW.writeHeader, hfin, Dec.isUndecided]
  | plain => simp [GW.writeHeader, hfin, Dec.isUndecided]

theorem gw_writeHeader_decided (C : Cfg Z) (s : GW Z) (c code : Nat) (hd : s.dec.isUndecided = false)
    (hs : s.down.status = some c) : GW.writeHeader C s code = s := by
  obtain ⟨dec, hdr, down, pool⟩ := s
  cases dec with
  | undecided => cases hd
  | gzip z => simp [GW.writeHeader, down_writeHeader_some hs]
  | plain => simp [GW.writeHeader, down_writeHeader_some hs]

theorem decideOnWrite_decided (C : Cfg Z) (s : GW Z) (b : Bytes) (hd : s.dec.isUndecided = false) :
    GW.decideOnWrite C s b = s := by
  obtain ⟨dec, hdr, down, pool⟩ := s
  cases dec with
  | undecided => cases hd
  | gzip z => rfl
  | plain => rfl

theorem down_write_status (C : Cfg Z) (d : Down) (h : Hdr) (b : Bytes) : ∃ c, (d.write C h b).status = some c := by
  obtain ⟨st, sent, body⟩ := d
  cases st with
  | some v => exact ⟨v, rfl⟩
  | none => exact ⟨200, rfl⟩

theorem decideOnWrite_undecided (C : Cfg Z) (hdr : Hdr) (down : Down) (pool : List Z) (b : Bytes) :
    GW.decideOnWrite C { dec := .undecided, hdr := hdr, down := down, pool := pool } b =
      GW.writeHeader C { dec := .undecided, hdr := if hhasRaw hdr hContentType then hdr else hset hdr hContentType (C.sniff b),
                         down := down, pool := pool } 200 := by
  cases hh : hhasRaw hdr hContentType <;> simp [GW.decideOnWrite, hh]

theorem write_decided (C : Cfg Z) (s : GW Z) (b : Bytes) :
    (GW.write C s b).dec.isUndecided = false ∧ ∃ c, (GW.write C s b).down.status = some c := by
  have h1 : (GW.decideOnWrite C s b).dec.isUndecided = false := by
    obtain ⟨dec, hdr, down, pool⟩ := s
    cases dec with
    | undecided => exact writeHeader_decided C _ 200 info200
    | gzip z => rfl
    | plain => rfl
  unfold GW.write
  generalize GW.decideOnWrite C s b = s' at h1 ⊢
  obtain ⟨dec, hdr, down, pool⟩ := s'
  cases dec with
  | undecided => cases h1
  | gzip z => exact ⟨rfl, down_write_status C down hdr _⟩
  | plain => exact ⟨rfl, down_write_status C down hdr _⟩

def emit (C : Cfg Z) : Dec Z → List Bytes → Dec Z × Bytes
  | .gzip z, ws => (.gzip (C.comp.feed z ws).1, (C.comp.feed z ws).2)
  | d, ws => (d, ws.flatten)

theorem run_decided (C : Cfg Z) (ops : List Op) (s : GW Z) (c : Nat) (hd : s.dec.isUndecided = false)
    (hs : s.down.status = some c) :
    GW.run C s ops =
      { dec := (emit C s.dec (writesOf ops)).1, hdr := hops ops s.hdr,
        down := { s.down with body := s.down.body ++ (emit C s.dec (writesOf ops)).2 }, pool := s.pool } := by
  induction ops generalizing s with
  | nil =>
    obtain ⟨dec, hdr, ⟨st, sent, body⟩, pool⟩ := s
    cases dec <;> simp [GW.run, writesOf, emit, Comp.feed, hops]
  | cons o r ih =>
    rw [run_cons]
    cases o with
    | w b =>
      obtain ⟨dec, hdr, down, pool⟩ := s
      have hw := down_write_some C hs hdr
      cases dec with
      | undecided => cases hd
      | gzip z =>
        rw [ih (GW.step C ⟨.gzip z, hdr, down, pool⟩ (.w b)) rfl (by simpa [GW.step, GW.write, GW.decideOnWrite, hw] using hs)]
        simp [GW.step, GW.write, GW.decideOnWrite, hw, emit, writesOf, feed_cons, hops, hop]
      | plain =>
        rw [ih (GW.step C ⟨.plain, hdr, down, pool⟩ (.w b)) rfl (by simpa [GW.step, GW.write, GW.decideOnWrite, hw] using hs)]
        simp [GW.step, GW.write, GW.decideOnWrite, hw, emit, writesOf, hops, hop]
    | wh code =>
      rw [show GW.step C s (.wh code) = s from gw_writeHeader_decided C s c code hd hs]
      exact ih s hd hs
    | _ => exact ih _ hd hs

theorem bareRun_decided (C : Cfg Z) (cf : Bool) (ops : List Op) (h : Hdr) (d : Down) (c : Nat) (hs : d.status = some c) :
    bareRun C cf (h, d) ops = (hops ops h, { d with body := d.body ++ (writesOf ops).flatten }) := by
  induction ops generalizing h d with
  | nil => simp [bareRun, hops, writesOf]
  | cons o r ih =>
    have hcons : bareRun C cf (h, d) (o :: r) = bareRun C cf (bareStep C cf (h, d) o) r := rfl
    rw [hcons]
    cases o with
    | w b =>
      simp only [bareStep, down_write_some C hs]
      rw [ih h { d with body := d.body ++ b } hs]
      simp [writesOf, hops, hop]
    | wh code => simp only [bareStep, down_writeHeader_some hs]; exact ih h d hs
    | fl =>
      have : bareStep C cf (h, d) .fl = (h, d) := by cases cf <;> simp [bareStep, Down.flush, down_writeHeader_some hs]
      rw [this]
      exact ih h d hs
    | _ => exact ih _ d hs

theorem writeHeader_fresh (C : Cfg Z) (h : Hdr) (pool : List Z) {c : Nat} (hfin : informational c = false) :
    GW.writeHeader C { dec := .undecided, hdr := h, down := {}, pool := pool } c =
      if bodyAllowedForStatus c && isCompressable C h then
        { dec := .gzip (C.comp.reset (poolGet C.fresh pool).1), hdr := hset (hdel h hContentLength) hContentEncoding encGzip,
          down := { status := some c, sent := hset (hdel h hContentLength) hContentEncoding encGzip },
          pool := (poolGet C.fresh pool).2 }
      else { dec := .plain, hdr := h, down := { status := some c, sent := h }, pool := pool } := by
  simp only [GW.writeHeader, hfin, Bool.false_eq_true, if_false, Down.writeHeader]

/-- Up to its decision the machine only moves the header map. From there on it runs like a machine that was handed
the map `h` of the decision, got `WriteHeader c` as its first call, and then a script with the same writes: a `Write`
that decides is `WriteHeader 200` on the filled-in map followed by the same `Write`. -/
theorem run_fresh (C : Cfg Z) (ops : List Op) (hdr : Hdr) (pool : List Z) :
    (decision C false hdr ops = none →
      GW.run C { dec := .undecided, hdr := hdr, down := {}, pool := pool } ops =
        { dec := .undecided, hdr := hops ops hdr, down := {}, pool := pool }) ∧
    (∀ h c, decision C false hdr ops = some (h, c) → informational c = false ∧
      ∃ rest, writesOf rest = writesOf ops ∧
        GW.run C { dec := .undecided, hdr := hdr, down := {}, pool := pool } ops =
          GW.run C (GW.writeHeader C { dec := .undecided, hdr := h, down := {}, pool := pool } c) rest) := by
  induction ops generalizing hdr with
  | nil => simp [decision, GW.run, hops]
  | cons o r ih =>
    have ih' := ih (hop o hdr)
    cases o with
    | wh code =>
      cases hi : informational code with
      | true =>
        rw [run_cons, show GW.step C _ (.wh code) = _ from writeHeader_info C _ hi]
        simp only [decision, hi, if_true]
        exact ih'
      | false =>
        simp only [decision, hi, Bool.false_eq_true, if_false, reduceCtorEq, false_imp_iff, true_and, Option.some.injEq,
          Prod.mk.injEq, and_imp]
        rintro h c rfl rfl
        exact ⟨hi, r, rfl, rfl⟩
    | w b =>
      simp only [decision, reduceCtorEq, false_imp_iff, true_and, Option.some.injEq, Prod.mk.injEq, and_imp]
      rintro h c rfl rfl
      refine ⟨rfl, .w b :: r, rfl, ?_⟩
      simp only [run_cons, GW.step, GW.write]
      rw [decideOnWrite_undecided, decideOnWrite_decided C _ b (writeHeader_decided C _ 200 rfl)]
    | _ => exact ih'

def gzipDown (C : Cfg Z) (pool : List Z) (h : Hdr) (c : Nat) (ws : List Bytes) : Down :=
  let r := C.comp.feed (C.comp.reset (poolGet C.fresh pool).1) ws
  { status := some c, sent := hset (hdel h hContentLength) hContentEncoding encGzip,
    body := r.2 ++ (C.comp.close r.1).2 }

theorem gzipDown_obs (C : Cfg Z) (pool : List Z) (h : Hdr) (c : Nat) (ws : List Bytes) (live : Hdr) :
    (gzipDown C pool h c ws).obs live =
      { status := c, hdr := hset (hdel h hContentLength) hContentEncoding encGzip, body := (gzipDown C pool h c ws).body } :=
  rfl

/-- whatever state the recycled writer was in: the round-trip law speaks of what is emitted between `Reset` and `Close` -/
theorem gzipDown_decode (C : Cfg Z) (hrt : C.comp.RoundTrip) (pool : List Z) (h : Hdr) (c : Nat) (ws : List Bytes) :
    C.comp.decode (gzipDown C pool h c ws).body = some ws.flatten :=
  hrt _ ws

def gzipPool (C : Cfg Z) (pool : List Z) (ws : List Bytes) : List Z :=
  (C.comp.close (C.comp.feed (C.comp.reset (poolGet C.fresh pool).1) ws).1).1 :: (poolGet C.fresh pool).2

/-- The engaged branch of `serve` — `NewGzipResponseWriter` on the header map `hdr`, the script, the deferred `Close` —
in full, by what the script decides. -/
theorem engaged_cases (C : Cfg Z) (ops : List Op) (hdr : Hdr) (pool : List Z) :
    let s := GW.close C (GW.run C { dec := .undecided, hdr := hdr, down := {}, pool := pool } ops)
    (decision C false hdr ops = none → s = { dec := .undecided, hdr := hops ops hdr, down := {}, pool := pool }) ∧
    (∀ h c, decision C false hdr ops = some (h, c) →
      ((bodyAllowedForStatus c && isCompressable C h) = true →
        s.dec.isGzip = true ∧ s.down = gzipDown C pool h c (writesOf ops) ∧ s.pool = gzipPool C pool (writesOf ops)) ∧
      ((bodyAllowedForStatus c && isCompressable C h) = false →
        s.dec.isGzip = false ∧ s.down = { status := some c, sent := h, body := (writesOf ops).flatten } ∧
        s.pool = pool)) := by
  dsimp only
  refine ⟨fun hd => by rw [(run_fresh C ops hdr pool).1 hd]; rfl, fun h c hd => ?_⟩
  obtain ⟨hfin, rest, hw, hrun⟩ := (run_fresh C ops hdr pool).2 h c hd
  rw [hrun, writeHeader_fresh C h pool hfin, ← hw]
  constructor <;> intro hc <;> simp only [hc, if_true, Bool.false_eq_true, if_false]
  · rw [run_decided C rest _ c rfl rfl]
    simp [GW.close, emit, Dec.isGzip, gzipDown, gzipPool, down_write_some C (c := c)]
  · rw [run_decided C rest _ c rfl rfl]
    simp [GW.close, emit, Dec.isGzip]

theorem bare_obs (C : Cfg Z) (cf : Bool) (ops : List Op) (hdr : Hdr) :
    (bareRun C cf (hdr, {}) ops).2.obs (bareRun C cf (hdr, {}) ops).1 =
      match decision C cf hdr ops with
      | none => { status := 200, hdr := hops ops hdr, body := [] }
      | some (h, c) => { status := c, hdr := h, body := (writesOf ops).flatten } := by
  induction ops generalizing hdr with
  | nil => simp [decision, bareRun, Down.obs, hops]
  | cons o r ih =>
    have ih' := ih (hop o hdr)
    have hcons : bareRun C cf (hdr, {}) (o :: r) = bareRun C cf (bareStep C cf (hdr, {}) o) r := rfl
    cases o with
    | wh code =>
      cases hi : informational code with
      | true =>
        rw [hcons, bareStep, down_writeHeader_info _ _ hi]
        simp only [decision, hi, if_true]
        exact ih'
      | false =>
        rw [hcons, bareStep, bareRun_decided C cf r hdr _ code (by simp [Down.writeHeader, hi])]
        simp [decision, hi, Down.obs, Down.writeHeader, writesOf]
    | w b =>
      rw [hcons, bareStep, bareRun_decided C cf r hdr _ 200 (by simp [Down.write, Down.implicit])]
      simp only [decision, Down.obs, Down.write, Down.implicit, hset, canon_ContentType, writesOf]
      split <;> simp_all
    | fl =>
      cases cf with
      | false => exact ih'
      | true =>
        rw [hcons, bareStep, if_pos rfl, bareRun_decided C true r hdr _ 200 (by simp [Down.flush, Down.writeHeader, info200])]
        simp [decision, Down.obs, Down.flush, Down.writeHeader, info200, writesOf]
    | _ => exact ih'

theorem isCompressable_eq (C : Cfg Z) (h : Hdr) :
    isCompressable C h = (hget h hContentEncoding == "" && C.typeOk (hget h hContentType)) := by
  unfold isCompressable
  by_cases he : hget h hContentEncoding = "" <;> simp [he]

theorem flusherOffered_engaged {head : Bool} (dfl : Bool) {req : Hdr} (h : (acceptsGzip req && !head) = true) :
    flusherOffered head dfl req = false := by simp [flusherOffered, h]

theorem flusherOffered_bypassed {head : Bool} (dfl : Bool) {req : Hdr} (h : (acceptsGzip req && !head) = false) :
    flusherOffered head dfl req = dfl := by simp [flusherOffered, h]

theorem serve_engaged (C : Cfg Z) {head : Bool} (dfl : Bool) {req : Hdr} (h0 : Hdr) (pool : List Z) (ops : List Op)
    (hacc : (acceptsGzip req && !head) = true) :
    serve C head dfl req h0 pool ops =
      let s := GW.close C (GW.run C { dec := .undecided, hdr := hadd h0 hVary hAcceptEncoding, down := {}, pool := pool } ops)
      { compressed := s.dec.isGzip, obs := s.down.obs s.hdr, pool := s.pool } := by
  simp only [serve, hacc, if_true]

theorem serve_bypassed (C : Cfg Z) {head : Bool} (dfl : Bool) {req : Hdr} (h0 : Hdr) (pool : List Z) (ops : List Op)
    (hacc : (acceptsGzip req && !head) = false) :
    serve C head dfl req h0 pool ops = { compressed := false, obs := serveBare C dfl h0 ops, pool := pool } := by
  simp only [serve, hacc, Bool.false_eq_true, if_false, serveBare]

theorem serveBare_eq (C : Cfg Z) (cf : Bool) (h0 : Hdr) (ops : List Op) :
    serveBare C cf h0 ops =
      match decision C cf (hadd h0 hVary hAcceptEncoding) ops with
      | none => { status := 200, hdr := hops ops (hadd h0 hVary hAcceptEncoding), body := [] }
      | some (h, c) => { status := c, hdr := h, body := (writesOf ops).flatten } :=
  bare_obs C cf ops _

/-- the compressed response: decided on the map `h` with status `c`, chunks `ws`, the writer taken from `pool` -/
def gzipServed (C : Cfg Z) (pool : List Z) (h : Hdr) (c : Nat) (ws : List Bytes) : Served Z :=
  { compressed := true, obs := (gzipDown C pool h c ws).obs [], pool := gzipPool C pool ws }

/-- `serve` in closed form, by the executable predicate `shouldCompress`: either the compressed response of the
`decision`, or the bare handler's on the map with the `Vary` line. The sentences of the property are read off it. -/
theorem serve_cases (C : Cfg Z) (head dfl : Bool) (req h0 : Hdr) (pool : List Z) (ops : List Op) :
    (shouldCompress C head req h0 ops = true →
      ∃ h c, decision C false (hadd h0 hVary hAcceptEncoding) ops = some (h, c) ∧
        serve C head dfl req h0 pool ops = gzipServed C pool h c (writesOf ops)) ∧
    (shouldCompress C head req h0 ops = false →
      serve C head dfl req h0 pool ops =
        { compressed := false, obs := serveBare C (flusherOffered head dfl req) h0 ops, pool := pool }) := by
  unfold shouldCompress
  cases hacc : acceptsGzip req && !head with
  | false => exact ⟨nofun, fun _ => by rw [serve_bypassed C dfl h0 pool ops hacc, flusherOffered_bypassed dfl hacc]⟩
  | true =>
    rw [serve_engaged C dfl h0 pool ops hacc, flusherOffered_engaged dfl hacc, serveBare_eq, Bool.true_and]
    have hcr := engaged_cases C ops (hadd h0 hVary hAcceptEncoding) pool
    cases hd : decision C false (hadd h0 hVary hAcceptEncoding) ops with
    | none => exact ⟨nofun, fun _ => by simp only [hcr.1 hd]; rfl⟩
    | some p =>
      obtain ⟨h, c⟩ := p
      simp only [Bool.and_assoc, ← isCompressable_eq]
      refine ⟨fun hc => ⟨h, c, rfl, ?_⟩, fun hc => ?_⟩
      · obtain ⟨a1, a2, a3⟩ := (hcr.2 h c hd).1 hc
        simp only [a1, a2, a3, gzipServed]; rfl
      · obtain ⟨a1, a2, a3⟩ := (hcr.2 h c hd).2 hc
        simp only [a1, a2, a3]; rfl

def dropFlush : List Op → List Op
  | [] => []
  | .fl :: r => dropFlush r
  | o :: r => o :: dropFlush r

theorem run_without_flush (C : Cfg Z) (ops : List Op) (s : GW Z) :
    GW.run C s ops = GW.run C s (dropFlush ops) := by
  induction ops generalizing s with
  | nil => rfl
  | cons o r ih => cases o <;> exact ih _

theorem step_decided (C : Cfg Z) (s : GW Z) (o : Op) (hd : s.dec.isUndecided = false) :
    (GW.step C s o).dec.isUndecided = false ∧ (GW.step C s o).dec.isGzip = s.dec.isGzip := by
  obtain ⟨dec, hdr, down, pool⟩ := s
  cases dec with
  | undecided => cases hd
  | _ =>
    cases o with
    | wh c => simp only [GW.step, GW.writeHeader]; split <;> exact ⟨rfl, rfl⟩
    | _ => exact ⟨rfl, rfl⟩

theorem run_dec (C : Cfg Z) (ops : List Op) (s : GW Z) (hd : s.dec.isUndecided = false) :
    (GW.run C s ops).dec.isUndecided = false ∧ (GW.run C s ops).dec.isGzip = s.dec.isGzip :=
  List.foldlRecOn (motive := fun t => t.dec.isUndecided = false ∧ t.dec.isGzip = s.dec.isGzip) ops (GW.step C) ⟨hd, rfl⟩
    fun t ht o _ => have h := step_decided C t o ht.1; ⟨h.1, h.2.trans ht.2⟩

def writers (s : PState) : List Nat := s.pool ++ s.held.map Prod.snd

/-- Ownership invariant: a writer is in circulation (`writers`) at most once — in the pool or with one handler —, and
every writer in circulation was created by `New` earlier. -/
structure PInv (s : PState) : Prop where
  nodup : (writers s).Nodup
  born : ∀ z ∈ writers s, z < s.next

theorem PInv.of_sublist_perm {s s' : PState} (hi : PInv s) {l : List Nat} (h1 : (writers s').Sublist l)
    (h2 : l.Perm (writers s)) (hn : s'.next = s.next) : PInv s' :=
  ⟨(h2.nodup_iff.mpr hi.nodup).sublist h1, fun z hz => hn ▸ hi.born z (h2.subset (h1.subset hz))⟩

theorem pstep_inv (s : PState) (e : PEv) (hi : PInv s) : PInv (pstep s e) := by
  fun_cases pstep s e with
  | case1 => exact hi
  | case2 t i _ hlt =>
    exact hi.of_sublist_perm (.refl _) (List.perm_middle.trans ((perm_cons_eraseIdx s.pool i hlt).append_right _)) rfl
  | case3 t i =>
    -- `New`: the only step that adds a writer
    have hfresh : s.next ∉ writers s := fun h => Nat.lt_irrefl _ (hi.born _ h)
    have hp : (s.pool ++ s.next :: s.held.map Prod.snd).Perm (s.next :: writers s) := List.perm_middle
    exact ⟨hp.nodup_iff.mpr (List.nodup_cons.mpr ⟨hfresh, hi.nodup⟩), fun z hz => by
      rcases List.mem_cons.mp (hp.mem_iff.mp hz) with h | h
      · exact h ▸ Nat.lt_succ_self _
      · exact Nat.lt_succ_of_lt (hi.born z h)⟩
  | case4 => exact hi
  | case5 t z hh =>
    -- `z` moves from `held` to the pool; `filter` drops every entry of `t`, none of the others holds `z`
    have hmem : (t, z) ∈ s.held := mem_of_lookup hh
    have hgone : z ∉ (s.held.filter (fun p => !(p.1 == t))).map Prod.snd := by
      intro hz
      obtain ⟨⟨a, z'⟩, ha, rfl⟩ := List.mem_map.mp hz
      have ha' := List.mem_filter.mp ha
      simp [snd_unique (List.nodup_append.mp hi.nodup).2.1 ha'.1 hmem] at ha'
    have hzs : z ∈ s.held.map Prod.snd := List.mem_map_of_mem hmem
    refine hi.of_sublist_perm (l := z :: (s.pool ++ (s.held.map Prod.snd).erase z)) (.cons_cons z (.append_left ?_ _))
      (List.perm_middle.symm.trans ((List.perm_cons_erase hzs).symm.append_left _)) rfl
    exact List.erase_of_not_mem hgone ▸ (List.filter_sublist.map Prod.snd).erase z
  | case6 i => exact hi.of_sublist_perm ((List.eraseIdx_sublist _ _).append_right _) .rfl rfl

theorem prun_inv (s : PState) (evs : List PEv) (hi : PInv s) : PInv (prun s evs) :=
  List.foldlRecOn evs pstep hi fun s hs e _ => pstep_inv s e hs

theorem pinv_init : PInv {} := ⟨List.nodup_nil, fun _ h => by cases h⟩

end Fabio.Lemmas.C17
