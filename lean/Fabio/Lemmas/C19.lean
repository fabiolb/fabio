import Fabio.Model.C19
import Fabio.Lemmas.Basic
import Fabio.Lemmas.Lit
/-!
C19 — every transport of the program is `newTransport` of the cell as it was when the transport was built
(whichever of its three candidates `ServeHTTP` selects: only the TLS argument differs), the handler of a request has
the selected transport (`exists_handler`), and what `RoundTripContract` gives on an arbitrary transport for `serveFull`,
for `serve` (its projection) and for one `exchange` through the response writers.
`Props/C19.lean` puts the configured transports in.
-/
namespace Fabio.Lemmas.C19
open Fabio.Model.C19

theorem newTransport_carries (s : Cell) (tls : Option TLS) : Carries s.cfg (newTransport s tls) :=
  ⟨rfl, rfl, rfl, rfl, rfl⟩

theorem selectTransport_eq (s : Cell) (o : TargetOpts) :
    selectTransport (newHTTPProxy s) (addTarget s o) =
      newTransport s (if o.host ≠ "" ∧ o.host ≠ "dst" ∧ o.https then some ⟨o.host, o.tlsSkipVerify⟩
        else if o.tlsSkipVerify then some ⟨"", true⟩ else none) := by
  by_cases h : o.host ≠ "" ∧ o.host ≠ "dst" ∧ o.https
  · simp only [selectTransport, addTarget, if_pos h]
  · simp only [selectTransport, addTarget, if_neg h, newHTTPProxy]
    exact (apply_ite (newTransport s) _ _ _).symm

theorem all_foldsTo_toLower (l : List Char) :
    (l.zip (l.map Char.toLower)).all (fun ct => foldsTo ct.1 ct.2) = true := by
  induction l with
  | nil => rfl
  | cons c cs ih => rw [List.map_cons, List.zip_cons_cons, List.all_cons, ih]; simp [foldsTo]

theorem equalFoldWebsocket_of_toLower {s : String} (h : s.toList.map Char.toLower = "websocket".toList) :
    equalFoldWebsocket s = true := by
  have hlen : s.toList.length = 9 := by rw [← List.length_map Char.toLower, h, toList_lit rfl]; rfl
  have hall := all_foldsTo_toLower s.toList
  rw [h] at hall
  rw [equalFoldWebsocket, hall, hlen]
  rfl

theorem equalFoldWebsocket_of_length {s : String} (h : s.toList.length ≠ 9) : equalFoldWebsocket s = false := by
  rw [equalFoldWebsocket, beq_false_of_ne h, Bool.false_and]

theorem step_builds (lhs : Lhs) (s : Cell) (e : Ev) : ∀ t ∈ (step lhs s e).2, ∃ tls, t = newTransport s tls := by
  intro t ht
  cases e with
  | setConfig c => cases ht
  | newProxy =>
    simp only [step, newHTTPProxy, List.mem_cons, List.not_mem_nil, or_false] at ht
    rcases ht with rfl | rfl <;> exact ⟨_, rfl⟩
  | addTarget o =>
    simp only [step, addTarget, Option.mem_toList, Option.ite_none_right_eq_some, Option.some.injEq] at ht
    exact ⟨_, ht.2.symm⟩
  | other => cases ht

theorem step_cell {lhs : Lhs} {s : Cell} {e : Ev} (h : e.isSet = false) : (step lhs s e).1 = s := by
  cases e with
  | setConfig c => cases h
  | _ => rfl

theorem step_builds_nothing {lhs : Lhs} {s : Cell} {e : Ev} (h : e.builds = false) : (step lhs s e).2 = [] := by
  cases e with
  | newProxy => cases h
  | addTarget o => cases h
  | _ => rfl

theorem run_no_builds (lhs : Lhs) (s : Cell) (pre rest : List Ev)
    (hpre : ∀ e ∈ pre, e.builds = false ∧ e.isSet = false) : run lhs s (pre ++ rest) = run lhs s rest := by
  induction pre with
  | nil => rfl
  | cons e es ih =>
    have ⟨he, hes⟩ := List.forall_mem_cons.mp hpre
    rw [List.cons_append, run, step_builds_nothing he.1, step_cell he.2, List.nil_append, ih hes]

theorem run_without_set (lhs : Lhs) (s : Cell) (evs : List Ev) (hevs : ∀ e ∈ evs, e.isSet = false) :
    ∀ t ∈ run lhs s evs, ∃ tls, t = newTransport s tls := by
  induction evs with
  | nil => intro t ht; cases ht
  | cons e es ih =>
    have ⟨he, hes⟩ := List.forall_mem_cons.mp hevs
    intro t ht
    rw [run, step_cell he, List.mem_append] at ht
    exact ht.elim (step_builds lhs s e t) (ih hes t)

theorem serve_eq_serveFull (rt : Int → Nat → Int → RT) (tr : Transport) (dl : Option Int) (st : Nat) (d body : Int) :
    serve rt tr st d = ((serveFull rt tr dl st d body).status, (serveFull rt tr dl st d body).headerAt) := by
  unfold serve serveFull
  cases rt tr.responseHeaderTimeout st d with
  | failed e t => rfl
  | response s t =>
    cases dl with
    | none => rfl
    | some D => dsimp only; split <;> rfl

theorem handlerFor_transport (p : Proxy) (fi gfi : Int) (t : Target) {path : Path} (hws : path ≠ .websocket) :
    (handlerFor p fi gfi t path).map (·.transport) = some (selectTransport p t) := by
  cases path with
  | websocket => exact absurd rfl hws
  | sse => rfl
  | default => rfl

theorem exists_handler {p : Proxy} {fi gfi : Int} {t : Target} {path : Path} (hws : path ≠ .websocket)
    {P : HTTPHandler → Prop} (hP : ∀ h, h.transport = selectTransport p t → P h) :
    ∃ h, handlerFor p fi gfi t path = some h ∧ P h := by
  obtain ⟨h, h1, h2⟩ := Option.map_eq_some_iff.mp (handlerFor_transport p fi gfi t hws)
  exact ⟨h, h1, hP h h2⟩

theorem foldl_writeHeader_informational (cs : List Nat) (hcs : ∀ c ∈ cs, informational c = true) :
    ∀ rw : RW, rw.wire.final = none →
      (cs.foldl (RW.writeHeaderWith false) rw).wire = ⟨rw.wire.interims ++ cs, none⟩ := by
  induction cs with
  | nil => intro rw h; rw [List.foldl_nil, List.append_nil, ← h]
  | cons c cs ih =>
    have ⟨hc, hcs'⟩ := List.forall_mem_cons.mp hcs
    intro rw h
    have hstep : (RW.writeHeaderWith false rw c).wire = ⟨rw.wire.interims ++ [c], none⟩ := by
      simp [RW.writeHeaderWith, Wire.writeHeader, h, hc]
    rw [List.foldl_cons, ih hcs' _ (by rw [hstep]), hstep, List.append_assoc, List.singleton_append]

theorem writeHeaderWith_final {rw : RW} (h : rw.wire.final = none) {code : Nat} (hc : informational code = false) :
    RW.writeHeaderWith false rw code = ⟨⟨rw.wire.interims, some code⟩, code⟩ := by
  simp [RW.writeHeaderWith, Wire.writeHeader, h, hc]

theorem writeHeaderWith_guarded {rw : RW} (h : rw.code ≠ 0) (c : Nat) : RW.writeHeaderWith true rw c = rw := by
  simp [RW.writeHeaderWith, h]

theorem foldl_writeHeader_guarded (cs : List Nat) (rw : RW) (h : rw.code ≠ 0) :
    cs.foldl (RW.writeHeaderWith true) rw = rw :=
  foldl_fixed fun c _ => writeHeaderWith_guarded h c

/-- One exchange through the source's writers (`guard = false`). `hfinal` holds for every status the error
handler writes. -/
theorem exchange_status (rt : Int → Nat → Int → RT) (tr : Transport) (dl : Option Int) (u : Upstream)
    (hfinal : informational (serveFull rt tr dl u.status u.delay u.body).status = false) :
    exchange rt tr dl u =
      { served := serveFull rt tr dl u.status u.delay u.body
        interims := u.interims.filter informational
        recorded := (serveFull rt tr dl u.status u.delay u.body).status } := by
  have hf := foldl_writeHeader_informational (u.interims.filter informational)
    (fun _ hc => (List.mem_filter.mp hc).2) RW.new rfl
  rw [exchange, exchangeWith, writeHeaderWith_final (by rw [hf]) hfinal, hf]
  rfl

/-- The guarded writer after a first informational response: nothing later reaches the wire, and the client reads
net/http's implicit `200 OK`. -/
theorem exchangeWith_guarded (rt : Int → Nat → Int → RT) (tr : Transport) (dl : Option Int) (u : Upstream)
    (c : Nat) (cs : List Nat) (hu : u.interims = c :: cs) (hc : informational c = true) :
    exchangeWith true rt tr dl u =
      { served := { serveFull rt tr dl u.status u.delay u.body with status := 200 }, interims := [c], recorded := c } := by
  have hc0 : c ≠ 0 := by
    intro h; subst h; simp [informational] at hc
  have h1 : RW.writeHeaderWith true RW.new c = ⟨⟨[c], none⟩, c⟩ := by
    simp [RW.writeHeaderWith, RW.new, Wire.writeHeader, Wire.empty, hc]
  have hfold : (u.interims.filter informational).foldl (RW.writeHeaderWith true) RW.new = ⟨⟨[c], none⟩, c⟩ := by
    rw [hu, List.filter_cons_of_pos hc, List.foldl_cons, h1]
    exact foldl_writeHeader_guarded _ _ hc0
  simp only [exchangeWith, hfold, writeHeaderWith_guarded (rw := ⟨⟨[c], none⟩, c⟩) hc0, Wire.status,
    Option.getD_none]

section contract
variable {rt : Int → Nat → Int → RT} (hrt : RoundTripContract rt) {tr : Transport} {T : Int}
  (hT : tr.responseHeaderTimeout = T)
include hrt hT

theorem serveFull_timeout (dl : Option Int) (st : Nat) (d body : Int) (h0 : 0 < T) (hd : T < d) :
    serveFull rt tr dl st d body = ⟨504, T, true, T⟩ := by
  subst hT
  simp only [serveFull, hrt.timeout _ st d h0 hd, errorStatus]

theorem serveFull_inTime (st : Nat) (d body : Int) (hd : T ≤ 0 ∨ d < T) :
    serveFull rt tr none st d body = ⟨st, d, true, d + body⟩ := by
  subst hT
  simp only [serveFull, hrt.inTime _ st d hd]

theorem serveFull_inTime_deadline (D : Int) (st : Nat) (d body : Int) (hd : T ≤ 0 ∨ d < T) :
    serveFull rt tr (some D) st d body =
      if d + body ≤ D then ⟨st, d, true, d + body⟩ else ⟨st, d, false, if D < d then d else D⟩ := by
  subst hT
  simp only [serveFull, hrt.inTime _ st d hd]

theorem serve_timeout (st : Nat) (d : Int) (h0 : 0 < T) (hd : T < d) : serve rt tr st d = (504, T) := by
  rw [serve_eq_serveFull rt tr none st d 0, serveFull_timeout hrt hT none st d 0 h0 hd]

theorem serve_inTime (st : Nat) (d : Int) (hd : T ≤ 0 ∨ d < T) : serve rt tr st d = (st, d) := by
  rw [serve_eq_serveFull rt tr none st d 0, serveFull_inTime hrt hT st d 0 hd]

theorem exchange_timeout (dl : Option Int) (u : Upstream) (h0 : 0 < T) (hd : T < u.delay) :
    exchange rt tr dl u =
      { served := ⟨504, T, true, T⟩, interims := u.interims.filter informational, recorded := 504 } := by
  have hs := serveFull_timeout hrt hT dl u.status u.delay u.body h0 hd
  rw [exchange_status rt tr dl u (by rw [hs]; rfl), hs]

theorem exchange_inTime (u : Upstream) (hst : informational u.status = false) (hd : T ≤ 0 ∨ u.delay < T) :
    exchange rt tr none u =
      { served := ⟨u.status, u.delay, true, u.delay + u.body⟩, interims := u.interims.filter informational,
        recorded := u.status } := by
  have hs := serveFull_inTime hrt hT u.status u.delay u.body hd
  rw [exchange_status rt tr none u (by rw [hs]; exact hst), hs]

end contract

theorem poolFate_length (tr : Transport) (n : Nat) (doneAt : Int) : (poolFate tr n doneAt).length = n := by
  simp only [poolFate, List.length_append, List.length_replicate]
  exact Nat.sub_add_cancel (Nat.min_le_left _ _)

end Fabio.Lemmas.C19
