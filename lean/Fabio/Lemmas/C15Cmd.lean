import Fabio.Model.C15Cmd
import Fabio.Lemmas.Basic
/-! C15, the command line: what the pre-pass loop and one step of the tokeniser do on arguments of a known class. -/
namespace Fabio.Lemmas.C15Cmd
open Fabio Fabio.Model.C15

/-- the one panic in `parseLoop`, `args[i+1]` behind `-cfg`, sits under the test `more.length = 0`, which has just
failed when it is reached -/
theorem parseLoop_total (args acc : List Str) (path : Str) : (parseLoop args acc path).isPanic = false := by
  fun_induction parseLoop args acc path <;> simp_all [Outcome.isPanic]

theorem parseLoop_other (args acc : List Str) (path : Str) (h : ∀ a ∈ args, preClass a = .other) :
    parseLoop args acc path = .ok (.ok { rest := acc.reverse ++ args, path := path }) := by
  induction args generalizing acc with
  | nil => simp [parseLoop]
  | cons a t ih =>
    have ha : preClass a = .other := h a (by simp)
    have step : parseLoop (a :: t) acc path = parseLoop t (a :: acc) path := by
      rw [parseLoop.eq_def]; simp [ha]
    rw [step, ih (a :: acc) (fun b hb => h b (by simp [hb]))]
    simp

theorem splitAtEq_append (seen cs rest : Str) (h : '=' ∉ cs) :
    splitAtEq seen (cs ++ rest) = splitAtEq (cs.reverse ++ seen) rest := by
  induction cs generalizing seen with
  | nil => rfl
  | cons c cs ih =>
    have hc : c ≠ '=' := fun e => h (by simp [e])
    have hcs : '=' ∉ cs := fun e => h (by simp [e])
    simp [splitAtEq, hc, ih _ hcs]

theorem splitAtEq_eq (seen cs v : Str) (h : '=' ∉ cs) :
    splitAtEq seen (cs ++ '=' :: v) = (seen.reverse ++ cs, some v) := by
  simp [splitAtEq_append seen cs _ h, splitAtEq]

theorem splitAtEq_none (seen cs : Str) (h : '=' ∉ cs) : splitAtEq seen cs = (seen.reverse ++ cs, none) := by
  simpa [splitAtEq] using splitAtEq_append seen cs [] h

section
variable {formal : Str → Option Bool} {accepts : Str → Str → Bool} {s n v : Str} {rest : List Str}
  {acc : List (Str × Str)}

theorem tokenise_valued (hs : classifyArg s = .flag n (some v)) (hf : (formal n).isSome) (ha : accepts n v = true) :
    tokenise formal accepts (s :: rest) acc = tokenise formal accepts rest ((n, v) :: acc) := by
  obtain ⟨b, hb⟩ := Option.isSome_iff_exists.1 hf
  rw [tokenise, hs]
  cases b <;> simp only [hb, ha, Option.getD_some, ↓reduceIte]

theorem tokenise_next (hs : classifyArg s = .flag n none) (hf : formal n = some false) (ha : accepts n v = true) :
    tokenise formal accepts (s :: v :: rest) acc = tokenise formal accepts rest ((n, v) :: acc) := by
  rw [tokenise, hs]
  simp only [hf, ha, ↓reduceIte]

theorem tokenise_bare (hs : classifyArg s = .flag n none) (hf : formal n = some true)
    (ha : accepts n "true".toList = true) :
    tokenise formal accepts (s :: rest) acc = tokenise formal accepts rest ((n, "true".toList) :: acc) := by
  rw [tokenise, hs]
  simp only [hf, ha, Option.getD_none, ↓reduceIte]
end

end Fabio.Lemmas.C15Cmd
