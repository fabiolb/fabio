import Fabio.Model.C20Spec
import Fabio.Lemmas.Lit
import Fabio.Lemmas.Basic
/-! C20 helper lemmas: the `simp` equations of `Outcome` (the general facts about it are in `Lemmas/Basic.lean`), and
`hostport` against the reference's own split at the last colon (`hostport_eq_split`, from the facts about `lastIndexOf`
and `takeWhile` in `Lemmas/Basic.lean`), with its specification and totality as corollaries. -/
namespace Fabio.Lemmas.C20
open Fabio Fabio.Model.C20

@[simp] theorem bind_ok {α β} (a : α) (f : α → Outcome β) : (Outcome.ok a).bind f = f a := rfl
@[simp] theorem bind_panic {α β} (w : String) (f : α → Outcome β) : (Outcome.panic w : Outcome α).bind f = .panic w := rfl
@[simp] theorem map_ok {α β} (a : α) (f : α → β) : (Outcome.ok a).map f = .ok (f a) := rfl
@[simp] theorem isPanic_ok {α} (a : α) : (Outcome.ok a).isPanic = false := rfl
@[simp] theorem isPanic_panic {α} (w : String) : (Outcome.panic w : Outcome α).isPanic = true := rfl

/-- the reference cuts at the last colon: in the reversed text, in front of the first -/
theorem splitLastColon_append_cons (h p : List Char) (hp : ':' ∉ p) :
    Spec.splitLastColon (h ++ ':' :: p) = (h, p) := by
  have ht : (p.reverse ++ ':' :: h.reverse).takeWhile (· != ':') = p.reverse :=
    takeWhile_ne ':' _ _ (by simpa using hp)
  simp [Spec.splitLastColon, ht]
  exact List.take_left' (by omega)

theorem splitLastColon_spec (s : List Char) (hc : ':' ∈ s) :
    (Spec.splitLastColon s).1 ++ ':' :: (Spec.splitLastColon s).2 = s ∧ ':' ∉ (Spec.splitLastColon s).2 := by
  obtain ⟨p, h, e, hp⟩ := List.eq_append_cons_of_mem (List.mem_reverse.2 hc)
  have hs : s = h.reverse ++ ':' :: p.reverse := by simpa using congrArg List.reverse e
  have hp' : ':' ∉ p.reverse := by simpa using hp
  rw [hs, splitLastColon_append_cons _ _ hp']
  exact ⟨rfl, hp'⟩

theorem hostport_of_not_mem (s : List Char) (hc : ':' ∉ s) : hostport s = .ok (s, []) := by
  cases s with
  | nil => rfl
  | cons c cs => simp [hostport, lastIndexOf_eq_none ':' _ hc]

theorem hostport_append_cons (h p : List Char) (hp : ':' ∉ p) : hostport (h ++ ':' :: p) = .ok (h, p) := by
  simp [hostport, lastIndexOf_append_cons ':' h p hp]

theorem hostport_eq_split (s : List Char) : hostport s = .ok (Spec.splitLastColon s) := by
  by_cases hc : ':' ∈ s
  · obtain ⟨e, hp⟩ := splitLastColon_spec s hc
    exact (congrArg hostport e).symm.trans (hostport_append_cons _ _ hp)
  · rw [hostport_of_not_mem s hc, Spec.splitLastColon, if_neg (by simpa using hc)]

theorem hostport_spec (s : List Char) :
    ∃ h p, hostport s = .ok (h, p) ∧ Spec.hostportOk s h p = true := by
  refine ⟨(Spec.splitLastColon s).1, (Spec.splitLastColon s).2, hostport_eq_split s, ?_⟩
  by_cases hc : ':' ∈ s
  · obtain ⟨e, hp⟩ := splitLastColon_spec s hc
    simp [Spec.hostportOk, hc, e, hp]
  · simp [Spec.hostportOk, Spec.splitLastColon, hc]

theorem hostport_total (s : List Char) : (hostport s).isPanic = false := by
  rw [hostport_eq_split]; rfl

end Fabio.Lemmas.C20
