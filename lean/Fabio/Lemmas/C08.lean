import Fabio.Model.C08
import Fabio.Lemmas.Basic
import Fabio.Lemmas.Lit
import Fabio.Lemmas.RouteParse
/-!
C08 lemmas about the data of the model. `put` and `del` remove every older entry of their key, and `vals`, `get1`,
`isWebsocket`, `hopByHopNames` read a map only through `entries` of one key: "`entries k` is unchanged" is all a statement of
`addHeaders` has to be shown to do for a name it does not write. `canonicalKey` (the model of
`textproto.CanonicalMIMEHeaderKey`) is computed from the lower-case form of a name, so names that differ only in letter case
have one key; `splitComma` / `joinComma` are `splitOn ','` / `join [',']` of `Model/Parse.lean`, so splitting undoes joining.
-/
namespace Fabio.Lemmas.C08
open Fabio Fabio.Model.C08

theorem entries_del (k k' : Str) (h : Headers) :
    entries k (del k' h) = if k = k' then [] else entries k h := by
  unfold entries del
  rw [List.filter_filter]
  split
  · next e => subst e; exact List.filter_eq_nil_iff.mpr (fun a _ => by simp)
  · next ne =>
    apply List.filter_congr
    intro a _
    by_cases ha : a.1 = k
    · simp [ha, ne]
    · simp [ha]

theorem entries_put (k k' : Str) (vs : List Str) (h : Headers) :
    entries k (put k' vs h) = if k = k' then [(k', vs)] else entries k h := by
  have hd := entries_del k k' h
  unfold entries at hd ⊢
  unfold put
  by_cases hk : k = k'
  · subst hk
    rw [if_pos rfl] at hd
    rw [List.filter_cons_of_pos (by simp), hd, if_pos rfl]
  · rw [if_neg hk] at hd
    rw [List.filter_cons_of_neg (by simpa using Ne.symm hk), hd, if_neg hk]

theorem entries_put_self (k : Str) (vs : List Str) (h : Headers) : entries k (put k vs h) = [(k, vs)] := by
  rw [entries_put, if_pos rfl]

theorem entries_put_ne {k k' : Str} (hne : k ≠ k') (vs : List Str) (h : Headers) :
    entries k (put k' vs h) = entries k h := by rw [entries_put, if_neg hne]

theorem entries_del_self (k : Str) (h : Headers) : entries k (del k h) = [] := by rw [entries_del, if_pos rfl]

theorem entries_del_ne {k k' : Str} (hne : k ≠ k') (h : Headers) : entries k (del k' h) = entries k h := by
  rw [entries_del, if_neg hne]

theorem entries_setIf_self (k : Str) (c : Bool) (v : Str) (h : Headers) :
    entries k (setIf c k v h) = if c then [(k, [v])] else entries k h := by
  unfold setIf; split
  · exact entries_put_self _ _ _
  · rfl

theorem entries_setIf_ne {k k' : Str} (hne : k ≠ k') (c : Bool) (v : Str) (h : Headers) :
    entries k (setIf c k' v h) = entries k h := by
  unfold setIf; split
  · exact entries_put_ne hne _ _
  · rfl

theorem vals_eq (k : Str) (h : Headers) : vals k h = ((entries k h).head?).map (·.2) := by
  induction h with
  | nil => rfl
  | cons e t ih =>
    obtain ⟨k', vs⟩ := e
    by_cases hk : k' = k
    · simp [vals, entries, hk]
    · simp only [entries] at ih
      simp [vals, entries, hk, ih]

theorem vals_congr {k : Str} {h h' : Headers} (e : entries k h = entries k h') : vals k h = vals k h' := by
  rw [vals_eq, vals_eq, e]

theorem get1_congr {k : Str} {h h' : Headers} (e : entries k h = entries k h') : get1 k h = get1 k h' := by
  unfold get1; rw [vals_congr e]

theorem get1_setIf_ne {k k' : Str} (hne : k ≠ k') (c : Bool) (v : Str) (h : Headers) :
    get1 k (setIf c k' v h) = get1 k h := get1_congr (entries_setIf_ne hne c v h)

theorem vals_put_self (k : Str) (vs : List Str) (h : Headers) : vals k (put k vs h) = some vs := by
  rw [vals_eq, entries_put_self]; rfl

theorem vals_del_self (k : Str) (h : Headers) : vals k (del k h) = none := by
  rw [vals_eq, entries_del_self]; rfl

theorem vals_isSome_of_mem {e : Str × List Str} {w : Headers} (h : e ∈ w) : (vals e.1 w).isSome = true := by
  have hm : e ∈ entries e.1 w := List.mem_filter.mpr ⟨h, beq_self_eq_true _⟩
  rw [vals_eq]
  cases he : entries e.1 w with
  | nil => rw [he] at hm; cases hm
  | cons _ _ => rfl

theorem isWebsocket_congr {h h' : Headers} (e : entries upgrade h = entries upgrade h') :
    isWebsocket h = isWebsocket h' := by
  unfold isWebsocket; rw [get1_congr e]

theorem hopByHopNames_congr {h h' : Headers} (e : entries connection h = entries connection h') :
    hopByHopNames h = hopByHopNames h' := by
  unfold hopByHopNames; rw [vals_congr e]

theorem forward_names_distinct :
    (xForwardedProto ≠ xForwardedPort ∧ xForwardedProto ≠ xForwardedHost ∧ xForwardedProto ≠ xForwardedPrefix ∧
      xForwardedProto ≠ forwarded) ∧
    (xForwardedPort ≠ xForwardedHost ∧ xForwardedPort ≠ xForwardedPrefix ∧ xForwardedPort ≠ forwarded) ∧
    (xForwardedHost ≠ xForwardedPrefix ∧ xForwardedHost ≠ forwarded) ∧ xForwardedPrefix ≠ forwarded := by
  unfold xForwardedProto xForwardedPort xForwardedHost xForwardedPrefix forwarded
  simp only [toList_lit rfl]; decide +kernel

/-- The fixed names `addHeaders` writes, in the order of its statements; `Connection` is the last. -/
abbrev writtenNames : List Str :=
  [xRealIp, xForwardedFor, xForwardedProto, xForwardedPort, xForwardedHost, xForwardedPrefix, forwarded, connection]

theorem header_names_nodup : (upgrade :: writtenNames).Nodup := by
  unfold writtenNames upgrade xRealIp xForwardedFor xForwardedProto xForwardedPort xForwardedHost xForwardedPrefix forwarded
    connection
  simp only [toList_lit rfl]; decide +kernel

theorem upgrade_not_written : upgrade ∉ writtenNames := (List.nodup_cons.mp header_names_nodup).1

theorem xRealIp_not_later :
    xRealIp ∉ [xForwardedFor, xForwardedProto, xForwardedPort, xForwardedHost, xForwardedPrefix, forwarded, connection] :=
  (List.nodup_cons.mp (List.nodup_cons.mp header_names_nodup).2).1

theorem xForwardedFor_not_later :
    xForwardedFor ∉ [xForwardedProto, xForwardedPort, xForwardedHost, xForwardedPrefix, forwarded, connection] :=
  (List.nodup_cons.mp (List.nodup_cons.mp (List.nodup_cons.mp header_names_nodup).2).2).1

theorem forward_names_not_elsewhere :
    ∀ k ∈ [xForwardedProto, xForwardedPort, xForwardedHost, xForwardedPrefix, forwarded],
      k ∉ [xRealIp, xForwardedFor, connection] := by
  unfold xForwardedProto xForwardedPort xForwardedHost xForwardedPrefix forwarded xRealIp xForwardedFor connection
  simp only [toList_lit rfl]; decide +kernel

theorem fixed_managed_not_hopByHop :
    ∀ k ∈ [forwarded, xForwardedFor, xForwardedHost, xForwardedPort, xForwardedPrefix, xForwardedProto, xRealIp],
      k ∉ fixedHopByHop := by
  unfold forwarded xForwardedFor xForwardedHost xForwardedPort xForwardedPrefix xForwardedProto xRealIp fixedHopByHop
  simp only [List.map, toList_lit rfl]; decide +kernel

theorem forward_name_ne_xff {k : Str}
    (hk : k ∈ [xForwardedProto, xForwardedPort, xForwardedHost, xForwardedPrefix, forwarded]) : k ≠ xForwardedFor :=
  fun e => forward_names_not_elsewhere k hk (by rw [e]; simp)

theorem not_fixed_ne {k : Str} (hf : k ∉ fixedHopByHop) : k ≠ upgrade ∧ k ≠ connection := by
  have hm : upgrade ∈ fixedHopByHop ∧ connection ∈ fixedHopByHop := by
    unfold upgrade connection fixedHopByHop
    simp only [List.map, toList_lit rfl]; decide +kernel
  exact ⟨fun e => hf (e ▸ hm.1), fun e => hf (e ▸ hm.2)⟩

theorem mem_managedKeys_fixed {k : Str} (cfg : Cfg)
    (hk : k ∈ [forwarded, xForwardedFor, xForwardedHost, xForwardedPort, xForwardedPrefix, xForwardedProto, xRealIp]) :
    k ∈ managedKeys cfg := List.mem_append_left _ hk

theorem mem_managedKeys_cfg {cfg : Cfg} {n : Str} (hne : n ≠ [])
    (hm : n = cfg.clientIPHeader ∨ n = cfg.tlsHeader ∨ n = cfg.requestID) : canonicalKey n ∈ managedKeys cfg := by
  unfold managedKeys
  refine List.mem_append_right _ (List.mem_map.mpr ⟨n, List.mem_filter.mpr ⟨?_, ?_⟩, rfl⟩)
  · rcases hm with h | h | h <;> simp [h]
  · rw [List.isEmpty_eq_false_iff.2 hne]; rfl

theorem upperChar_toNat (c : Char) :
    (upperChar c).toNat = if 97 ≤ c.toNat ∧ c.toNat ≤ 122 then c.toNat - 32 else c.toNat := by
  unfold upperChar
  simp only [char_le_iff]
  show (if 97 ≤ c.toNat ∧ c.toNat ≤ 122 then _ else _ : Char).toNat = _
  split
  · exact toNat_ofNat_of_valid _ (Or.inl (by omega))
  · rfl

theorem isTokenChar_letter {c : Char} (h : (65 ≤ c.toNat ∧ c.toNat ≤ 90) ∨ (97 ≤ c.toNat ∧ c.toNat ≤ 122)) :
    isTokenChar c = true := by
  unfold isTokenChar
  rcases h with h | h <;> simp only [h.1, h.2, decide_true, Bool.and_self, Bool.or_true, Bool.true_or]

/-- every test of the canonicalisation loop sees a character and its lower-case form alike -/
theorem canon_char_lower (c : Char) :
    isTokenChar (lowerChar c) = isTokenChar c ∧ upperChar (lowerChar c) = upperChar c ∧ (lowerChar c == '-') = (c == '-') := by
  have hn := lowerChar_toNat c
  by_cases h : 65 ≤ c.toNat ∧ c.toNat ≤ 90
  · rw [if_pos h] at hn
    refine ⟨?_, ?_, ?_⟩
    · rw [isTokenChar_letter (Or.inr (by omega)), isTokenChar_letter (Or.inl h)]
    · apply Char.toNat_inj.mp
      rw [upperChar_toNat, upperChar_toNat, hn, if_pos (by omega), if_neg (by omega)]; omega
    · rw [Bool.eq_iff_iff, beq_iff_eq, beq_iff_eq]; exact lowerChar_eq_iff (by decide)
  · rw [if_neg h] at hn
    rw [Char.toNat_inj.mp hn]; exact ⟨rfl, rfl, rfl⟩

theorem canonGo_lowerL (up : Bool) (a : Str) : canonGo up (lowerL a) = canonGo up a := by
  induction a generalizing up with
  | nil => rfl
  | cons x xs ih =>
    obtain ⟨_, hu, hd⟩ := canon_char_lower x
    simp only [lowerL, List.map_cons, canonGo, hu, hd, lowerChar_idem]
    exact congrArg _ (ih _)

theorem all_token_lowerL (a : Str) : (lowerL a).all isTokenChar = a.all isTokenChar := by
  rw [lowerL, List.all_map]
  exact congrArg a.all (funext fun c => (canon_char_lower c).1)

/-- Header names that differ only in the casing of ASCII letters have one key: `ofWire` files a forged
`x-client-ip` / `X-CLIENT-IP` / `x-ClIeNt-Ip` line under the key `addHeaders` writes. -/
theorem canonicalKey_casing (a b : Str) (ht : a.all isTokenChar = true) (h : lowerL a = lowerL b) :
    canonicalKey a = canonicalKey b := by
  have hb : b.all isTokenChar = true := by rw [← all_token_lowerL, ← h, all_token_lowerL, ht]
  rw [canonicalKey, canonicalKey, if_pos ht, if_pos hb, ← canonGo_lowerL, h, canonGo_lowerL]

theorem takeWhile_reverse_noComma (ip m : Str) (hc : ',' ∉ ip) :
    (ip.reverse ++ m).takeWhile (fun c => !(c == ',')) = ip.reverse ++ m.takeWhile (fun c => !(c == ',')) := by
  apply List.takeWhile_append_of_pos
  intro x hx
  have : x ≠ ',' := fun e => hc (e ▸ List.mem_reverse.mp hx)
  simp [this]

theorem dropWhile_blank (ip : Str) (hs : ip.head? ≠ some ' ') : ip.dropWhile (fun c => c == ' ') = ip := by
  cases ip with
  | nil => rfl
  | cons a t =>
    have : (a == ' ') = false := beq_eq_false_iff_ne.mpr (fun e => hs (by rw [e]; rfl))
    simp only [List.dropWhile, this]

theorem lastElem_self (ip : Str) (hc : ',' ∉ ip) (hs : ip.head? ≠ some ' ') : lastElem ip = ip := by
  have h := takeWhile_reverse_noComma ip [] hc
  rw [List.append_nil] at h
  unfold lastElem
  rw [h, List.takeWhile_nil, List.append_nil, List.reverse_reverse]
  exact dropWhile_blank ip hs

theorem lastElem_append (pre ip : Str) (hc : ',' ∉ ip) (hs : ip.head? ≠ some ' ') :
    lastElem (pre ++ ", ".toList ++ ip) = ip := by
  have hrev : (pre ++ ", ".toList ++ ip).reverse = ip.reverse ++ (' ' :: ',' :: pre.reverse) := by
    simp [show ", ".toList = [',', ' '] from rfl]
  unfold lastElem
  -- read from the end: `ip`, then the blank, then the comma at which `takeWhile` stops; the blank is dropped at the end
  rw [hrev, takeWhile_reverse_noComma ip _ hc,
    show (' ' :: ',' :: pre.reverse).takeWhile (fun c => !(c == ',')) = [' '] from rfl,
    List.reverse_append, List.reverse_reverse]
  exact dropWhile_blank ip hs

theorem wrap32_small {n : Int} (h0 : 0 ≤ n) (h1 : n ≤ 2147483647) : wrap32 n = n := by
  unfold wrap32
  simp only [Int.emod_eq_of_lt h0 (by omega : n < 4294967296)]
  exact if_neg (by omega)

open Fabio.Lemmas.Route
open Fabio.Model.Parse (splitOn join)

theorem splitComma_eq (s : Str) : splitComma s = splitOn ',' s := by
  induction s with
  | nil => rfl
  | cons c cs ih =>
    cases hsp : splitOn ',' cs with
    | nil => exact absurd hsp (splitOn_ne_nil ',' cs)
    | cons t ts => simp only [splitComma, splitOn, ih, hsp]

theorem joinComma_eq (l : List Str) : joinComma l = join [','] l := by
  induction l with
  | nil => rfl
  | cons x t ih =>
    cases t with
    | nil => rfl
    | cons y t => rw [joinComma, join, ih, List.append_assoc, List.singleton_append]

theorem splitComma_comma_free (s t : Str) (ht : t ∈ splitComma s) : ',' ∉ t :=
  splitOn_sep_free ',' s t (splitComma_eq s ▸ ht)

theorem splitComma_joinComma (toks : List Str) (hne : toks ≠ []) (hcf : ∀ t ∈ toks, ',' ∉ t) :
    splitComma (joinComma toks) = toks := by
  rw [joinComma_eq, splitComma_eq, splitOn_join ',' toks hne hcf]

end Fabio.Lemmas.C08
