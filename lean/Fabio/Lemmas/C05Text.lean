import Fabio.Model.C05Lang
import Fabio.Model.C05Glue
import Fabio.Lemmas.Route
import Fabio.Lemmas.Order
import Fabio.Lemmas.Lit
/-!
C05 (text): the rendering of a table (`Table.String()`) is parsed back (`route.Parse`) to the definitions it
denotes. What `Lemmas/C05Lang.lean` and `Lemmas/C14.lean` need as well is stated about the line, not the table: a printed
command is `route` followed by words with one blank in front of each, the tokenizer consumes whole words, and the
`route add` line of six parts is read back as those parts whoever printed it; what the grammar makes of a command line
whatever its weight text denotes is its `Shape`, and a text of such lines is read line by line. Core Lean only.
-/
namespace Fabio.Lemmas.C05Text
open Fabio Fabio.Model.Route Fabio.Model.Parse Fabio.Model.C05Spec Fabio.Model.C05Lang Fabio.Model.C05Glue
open Fabio.Lemmas.Route

def LastOK (s : Str) : Prop := ∃ d, s.getLast? = some d ∧ isUniSpace d = false

theorem LastOK.append_right {b : Str} (a : Str) (h : LastOK b) : LastOK (a ++ b) := by
  obtain ⟨d, h1, h2⟩ := h
  exact ⟨d, by simp [List.getLast?_append, h1], h2⟩

theorem LastOK.cons {b : Str} (c : Char) (h : LastOK b) : LastOK (c :: b) := h.append_right [c]

theorem LastOK.of_all {a : Str} (hne : a ≠ []) (h : ∀ c ∈ a, isUniSpace c = false) : LastOK a := by
  cases hl : a.getLast? with
  | none => simp at hl; exact absurd hl hne
  | some d => exact ⟨d, hl, h d (List.mem_of_getLast? hl)⟩

theorem trimRight_lastOK {s : Str} (h : LastOK s) : trimRight s = s := by
  obtain ⟨d, h1, h2⟩ := h
  have : s.reverse.head? = some d := by simpa using h1
  unfold trimRight
  cases hr : s.reverse with
  | nil => rw [hr] at this; cases this
  | cons x xs =>
    rw [hr] at this
    simp at this
    subst this
    rw [List.dropWhile_cons, h2]
    simp only [Bool.false_eq_true, if_false]
    rw [← hr, List.reverse_reverse]

theorem trimSpace_eq {c : Char} {s : Str} (hc : isUniSpace c = false) (h : LastOK (c :: s)) :
    trimSpace (c :: s) = c :: s := by
  unfold trimSpace trimLeft
  rw [List.dropWhile_cons, hc]
  simp only [Bool.false_eq_true, if_false]
  exact trimRight_lastOK h

theorem trimSpace_cons (c : Char) (hc : isUniSpace c = false) (r : Str) : ∃ r', trimSpace (c :: r) = c :: r' := by
  -- `c` stops `trimLeft` at once and `trimRight`, which comes from the other end, at the latest
  have h : trimSpace (c :: r) = ((r.reverse ++ [c]).dropWhile isUniSpace).reverse := by
    unfold trimSpace trimLeft trimRight
    rw [List.dropWhile_cons_of_neg (by simp [hc]), List.reverse_cons]
  rw [h, List.dropWhile_append]
  split
  · exact ⟨[], by rw [List.dropWhile_cons_of_neg (by simp [hc])]; rfl⟩
  · exact ⟨_, List.reverse_concat ..⟩

theorem dropCR_lastOK {s : Str} (h : LastOK s) : dropCR s = s := by
  obtain ⟨d, h1, h2⟩ := h
  have : s.reverse.head? = some d := by simpa using h1
  unfold dropCR
  cases hr : s.reverse with
  | nil => rfl
  | cons x xs =>
    rw [hr] at this
    simp at this
    subst this
    split
    · next heq =>
      simp at heq
      obtain ⟨rfl, _⟩ := heq
      exact absurd h2 (by decide)
    · rfl

/-! ### `TrimSpace` swallows the `\r` that `dropCR` removes -/

theorem trimSpace_append_space (s : Str) (c : Char) (hc : isUniSpace c = true) :
    trimSpace (s ++ [c]) = trimSpace s := by
  unfold trimSpace trimLeft
  rw [dropWhile_append_single isUniSpace s c hc]
  split
  · next h => rw [h]
  · unfold trimRight
    rw [List.reverse_append]
    simp [hc]

theorem dropCR_eq (s : Str) : dropCR s = s ∨ s = dropCR s ++ ['\r'] := by
  unfold dropCR
  split
  · next r heq =>
    right
    have : s = (('\r' :: r)).reverse := by rw [← heq, List.reverse_reverse]
    rw [this]; simp
  · left; rfl

theorem trimSpace_dropCR (s : Str) : trimSpace (dropCR s) = trimSpace s := by
  rcases dropCR_eq s with h | h
  · rw [h]
  · conv => rhs; rw [h]
    rw [trimSpace_append_space _ _ (by decide)]

theorem parseLine_dropCR (pf : ParseFloat) (s : Str) : parseLine pf (dropCR s) = parseLine pf s := by
  unfold parseLine
  rw [trimSpace_dropCR]

theorem comment_line_parses_empty (pf : ParseFloat) (s : Str) (h : s.head? = some '#') (hnl : '\n' ∉ s)
    (hlen : byteLen s < maxToken) : parse pf s = .ok [] := by
  have hcm : isComment (trimSpace (dropCR s)) = true := by
    cases s with
    | nil => cases h
    | cons a r =>
      cases h
      obtain ⟨r2, h2⟩ := trimSpace_cons '#' (by decide) r
      rw [trimSpace_dropCR, h2]
      rfl
  have hlt : decide (maxToken ≤ byteLen s) = false := by simpa using hlen
  rw [parse_eq_scan, scan_rawLines _ _ rfl, splitOn_nomem '\n' s hnl]
  simp [scan, hlt, parseLine, hcm]

theorem lit_append (p s : Str) : lit p (p ++ s) = some s := by
  simp [lit]

/-! ### a printed line: `route`, then words with one blank in front of each

`Table.String()`, the command language as a writer and `routecmd.build` all write a command as `route` followed by
words separated by single blanks, a word being a token `\S+` or a quoted string `"[^"]*"`. On such a line every
combinator of the tokenizer consumes whole words, and which optional group or which of two regular expressions applies
is settled by the first character of the next word. -/

inductive Word where
  | tok (a : Str)
  | quo (q : Str)

def Word.text : Word → Str
  | .tok a => a
  | .quo q => '"' :: (q ++ ['"'])

/-- the tokenizer reads the word back as it stands -/
def Word.OK : Word → Prop
  | .tok a => a ≠ [] ∧ ∀ c ∈ a, isReSpace c = false
  | .quo q => '"' ∉ q

instance (w : Word) : Decidable w.OK := by
  cases w <;> unfold Word.OK <;> exact inferInstance

def sp : List Word → Str
  | [] => []
  | w :: ws => ' ' :: (w.text ++ sp ws)

def line (ws : List Word) : Str := kRoute ++ sp ws

theorem sp_append (a b : List Word) : sp (a ++ b) = sp a ++ sp b := by
  induction a with
  | nil => rfl
  | cons w a ih => simp only [List.cons_append, sp, ih, List.append_assoc]

theorem line_append (a b : List Word) : line (a ++ b) = line a ++ sp b := by
  unfold line; rw [sp_append, List.append_assoc]

theorem sp_cases (ws : List Word) : sp ws = [] ∨ ∃ t, sp ws = ' ' :: t := by
  cases ws with
  | nil => exact .inl rfl
  | cons w ws => exact .inr ⟨_, rfl⟩

theorem Word.OK.head {w : Word} (h : w.OK) : ∃ x s, w.text = x :: s ∧ isReSpace x = false := by
  cases w with
  | tok a =>
    cases a with
    | nil => exact absurd rfl h.1
    | cons x s => exact ⟨x, s, rfl, h.2 x (by simp)⟩
  | quo q => exact ⟨'"', _, rfl, by decide⟩

theorem ws1_sp {w : Word} (h : w.OK) (ws : List Word) : ws1 (sp (w :: ws)) = some (w.text ++ sp ws) := by
  obtain ⟨x, s, e, hx⟩ := h.head
  rw [sp, e]
  show ws1 (' ' :: x :: (s ++ sp ws)) = some (x :: (s ++ sp ws))
  simp [ws1, hx]
  simp [isReSpace]

theorem tok_sp {a : Str} (h : (Word.tok a).OK) (ws : List Word) : tok (a ++ sp ws) = some (a, sp ws) := by
  have ht : (a ++ sp ws).takeWhile (fun c => !isReSpace c) = a := by
    rw [List.takeWhile_append_of_pos (fun c hc => by simp [h.2 c hc])]
    rcases sp_cases ws with e | ⟨t, e⟩ <;> rw [e] <;> simp [isReSpace]
  have hd : (a ++ sp ws).dropWhile (fun c => !isReSpace c) = sp ws := by
    rw [List.dropWhile_append_of_pos (fun c hc => by simp [h.2 c hc])]
    rcases sp_cases ws with e | ⟨t, e⟩ <;> rw [e] <;> simp [isReSpace]
  unfold tok
  simp only [ht, hd]
  cases a with
  | nil => exact absurd rfl h.1
  | cons x xs => simp

theorem quoted_sp {q : Str} (h : (Word.quo q).OK) (ws : List Word) :
    quoted ((Word.quo q).text ++ sp ws) = some (q, sp ws) := by
  have e : (Word.quo q).text ++ sp ws = '"' :: (q ++ '"' :: sp ws) := by simp [Word.text]
  rw [e]
  unfold quoted
  simp only [dropWhile_ne '"' q _ h, takeWhile_ne '"' q _ h]

/-- `\s+(\S+)` reads one token, whatever is done with it next -/
theorem bind_wsTok {β : Type} {a : Str} (h : (Word.tok a).OK) (ws : List Word) (k : Str × Str → Option β) :
    (ws1 (sp (.tok a :: ws))).bind (fun s => (tok s).bind k) = k (a, sp ws) := by
  rw [ws1_sp h, Option.bind_some]
  show (tok (a ++ sp ws)).bind k = _
  rw [tok_sp h, Option.bind_some]

theorem wsTok_sp {a : Str} (h : (Word.tok a).OK) (ws : List Word) : wsTok (sp (.tok a :: ws)) = some (a, sp ws) := by
  unfold wsTok
  simp only [Option.bind_eq_bind]
  rw [ws1_sp h, Option.bind_some]
  exact tok_sp h ws

theorem kwTok_sp {kw a : Str} (hk : (Word.tok kw).OK) (ha : (Word.tok a).OK) (ws : List Word) :
    kwTok kw (sp (.tok kw :: .tok a :: ws)) = some (a, sp ws) := by
  unfold kwTok
  simp only [Option.bind_eq_bind]
  rw [ws1_sp hk, Option.bind_some]
  show (lit kw (kw ++ _)).bind _ = _
  rw [lit_append, Option.bind_some, ws1_sp ha, Option.bind_some]
  exact tok_sp ha ws

theorem kwQuoted_sp {kw q : Str} (hk : (Word.tok kw).OK) (hq : (Word.quo q).OK) (ws : List Word) :
    kwQuoted kw (sp (.tok kw :: .quo q :: ws)) = some (q, sp ws) := by
  unfold kwQuoted
  simp only [Option.bind_eq_bind]
  rw [ws1_sp hk, Option.bind_some]
  show (lit kw (kw ++ _)).bind _ = _
  rw [lit_append, Option.bind_some, ws1_sp hq, Option.bind_some]
  exact quoted_sp hq ws

theorem lit_other {kw s : Str} (hk : kw ≠ []) (h : s.head? ≠ kw.head?) : lit kw s = none := by
  rw [lit, isPrefixOf_eq_false_of_head hk h]; rfl

def Other (kw : Str) (ws : List Word) : Prop := ∀ w ∈ ws.head?, w.OK ∧ w.text.head? ≠ kw.head?

theorem other_nil (kw : Str) : Other kw [] := fun _ h => nomatch h

theorem other_tok {kw a : Str} (ha : (Word.tok a).OK) (h : a.head? ≠ kw.head?) (ws : List Word) :
    Other kw (.tok a :: ws) := fun u hu => by cases hu; exact ⟨ha, h⟩

theorem ws1_lit_other {kw : Str} (hk : kw ≠ []) {ws : List Word} (h : Other kw ws) :
    (ws1 (sp ws)).bind (lit kw) = none := by
  cases ws with
  | nil => rfl
  | cons w ws =>
    obtain ⟨hw, hh⟩ := h w rfl
    rw [ws1_sp hw, Option.bind_some]
    apply lit_other hk
    obtain ⟨x, s, e, _⟩ := hw.head
    rw [e] at hh ⊢
    exact hh

theorem kwTok_other {kw : Str} (hk : kw ≠ []) {ws : List Word} (h : Other kw ws) : kwTok kw (sp ws) = none := by
  have := ws1_lit_other hk h
  unfold kwTok
  simp only [Option.bind_eq_bind]
  rw [← Option.bind_assoc, this]
  rfl

theorem kwQuoted_other {kw : Str} (hk : kw ≠ []) {ws : List Word} (h : Other kw ws) : kwQuoted kw (sp ws) = none := by
  have := ws1_lit_other hk h
  unfold kwQuoted
  simp only [Option.bind_eq_bind]
  rw [← Option.bind_assoc, this]
  rfl

theorem head_line {cmd : Str} (h : (Word.tok cmd).OK) (ws : List Word) :
    head cmd (line (.tok cmd :: ws)) = some (sp ws) := by
  unfold head line
  simp only [Option.bind_eq_bind]
  rw [lit_append, Option.bind_some, ws1_sp h, Option.bind_some]
  exact lit_append cmd _

theorem head_line_other {cmd : Str} (hc : cmd ≠ []) {ws : List Word} (h : Other cmd ws) : head cmd (line ws) = none := by
  unfold head line
  simp only [Option.bind_eq_bind]
  rw [lit_append, Option.bind_some]
  exact ws1_lit_other hc h

theorem Word.OK.noNL {a : Str} (h : (Word.tok a).OK) : '\n' ∉ a := fun hc => by
  have := h.2 _ hc
  revert this; decide

theorem kAdd_ok : (Word.tok kAdd).OK := by unfold kAdd; simp only [toList_lit rfl]; decide

theorem kDel_ok : (Word.tok kDel).OK := by unfold kDel; simp only [toList_lit rfl]; decide

theorem kWeight_ok : (Word.tok kWeight).OK := by unfold kWeight; simp only [toList_lit rfl]; decide

theorem kTags_ok : (Word.tok kTags).OK := by unfold kTags; simp only [toList_lit rfl]; decide

theorem kOpts_ok : (Word.tok kOpts).OK := by unfold kOpts; simp only [toList_lit rfl]; decide

theorem digitChar_noSp (d : Nat) : isUniSpace (digitChar d) = false := by
  have h : ∀ k, k < 10 → isUniSpace (Char.ofNat (48 + k)) = false := by decide
  exact h (d % 10) (Nat.mod_lt _ (by decide))

theorem natDigitsAux_noSp (fuel n : Nat) (acc : Str) (h : ∀ c ∈ acc, isUniSpace c = false) :
    ∀ c ∈ natDigitsAux fuel n acc, isUniSpace c = false := by
  induction fuel generalizing n acc with
  | zero => simpa [natDigitsAux] using h
  | succ f ih =>
    unfold natDigitsAux
    split
    · intro c hc
      rcases List.mem_cons.1 hc with rfl | hc
      · exact digitChar_noSp _
      · exact h c hc
    · apply ih
      intro c hc
      rcases List.mem_cons.1 hc with rfl | hc
      · exact digitChar_noSp _
      · exact h c hc

theorem fmt4_noSp (w : Rat) : ∀ c ∈ fmt4 w, isUniSpace c = false := by
  intro c hc
  unfold fmt4 at hc
  simp only [List.mem_append, List.mem_cons, List.not_mem_nil, or_false] at hc
  rcases hc with hc | rfl | rfl | rfl | rfl | rfl
  · exact natDigitsAux_noSp _ _ [] (by simp) c hc
  · decide
  all_goals exact digitChar_noSp _

theorem fmt4_ne (w : Rat) : fmt4 w ≠ [] := by simp [fmt4]

theorem splitKV_renderOpt (kv : Str × Str) (h : '=' ∉ kv.1) : splitKV (renderOpt kv) = kv := by
  unfold splitKV renderOpt
  rw [List.append_assoc, List.singleton_append, takeWhile_ne '=' _ _ h, dropWhile_ne '=' _ _ h]
  rfl

theorem parseTags_join (tags : List Str) (hne : tags ≠ []) (hj : join [','] tags ≠ [])
    (h : ∀ t ∈ tags, ',' ∉ t ∧ trimSpace t = t) : parseTags (join [','] tags) = tags := by
  unfold parseTags
  simp only [List.isEmpty_iff, hj, if_false]
  rw [splitOn_join ',' tags hne (fun t ht => (h t ht).1)]
  conv => rhs; rw [← List.map_id tags]
  exact List.map_congr_left (fun t ht => (h t ht).2)

/-! ### the option map: `optsOfPairs` is idempotent -/

def KSorted (l : List (Str × Str)) : Prop := l.Pairwise (fun a b => strLt a.1 b.1 = true)

theorem mem_optInsert (kv : Str × Str) (m : List (Str × Str)) :
    ∀ x ∈ optInsert kv m, x = kv ∨ x ∈ m := by
  induction m with
  | nil => intro x hx; simpa [optInsert] using hx
  | cons y ys ih =>
    intro x hx
    simp only [optInsert] at hx
    split at hx
    · rcases List.mem_cons.1 hx with h | h
      · exact .inl h
      · exact .inr (List.mem_cons_of_mem _ h)
    · split at hx
      · rcases List.mem_cons.1 hx with h | h
        · exact .inl h
        · exact .inr h
      · rcases List.mem_cons.1 hx with h | h
        · exact .inr (by simp [h])
        · rcases ih x h with h | h
          · exact .inl h
          · exact .inr (List.mem_cons_of_mem _ h)

theorem mem_foldl_optInsert (ps acc : List (Str × Str)) :
    ∀ x ∈ ps.foldl (fun m kv => optInsert kv m) acc, x ∈ ps ∨ x ∈ acc := by
  induction ps generalizing acc with
  | nil => intro x hx; exact .inr hx
  | cons p ps ih =>
    intro x hx
    rw [List.foldl_cons] at hx
    rcases ih _ x hx with h | h
    · exact .inl (List.mem_cons_of_mem _ h)
    · rcases mem_optInsert p acc x h with h | h
      · exact .inl (by simp [h])
      · exact .inr h

theorem mem_optsOfPairs (ps : List (Str × Str)) : ∀ x ∈ optsOfPairs ps, x ∈ ps := by
  intro x hx
  rcases mem_foldl_optInsert ps [] x hx with h | h
  · exact h
  · cases h

theorem mem_sortOpts (o : List (Str × Str)) : ∀ x ∈ sortOpts o, x ∈ o := mem_optsOfPairs o

theorem optInsert_sorted (kv : Str × Str) (m : List (Str × Str)) (h : KSorted m) :
    KSorted (optInsert kv m) := by
  induction m with
  | nil => simp [optInsert, KSorted]
  | cons y ys ih =>
    unfold KSorted at h ih ⊢
    rw [List.pairwise_cons] at h
    simp only [optInsert]
    split
    · next he =>
      have he : kv.1 = y.1 := by simpa using he
      rw [List.pairwise_cons]
      exact ⟨fun z hz => by rw [he]; exact h.1 z hz, h.2⟩
    · next hne =>
      split
      · next hlt =>
        rw [List.pairwise_cons, List.pairwise_cons]
        refine ⟨?_, h⟩
        intro z hz
        rcases List.mem_cons.1 hz with rfl | hz
        · exact hlt
        · exact strLt_strict.trans hlt (h.1 z hz)
      · next hnlt =>
        have hyk : strLt y.1 kv.1 = true := by
          rcases strLt_tri kv.1 y.1 with h' | h' | h'
          · exact absurd h' hnlt
          · exact absurd (by simpa using h') hne
          · exact h'
        rw [List.pairwise_cons]
        refine ⟨?_, ih h.2⟩
        intro z hz
        rcases mem_optInsert kv ys z hz with rfl | hz
        · exact hyk
        · exact h.1 z hz

theorem foldl_optInsert_sorted (ps acc : List (Str × Str)) (h : KSorted acc) :
    KSorted (ps.foldl (fun m kv => optInsert kv m) acc) := by
  induction ps generalizing acc with
  | nil => exact h
  | cons p ps ih => exact ih _ (optInsert_sorted p acc h)

theorem optsOfPairs_sorted (ps : List (Str × Str)) : KSorted (optsOfPairs ps) :=
  foldl_optInsert_sorted ps [] List.Pairwise.nil

theorem optInsert_last (kv : Str × Str) (acc : List (Str × Str))
    (h : ∀ a ∈ acc, strLt a.1 kv.1 = true) : optInsert kv acc = acc ++ [kv] := by
  induction acc with
  | nil => rfl
  | cons a as ih =>
    have ha := h a (by simp)
    have h1 : (kv.1 == a.1) = false := by
      apply Bool.eq_false_iff.2
      intro he
      have he : kv.1 = a.1 := by simpa using he
      rw [he, strLt_strict.irrefl] at ha
      cases ha
    have h2 : strLt kv.1 a.1 = false := by
      apply Bool.eq_false_iff.2
      intro hlt
      rw [strLt_strict.asymm hlt] at ha
      cases ha
    simp only [optInsert, h1, h2, Bool.false_eq_true, if_false, List.cons_append]
    rw [ih (fun b hb => h b (List.mem_cons_of_mem _ hb))]

theorem foldl_optInsert_of_sorted (l acc : List (Str × Str)) (h : KSorted (acc ++ l)) :
    l.foldl (fun m kv => optInsert kv m) acc = acc ++ l := by
  induction l generalizing acc with
  | nil => simp
  | cons x l ih =>
    rw [List.foldl_cons]
    have hx : ∀ a ∈ acc, strLt a.1 x.1 = true := by
      intro a ha
      unfold KSorted at h
      rw [List.pairwise_append] at h
      exact h.2.2 a ha x (by simp)
    rw [optInsert_last x acc hx]
    have : acc ++ [x] ++ l = acc ++ x :: l := by simp
    rw [ih (acc ++ [x]) (by rw [this]; exact h), this]

theorem optsOfPairs_of_sorted (l : List (Str × Str)) (h : KSorted l) : optsOfPairs l = l := by
  have := foldl_optInsert_of_sorted l [] (by simpa using h)
  simpa [optsOfPairs] using this

theorem optsOfPairs_idem (o : List (Str × Str)) : optsOfPairs (optsOfPairs o) = optsOfPairs o :=
  optsOfPairs_of_sorted _ (optsOfPairs_sorted o)

theorem parseOpts_join (o : List (Str × Str))
    (h : ∀ kv ∈ o, '=' ∉ kv.1 ∧ (∀ c ∈ kv.1, isUniSpace c = false) ∧ (∀ c ∈ kv.2, isUniSpace c = false)) :
    parseOpts (join [' '] (o.map renderOpt)) = sortOpts o := by
  unfold parseOpts
  rw [fields_join]
  · rw [List.map_map]
    have : o.map (splitKV ∘ renderOpt) = o.map id :=
      List.map_congr_left (fun kv hkv => splitKV_renderOpt kv (h kv hkv).1)
    rw [this, List.map_id]
    rfl
  · intro w hw
    obtain ⟨kv, _, rfl⟩ := List.mem_map.1 hw
    simp [renderOpt]
  · intro w hw c hc
    obtain ⟨kv, hkv, rfl⟩ := List.mem_map.1 hw
    have := h kv hkv
    simp only [renderOpt, List.mem_append, List.mem_singleton] at hc
    rcases hc with (hc | rfl) | hc
    · exact this.2.1 c hc
    · decide
    · exact this.2.2 c hc

/-- what the grammar asks of the tags between the quotes -/
def TagsQ (ts : List Str) : Prop := ∀ tag ∈ ts, '"' ∉ tag ∧ ',' ∉ tag ∧ '\n' ∉ tag ∧ trimSpace tag = tag
/-- what the grammar asks of the options between the quotes -/
def OptsK (o : List (Str × Str)) : Prop :=
  ∀ kv ∈ o, '=' ∉ kv.1 ∧ (∀ c ∈ kv.1, isUniSpace c = false ∧ c ≠ '"') ∧ (∀ c ∈ kv.2, isUniSpace c = false ∧ c ≠ '"')

instance (ts : List Str) : Decidable (TagsQ ts) := by unfold TagsQ; exact inferInstance

instance (o : List (Str × Str)) : Decidable (OptsK o) := by unfold OptsK; exact inferInstance

theorem not_mem_join {c sep : Char} {l : List Str} (hs : c ≠ sep) (h : ∀ x ∈ l, c ∉ x) : c ∉ join [sep] l := by
  intro hc
  rcases mem_join _ _ _ hc with hc | ⟨x, hx, hc⟩
  · exact hs (List.mem_singleton.1 hc)
  · exact h x hx hc

theorem not_mem_join_opts {c : Char} {o : List (Str × Str)} (hsp : c ≠ ' ') (heq : c ≠ '=')
    (h : ∀ kv ∈ o, c ∉ kv.1 ∧ c ∉ kv.2) : c ∉ join [' '] (o.map renderOpt) := by
  refine not_mem_join hsp (fun x hx hc => ?_)
  obtain ⟨kv, hkv, rfl⟩ := List.mem_map.1 hx
  simp only [renderOpt, List.mem_append, List.mem_singleton] at hc
  rcases hc with (hc | hc) | hc
  · exact (h kv hkv).1 hc
  · exact heq hc
  · exact (h kv hkv).2 hc

theorem nl_not_uniSpace_free {s : Str} (h : ∀ c ∈ s, isUniSpace c = false) : '\n' ∉ s := by
  intro hc
  have := h _ hc
  revert this; decide

variable {ts : List Str} {o : List (Str × Str)}

theorem TagsQ.noQuote (h : TagsQ ts) : '"' ∉ join [','] ts :=
  not_mem_join (by decide) (fun x hx => (h x hx).1)

theorem TagsQ.noNL (h : TagsQ ts) : '\n' ∉ join [','] ts :=
  not_mem_join (by decide) (fun x hx => (h x hx).2.2.1)

theorem OptsK.noQuote (h : OptsK o) : '"' ∉ join [' '] (o.map renderOpt) :=
  not_mem_join_opts (by decide) (by decide)
    (fun kv hkv => ⟨fun hc => ((h kv hkv).2.1 _ hc).2 rfl, fun hc => ((h kv hkv).2.2 _ hc).2 rfl⟩)

theorem OptsK.noNL (h : OptsK o) : '\n' ∉ join [' '] (o.map renderOpt) :=
  not_mem_join_opts (by decide) (by decide)
    (fun kv hkv => ⟨nl_not_uniSpace_free (fun c hc => ((h kv hkv).2.1 c hc).1),
      nl_not_uniSpace_free (fun c hc => ((h kv hkv).2.2 c hc).1)⟩)

theorem TagsQ.parseTags (h : TagsQ ts) (hne : ts ≠ [] → join [','] ts ≠ []) : parseTags (join [','] ts) = ts := by
  cases ts with
  | nil => rfl
  | cons t l =>
    exact parseTags_join _ (List.cons_ne_nil _ _) (hne (List.cons_ne_nil _ _)) (fun t ht => ⟨(h t ht).2.1, (h t ht).2.2.2⟩)

theorem OptsK.sort (h : OptsK o) : OptsK (sortOpts o) := fun kv hkv => h kv (mem_sortOpts _ kv hkv)

theorem OptsK.parseOpts (h : OptsK o) : parseOpts (join [' '] (o.map renderOpt)) = sortOpts o :=
  parseOpts_join _ (fun kv hkv =>
    ⟨(h kv hkv).1, fun c hc => ((h kv hkv).2.1 c hc).1, fun c hc => ((h kv hkv).2.2 c hc).1⟩)

def NilOrLast (s : Str) : Prop := s = [] ∨ LastOK s

theorem NilOrLast.append {a b : Str} (ha : NilOrLast a) (hb : NilOrLast b) : NilOrLast (a ++ b) := by
  rcases hb with rfl | hb
  · rw [List.append_nil]; exact ha
  · exact .inr (hb.append_right a)

theorem LastOK.append_nilOrLast {a b : Str} (ha : LastOK a) (hb : NilOrLast b) : LastOK (a ++ b) := by
  rcases hb with rfl | hb
  · rw [List.append_nil]; exact ha
  · exact hb.append_right a

theorem lastOK_quote (s : Str) : LastOK (s ++ ['"']) :=
  LastOK.append_right s ⟨'"', rfl, by decide⟩

/-- what a line is, independently of the float parser -/
inductive Shape where
  | skip
  | err (e : SynErr)
  | plain (d : RouteDef)
  | weighted (w : Str) (mk : Rat → RouteDef)

/-- what each of the three command parsers makes of a trimmed line, with the weight left open -/
def shapeAdd (s : Str) : Shape :=
  match matchAdd s with
  | none => .err .addInvalid
  | some m => .weighted m.weight (fun w =>
      { cmd := .add, service := m.service, src := m.src, dst := m.dst, weight := w,
        tags := parseTags m.tags, opts := parseOpts m.opts })

def shapeDel (s : Str) : Shape :=
  match matchDelSvcTags s with
  | some (service, tags) => .plain { cmd := .del, service, tags := parseTags tags }
  | none =>
    match matchDelTags s with
    | some tags => .plain { cmd := .del, tags := parseTags tags }
    | none =>
      match matchDel s with
      | some (service, src, dst) => .plain { cmd := .del, service, src, dst }
      | none => .err .delInvalid

def shapeWeight (s : Str) : Shape :=
  match matchWeightSvc s with
  | some (service, src, w, tags) => .weighted w (fun q => { cmd := .weight, service, src, weight := q, tags := parseTags tags })
  | none =>
    match matchWeightSrc s with
    | some (src, w, tags) => .weighted w (fun q => { cmd := .weight, src, weight := q, tags := parseTags tags })
    | none => .err .weightInvalid

/-- the dispatch of `Parse` on a trimmed line: a comment or blank line, `route add`, `route del`, `route weight`,
anything else. `parseLine`, `weightTok` and `shape` are this dispatch over different values. -/
def dispatch {α : Type} (s : Str) (skip add del weight other : α) : α :=
  if isComment s || isBlank s then skip
  else if (head kAdd s).isSome then add
  else if (head kDel s).isSome then del
  else if (head kWeight s).isSome then weight
  else other

theorem dispatch_map {α β : Type} (f : α → β) (s : Str) (z a d w e : α) :
    f (dispatch s z a d w e) = dispatch s (f z) (f a) (f d) (f w) (f e) := by
  simp only [dispatch, apply_ite f]

theorem dispatch_cases {α : Type} {P : α → Prop} (s : Str) {z a d w e : α} (hz : P z) (ha : P a) (hd : P d) (hw : P w)
    (he : P e) : P (dispatch s z a d w e) :=
  iteInduction (fun _ => hz) fun _ => iteInduction (fun _ => ha) fun _ => iteInduction (fun _ => hd) fun _ =>
    iteInduction (fun _ => hw) fun _ => he

def shape (s : Str) : Shape := dispatch s .skip (shapeAdd s) (shapeDel s) (shapeWeight s) (.err .routeExpected)

def runShape (pf : ParseFloat) : Shape → Except LineErr (Option RouteDef)
  | .skip => .ok none
  | .err e => .error (.syn e)
  | .plain d => .ok (some d)
  | .weighted w mk =>
    match parseWeight pf w with
    | .ok q => .ok (some (mk q))
    | .error e => .error e

def Shape.tok : Shape → Str
  | .weighted w _ => w
  | _ => []

theorem parseRouteAdd_shape (pf : ParseFloat) (s : Str) : (parseRouteAdd pf s).map some = runShape pf (shapeAdd s) := by
  unfold parseRouteAdd shapeAdd
  cases matchAdd s with
  | none => rfl
  | some m =>
    simp only [runShape]
    cases parseWeight pf m.weight <;> rfl

theorem parseRouteDel_shape (pf : ParseFloat) (s : Str) : (parseRouteDel s).map some = runShape pf (shapeDel s) := by
  unfold parseRouteDel shapeDel
  cases matchDelSvcTags s with
  | some st => obtain ⟨a, b⟩ := st; rfl
  | none =>
    cases matchDelTags s with
    | some tg => rfl
    | none =>
      cases matchDel s with
      | some x => obtain ⟨a, b, c⟩ := x; rfl
      | none => rfl

theorem parseRouteWeight_shape (pf : ParseFloat) (s : Str) :
    (parseRouteWeight pf s).map some = runShape pf (shapeWeight s) := by
  unfold parseRouteWeight shapeWeight
  cases matchWeightSvc s with
  | some x =>
    obtain ⟨a, b, c, d⟩ := x
    simp only [runShape]
    cases parseWeight pf c <;> rfl
  | none =>
    cases matchWeightSrc s with
    | some x =>
      obtain ⟨a, b, c⟩ := x
      simp only [runShape]
      cases parseWeight pf b <;> rfl
    | none => rfl

theorem parseLine_shape (pf : ParseFloat) (line : Str) :
    parseLine pf line = runShape pf (shape (trimSpace line)) := by
  rw [shape, dispatch_map (runShape pf), ← parseRouteAdd_shape, ← parseRouteDel_shape pf, ← parseRouteWeight_shape]
  rfl

theorem shapeAdd_tok (s : Str) : (shapeAdd s).tok = (match matchAdd s with | some m => m.weight | none => []) := by
  unfold shapeAdd
  cases matchAdd s <;> rfl

theorem shapeDel_tok (s : Str) : (shapeDel s).tok = [] := by
  unfold shapeDel
  cases matchDelSvcTags s with
  | some st => rfl
  | none =>
    cases matchDelTags s with
    | some tg => rfl
    | none => cases matchDel s <;> rfl

theorem shapeWeight_tok (s : Str) :
    (shapeWeight s).tok = (match matchWeightSvc s with
      | some (_, _, w, _) => w
      | none =>
        match matchWeightSrc s with
        | some (_, w, _) => w
        | none => []) := by
  unfold shapeWeight
  cases matchWeightSvc s with
  | some x => rfl
  | none => cases matchWeightSrc s <;> rfl

theorem weightTok_shape (s : Str) : weightTok s = (shape s).tok := by
  rw [shape, dispatch_map Shape.tok, shapeAdd_tok, shapeDel_tok, shapeWeight_tok]
  rfl

/-- only `route add` carries options: a command without a weight (a `del`) has none, and a command that takes a weight
is an `add`, or a `weight` without options -/
def Shape.OptsOnAdd : Shape → Prop
  | .plain d => d.opts = []
  | .weighted _ mk => ∀ q, (mk q).cmd = .add ∨ ((mk q).cmd = .weight ∧ (mk q).opts = [])
  | _ => True

theorem shapeAdd_opts (s : Str) : (shapeAdd s).OptsOnAdd := by
  unfold shapeAdd
  cases matchAdd s with
  | none => trivial
  | some m => exact fun _ => .inl rfl

theorem shapeDel_opts (s : Str) : (shapeDel s).OptsOnAdd := by
  unfold shapeDel
  cases matchDelSvcTags s with
  | some st => rfl
  | none =>
    cases matchDelTags s with
    | some tg => rfl
    | none => cases matchDel s <;> first | rfl | trivial

theorem shapeWeight_opts (s : Str) : (shapeWeight s).OptsOnAdd := by
  unfold shapeWeight
  cases matchWeightSvc s with
  | some x => exact fun _ => .inr ⟨rfl, rfl⟩
  | none => cases matchWeightSrc s <;> first | exact fun _ => .inr ⟨rfl, rfl⟩ | trivial

theorem shape_opts (s : Str) : (shape s).OptsOnAdd :=
  dispatch_cases s trivial (shapeAdd_opts s) (shapeDel_opts s) (shapeWeight_opts s) trivial

theorem trimSpace_route {l : Str} (hr : l.head? = some 'r') (hl : LastOK l) : trimSpace l = l := by
  cases l with
  | nil => cases hr
  | cons c s =>
    obtain rfl : c = 'r' := by simpa using hr
    exact trimSpace_eq (by decide) hl

theorem skip_false {l : Str} (hr : l.head? = some 'r') : (isComment l || isBlank l) = false := by
  cases l with
  | nil => cases hr
  | cons c s =>
    obtain rfl : c = 'r' := by simpa using hr
    simp [isComment, isBlank, isReSpace]

/-- a line that `TrimSpace`, `dropCR` and the line splitting leave alone: it starts with `r`, ends in no white space and
holds no newline -/
structure Framed (l : Str) : Prop where
  r : l.head? = some 'r'
  last : LastOK l
  noNL : '\n' ∉ l

/-- a command line as it is printed: framed, and `sh` is what the grammar makes of it -/
structure Printed (l : Str) (sh : Shape) : Prop extends Framed l where
  sh_eq : shape l = sh

theorem Printed.parseLine {l : Str} {sh : Shape} (h : Printed l sh) (pf : ParseFloat) :
    parseLine pf l = runShape pf sh := by
  rw [parseLine_shape, trimSpace_route h.r h.last, h.sh_eq]

theorem Printed.weightTok {l : Str} {sh : Shape} (h : Printed l sh) : weightTok l = sh.tok := by
  rw [weightTok_shape, h.sh_eq]

theorem line_r (ws : List Word) : (line ws).head? = some 'r' := rfl

theorem sp_nilOrLast {ws : List Word} (h : ∀ w ∈ ws.getLast?, LastOK w.text) : NilOrLast (sp ws) := by
  induction ws with
  | nil => exact .inl rfl
  | cons w ws ih =>
    right
    cases ws with
    | nil =>
      rw [sp, sp, List.append_nil]
      exact (h w rfl).cons _
    | cons v vs =>
      rcases ih (fun u hu => h u (by simpa [List.getLast?_cons_cons] using hu)) with h0 | hl
      · cases h0
      · rw [sp]
        exact (hl.append_right _).cons _

theorem line_lastOK {ws : List Word} (hne : ws ≠ []) (h : ∀ w ∈ ws.getLast?, LastOK w.text) : LastOK (line ws) := by
  rcases sp_nilOrLast h with h0 | hl
  · cases ws with
    | nil => exact absurd rfl hne
    | cons w ws => cases h0
  · exact hl.append_right _

/-- a line that ends in a quoted string -/
theorem line_lastOK_quo (ws : List Word) (q : Str) : LastOK (line (ws ++ [.quo q])) := by
  rw [line_append, sp, sp, List.append_nil]
  exact LastOK.append_right _ (((lastOK_quote q).cons _).cons _)

theorem sp_not_mem {c : Char} (hc : c ≠ ' ') {ws : List Word} (h : ∀ w ∈ ws, c ∉ w.text) : c ∉ sp ws := by
  induction ws with
  | nil => exact List.not_mem_nil
  | cons w ws ih =>
    simp only [sp, List.mem_cons, List.mem_append, not_or]
    exact ⟨hc, h w (by simp), ih (fun u hu => h u (List.mem_cons_of_mem _ hu))⟩

theorem line_noNL {ws : List Word} (h : ∀ w ∈ ws, '\n' ∉ w.text) : '\n' ∉ line ws := by
  unfold line
  simp only [List.mem_append, not_or]
  exact ⟨by decide, sp_not_mem (by decide) h⟩

theorem noNL_quo {q : Str} (h : '\n' ∉ q) : '\n' ∉ (Word.quo q).text := by
  simp [Word.text, h]

theorem Printed.words {ws : List Word} {sh : Shape} (hs : shape (line ws) = sh) (hl : LastOK (line ws))
    (hn : ∀ w ∈ ws, '\n' ∉ w.text) : Printed (line ws) sh :=
  ⟨⟨line_r ws, hl, line_noNL hn⟩, hs⟩

theorem shape_add (ws : List Word) : shape (line (.tok kAdd :: ws)) = shapeAdd (line (.tok kAdd :: ws)) := by
  unfold shape dispatch
  rw [skip_false (line_r _), head_line kAdd_ok]
  rfl

theorem shape_del (ws : List Word) : shape (line (.tok kDel :: ws)) = shapeDel (line (.tok kDel :: ws)) := by
  unfold shape dispatch
  rw [skip_false (line_r _), head_line_other (by decide) (other_tok kDel_ok (by decide) ws), head_line kDel_ok]
  rfl

theorem shape_weight (ws : List Word) : shape (line (.tok kWeight :: ws)) = shapeWeight (line (.tok kWeight :: ws)) := by
  unfold shape dispatch
  rw [skip_false (line_r _), head_line_other (by decide) (other_tok kWeight_ok (by decide) ws),
    head_line_other (by decide) (other_tok kWeight_ok (by decide) ws), head_line kWeight_ok]
  rfl

/-! ### the optional clauses of a `route add` line

After the destination a line carries ` weight <w>`, ` tags "…"`, ` opts "…"`, each optional, in this order: as words,
a keyword and a token (`tokClause`) or a keyword and a quoted string (`quoClause`). `matchAdd` settles each optional
group by one character of look-ahead: `w`, `t` or `o` can only open the clause of that name, so an absent clause is
recognised by the first character of the word that follows (`Other`). -/

def tokClause (kw a : Str) : List Word := if a.isEmpty then [] else [.tok kw, .tok a]

def quoClause (kw : Str) (present : Bool) (q : Str) : List Word := if present then [.tok kw, .quo q] else []

theorem other_quoClause {kw kw' : Str} (h : kw'.head? ≠ kw.head?) (hk : (Word.tok kw').OK) (b : Bool) (q : Str)
    {rest : List Word} (hr : Other kw rest) : Other kw (quoClause kw' b q ++ rest) := by
  unfold quoClause
  cases b with
  | false => exact hr
  | true => exact other_tok hk h _

theorem optGroup_tokClause {kw a : Str} (hk : (Word.tok kw).OK) (ha : ∀ c ∈ a, isReSpace c = false) {rest : List Word}
    (hr : Other kw rest) : optGroup (kwTok kw) (sp (tokClause kw a ++ rest)) = (a, sp rest) := by
  unfold tokClause
  split
  · next he => rw [List.isEmpty_iff.1 he, List.nil_append, optGroup, kwTok_other hk.1 hr]
  · next hne =>
    rw [List.cons_append, List.cons_append, List.nil_append, optGroup, kwTok_sp hk ⟨by simpa using hne, ha⟩]

theorem optGroup_quoClause {kw q : Str} (hk : (Word.tok kw).OK) (hq : '"' ∉ q) (present : Bool) {rest : List Word}
    (hr : Other kw rest) :
    optGroup (kwQuoted kw) (sp (quoClause kw present q ++ rest)) = (if present then q else [], sp rest) := by
  unfold quoClause optGroup
  cases present with
  | false => simp only [Bool.false_eq_true, if_false, List.nil_append, kwQuoted_other hk.1 hr]
  | true => simp only [if_true, List.cons_append, List.nil_append, kwQuoted_sp hk hq]

theorem optGroup_quoClause_last {kw q : Str} (hk : (Word.tok kw).OK) (hq : '"' ∉ q) (present : Bool) :
    optGroup (kwQuoted kw) (sp (quoClause kw present q)) = (if present then q else [], []) := by
  have := optGroup_quoClause hk hq present (other_nil kw)
  rwa [List.append_nil] at this

/-- an absent clause captures the empty string, which is the join of no pieces -/
theorem join_of_present (sep : Str) (l : List Str) : (if (!l.isEmpty) = true then join sep l else []) = join sep l := by
  cases l <;> rfl

theorem tokClause_nilOrLast (kw : Str) {a : Str} (ha : ∀ c ∈ a, isUniSpace c = false) :
    NilOrLast (sp (tokClause kw a)) := by
  unfold tokClause
  split
  · exact .inl rfl
  · next hne => exact sp_nilOrLast (fun u hu => by cases hu; exact LastOK.of_all (a := a) (by simpa using hne) ha)

theorem quoClause_nilOrLast (kw : Str) (b : Bool) (q : Str) : NilOrLast (sp (quoClause kw b q)) := by
  unfold quoClause
  cases b with
  | false => exact .inl rfl
  | true => exact sp_nilOrLast (fun u hu => by cases hu; exact (lastOK_quote q).cons _)

theorem tokClause_noNL {kw a : Str} (hk : '\n' ∉ kw) (ha : '\n' ∉ a) : ∀ u ∈ tokClause kw a, '\n' ∉ u.text := by
  unfold tokClause
  split
  · exact nofun
  · exact List.forall_mem_cons.2 ⟨hk, List.forall_mem_cons.2 ⟨ha, nofun⟩⟩

theorem quoClause_noNL {kw q : Str} (hk : '\n' ∉ kw) (b : Bool) (hq : '\n' ∉ q) :
    ∀ u ∈ quoClause kw b q, '\n' ∉ u.text := by
  unfold quoClause
  cases b with
  | false => exact nofun
  | true => exact List.forall_mem_cons.2 ⟨hk, List.forall_mem_cons.2 ⟨noNL_quo hq, nofun⟩⟩

theorem sp_two (kw : Str) (w : Word) : sp [.tok kw, w] = ' ' :: (kw ++ ' ' :: w.text) := by
  simp only [sp, Word.text, List.append_nil]

theorem weightPart_eq (w : Str) : weightPart w = sp (tokClause kWeight w) := by
  unfold weightPart tokClause
  split
  · rfl
  · rw [sp_two]; unfold kWeight; simp only [toList_lit rfl]; rfl

theorem tagsPart_eq (ts : List Str) : tagsPart ts = sp (quoClause kTags (!ts.isEmpty) (join [','] ts)) := by
  unfold tagsPart quoClause
  cases ts.isEmpty with
  | true => rfl
  | false =>
    simp only [Bool.false_eq_true, if_false, Bool.not_false, if_true]
    rw [sp_two]; unfold kTags; simp only [toList_lit rfl, Word.text]
    simp only [List.cons_append, List.nil_append]

theorem optsWords_eq (ws : List Str) :
    (if ws.isEmpty then [] else " opts \"".toList ++ join [' '] ws ++ ['"']) =
      sp (quoClause kOpts (!ws.isEmpty) (join [' '] ws)) := by
  unfold quoClause
  cases ws.isEmpty with
  | true => rfl
  | false =>
    simp only [Bool.false_eq_true, if_false, Bool.not_false, if_true]
    rw [sp_two]; unfold kOpts; simp only [toList_lit rfl, Word.text]
    simp only [List.cons_append, List.nil_append]

theorem optsPart_eq (o : List (Str × Str)) :
    optsPart o = sp (quoClause kOpts (!(o.map renderOpt).isEmpty) (join [' '] (o.map renderOpt))) := by
  rw [← optsWords_eq, List.isEmpty_map]; rfl

/-- the words of `route add` after `route`: six parts, `w` the weight text (`[]` = none written), `ws` the option
words `k=v` -/
def addWords (svc src dst w : Str) (ts ws : List Str) : List Word :=
  .tok kAdd :: .tok svc :: .tok src :: .tok dst ::
    (tokClause kWeight w ++ (quoClause kTags (!ts.isEmpty) (join [','] ts) ++
      quoClause kOpts (!ws.isEmpty) (join [' '] ws)))

/-- what the parts must look like for the line to be read back into them -/
structure AddOK (svc src dst w : Str) (ts ws : List Str) : Prop where
  svc_tok : (Word.tok svc).OK
  src_tok : (Word.tok src).OK
  /-- the destination may end the line: `TrimSpace` / `dropCR` must not eat it -/
  dst_tok : dst ≠ [] ∧ ∀ c ∈ dst, isUniSpace c = false
  w_tok : ∀ c ∈ w, isUniSpace c = false
  tags_q : TagsQ ts
  /-- a single empty tag is written as `tags ""`, which reads as no tags -/
  tags_ne : ts ≠ [] → join [','] ts ≠ []
  opts_q : '"' ∉ join [' '] ws ∧ '\n' ∉ join [' '] ws

theorem line_add (svc src dst w : Str) (ts ws : List Str) :
    line (addWords svc src dst w ts ws) = "route add ".toList ++ (svc ++ ' ' :: (src ++ ' ' :: (dst ++
      sp (tokClause kWeight w ++ (quoClause kTags (!ts.isEmpty) (join [','] ts) ++
        quoClause kOpts (!ws.isEmpty) (join [' '] ws)))))) := by
  unfold line addWords kRoute kAdd
  simp only [toList_lit rfl, sp, Word.text, List.cons_append, List.nil_append]

theorem matchAdd_line {svc src dst w t o : Str} {r0 r1 r2 : List Word} (hsvc : (Word.tok svc).OK)
    (hsrc : (Word.tok src).OK) (hdst : (Word.tok dst).OK)
    (hW : optGroup (kwTok kWeight) (sp r0) = (w, sp r1)) (hT : optGroup (kwQuoted kTags) (sp r1) = (t, sp r2))
    (hO : optGroup (kwQuoted kOpts) (sp r2) = (o, [])) :
    matchAdd (line (.tok kAdd :: .tok svc :: .tok src :: .tok dst :: r0)) =
      some { service := svc, src := src, dst := dst, weight := w, tags := t, opts := o } := by
  unfold matchAdd
  simp only [Option.bind_eq_bind]
  rw [head_line kAdd_ok, Option.bind_some, bind_wsTok hsvc, bind_wsTok hsrc, bind_wsTok hdst]
  simp only [hW, hT, hO]
  simp

section
variable {svc src dst w : Str} {ts ws : List Str}

theorem AddOK.matchAdd (h : AddOK svc src dst w ts ws) :
    matchAdd (line (addWords svc src dst w ts ws)) =
      some { service := svc, src := src, dst := dst, weight := w, tags := join [','] ts, opts := join [' '] ws } := by
  have hO := optGroup_quoClause_last kOpts_ok h.opts_q.1 (!ws.isEmpty)
  have hT := optGroup_quoClause kTags_ok h.tags_q.noQuote (!ts.isEmpty)
    (other_quoClause (kw := kTags) (by decide) kOpts_ok (!ws.isEmpty) (join [' '] ws) (other_nil _))
  have hW := optGroup_tokClause (a := w) kWeight_ok (fun c hc => not_reSpace_of_not_uniSpace c (h.w_tok c hc))
    (other_quoClause (kw := kWeight) (by decide) kTags_ok (!ts.isEmpty) (join [','] ts)
      (other_quoClause (kw := kWeight) (by decide) kOpts_ok (!ws.isEmpty) (join [' '] ws) (other_nil _)))
  rw [List.append_nil] at hT hW
  rw [join_of_present] at hO hT
  exact matchAdd_line h.svc_tok h.src_tok
    ⟨h.dst_tok.1, fun c hc => not_reSpace_of_not_uniSpace c (h.dst_tok.2 c hc)⟩ hW hT hO

theorem AddOK.printed (h : AddOK svc src dst w ts ws) :
    Printed (line (addWords svc src dst w ts ws)) (.weighted w (fun x =>
      { cmd := .add, service := svc, src := src, dst := dst, weight := x, tags := ts,
        opts := parseOpts (join [' '] ws) })) := by
  have e : addWords svc src dst w ts ws = [.tok kAdd, .tok svc, .tok src, .tok dst] ++
      (tokClause kWeight w ++ (quoClause kTags (!ts.isEmpty) (join [','] ts) ++
        quoClause kOpts (!ws.isEmpty) (join [' '] ws))) := rfl
  refine .words ?_ ?_ ?_
  · rw [show shape (line (addWords svc src dst w ts ws)) = shapeAdd (line (addWords svc src dst w ts ws)) from shape_add _]
    unfold shapeAdd
    rw [h.matchAdd]
    simp only [TagsQ.parseTags h.tags_q h.tags_ne]
  · rw [e, line_append, sp_append, sp_append]
    exact (line_lastOK (List.cons_ne_nil _ _) (fun u hu => by cases hu; exact LastOK.of_all h.dst_tok.1 h.dst_tok.2)).append_nilOrLast
      ((tokClause_nilOrLast _ h.w_tok).append ((quoClause_nilOrLast _ _ _).append (quoClause_nilOrLast _ _ _)))
  · rw [e]
    exact List.forall_mem_append.2
      ⟨List.forall_mem_cons.2 ⟨kAdd_ok.noNL, List.forall_mem_cons.2 ⟨h.svc_tok.noNL,
        List.forall_mem_cons.2 ⟨h.src_tok.noNL,
          List.forall_mem_cons.2 ⟨nl_not_uniSpace_free h.dst_tok.2, nofun⟩⟩⟩⟩,
       List.forall_mem_append.2 ⟨tokClause_noNL kWeight_ok.noNL (nl_not_uniSpace_free h.w_tok),
        List.forall_mem_append.2 ⟨quoClause_noNL kTags_ok.noNL _ h.tags_q.noNL, quoClause_noNL kOpts_ok.noNL _ h.opts_q.2⟩⟩⟩

end

/-- what a target must look like for its rendering to be read back -/
structure TextOK (r : Route) (tg : Target) : Prop where
  svc_ne : tg.service ≠ []
  svc_tok : ∀ c ∈ tg.service, isReSpace c = false
  src_ne : r.host ++ r.path ≠ []
  src_tok : ∀ c ∈ r.host ++ r.path, isReSpace c = false
  url_ne : tg.url ≠ []
  /-- the URL may end the line: `TrimSpace` / `dropCR` must not eat it -/
  url_tok : ∀ c ∈ tg.url, isUniSpace c = false
  tags_q : ∀ tag ∈ tg.tags, '"' ∉ tag ∧ ',' ∉ tag ∧ '\n' ∉ tag ∧ trimSpace tag = tag
  /-- a single empty tag renders as `tags ""` = no tags -/
  tags_ne : tg.tags ≠ [] → join [','] tg.tags ≠ []
  opts_k : ∀ kv ∈ tg.opts, '=' ∉ kv.1 ∧ (∀ c ∈ kv.1, isUniSpace c = false ∧ c ≠ '"') ∧
    (∀ c ∈ kv.2, isUniSpace c = false ∧ c ≠ '"')
  short : byteLen (renderTarget r tg) < maxToken

/-- the weight text `Table.String()` writes: `%.4f` of a positive fixed weight, else none -/
def wVal (tg : Target) : Str := if 0 < tg.fixedWeight then fmt4 tg.fixedWeight else []
def tVal (tg : Target) : Str := if tg.tags.isEmpty then [] else join [','] tg.tags

theorem wVal_noSp (tg : Target) : ∀ c ∈ wVal tg, isUniSpace c = false := by
  unfold wVal
  split
  · exact fmt4_noSp _
  · simp

theorem optInsert_ne (kv : Str × Str) (m : List (Str × Str)) : optInsert kv m ≠ [] := by
  cases m with
  | nil => simp [optInsert]
  | cons x xs =>
    simp only [optInsert]
    split
    · simp
    · split <;> simp

theorem sortOpts_isEmpty (o : List (Str × Str)) : (sortOpts o).isEmpty = o.isEmpty := by
  have hf : ∀ (ps acc : List (Str × Str)), acc ≠ [] → ps.foldl (fun m kv => optInsert kv m) acc ≠ [] := by
    intro ps
    induction ps with
    | nil => exact fun _ h => h
    | cons p ps ih => exact fun acc _ => ih _ (optInsert_ne p acc)
  cases o with
  | nil => rfl
  | cons p ps =>
    have := hf ps (optInsert p []) (optInsert_ne p [])
    simpa [sortOpts, optsOfPairs] using this

/-- `Table.String()` writes a target as the `route add` line of its fields, the options sorted by key -/
theorem renderTarget_eq (r : Route) (tg : Target) :
    renderTarget r tg =
      line (addWords tg.service (r.host ++ r.path) tg.url (wVal tg) tg.tags ((sortOpts tg.opts).map renderOpt)) := by
  have hw : (if 0 < tg.fixedWeight then " weight ".toList ++ fmt4 tg.fixedWeight else []) = weightPart (wVal tg) := by
    unfold weightPart wVal
    split <;> simp [fmt4_ne]
  rw [line_add, sp_append, sp_append, ← weightPart_eq, ← tagsPart_eq, ← optsPart_eq]
  unfold renderTarget
  rw [hw]
  unfold tagsPart optsPart
  rw [sortOpts_isEmpty]
  simp only [List.append_assoc, List.cons_append, List.nil_append]

variable {r : Route} {tg : Target}

theorem TextOK.opts (h : TextOK r tg) : OptsK tg.opts := h.opts_k

theorem TextOK.addOK (h : TextOK r tg) :
    AddOK tg.service (r.host ++ r.path) tg.url (wVal tg) tg.tags ((sortOpts tg.opts).map renderOpt) where
  svc_tok := ⟨h.svc_ne, h.svc_tok⟩
  src_tok := ⟨h.src_ne, h.src_tok⟩
  dst_tok := ⟨h.url_ne, h.url_tok⟩
  w_tok := wVal_noSp tg
  tags_q := h.tags_q
  tags_ne := h.tags_ne
  opts_q := ⟨h.opts.sort.noQuote, h.opts.sort.noNL⟩

theorem TextOK.parseTags (h : TextOK r tg) : parseTags (tVal tg) = tg.tags := by
  rw [show tVal tg = join [','] tg.tags by unfold tVal; cases tg.tags <;> rfl]
  exact TagsQ.parseTags h.tags_q h.tags_ne

theorem parseWeight_wVal (pf : ParseFloat)
    (hpf : ∀ w : Rat, 0 < w → pf (fmt4 w) = some (.fin (round4Rat w))) (tg : Target) :
    parseWeight pf (wVal tg) = .ok (if 0 < tg.fixedWeight then round4Rat tg.fixedWeight else 0) := by
  unfold wVal
  split
  · next hw =>
    unfold parseWeight
    simp only [List.isEmpty_iff, fmt4_ne, if_false, hpf _ hw]
  · rfl

theorem parseLine_renderTarget (pf : ParseFloat)
    (hpf : ∀ w : Rat, 0 < w → pf (fmt4 w) = some (.fin (round4Rat w))) (h : TextOK r tg) :
    parseLine pf (renderTarget r tg) = .ok (some (defOfTarget r tg)) := by
  rw [renderTarget_eq, h.addOK.printed.parseLine pf]
  simp only [runShape, parseWeight_wVal pf hpf tg]
  rw [h.opts.sort.parseOpts,
    show sortOpts (sortOpts tg.opts) = sortOpts tg.opts from optsOfPairs_idem tg.opts]
  rfl

theorem scan_one {α : Type} (f : Str → Except LineErr (Option α)) {l : Str} (hp : Framed l)
    (hs : byteLen l < maxToken) {y : α} (hf : f l = .ok (some y)) :
    scan true (fun raw => f (dropCR raw)) 1 (rawLines l) = .ok [y] := by
  have hr : rawLines l = [l] := by
    unfold rawLines
    rw [splitOn_nomem '\n' l hp.noNL]
    have : l ≠ [] := fun e => by have := hp.r; rw [e] at this; exact (nomatch this)
    simp [this]
  have hlt : decide (maxToken ≤ byteLen l) = false := by simpa using hs
  rw [hr]
  simp only [scan, hlt, Bool.and_false, Bool.false_eq_true, if_false, dropCR_lastOK hp.last, hf]

/-- a text made of framed lines is scanned line by line: the scanner finds the lines again, none is too long, and
`dropCR` leaves them alone -/
theorem scan_framed {α β : Type} (f : Str → Except LineErr (Option β)) (hf0 : f [] = .ok none) (line : α → Str)
    (g : α → β) (xs : List α)
    (h : ∀ x ∈ xs, Framed (line x) ∧ byteLen (line x) < maxToken ∧ f (line x) = .ok (some (g x))) :
    scan true (fun raw => f (dropCR raw)) 1 (rawLines (join ['\n'] (xs.map line))) = .ok (xs.map g) := by
  have := scan_join true (fun raw => f (dropCR raw)) hf0 0 xs line (fun x => [g x])
    (fun x hx => scan_one f (h x hx).1 (h x hx).2.1 (h x hx).2.2)
  rwa [← List.map_eq_flatMap] at this

theorem parse_framed {α : Type} (pf : ParseFloat) (line : α → Str) (g : α → RouteDef) (xs : List α)
    (h : ∀ x ∈ xs, Framed (line x) ∧ byteLen (line x) < maxToken ∧ parseLine pf (line x) = .ok (some (g x))) :
    parse pf (join ['\n'] (xs.map line)) = .ok (xs.map g) := by
  rw [parse_eq_scan]
  exact scan_framed (parseLine pf) rfl line g xs h

/-- the (route, target) pairs `Table.String()` writes, in its order -/
def pairs (t : Table) : List (Route × Target) :=
  (hostOrder t).flatMap (fun h => (t.get h).flatMap (fun r =>
    r.targets.map (fun tg => (r, tg))))

theorem config_eq_pairs (t : Table) : config t = (pairs t).map (fun x => renderTarget x.1 x.2) := by
  simp only [config, pairs, List.map_flatMap, List.map_map]
  rfl

theorem defsOfTable_eq_pairs (t : Table) :
    defsOfTable t = (pairs t).map (fun x => defOfTarget x.1 x.2) := by
  simp only [defsOfTable, pairs, List.map_flatMap, List.map_map]
  rfl

theorem mem_pairs (t : Table) (x : Route × Target) (hx : x ∈ pairs t) :
    ∃ hst, x.1 ∈ t.get hst ∧ x.2 ∈ x.1.targets := by
  simp only [pairs, List.mem_flatMap, List.mem_map] at hx
  obtain ⟨hst, _, r, hr, tg, htg, rfl⟩ := hx
  exact ⟨hst, hr, htg⟩

theorem parse_render (pf : ParseFloat)
    (hpf : ∀ w : Rat, 0 < w → pf (fmt4 w) = some (.fin (round4Rat w))) (t : Table)
    (h : ∀ hst, ∀ r ∈ t.get hst, ∀ tg ∈ r.targets, TextOK r tg) :
    parse pf (render t) = .ok (defsOfTable t) := by
  rw [render, config_eq_pairs, defsOfTable_eq_pairs]
  refine parse_framed pf _ _ (pairs t) fun x hx => ?_
  obtain ⟨hst, hr, htg⟩ := mem_pairs t x hx
  have hok := h hst _ hr _ htg
  exact ⟨by rw [renderTarget_eq]; exact hok.addOK.printed.toFramed, hok.short, parseLine_renderTarget pf hpf hok⟩

/-! ### D07: the former `%q` rendering of tags did not round-trip -/

def d07Target : Target :=
  { service := "s".toList, tags := ["a\\b".toList], opts := [], url := "http://h/".toList, fixedWeight := 0 }

/-- what the `%q` line is read back as: the tag has gained a backslash -/
def d07Read : RouteDef :=
  { cmd := .add, service := "s".toList, src := "/".toList, dst := "http://h/".toList,
    tags := ["a\\\\b".toList] }

theorem d07_not_roundtrip :
    parseLine (fun _ => none) (renderTargetQ ⟨[], "/".toList, []⟩ d07Target) = .ok (some d07Read) := by
  unfold d07Target d07Read
  simp only [toList_lit rfl]
  decide +kernel

example :
    (match parseLine (fun _ => none) (renderTargetQ ⟨[], "/".toList, []⟩ d07Target) with
      | .ok (some d) => decide (d = d07Read)
      | _ => false) = true := by
  rw [d07_not_roundtrip]; exact decide_eq_true rfl

example : d07Read ≠ defOfTarget ⟨[], "/".toList, []⟩ d07Target := by
  unfold d07Read d07Target; simp only [toList_lit rfl]; decide +kernel

def exRoute : Route := ⟨"example.com".toList, "/api".toList, []⟩
def exTarget : Target :=
  { service := "svc-a".toList, tags := ["blue".toList, "v2".toList],
    opts := [("strip".toList, "/api".toList), ("proto".toList, "https".toList)],
    url := "http://10.0.0.1:8080/".toList, fixedWeight := 1/4 }

theorem exTextOK : TextOK exRoute exTarget := by
  unfold exRoute exTarget
  simp only [toList_lit rfl]
  exact ⟨by decide, by decide, by decide, by decide, by decide, by decide, by decide, by decide, by decide,
    by decide +kernel⟩

/-- `parseLine_renderTarget` is not vacuous: it applies to the example (weight 1/4, two tags, two options) -/
example (pf : ParseFloat) (hpf : ∀ w : Rat, 0 < w → pf (fmt4 w) = some (.fin (round4Rat w))) :
    parseLine pf (renderTarget exRoute exTarget) = .ok (some (defOfTarget exRoute exTarget)) :=
  parseLine_renderTarget pf hpf exTextOK

end Fabio.Lemmas.C05Text
