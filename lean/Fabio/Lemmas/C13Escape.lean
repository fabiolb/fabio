import Fabio.Model.C13
import Fabio.Lemmas.C13
/-!
C13: `net/url` path escaping round-trips for arbitrary byte strings (core Lean only).

`Enc w d` says that `w` is a valid path encoding of `d`. `escape .path s` is one of `s`, hence `URL.EscapedPath()` always
is one of `URL.Path`, whatever the raw-path hint holds: the hint when that is one, the default encoding when there is
none. The facts about the hex digits are stated per nibble (16 cases) next to `nibbles` (a byte is its two nibbles, by
kernel evaluation over `Fin 256`); everything else is induction over the string.
-/
namespace Fabio.Lemmas.C13
open Fabio Fabio.Model.C13

theorem unescape_pct (h1 h2 : UInt8) (rest : Str) :
    unescape (37 :: h1 :: h2 :: rest) =
      if ishex h1 && ishex h2 then (unescape rest).map (fun r => ((unhex h1 <<< 4) ||| unhex h2) :: r) else none := by
  rw [unescape]

theorem upperhex_nibble (x : UInt8) (h : x.toNat < 16) :
    ishex (upperhex x) = true ∧ shouldEscape (upperhex x) .path = false ∧ unhex (upperhex x) = x ∧ upperhex x ≠ 36 := by
  have : ∀ n : Fin 16, (let x := UInt8.ofNat n.val;
      ishex (upperhex x) = true ∧ shouldEscape (upperhex x) .path = false ∧ unhex (upperhex x) = x ∧ upperhex x ≠ 36) := by
    decide
  simpa only [UInt8.ofNat_toNat] using this ⟨x.toNat, h⟩

theorem nibbles (b : UInt8) : (b >>> 4).toNat < 16 ∧ (b &&& 15).toNat < 16 ∧ ((b >>> 4) <<< 4) ||| (b &&& 15) = b := by
  have : ∀ c : Fin 256, (let b := UInt8.ofNat c.val;
      (b >>> 4).toNat < 16 ∧ (b &&& 15).toNat < 16 ∧ ((b >>> 4) <<< 4) ||| (b &&& 15) = b) := by decide +kernel
  simpa only [UInt8.ofNat_toNat] using this ⟨b.toNat, b.toNat_lt⟩

/-- `w` is a valid path encoding of `d`: what `URL.EscapedPath()` asks of a raw-path hint before it returns it -/
def Enc (w d : Str) : Prop := validEncoded w = true ∧ unescape w = some d

theorem unescape_append (a b a' : Str) (h : unescape a = some a') :
    unescape (a ++ b) = (unescape b).map (fun r => a' ++ r) := by
  induction a using unescape.induct generalizing a' with
  | case1 => simp [unescape] at h; subst h; simp
  | case2 h1 h2 rest hx ih =>
    simp only [unescape_pct, hx, if_true, Option.map_eq_some_iff] at h
    obtain ⟨r, hr, rfl⟩ := h
    simp only [List.cons_append, unescape_pct, hx, if_true, ih r hr]
    cases unescape b <;> simp
  | case3 h1 h2 rest hx => simp [unescape_pct, hx] at h
  | case4 => simp [unescape] at h
  | case5 x => simp [unescape] at h
  | case6 c rest hn1 hn2 hn3 ih =>
    have hc : c ≠ 37 := by
      intro e; subst e
      match rest, hn1, hn2, hn3 with
      | [], _, h2, _ => exact h2 rfl rfl
      | [x], _, _, h3 => exact h3 x rfl rfl
      | x :: y :: r, h1, _, _ => exact h1 x y r rfl rfl
    rw [unescape_cons_ne _ _ hc, Option.map_eq_some_iff] at h
    obtain ⟨r, hr, rfl⟩ := h
    simp only [List.cons_append]
    rw [unescape_cons_ne _ _ hc, ih r hr]
    cases unescape b <;> simp

theorem Enc.nil : Enc [] [] := ⟨rfl, rfl⟩

theorem Enc.append {w d w' d' : Str} (h : Enc w d) (h' : Enc w' d') : Enc (w ++ w') (d ++ d') :=
  ⟨by rw [validEncoded_append, h.1, h'.1]; rfl, by rw [unescape_append _ _ _ h.2, h'.2]; rfl⟩

theorem enc_byte (c : UInt8) :
    Enc (escape .path [c]) [c] ∧ (c ≠ 36 → ∀ x ∈ escape .path [c], x ≠ 36) := by
  obtain ⟨n1, n2, n3⟩ := nibbles c
  obtain ⟨a1, a2, a3, a4⟩ := upperhex_nibble _ n1
  obtain ⟨b1, b2, b3, b4⟩ := upperhex_nibble _ n2
  unfold escape escape
  split
  · refine ⟨⟨?_, ?_⟩, fun _ x hx => ?_⟩
    · have h37 : (validExtra.contains (37 : UInt8) || !shouldEscape 37 .path) = true := by decide
      simp only [validEncoded, List.all_cons, List.all_nil, a2, b2, h37, Bool.not_false, Bool.or_true, Bool.and_self]
    · rw [unescape_pct, a1, b1, a3, b3, n3]; rfl
    · simp only [List.mem_cons, List.not_mem_nil, or_false] at hx
      rcases hx with rfl | rfl | rfl
      · decide
      · exact a4
      · exact b4
  · next hs =>
    have hs' : shouldEscape c .path = false := by simpa using hs
    refine ⟨⟨?_, ?_⟩, fun hc x hx => ?_⟩
    · simp [validEncoded, hs']
    · rw [unescape_cons_ne c [] (fun e => by subst e; revert hs'; decide)]; rfl
    · rw [List.mem_singleton.mp hx]; exact hc

theorem escape_append (m : Mode) (a b : Str) : escape m (a ++ b) = escape m a ++ escape m b := by
  induction a with
  | nil => rfl
  | cons c cs ih => simp only [List.cons_append, escape]; split <;> simp [ih]

theorem enc_escape (s : Str) : Enc (escape .path s) s := by
  induction s with
  | nil => exact .nil
  | cons c cs ih => exact escape_append .path [c] cs ▸ (enc_byte c).1.append ih

theorem escape_no_dollar (s : Str) (h : ∀ c ∈ s, c ≠ 36) : ∀ c ∈ escape .path s, c ≠ 36 := by
  induction s with
  | nil => intro c hc; cases hc
  | cons d ds ih =>
    intro c hc
    rw [show d :: ds = [d] ++ ds from rfl, escape_append, List.mem_append] at hc
    rcases hc with hc | hc
    · exact (enc_byte d).2 (h d (by simp)) c hc
    · exact ih (fun c hc => h c (by simp [hc])) c hc

theorem enc_escapedPath (u : URL) : Enc (escapedPath u) u.path := by
  unfold escapedPath
  split
  · rename_i h; simp only [Bool.and_eq_true, beq_iff_eq] at h; exact ⟨h.1.2, h.2⟩
  · split
    · rename_i h; simp only [beq_iff_eq] at h; rw [h]; exact ⟨by decide, rfl⟩
    · exact enc_escape _

theorem escapedPath_of_hint (u : URL) (hne : u.rawPath ≠ []) (h : Enc u.rawPath u.path) : escapedPath u = u.rawPath := by
  unfold escapedPath; simp [hne, h.1, h.2]

theorem escapedPath_no_hint (u : URL) (hr : u.rawPath = []) (hp : u.path ≠ [42]) : escapedPath u = escape .path u.path := by
  unfold escapedPath; simp [hr, hp]

theorem escapedPath_of_path (p : Str) (h : p ≠ [42]) : escapedPath ({ path := p } : URL) = escape .path p :=
  escapedPath_no_hint _ rfl h

theorem escapedPath_plain (u : URL) (hr : u.rawPath = []) (h : plain u.path = true) : escapedPath u = u.path := by
  rw [escapedPath_no_hint u hr (fun e => by rw [e] at h; exact absurd h (by decide)), escape_plain _ h]

theorem Enc.cancel_left {s r' p' : Str} (hs : ∀ c ∈ s, c ≠ 37) (h : Enc (s ++ r') (s ++ p')) : Enc r' p' := by
  obtain ⟨hv, hu⟩ := h
  rw [validEncoded_append, Bool.and_eq_true] at hv
  rw [unescape_append _ _ _ (unescape_nopct _ hs), Option.map_eq_some_iff] at hu
  obtain ⟨x, hx, e⟩ := hu
  exact ⟨hv.2, List.append_cancel_left e ▸ hx⟩

theorem urlString_with_scheme_host (u : URL) (hs : u.scheme ≠ []) (hh : u.host ≠ []) :
    urlString u = u.scheme ++ [58] ++ ([47, 47] ++ escape .host u.host) ++
      (if escapedPath u ≠ [] && (escapedPath u).head? != some 47 then [47] else []) ++ escapedPath u ++
      (if u.rawQuery ≠ [] then 63 :: u.rawQuery else []) := by
  unfold urlString
  simp only [hs, hh, ne_eq, not_false_eq_true, decide_true, Bool.true_or, Bool.or_true, if_true, Bool.and_true]
  simp

end Fabio.Lemmas.C13
