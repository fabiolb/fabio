import Fabio.Lemmas.C05Main
import Fabio.Lemmas.C05Rebuild
import Fabio.Lemmas.C05Lang
/-!
C05 — no target comes from nowhere: every target the spec machine (hence, by refinement, every table a
command list builds) holds under some host and path carries the service, tags, options and (normalised) destination
of one of the list's `route add` commands, whose source names that host and path; `del` and `weight` never invent or
rewrite any of these. Likewise every (host, path) with targets is the key of one of the adds; from this follow the
structural fields of `RebuildOK` and the readability of every rendered line for tables built from commands. Core Lean only.
-/
/-! The provenance theorem, for a run from any spec state. It is declared in the namespace of the system-level
composition (`Props/SystemOps.lean`), whose statements are written with `ident` and `Origin`; it stands in this file
because the run from the empty state (`newTable_from` below) is an instance of it. -/
namespace Fabio.Props.SystemOps
open Fabio Fabio.Model.Route Fabio.Model.C05Spec Fabio.Lemmas Fabio.Lemmas.Route

/-- what no command changes about a target -/
def ident (t : Target) : List Char × List Char × List (List Char) × List (List Char × List Char) :=
  (t.service, t.url, t.tags, t.opts)

/-- where a target of the spec after one command comes from -/
def Origin (env : Env) (S : Spec) (d : RouteDef) (h p : List Char) (y : Target) : Prop :=
  (∃ y0 ∈ S h p, ident y0 = ident y) ∨
  (d.cmd = .add ∧ ∃ u, env.normURL d.dst = some u ∧ key d.src = (h, p) ∧ ident y = ident (newTarget d u))

theorem specApply_origin (env : Env) (S S' : Spec) (d : RouteDef)
    (h : specApply env S d = .ok S') (h' p' : List Char) (y : Target) (hy : y ∈ S' h' p') : Origin env S d h' p' y := by
  have hr := C05Main.specApply_at h h' p'
  generalize S' h' p' = ts' at hr hy
  have hid : ∀ (t : Target) w, ident { t with weight := w } = ident t := fun _ _ => rfl
  cases hr with
  | same => exact .inl ⟨y, hy, rfl⟩
  | drop sel =>
    obtain ⟨y0, h0, hi⟩ := mem_weigh ident hid hy
    exact .inl ⟨y0, (List.mem_filter.1 h0).1, hi⟩
  | add url hc hk hu _ _ =>
    obtain ⟨y0, h0 | rfl, hi⟩ := C05Add.mem_addTs ident hid hy
    · exact .inl ⟨y0, h0, hi⟩
    · exact .inr ⟨hc, url, hu, hk, hi.symm⟩
  | reweigh f hf =>
    obtain ⟨y1, h1, hi⟩ := mem_weigh ident hid hy
    obtain ⟨y0, h0, rfl⟩ := List.mem_map.1 h1
    obtain ⟨w, hw⟩ := hf y0
    exact .inl ⟨y0, h0, by rw [← hi, hw]; rfl⟩

theorem specFold_origin (env : Env) : ∀ (ds : List RouteDef) (S S' : Spec),
    ds.foldlM (specApply env) S = .ok S' → ∀ h' p' y, y ∈ S' h' p' →
      (∃ y0 ∈ S h' p', ident y0 = ident y) ∨
      (∃ d ∈ ds, d.cmd = .add ∧ ∃ u, env.normURL d.dst = some u ∧ key d.src = (h', p') ∧ ident y = ident (newTarget d u)) := by
  intro ds S S' hf
  refine foldlM_invariant ds
    (P := fun S1 => ∀ h' p' y, y ∈ S1 h' p' → (∃ y0 ∈ S h' p', ident y0 = ident y) ∨
      (∃ d ∈ ds, d.cmd = .add ∧ ∃ u, env.normURL d.dst = some u ∧ key d.src = (h', p') ∧ ident y = ident (newTarget d u)))
    (fun S0 S1 d hd ih h1 h' p' y hy => ?_) (fun h' p' y hy => .inl ⟨y, hy, rfl⟩) hf
  rcases specApply_origin env S0 S1 d h1 h' p' y hy with ⟨y1, hy1, hi⟩ | ⟨hc, u, hu, hk, hi⟩
  · exact (ih h' p' y1 hy1).imp (fun ⟨y0, hy0, hi0⟩ => ⟨y0, hy0, hi0.trans hi⟩)
      (fun ⟨d', hd', hc, u, hu, hk, hi'⟩ => ⟨d', hd', hc, u, hu, hk, hi.symm.trans hi'⟩)
  · exact .inr ⟨d, hd, hc, u, hu, hk, hi⟩

end Fabio.Props.SystemOps

namespace Fabio.Lemmas.C05From
open Fabio Fabio.Model.Route Fabio.Model.Parse Fabio.Model.C05Spec Fabio.Lemmas Fabio.Lemmas.Route

variable {env : Env} {ds : List RouteDef}

/-- the run from the empty state, with `ident` read field by field -/
theorem newTable_from {t : Table} (h : newTable env ds = .ok t) {hst p : Str} {x : Target} (hx : x ∈ abs t hst p) :
    ∃ d ∈ ds, d.cmd = .add ∧ key d.src = (hst, p) ∧ x.service = d.service ∧ x.tags = d.tags ∧ x.opts = d.opts ∧
      env.normURL d.dst = some x.url := by
  rcases Props.SystemOps.specFold_origin env ds specEmpty _ (C05Main.spec_of_newTable h) hst p x hx with
    ⟨_, h0, _⟩ | ⟨d, hd, hc, u, hu, hk, hi⟩
  · cases h0
  · simp only [Props.SystemOps.ident, newTarget, Prod.mk.injEq] at hi
    obtain ⟨h1, rfl, h3, h4⟩ := hi
    exact ⟨d, hd, hc, hk, h1, h3, h4, hu⟩

/-- every inhabited (host, path) is `key d.src` of one of the adds, and both parts compile as globs -/
def KeyOK (env : Env) (ds : List RouteDef) (S : Spec) : Prop :=
  ∀ h p, S h p ≠ [] → ∃ d ∈ ds, d.cmd = .add ∧ (h, p) = key d.src ∧ env.globOK h = true ∧ env.globOK p = true

theorem newTable_keyOK {t : Table} (h : newTable env ds = .ok t) : KeyOK env ds (abs t) :=
  foldlM_invariant (P := KeyOK env ds) ds
    (fun _ _ d hd hS h => C05Main.inhabited_step h hS fun hc hgh hgp => ⟨d, hd, hc, rfl, hgh, hgp⟩)
    (fun _ _ hne => absurd rfl hne) (C05Main.spec_of_newTable h)

theorem route_at_key {t : Table} (h : newTable env ds = .ok t) {hst : Str} {r : Route} (hr : r ∈ t.get hst) :
    ∃ d ∈ ds, d.cmd = .add ∧ (r.host, r.path) = key d.src ∧ env.globOK r.host = true ∧ env.globOK r.path = true := by
  have hi := (C05Main.good_newTable h).inv
  have hne := abs_ne_nil_of_mem_get hi.wf hi.noEmpty hr
  rw [← host_get hi.wf hr] at hne
  exact newTable_keyOK h _ _ hne

/-- the two structural fields of `RebuildOK` hold for every table a command list builds; what is left are the
property's own hypothesis (no two targets of a route with the same service, URL, tags and four-decimal weight) and
the assumption about `net/url` -/
theorem rebuildOK_of_built {t : Table} (h : newTable env ds = .ok t)
    (hk : ∀ kv ∈ t, ∀ r ∈ kv.2, (r.targets.map C05Rebuild.dupKey).Nodup)
    (hu : ∀ kv ∈ t, ∀ r ∈ kv.2, ∀ tg ∈ r.targets, tg.url ≠ [] ∧ env.normURL tg.url = some tg.url) :
    C05Rebuild.RebuildOK env t := by
  have hg := C05Main.good_newTable h
  have hroute : ∀ kv ∈ t, ∀ r ∈ kv.2, ∃ d ∈ ds, d.cmd = .add ∧ (r.host, r.path) = key d.src ∧
      env.globOK r.host = true ∧ env.globOK r.path = true :=
    fun kv hkv r hr => route_at_key h (hst := kv.1) (by rw [get_of_mem hg.inv.wf.hosts hkv]; exact hr)
  refine ⟨hk, hu, ?_, ?_⟩
  · intro kv hkv
    refine ⟨hg.hosts kv hkv, ?_⟩
    intro r hr
    obtain ⟨d, _, _, _, _, hp⟩ := hroute kv hkv r hr
    exact hp
  · intro kv hkv r hr
    obtain ⟨d, _, _, he, _, _⟩ := hroute kv hkv r hr
    have h1 : r.host = (key d.src).1 := congrArg Prod.fst he
    have h2 : r.path = (key d.src).2 := congrArg Prod.snd he
    rw [h1, h2]
    exact C05Rebuild.src_of_key d.src

theorem key_tok (s : Str) (hs : ∀ c ∈ s, isReSpace c = false) : ∀ c ∈ (key s).1 ++ (key s).2, isReSpace c = false := by
  obtain ⟨h, rest, hh, hr, rfl⟩ := split_slash s
  rw [key_eq h rest hh hr]
  have hh' : ∀ c ∈ h, isReSpace c = false := fun c hc => hs c (List.mem_append.2 (.inl hc))
  have hrest : ∀ c ∈ rest, isReSpace c = false := fun c hc => hs c (List.mem_append.2 (.inr hc))
  split
  · intro c hc
    simp only [List.append_nil] at hc
    exact lowerL_noSp hs c hc
  · intro c hc
    rcases List.mem_append.1 hc with hc | hc
    · exact lowerL_noSp hh' c hc
    · split at hc
      · rw [List.mem_singleton] at hc; subst hc; decide
      · exact hrest c hc

/-- **every line `String()` writes for a table built from well-formed commands is readable**: of `TextOK` only the
two facts about libraries remain as hypotheses — the stored URL (`url.Parse(dst).String()`) is non-empty and free of
white space, and the line is shorter than `bufio.MaxScanTokenSize` -/
theorem textOK_of_wellformed {pf : ParseFloat} {t : Table} (cs : List (Str × RouteDef))
    (hcs : ∀ x ∈ cs, C05Lang.DefOK pf x.1 x.2) (ht : newTable env (cs.map (·.2)) = .ok t)
    (hurl : ∀ hst, ∀ r ∈ t.get hst, ∀ tg ∈ r.targets, tg.url ≠ [] ∧ ∀ c ∈ tg.url, isUniSpace c = false)
    (hshort : ∀ hst, ∀ r ∈ t.get hst, ∀ tg ∈ r.targets, byteLen (renderTarget r tg) < maxToken) :
    ∀ hst, ∀ r ∈ t.get hst, ∀ tg ∈ r.targets, C05Text.TextOK r tg := by
  intro hst r hr tg htg
  have hg := C05Main.good_newTable ht
  -- the target comes from a well-formed add, whose source names the route
  obtain ⟨d, hd, hc, hk, e1, e2, e3, _⟩ :=
    newTable_from ht (show tg ∈ abs t hst r.path by rw [abs_of_mem_get hg.inv.wf hr]; exact htg)
  obtain ⟨c, hcm, rfl⟩ := List.mem_map.1 hd
  obtain ⟨hv, hsrc, _, _, htags, hopts⟩ := (hcs c hcm).add hc
  have h1 : r.host = (key c.2.src).1 := by rw [hk]; exact host_get hg.inv.wf hr
  have h2 : r.path = (key c.2.src).2 := by rw [hk]
  exact {
    svc_ne := by rw [e1]; exact hv.1
    svc_tok := by rw [e1]; exact hv.re
    src_ne := by rw [h1, h2]; exact (C05Rebuild.src_of_key _).1
    src_tok := by rw [h1, h2]; exact key_tok _ hsrc.re
    url_ne := (hurl hst r hr tg htg).1
    url_tok := (hurl hst r hr tg htg).2
    tags_q := by rw [e2]; exact htags.q
    tags_ne := by rw [e2]; exact htags.ne
    opts_k := by rw [e3]; exact hopts.k
    short := hshort hst r hr tg htg }

end Fabio.Lemmas.C05From
