import Fabio.Model.C14Watch
import Fabio.Lemmas.C14
/-!
C14 — the `watchBackend` iteration (`Model/C14Watch.lean`) fed with `makeConfig`'s text: the three ways an iteration
ends (`step_cases`, through which every fact about `step` goes), and two loop invariants: the remembered text is the
initial `""` or the text the active table was built from (`Inv`); once a text is remembered, `first` is closed
(`Started`).
-/
namespace Fabio.Lemmas.C14Watch
open Fabio Fabio.Model.Route Fabio.Model.C14 Fabio.Model.C14Watch Fabio.Lemmas.C14
open Fabio.Model.Parse hiding render config
open Fabio.Lemmas.Route (loadTable_snoc_nl)

variable {env : Env} {pf : ParseFloat} {s : WState}

theorem step_cases (env : Env) (pf : ParseFloat) (s : WState) (e : WEv) :
    let s1 := receive s e
    let next := nextText s1
    let s2 : WState := { s1 with registered := s1.registered ++ [registerArg pf next] }
    (next = s1.lastTable ∧ step env pf s e = s1) ∨
    (next ≠ s1.lastTable ∧
      ((∃ err, loadTable env pf next = .error err ∧ step env pf s e = s2) ∨
       (∃ t, loadTable env pf next = .ok t ∧
          step env pf s e = { s2 with table := t, lastTable := next, started := true }))) := by
  unfold step
  simp only
  split
  · next h => exact .inl ⟨by simpa using h, rfl⟩
  · next h =>
    refine .inr ⟨by simpa using h, ?_⟩
    split
    · next err hl => exact .inl ⟨err, hl, rfl⟩
    · next t hl => exact .inr ⟨t, hl, rfl⟩

theorem nextText_ne_nil (s : WState) : nextText s ≠ [] :=
  List.append_ne_nil_of_right_ne_nil _ (List.cons_ne_nil _ _)

def Inv (env : Env) (pf : ParseFloat) (s : WState) : Prop :=
  s.lastTable = [] ∨ loadTable env pf s.lastTable = .ok s.table

theorem inv_init (env : Env) (pf : ParseFloat) : Inv env pf init := .inl rfl

theorem inv_receive (h : Inv env pf s) (e : WEv) : Inv env pf (receive s e) := by
  cases e <;> exact h

theorem inv_step (h : Inv env pf s) (e : WEv) :
    Inv env pf (step env pf s e) := by
  rcases step_cases env pf s e with ⟨_, hs⟩ | ⟨_, ⟨_, _, hs⟩ | ⟨t, hl, hs⟩⟩ <;> rw [hs]
  · exact inv_receive h e
  · exact inv_receive h e
  · exact .inr hl

def Started (s : WState) : Prop := s.lastTable ≠ [] → s.started = true

theorem started_init : Started init := fun h => absurd rfl h

theorem started_receive (h : Started s) (e : WEv) : Started (receive s e) := by
  cases e <;> exact h

theorem started_step {env : Env} {pf : ParseFloat} {s : WState} (h : Started s) (e : WEv) :
    Started (step env pf s e) := by
  rcases step_cases env pf s e with ⟨_, hs⟩ | ⟨_, ⟨_, _, hs⟩ | ⟨_, _, hs⟩⟩ <;> rw [hs]
  · exact started_receive h e
  · exact started_receive h e
  · intro _; rfl

theorem step_svc_mancfg (env : Env) (pf : ParseFloat) (s : WState) (t : Str) :
    (step env pf s (.svc t)).mancfg = s.mancfg := by
  rcases step_cases env pf s (.svc t) with ⟨_, hs⟩ | ⟨_, ⟨_, _, hs⟩ | ⟨_, _, hs⟩⟩ <;> rw [hs] <;> rfl

theorem loadTable_next_svc (hm : s.mancfg = [])
    {text : Str} {t : Table} (ht : loadTable env pf text = .ok t) :
    loadTable env pf (nextText (receive s (.svc text))) = .ok t := by
  show loadTable env pf (text ++ '\n' :: s.mancfg) = .ok t
  rw [hm, loadTable_snoc_nl]; exact ht

/-- Holds whether the iteration went through `route.SetTable` or found the text unchanged. -/
theorem step_accepted {e : WEv} {t : Table}
    (ht : loadTable env pf (nextText (receive s e)) = .ok t) :
    (step env pf s e).lastTable = nextText (receive s e) ∧ (Inv env pf s → (step env pf s e).table = t) ∧
      (Started s → (step env pf s e).started = true) := by
  rcases step_cases env pf s e with ⟨heq, hst⟩ | ⟨_, ⟨_, hl, _⟩ | ⟨_, hl, hst⟩⟩
  · rw [hst]
    refine ⟨heq.symm, fun hs => ?_, fun hs => started_receive hs e (by rw [← heq]; exact nextText_ne_nil _)⟩
    -- the text is the remembered one, so by the invariant its table is already the active one
    rcases inv_receive hs e with h0 | h1
    · exact absurd (heq.trans h0) (nextText_ne_nil _)
    · rw [← heq, ht] at h1
      exact (Except.ok.inj h1).symm
  · rw [ht] at hl; cases hl
  · rw [ht] at hl; cases hl
    rw [hst]
    exact ⟨rfl, fun _ => rfl, fun _ => rfl⟩

end Fabio.Lemmas.C14Watch
