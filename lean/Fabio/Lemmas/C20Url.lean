import Fabio.Model.C20Url
/-! C20 helper lemmas about the `net/url` model: `unescape ∘ escape = id`, the alphabet of an escaped path,
the form of the URLs the proxy logs. -/
namespace Fabio.Lemmas.C20Url
open Fabio.Model.C20Url

theorem hexdigit_roundtrip : ∀ n, n < 16 → unhex (upperhexDigit n) = n ∧ ishex (upperhexDigit n) = true := by
  decide +kernel

theorem pct_always_escaped (mode : Mode) : shouldEscape 37 mode = true := by
  cases mode <;> decide

theorem escape_cons (c : Nat) (s : Bytes) (mode : Mode) :
    escape (c :: s) mode = escapeByte mode c ++ escape s mode := by
  simp [escape]

theorem escape_nil (mode : Mode) : escape [] mode = [] := rfl

theorem escape_append (a b : Bytes) (mode : Mode) : escape (a ++ b) mode = escape a mode ++ escape b mode := by
  simp [escape]

theorem unescape_pct (a b : Nat) (rest : Bytes) (ha : ishex a = true) (hb : ishex b = true) :
    unescape (37 :: a :: b :: rest) = (unescape rest).map ((unhex a * 16 + unhex b) :: ·) := by
  conv => lhs; unfold unescape
  simp [ha, hb]

theorem unescape_plain (c : Nat) (rest : Bytes) (h : c ≠ 37) :
    unescape (c :: rest) = (unescape rest).map (c :: ·) := by
  conv => lhs; unfold unescape
  simp only [h, if_false]

theorem unescape_escape (mode : Mode) (s : Bytes) (wf : wellFormed s) : unescape (escape s mode) = some s := by
  induction s with
  | nil => simp [escape, unescape]
  | cons c s ih =>
    have hc : c < 256 := wf c (by simp)
    have wf' : wellFormed s := fun x hx => wf x (by simp [hx])
    rw [escape_cons]
    unfold escapeByte
    cases he : shouldEscape c mode
    case true =>
      have h1 := hexdigit_roundtrip (c / 16) (by omega)
      have h2 := hexdigit_roundtrip (c % 16) (by omega)
      simp only [if_true, List.cons_append, List.nil_append]
      rw [unescape_pct _ _ _ h1.2 h2.2, ih wf', h1.1, h2.1]
      simp
      omega
    case false =>
      have hne : c ≠ 37 := by
        intro h; subst h; rw [pct_always_escaped mode] at he; cases he
      simp only [Bool.false_eq_true, if_false, List.cons_append, List.nil_append]
      rw [unescape_plain _ _ hne, ih wf']
      simp

theorem safe_of_valid : ∀ c, c < 256 → (validExtra.contains c || !shouldEscape c .path) = true → pathSafe c = true := by
  decide +kernel

theorem safe_hexdigit : ∀ n, n < 16 → pathSafe (upperhexDigit n) = true := by decide +kernel

theorem escape_path_safe (s : Bytes) (wf : wellFormed s) : ∀ c ∈ escape s .path, pathSafe c = true := by
  induction s with
  | nil => simp [escape]
  | cons x s ih =>
    have hx : x < 256 := wf x (by simp)
    have wf' : wellFormed s := fun y hy => wf y (by simp [hy])
    intro c hc
    rw [escape_cons, List.mem_append] at hc
    rcases hc with hc | hc
    · unfold escapeByte at hc
      cases he : shouldEscape x .path
      case true =>
        simp only [he, if_true, List.mem_cons, List.not_mem_nil, or_false] at hc
        rcases hc with rfl | rfl | rfl
        · decide
        · exact safe_hexdigit _ (by omega)
        · exact safe_hexdigit _ (by omega)
      case false =>
        simp only [he, Bool.false_eq_true, if_false, List.mem_cons, List.not_mem_nil, or_false] at hc
        subst hc
        exact safe_of_valid _ hx (by rw [he]; simp)
    · exact ih wf' c hc

theorem validEncoded_safe (s : Bytes) (wf : wellFormed s) (h : validEncoded s .path = true) :
    ∀ c ∈ s, pathSafe c = true := by
  intro c hc
  unfold validEncoded at h
  rw [List.all_eq_true] at h
  exact safe_of_valid c (wf c hc) (h c hc)

/-- The form of URL `url_is_authority_plus_request_uri` speaks of: a scheme, a host, a path whose escaped form starts
with `/` (`absPath`), a raw query; no opaque part, user info or fragment. `requestURL` and `targetURL` of `ServeHTTP`
leave the last three empty by construction; that scheme and host are present and the path is absolute is a hypothesis
wherever `ProxyForm` is used (a request without `Host` gives `requestURL` an empty host). -/
structure ProxyForm (u : URL) : Prop where
  scheme : u.scheme ≠ []
  host : u.host ≠ []
  opaq : u.opaq = []
  user : u.user = none
  fragment : u.fragment = []
  absPath : (escapedPath u).head? = some 47

theorem escapedPath_cases (u : URL) :
    (escapedPath u = u.rawPath ∧ validEncoded u.rawPath .path = true ∧ unescape u.rawPath = some u.path) ∨
    (escapedPath u = [42] ∧ u.path = [42]) ∨ escapedPath u = escape u.path .path := by
  unfold escapedPath
  split
  · exact .inl ⟨rfl, ‹_ ∧ _›.2⟩
  · split
    · exact .inr (.inl ⟨rfl, ‹_›⟩)
    · exact .inr (.inr rfl)

theorem pathSafe_printable (c : Nat) (h : pathSafe c = true) :
    33 ≤ c ∧ c ≤ 126 ∧ c ≠ 34 ∧ c ≠ 63 ∧ c ≠ 35 ∧ c ≠ 92 := by
  simp [pathSafe, isAlnum] at h
  omega

end Fabio.Lemmas.C20Url
