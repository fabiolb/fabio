import Fabio.Model.C04
import Mathlib.Data.List.Rotate
/-!
The pickers of C04: closed form of `k` sequential `rrPicker` calls, a full cycle is a rotation of the ring, both
pickers return ring slots, and the count of a slot content as the number of RNG values that draw it.
-/
namespace Fabio.Lemmas.C04
open Fabio Fabio.Model.C04

theorem rrPick_ok (ring : Ring) (h : 0 < ring.length) (total : Nat) :
    ∃ s, rrPick ring total = .ok (s, (total + 1) % uint64Size) ∧ ring[total % ring.length]? = some s := by
  have hlt : total % ring.length < ring.length := Nat.mod_lt _ h
  refine ⟨ring[total % ring.length], ?_, List.getElem?_eq_getElem hlt⟩
  unfold rrPick
  have : ring.length ≠ 0 := by omega
  simp [this, List.getElem?_eq_getElem hlt]

/-- an RNG within its contract `0 ≤ randIntn n < n` -/
theorem rndPick_ok (ring : Ring) (rnd : Nat → Int) (h0 : 0 ≤ rnd ring.length)
    (hk : (rnd ring.length).toNat < ring.length) : rndPick ring rnd = .ok ring[(rnd ring.length).toNat] := by
  unfold rndPick
  simp only
  rw [if_neg (Int.not_lt.mpr h0), List.getElem?_eq_getElem hk]

theorem rrPick_mem (ring : Ring) (total total' : Nat) (s : Option Nat) (h : rrPick ring total = .ok (s, total')) :
    s ∈ ring := by
  unfold rrPick at h
  split at h
  · cases h
  · split at h
    · rename_i s' hs'
      cases h
      exact List.mem_of_getElem? hs'
    · cases h

theorem rndPick_mem (ring : Ring) (rnd : Nat → Int) (s : Option Nat) (h : rndPick ring rnd = .ok s) : s ∈ ring := by
  unfold rndPick at h
  simp only at h
  split at h
  · cases h
  · split at h
    · rename_i s' hs'
      cases h
      exact List.mem_of_getElem? hs'
    · cases h

theorem rrRun_spec (ring : Ring) (h : 0 < ring.length) : ∀ (k total : Nat), total < uint64Size →
    ∃ out, rrRun ring k total = .ok out ∧ out.length = k ∧
      ∀ j, j < k → out[j]? = ring[((total + j) % uint64Size) % ring.length]? := by
  intro k
  induction k with
  | zero => intro total _; exact ⟨[], rfl, rfl, fun j hj => by omega⟩
  | succ k ih =>
    intro total ht
    obtain ⟨s, hs, hs2⟩ := rrPick_ok ring h total
    have hU : 0 < uint64Size := by decide
    obtain ⟨rest, hr, hl, hj⟩ := ih ((total + 1) % uint64Size) (Nat.mod_lt _ hU)
    refine ⟨s :: rest, ?_, by simp [hl], ?_⟩
    · simp only [rrRun, hs, hr]
    · intro j hjk
      cases j with
      | zero =>
        simp only [List.getElem?_cons_zero, Nat.add_zero, Nat.mod_eq_of_lt ht]
        exact hs2.symm
      | succ j =>
        simp only [List.getElem?_cons_succ]
        rw [hj j (by omega)]
        have : ((total + 1) % uint64Size + j) % uint64Size = (total + (j + 1)) % uint64Size := by
          rw [Nat.mod_add_mod]; congr 1; omega
        rw [this]

theorem rrRun_cycle (ring : Ring) (h : 0 < ring.length) (total : Nat) (hw : total + ring.length ≤ uint64Size) :
    rrRun ring ring.length total = .ok (ring.rotate total) := by
  obtain ⟨out, ho, hl, hj⟩ := rrRun_spec ring h ring.length total (by omega)
  rw [ho]
  congr 1
  apply List.ext_getElem?
  intro j
  by_cases hjl : j < ring.length
  · have e : (total + j) % uint64Size = total + j := Nat.mod_eq_of_lt (by omega)
    rw [hj j hjl, List.getElem?_rotate hjl, e, Nat.add_comm]
  · rw [List.getElem?_eq_none (by omega), List.getElem?_eq_none (by rw [List.length_rotate]; omega)]

theorem rndPick_const (ring : Ring) (k : Nat) (hk : k < ring.length) :
    rndPick ring (fun _ => (k : Int)) = .ok ring[k] :=
  rndPick_ok ring (fun _ => (k : Int)) (Int.natCast_nonneg k) hk

end Fabio.Lemmas.C04
