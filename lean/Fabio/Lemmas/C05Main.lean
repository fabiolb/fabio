import Fabio.Lemmas.C05Add
import Fabio.Lemmas.C05Del
import Fabio.Lemmas.C05Weight
/-!
C05 — assembly. What one command does to the spec machine, seen from one (host, path), is a relation with four cases
(`Rewrites`, `specApply_at`); what it does to the set of inhabited keys follows (`inhabited_step`), and with it `HostsOK`,
the one part of `Good` that is about keys. The per-command lemmas (`C05Add`, `C05Del`, `C05Weight`) then combine into
statements about command lists: every reachable table satisfies the invariants, and the concrete table refines the spec
machine.
-/
namespace Fabio.Lemmas.C05Main
open Fabio Fabio.Model.Route Fabio.Model.Parse Fabio.Model.C05Spec
open Fabio.Lemmas Fabio.Lemmas.Route

variable {env : Env} {t t1 : Table} {d : RouteDef}

/-- what a successful command `d` does to the target list at (`h`, `p`) -/
inductive Rewrites (env : Env) (d : RouteDef) (h p : Str) (ts : List Target) : List Target → Prop
  | same : Rewrites env d h p ts ts
  | drop (sel : Target → Bool) : Rewrites env d h p ts (dropSel sel ts)
  | add (url : Str) : d.cmd = .add → key d.src = (h, p) → env.normURL d.dst = some url → env.globOK h = true →
      (ts = [] → env.globOK p = true) → Rewrites env d h p ts (C05Add.addTs ts (newTarget d url))
  | reweigh (f : Target → Target) : (∀ t, ∃ w, f t = { t with fixedWeight := w }) →
      Rewrites env d h p ts (weigh (ts.map f))

theorem specApply_at {S S' : Spec} (h : specApply env S d = .ok S') (hst p : Str) :
    Rewrites env d hst p (S hst p) (S' hst p) := by
  unfold specApply at h
  cases hc : d.cmd with
  | other s => rw [hc] at h; cases h
  | add =>
    rw [hc] at h
    obtain ⟨url, _, _, hu, hgh, hgp, rfl⟩ := (C05Add.specAdd_ok_iff rfl).1 h
    exact C05Add.upd_rel (fun _ _ _ => .same) (.add url hc rfl hu hgh hgp) hst p
  | del =>
    rw [hc] at h
    obtain ⟨⟨_ | k, sel⟩, _, rfl⟩ := of_map_eq_ok ((C05Del.specDel_eq env S d).symm.trans h)
    · exact .drop _
    · exact C05Add.upd_rel (fun _ _ _ => .same) (.drop _) hst p
  | weight =>
    rw [hc, C05Weight.specWeigh_eq] at h
    dsimp only at h
    split at h
    · cases h
    · split at h
      · cases h
      · cases h
        refine C05Add.upd_rel (fun _ _ _ => .same) (.reweigh _ fun t => ?_) hst p
        split
        · exact ⟨_, rfl⟩
        · exact ⟨t.fixedWeight, rfl⟩

/-- a successful command leaves every empty (host, path) empty, except that a `route add` may inhabit the key of its
source, after `glob.Compile` accepted both parts -/
theorem inhabited_step {Q : Str → Str → Prop} {S S' : Spec} (h : specApply env S d = .ok S')
    (hS : ∀ h p, S h p ≠ [] → Q h p)
    (hadd : d.cmd = .add → env.globOK (key d.src).1 = true → env.globOK (key d.src).2 = true →
      Q (key d.src).1 (key d.src).2) :
    ∀ h p, S' h p ≠ [] → Q h p := by
  intro hst p hne
  by_cases he : S hst p = []
  · have hr := specApply_at h hst p
    rw [he] at hr
    generalize S' hst p = ts' at hr hne
    cases hr with
    | same => exact absurd rfl hne
    | drop sel => exact absurd rfl hne
    | add url hc hk _ hgh hgp =>
      have e1 : (key d.src).1 = hst := congrArg Prod.fst hk
      have e2 : (key d.src).2 = p := congrArg Prod.snd hk
      subst e1 e2
      exact hadd hc hgh (hgp rfl)
    | reweigh f _ => exact absurd rfl hne
  · exact hS _ _ he

structure Good (env : Env) (t : Table) : Prop where
  inv : Inv t
  hosts : HostsOK env t

theorem good_nil : Good env ([] : Table) := ⟨C05Add.inv_nil, fun _ h => nomatch h⟩

theorem apply_refines (hg : Good env t) : (applyDef env t d).map abs = specApply env (abs t) d := by
  unfold applyDef specApply
  cases hc : d.cmd with
  | add => exact C05Add.add_refines hg.inv hg.hosts
  | del => exact C05Del.del_refines hg.inv.wf
  | weight => exact C05Weight.weigh_refines
  | other s => rfl

theorem spec_of_apply (hg : Good env t) (h : applyDef env t d = .ok t1) : specApply env (abs t) d = .ok (abs t1) :=
  ok_of_map_eq (apply_refines hg) h

theorem inv_apply (hi : Inv t) (h : applyDef env t d = .ok t1) : Inv t1 := by
  unfold applyDef at h
  split at h
  · exact C05Add.inv_add hi h
  · exact C05Del.inv_del hi h
  · exact C05Weight.inv_weigh hi h
  · cases h

/-- the hosts of a table with the invariant are the hosts of its inhabited keys, and a step inhabits a new key only after
its host compiled -/
theorem good_apply (hg : Good env t) (h : applyDef env t d = .ok t1) : Good env t1 :=
  have hi := inv_apply hg.inv h
  ⟨hi, (forall_keys_iff hi _).2 (inhabited_step (Q := fun h _ => env.globOK h = true) (spec_of_apply hg h)
    ((forall_keys_iff hg.inv _).1 hg.hosts) fun _ hgh _ => hgh)⟩

theorem good_fold (defs : List RouteDef) {t t1 : Table} (hg : Good env t)
    (h : defs.foldlM (applyDef env) t = .ok t1) : Good env t1 :=
  foldlM_invariant defs (fun _ _ _ _ hg h => good_apply hg h) hg h

theorem reachable_good (h : Reachable env t) : Good env t := by
  obtain ⟨defs, hd⟩ := h
  exact good_fold defs good_nil hd

theorem abs_nil : abs ([] : Table) = specEmpty := by
  funext h p; rfl

theorem newTable_eq (defs : List RouteDef) : newTable env defs =
    (defs.foldlM (applyDef env) []).map C05Weight.sortTable := by
  unfold newTable buildFrom
  cases defs.foldlM (applyDef env) ([] : Table) <;> rfl

theorem newTable_ok {defs : List RouteDef} (h : newTable env defs = .ok t) :
    ∃ t0, defs.foldlM (applyDef env) [] = .ok t0 ∧ t = C05Weight.sortTable t0 := by
  rw [newTable_eq] at h
  cases hf : defs.foldlM (applyDef env) ([] : Table) with
  | error e => rw [hf] at h; cases h
  | ok t0 => rw [hf] at h; exact ⟨t0, rfl, (Except.ok.inj h).symm⟩

theorem good_newTable {defs : List RouteDef} (h : newTable env defs = .ok t) : Good env t := by
  obtain ⟨t0, hf, rfl⟩ := newTable_ok h
  have hg := good_fold defs good_nil hf
  exact ⟨C05Weight.inv_sort hg.inv, List.forall_mem_map.2 hg.hosts⟩

/-- a run from the empty table, sorted at the end, refines the run of the spec machine from the empty state, whatever
the commands are (`RouteDef`, or `WDef` with float64 weights): one step refines and keeps `Good`, and the final sort is
invisible under `abs` -/
theorem run_refines {α ε : Type} {apply : Table → α → Except ε Table} {spec : Spec → α → Except ε Spec}
    (step : ∀ t x, Good env t → (apply t x).map abs = spec (abs t) x)
    (good : ∀ t t1 x, Good env t → apply t x = .ok t1 → Good env t1) (xs : List α) :
    ((xs.foldlM apply []).map C05Weight.sortTable).map abs = xs.foldlM spec specEmpty := by
  rw [← abs_nil, ← foldlM_refines xs step good good_nil]
  cases hf : xs.foldlM apply ([] : Table) with
  | error e => rfl
  | ok t0 =>
    have hg := foldlM_invariant xs (fun _ _ _ _ => good _ _ _) good_nil hf
    exact congrArg Except.ok (C05Weight.abs_sort hg.inv.wf)

theorem refines_spec (defs : List RouteDef) : (newTable env defs).map abs = specRun env defs := by
  rw [newTable_eq]
  exact run_refines (fun _ _ hg => apply_refines hg) (fun _ _ _ hg h => good_apply hg h) defs

theorem spec_of_newTable {defs : List RouteDef} (h : newTable env defs = .ok t) : specRun env defs = .ok (abs t) :=
  ok_of_map_eq (refines_spec defs) h

theorem abs_newTable_append (env : Env) (dS dM : List RouteDef) (tS : Table) (hnS : newTable env dS = .ok tS) :
    (newTable env (dS ++ dM)).map abs = dM.foldlM (specApply env) (abs tS) := by
  have h := spec_of_newTable hnS
  unfold specRun at h
  rw [refines_spec, specRun, List.foldlM_append, h]
  rfl

section examples
open C05Add

-- `good_apply`: the new host `g` passed the check
example : HostsOK { env0 with globOK := fun s => s == ['h'] || s == ['g'] || s == ['/'] } tab3 :=
  (good_apply (t := tab0) (d := dG) ⟨inv_tab0, by unfold HostsOK; decide⟩ (by decide +kernel)).hosts

end examples

end Fabio.Lemmas.C05Main
