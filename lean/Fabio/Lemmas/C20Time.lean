import Fabio.Model.C20Time
/-! C20: the civil-date function against the Gregorian day count. -/
namespace Fabio.Lemmas.C20Time
open Fabio.Model.C20Time

/-- days before year `n` of an era (years from 1 March) -/
def Y (n : Nat) : Nat := 365 * n + n / 4 - n / 100 + n / 400
def g (doe : Nat) : Nat := doe - doe / 1460 + doe / 36524 - doe / 146096
def yoeOf (doe : Nat) : Nat := g doe / 365

theorem g_step (a : Nat) : g a ≤ g (a + 1) := by
  unfold g; omega

theorem g_mono (a b : Nat) (h : a ≤ b) : g a ≤ g b := by
  induction b with
  | zero =>
    have : a = 0 := by omega
    subst this; exact Nat.le_refl _
  | succ b ih =>
    by_cases hb : a ≤ b
    · exact Nat.le_trans (ih hb) (g_step b)
    · have : a = b + 1 := by omega
      subst this; exact Nat.le_refl _

theorem yoe_mono (a b : Nat) (h : a ≤ b) : yoeOf a ≤ yoeOf b := Nat.div_le_div_right (g_mono a b h)

/-- The 400 years of an era, one by one: the year formula is right on the first and on the last day of the year, the year
has at most 366 days, one of 366 ends in a leap day, and `daysBeforeYear` counts the days before it. -/
theorem year_table : ∀ n : Fin 400,
    yoeOf (Y n.val) = n.val ∧ yoeOf (Y (n.val + 1) - 1) = n.val ∧
    Y (n.val + 1) ≤ Y n.val + 366 ∧
    (Y (n.val + 1) = Y n.val + 366 → (n.val + 1) % 4 = 0 ∧ ((n.val + 1) % 100 ≠ 0 ∨ (n.val + 1) % 400 = 0)) ∧
    daysBeforeYear n.val = Y n.val := by
  decide +kernel

theorem Y_lt_succ (n : Nat) : Y n < Y (n + 1) := by unfold Y; omega

theorem year_exists (doe k : Nat) (h : doe < Y k) : ∃ m, m < k ∧ Y m ≤ doe ∧ doe < Y (m + 1) := by
  induction k with
  | zero => simp [Y] at h
  | succ k ih =>
    by_cases hk : doe < Y k
    · obtain ⟨m, h1, h2, h3⟩ := ih hk
      exact ⟨m, by omega, h2, h3⟩
    · exact ⟨k, by omega, by omega, h⟩

theorem yoe_cast (d : Nat) : yoeOfDoe (d : Int) = (yoeOf d : Nat) := by
  unfold yoeOfDoe yoeOf g; omega

/-- the month table of a year counted from 1 March; its day 365, the leap day, is 29 February -/
theorem monthDay_facts : ∀ doy : Fin 366,
    1 ≤ (monthDay doy.val).1 ∧ (monthDay doy.val).1 ≤ 12 ∧ 1 ≤ (monthDay doy.val).2 ∧
    doyOf (monthDay doy.val).1 (monthDay doy.val).2 = doy.val ∧
    ((monthDay doy.val).1 ≤ 2 ↔ 306 ≤ doy.val) ∧
    (monthDay doy.val).2 ≤ (if (monthDay doy.val).1 = 2 then (if doy.val = 365 then 29 else 28)
      else if (monthDay doy.val).1 = 4 ∨ (monthDay doy.val).1 = 6 ∨ (monthDay doy.val).1 = 9 ∨ (monthDay doy.val).1 = 11 then 30 else 31) := by
  decide +kernel

theorem civilOfDoe_spec (era : Int) (doe : Nat) (h : doe ≤ 146096) :
    ∃ (n : Nat) (k : Fin 366), n ≤ 399 ∧ (doe : Int) = daysBeforeYear n + k.val ∧
      (k.val = 365 → (n + 1) % 4 = 0 ∧ ((n + 1) % 100 ≠ 0 ∨ (n + 1) % 400 = 0)) ∧
      civilOfDoe era doe = (if (monthDay k.val).1 ≤ 2 then (n : Int) + era * 400 + 1 else (n : Int) + era * 400,
        (monthDay k.val).1, (monthDay k.val).2) := by
  have h400 : Y 400 = 146097 := by decide
  obtain ⟨n, hn, h1, h2⟩ := year_exists doe 400 (by omega)
  obtain ⟨e1, e2, t2, t3, t4⟩ := year_table ⟨n, hn⟩
  simp only at e1 e2 t2 t3 t4
  -- `yoeOf` is monotone and right at both ends of year `n`, hence right on `doe`
  have l1 := yoe_mono _ _ h1
  have l2 := yoe_mono doe (Y (n + 1) - 1) (by omega)
  have hy : yoeOf doe = n := by omega
  have e : (doe : Int) - daysBeforeYear n = ((doe - Y n : Nat) : Int) := by omega
  refine ⟨n, ⟨doe - Y n, by omega⟩, by omega, by simp only; omega, fun hk => t3 (by simp only at hk; omega), ?_⟩
  simp only [civilOfDoe, yoe_cast, hy, e]

theorem civilFromDays_spec (z : Int) :
    ∃ (era : Int) (n : Nat) (k : Fin 366), n ≤ 399 ∧ z + 719468 - era * 146097 = daysBeforeYear n + k.val ∧
      (k.val = 365 → (n + 1) % 4 = 0 ∧ ((n + 1) % 100 ≠ 0 ∨ (n + 1) % 400 = 0)) ∧
      civilFromDays z = (if (monthDay k.val).1 ≤ 2 then (n : Int) + era * 400 + 1 else (n : Int) + era * 400,
        (monthDay k.val).1, (monthDay k.val).2) := by
  unfold civilFromDays
  generalize hE : (z + 719468) / 146097 = era
  obtain ⟨d, hd⟩ := Int.eq_ofNat_of_zero_le (show 0 ≤ z + 719468 - era * 146097 by omega)
  obtain ⟨n, k, hs⟩ := civilOfDoe_spec era d (by omega)
  exact ⟨era, n, k, hd ▸ hs⟩

end Fabio.Lemmas.C20Time
