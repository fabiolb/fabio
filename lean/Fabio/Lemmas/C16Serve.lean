import Fabio.Model.C16Serve
import Fabio.Lemmas.C16
/-! `LWorld.call` as a relation (`Calls`), for `Props/C16Serve.lean`. -/
namespace Fabio.Lemmas.C16Serve
open Fabio.Model.Route (Str Table)
open Fabio.Model.C16 Fabio.Model.C16.Serve Fabio.Lemmas.C16

/-- Every way a call on one listener can go, with the state it leaves and the result the caller sees: `LWorld.call`
(interceptor, gates, director, pool, dialler) read as a relation, one constructor per outcome. -/
inductive Calls (pp : Str → Option Str) (lookup : Table → Str → Str → Option Tgt) (gate : Gate) (lw : LWorld)
    (hasMD : Bool) (md : MD) (method : Str) (d : Bool) : LWorld × Res → Prop
  | internal : intercept pp (lookup lw.w.table) hasMD md method = .internal →
      Calls pp lookup gate lw hasMD md method d (lw, .status codeInternal)
  | notFound : intercept pp (lookup lw.w.table) hasMD md method = .notFound →
      Calls pp lookup gate lw hasMD md method d (lw, .status codeNotFound)
  | gated (t : Tgt) (c : Nat) : intercept pp (lookup lw.w.table) hasMD md method = .forward t → gate t md = some c →
      Calls pp lookup gate lw hasMD md method d (lw, .status c)
  | reused (t : Tgt) (c : Conn) : intercept pp (lookup lw.w.table) hasMD md method = .forward t → gate t md = none →
      lw.w.pool.find t.key = some c → c.shut = false →
      Calls pp lookup gate lw hasMD md method d (lw, .proxied t.key (.reused c.id) lw.secs[c.id]?)
  | dialled (t : Tgt) : intercept pp (lookup lw.w.table) hasMD md method = .forward t → gate t md = none →
      (∀ c, lw.w.pool.find t.key = some c → c.shut = true) → d = true →
      Calls pp lookup gate lw hasMD md method d
        ({ lw with w := { lw.w with pool := lw.w.pool.put t.key { id := lw.w.next }, next := lw.w.next + 1,
                                    dialLog := t.key :: lw.w.dialLog },
                   secs := lw.secs ++ [dialSecurity lw.hasCert t] },
         .proxied t.key (.dialled lw.w.next) (lw.secs ++ [dialSecurity lw.hasCert t])[lw.w.next]?)
  | failed (t : Tgt) : intercept pp (lookup lw.w.table) hasMD md method = .forward t → gate t md = none →
      (∀ c, lw.w.pool.find t.key = some c → c.shut = true) → d = false →
      Calls pp lookup gate lw hasMD md method d
        ({ lw with w := { lw.w with dialLog := t.key :: lw.w.dialLog } }, .proxied t.key .error none)

theorem calls (pp : Str → Option Str) (lookup : Table → Str → Str → Option Tgt) (gate : Gate)
    (lw : LWorld) (hasMD : Bool) (md : MD) (method : Str) (d : Bool) :
    Calls pp lookup gate lw hasMD md method d (lw.call pp lookup gate hasMD md method d) := by
  unfold LWorld.call
  cases hi : intercept pp (lookup lw.w.table) hasMD md method with
  | internal => exact .internal hi
  | notFound => exact .notFound hi
  | forward t =>
    dsimp only
    cases hg : gate t md with
    | some c => exact .gated t c hi hg
    | none =>
      unfold LWorld.dial
      rcases get_cases lw.w t.key d with ⟨c, hf, hs, e⟩ | ⟨hm, hd, e⟩ | ⟨hm, hd, e⟩
      · rw [e]; exact .reused t c hi hg hf hs
      · rw [e]; exact .dialled t hi hg hm hd
      · rw [e]; exact .failed t hi hg hm hd

end Fabio.Lemmas.C16Serve
