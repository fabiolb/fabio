import Fabio.Lemmas.C08
/-!
C08 lemmas about the statements of `addHeaders`. Each statement (and the request-id statement of `ServeHTTP` in front of them,
`withRequestID`) leaves `entries k` alone for every name `k` it does not write; composed, under `k` the result of `addHeadersIP`
is what the last statement writing `k` left. `ClientIPKeyFree` / `TLSKeyFree` / `RequestIDKeyFree`, the side conditions of the
property theorems (`Props/C08.lean`), are defined here: the frame lemmas are the first statements that carry them.
-/
namespace Fabio.Props.C08
open Fabio Fabio.Model.C08

def ClientIPKeyFree (cfg : Cfg) (k : Str) : Prop := clientIPApplies cfg = false ∨ canonicalKey cfg.clientIPHeader ≠ k
def TLSKeyFree (cfg : Cfg) (k : Str) : Prop := cfg.tlsHeader = [] ∨ canonicalKey cfg.tlsHeader ≠ k
def RequestIDKeyFree (cfg : Cfg) (k : Str) : Prop := cfg.requestID = [] ∨ canonicalKey cfg.requestID ≠ k

end Fabio.Props.C08

namespace Fabio.Props.C08Serve
open Fabio Fabio.Model.C08

/-- The request as `addHeaders` receives it: the request-id header has been set. -/
def withRequestID (cfg : Cfg) (uuid : Str) (r : Req) : Req :=
  { r with headers := if cfg.requestID.isEmpty then r.headers else set cfg.requestID uuid r.headers }

end Fabio.Props.C08Serve

namespace Fabio.Lemmas.C08
open Fabio Fabio.Model.C08
open Fabio.Props.C08 (ClientIPKeyFree TLSKeyFree RequestIDKeyFree)
open Fabio.Props.C08Serve (withRequestID)

theorem stepClientIP_other {cfg : Cfg} {k : Str} (hk : ClientIPKeyFree cfg k) (ip : Str) (h : Headers) :
    entries k (stepClientIP cfg ip h) = entries k h := by
  unfold stepClientIP
  rcases hk with hk | hk
  · rw [hk]; rfl
  · exact entries_setIf_ne (fun e => hk e.symm) _ _ _

theorem stepClientIP_self {cfg : Cfg} (ha : clientIPApplies cfg = true) (ip : Str) (h : Headers) :
    entries (canonicalKey cfg.clientIPHeader) (stepClientIP cfg ip h) = [(canonicalKey cfg.clientIPHeader, [ip])] := by
  rw [stepClientIP, entries_setIf_self, ha]; rfl

theorem stepRealIp_other {k : Str} (hk : k ≠ xRealIp) (ip : Str) (h : Headers) :
    entries k (stepRealIp ip h) = entries k h := entries_setIf_ne hk _ _ _

theorem stepRealIp_self (ip : Str) (h : Headers) :
    entries xRealIp (stepRealIp ip h) = if (get1 xRealIp h).isEmpty then [(xRealIp, [ip])] else entries xRealIp h :=
  entries_setIf_self _ _ _ _

theorem xffAppend_other {k : Str} (hk : k ≠ xForwardedFor) (ip : Str) (h : Headers) :
    entries k (xffAppend ip h) = entries k h := by
  unfold xffAppend
  split <;> first | rfl | exact entries_put_ne hk _ _

theorem stepWS_other {k : Str} (hk : k ≠ xForwardedFor) (ip : Str) (h : Headers) :
    entries k (stepWS ip h) = entries k h := by
  unfold stepWS; split
  · exact xffAppend_other hk _ _
  · rfl

theorem stepForward_other {k : Str} (h1 : k ≠ xForwardedProto) (h2 : k ≠ xForwardedPort)
    (h3 : k ≠ xForwardedHost) (h4 : k ≠ xForwardedPrefix) (h5 : k ≠ forwarded)
    (cfg : Cfg) (strip : Str) (r : Req) (ip : Str) (h : Headers) :
    entries k (stepForward cfg strip r ip h) = entries k h := by
  unfold stepForward
  simp only [entries_put_ne h5, entries_setIf_ne h4, entries_setIf_ne h3, entries_setIf_ne h2, entries_setIf_ne h1]

theorem stepTLS_other {cfg : Cfg} {k : Str} (hk : TLSKeyFree cfg k) (tls : Bool) (h : Headers) :
    entries k (stepTLS cfg tls h) = entries k h := by
  unfold stepTLS
  rcases hk with hk | hk
  · rw [hk]; rfl
  · have hne : k ≠ canonicalKey cfg.tlsHeader := fun e => hk e.symm
    split
    · rfl
    · split
      · exact entries_put_ne hne _ _
      · exact entries_del_ne hne _

theorem stepTLS_self {cfg : Cfg} (hne : cfg.tlsHeader ≠ []) (tls : Bool) (h : Headers) :
    entries (canonicalKey cfg.tlsHeader) (stepTLS cfg tls h) =
      if tls then [(canonicalKey cfg.tlsHeader, [cfg.tlsHeaderValue])] else [] := by
  rw [stepTLS, List.isEmpty_eq_false_iff.2 hne, if_neg Bool.false_ne_true]
  split
  · exact entries_put_self _ _ _
  · exact entries_del_self _ _

theorem stepConnection_other {k : Str} (hk : k ≠ connection) (cfg : Cfg) (h : Headers) :
    entries k (stepConnection cfg h) = entries k h := by
  unfold stepConnection
  cases vals connection h with
  | none => rfl
  | some conn =>
    simp only
    split
    · exact entries_del_ne hk _
    · exact entries_put_ne hk _ _

theorem addHeadersIP_entries {k : Str} (hk : k ≠ connection) (cfg : Cfg) (strip : Str) (r : Req) (ip : Str) :
    entries k (addHeadersIP cfg strip r ip) = entries k (addHeadersCore cfg strip r ip) := by
  unfold addHeadersIP; exact stepConnection_other hk _ _

theorem withRequestID_other {cfg : Cfg} {k : Str} (hq : RequestIDKeyFree cfg k) (uuid : Str) (r : Req) :
    entries k (withRequestID cfg uuid r).headers = entries k r.headers := by
  unfold withRequestID
  split
  · rfl
  · next hne =>
    rcases hq with hq | hq
    · rw [hq] at hne; exact absurd rfl hne
    · exact entries_put_ne (fun e => hq e.symm) _ _

theorem withRequestID_self {cfg : Cfg} (hne : cfg.requestID ≠ []) (uuid : Str) (r : Req) :
    entries (canonicalKey cfg.requestID) (withRequestID cfg uuid r).headers = [(canonicalKey cfg.requestID, [uuid])] := by
  unfold withRequestID
  rw [List.isEmpty_eq_false_iff.2 hne]
  exact entries_put_self _ _ _

theorem get1_withRequestID {cfg : Cfg} {k : Str} (hq : RequestIDKeyFree cfg k) (uuid : Str) (r : Req) :
    get1 k (withRequestID cfg uuid r).headers = get1 k r.headers := get1_congr (withRequestID_other hq uuid r)

/-! `addHeaders` as a pipeline: under a name `k`, the result is what the last statement writing `k` left. -/

/-- the two statements in front of the websocket block, which reads `Upgrade` and X-Forwarded-For from their result -/
theorem beforeWS_other {cfg : Cfg} {k : Str} (hc : ClientIPKeyFree cfg k) (h2 : k ≠ xRealIp) (ip : Str) (h : Headers) :
    entries k (stepRealIp ip (stepClientIP cfg ip h)) = entries k h := by
  rw [stepRealIp_other h2, stepClientIP_other hc]

theorem firstSteps_other {cfg : Cfg} {k : Str} (hc : ClientIPKeyFree cfg k) (h2 : k ≠ xRealIp) (h3 : k ≠ xForwardedFor)
    (ip : Str) (h : Headers) : entries k (stepWS ip (stepRealIp ip (stepClientIP cfg ip h))) = entries k h := by
  rw [stepWS_other h3, beforeWS_other hc h2]

theorem addHeadersIP_lastSteps {cfg : Cfg} {k : Str} (ht : TLSKeyFree cfg k)
    (hk : k ∉ [xForwardedProto, xForwardedPort, xForwardedHost, xForwardedPrefix, forwarded, connection])
    (strip : Str) (r : Req) (ip : Str) :
    entries k (addHeadersIP cfg strip r ip) = entries k (stepWS ip (stepRealIp ip (stepClientIP cfg ip r.headers))) := by
  simp only [List.mem_cons, List.not_mem_nil, or_false, not_or] at hk
  obtain ⟨k3, k4, k5, k6, k7, k8⟩ := hk
  rw [addHeadersIP_entries k8]
  unfold addHeadersCore
  rw [stepTLS_other ht, stepForward_other k3 k4 k5 k6 k7]

theorem addHeadersIP_after_clientIP {cfg : Cfg} {k : Str} (ht : TLSKeyFree cfg k) (hk : k ∉ writtenNames)
    (strip : Str) (r : Req) (ip : Str) :
    entries k (addHeadersIP cfg strip r ip) = entries k (stepClientIP cfg ip r.headers) := by
  have h1 := List.ne_of_not_mem_cons hk
  have hk1 := List.not_mem_of_not_mem_cons hk
  rw [addHeadersIP_lastSteps ht (List.not_mem_of_not_mem_cons hk1), stepWS_other (List.ne_of_not_mem_cons hk1),
    stepRealIp_other h1]

theorem addHeadersIP_other {cfg : Cfg} {k : Str} (hc : ClientIPKeyFree cfg k) (ht : TLSKeyFree cfg k)
    (hk : k ∉ writtenNames) (strip : Str) (r : Req) (ip : Str) :
    entries k (addHeadersIP cfg strip r ip) = entries k r.headers := by
  rw [addHeadersIP_after_clientIP ht hk, stepClientIP_other hc]

theorem keyfree_of_unmanaged {cfg : Cfg} {k : Str} (hk : k ∉ managedKeys cfg) :
    (k ≠ forwarded ∧ k ≠ xForwardedFor ∧ k ≠ xForwardedHost ∧ k ≠ xForwardedPort ∧ k ≠ xForwardedPrefix ∧
     k ≠ xForwardedProto ∧ k ≠ xRealIp) ∧ ClientIPKeyFree cfg k ∧ TLSKeyFree cfg k ∧ RequestIDKeyFree cfg k := by
  have fixed : ∀ n ∈ [forwarded, xForwardedFor, xForwardedHost, xForwardedPort, xForwardedPrefix, xForwardedProto,
      xRealIp], k ≠ n := fun n hn e => hk (e ▸ mem_managedKeys_fixed cfg hn)
  have conf : ∀ n, n = cfg.clientIPHeader ∨ n = cfg.tlsHeader ∨ n = cfg.requestID → n = [] ∨ canonicalKey n ≠ k :=
    fun n hm => (Decidable.em (n = [])).imp_right fun hne e => hk (e ▸ mem_managedKeys_cfg hne hm)
  refine ⟨⟨fixed _ (by simp), fixed _ (by simp), fixed _ (by simp), fixed _ (by simp), fixed _ (by simp),
    fixed _ (by simp), fixed _ (by simp)⟩, ?_, conf _ (.inr (.inl rfl)), conf _ (.inr (.inr rfl))⟩
  exact (conf _ (.inl rfl)).imp_left fun he => by simp [clientIPApplies, he]

/-- `addHeadersCore` is `addHeaders` with the `Connection` step set aside: `k` may be `Connection`. -/
theorem addHeadersCore_unmanaged (cfg : Cfg) (strip : Str) (r : Req) (ip : Str) {k : Str}
    (hk : k ∉ managedKeys cfg) : entries k (addHeadersCore cfg strip r ip) = entries k r.headers := by
  obtain ⟨⟨h1, h2, h3, h4, h5, h6, h7⟩, hc, ht, _⟩ := keyfree_of_unmanaged hk
  unfold addHeadersCore
  rw [stepTLS_other ht, stepForward_other h6 h4 h3 h5 h1, firstSteps_other hc h7 h2]

theorem addHeaders_upgrade_untouched (cfg : Cfg) (strip : Str) (r : Req) (ip : Str)
    (hc : ClientIPKeyFree cfg upgrade) (ht : TLSKeyFree cfg upgrade) :
    entries upgrade (addHeadersIP cfg strip r ip) = entries upgrade r.headers :=
  addHeadersIP_other hc ht upgrade_not_written strip r ip

theorem isWebsocket_addHeadersIP (cfg : Cfg) (strip : Str) (r : Req) (ip : Str)
    (hc : ClientIPKeyFree cfg upgrade) (ht : TLSKeyFree cfg upgrade) :
    isWebsocket (addHeadersIP cfg strip r ip) = isWebsocket r.headers :=
  isWebsocket_congr (addHeaders_upgrade_untouched cfg strip r ip hc ht)

theorem serve_eq_map (cfg : Cfg) (uuid hostOpt targetHost strip : Str) (r : Req) :
    serve cfg uuid hostOpt targetHost strip r =
      (splitHostPort r.remoteAddr).map fun p =>
        { host := overrideHost hostOpt targetHost r.host,
          headers := addHeadersIP cfg strip (withRequestID cfg uuid r) p.1,
          resp := addResponseHeaders cfg r.tls.isSome [] } := by
  simp only [serve, addHeaders, withRequestID]
  cases splitHostPort r.remoteAddr <;> rfl

theorem serve_eq (cfg : Cfg) (uuid hostOpt targetHost strip : Str) (r : Req) {ip port : Str}
    (hsplit : splitHostPort r.remoteAddr = some (ip, port)) :
    serve cfg uuid hostOpt targetHost strip r =
      some { host := overrideHost hostOpt targetHost r.host,
             headers := addHeadersIP cfg strip (withRequestID cfg uuid r) ip,
             resp := addResponseHeaders cfg r.tls.isSome [] } := by
  rw [serve_eq_map, hsplit]; rfl

/-- `xffAppend` is the X-Forwarded-For block of `addHeaders`' websocket branch and, by assumption, of
`httputil.ReverseProxy`. -/
theorem xffAppend_last_is_peer (ip : Str) (h : Headers) (hnil : vals xForwardedFor h ≠ some [])
    (hc : ',' ∉ ip) (hs : ip.head? ≠ some ' ') :
    ∃ v, entries xForwardedFor (xffAppend ip h) = [(xForwardedFor, [v])] ∧ lastElem v = ip := by
  unfold xffAppend
  split
  · rename_i heq; exact absurd heq hnil
  · exact ⟨_, entries_put_self _ _ _, lastElem_append _ _ hc hs⟩
  · exact ⟨_, entries_put_self _ _ _, lastElem_self _ hc hs⟩

theorem xffAppend_congr {h h' : Headers} (e : entries xForwardedFor h = entries xForwardedFor h') (ip : Str) :
    entries xForwardedFor (xffAppend ip h) = entries xForwardedFor (xffAppend ip h') := by
  unfold xffAppend
  rw [vals_congr e]
  split
  · exact e
  · rw [entries_put_self, entries_put_self]
  · rw [entries_put_self, entries_put_self]

/-- X-Forwarded-For after `addHeaders`: the websocket block is the only statement that writes it, and the two statements
in front of it change neither what it tests (`Upgrade`) nor what it appends to. -/
theorem addHeadersIP_xff (cfg : Cfg) (strip : Str) (r : Req) (ip : Str)
    (hcu : ClientIPKeyFree cfg upgrade) (hcx : ClientIPKeyFree cfg xForwardedFor) (ht : TLSKeyFree cfg xForwardedFor) :
    entries xForwardedFor (addHeadersIP cfg strip r ip) =
      entries xForwardedFor (if isWebsocket r.headers then xffAppend ip r.headers else r.headers) := by
  have ex := beforeWS_other hcx (Ne.symm (List.ne_of_not_mem_cons xRealIp_not_later)) ip r.headers
  rw [addHeadersIP_lastSteps ht xForwardedFor_not_later, stepWS,
    isWebsocket_congr (beforeWS_other hcu (List.ne_of_not_mem_cons upgrade_not_written) ip r.headers)]
  split
  · exact xffAppend_congr ex ip
  · exact ex

theorem addHeaders_xff_untouched_when_not_ws (cfg : Cfg) (strip : Str) (r : Req) (ip : Str)
    (hws : isWebsocket r.headers = false)
    (hcu : ClientIPKeyFree cfg upgrade) (hcx : ClientIPKeyFree cfg xForwardedFor) (ht : TLSKeyFree cfg xForwardedFor) :
    entries xForwardedFor (addHeadersIP cfg strip r ip) = entries xForwardedFor r.headers := by
  rw [addHeadersIP_xff cfg strip r ip hcu hcx ht, hws]; rfl

theorem scheme_from_connection_when_no_headers (h : Headers) (tls : Bool)
    (hp : get1 xForwardedProto h = []) (hf : get1 forwarded h = []) :
    scheme h tls = connScheme (isWebsocket h) tls := by
  simp [scheme, hp, hf]

theorem xfpOf_connScheme (ws tls : Bool) :
    xfpOf (connScheme ws tls) = (if tls then "https".toList else "http".toList) := by
  cases ws <;> cases tls <;> decide

/-! `stepForward` reads a name back only after writing *other* names, so the value it finds is the incoming one. -/

theorem stepForward_xfproto (cfg : Cfg) (strip : Str) (r : Req) (ip : Str) (h : Headers) :
    entries xForwardedProto (stepForward cfg strip r ip h) =
      if (get1 xForwardedProto h).isEmpty then [(xForwardedProto, [xfpOf (scheme h r.tls.isSome)])]
      else entries xForwardedProto h := by
  obtain ⟨⟨proto_port, proto_host, proto_prefix, proto_fwd⟩, -⟩ := forward_names_distinct
  unfold stepForward
  simp only [entries_put_ne proto_fwd, entries_setIf_ne proto_prefix, entries_setIf_ne proto_host, entries_setIf_ne proto_port,
    entries_setIf_self]

theorem stepForward_xfport (cfg : Cfg) (strip : Str) (r : Req) (ip : Str) (h : Headers) :
    entries xForwardedPort (stepForward cfg strip r ip h) =
      if (get1 xForwardedPort h).isEmpty then [(xForwardedPort, [localPort r.host r.tls.isSome])]
      else entries xForwardedPort h := by
  obtain ⟨⟨proto_port, -⟩, ⟨port_host, port_prefix, port_fwd⟩, -⟩ := forward_names_distinct
  unfold stepForward
  simp only [entries_put_ne port_fwd, entries_setIf_ne port_prefix, entries_setIf_ne port_host, entries_setIf_self,
    get1_setIf_ne proto_port.symm, entries_setIf_ne proto_port.symm]

theorem stepForward_xfhost (cfg : Cfg) (strip : Str) (r : Req) (ip : Str) (h : Headers) :
    entries xForwardedHost (stepForward cfg strip r ip h) =
      if (get1 xForwardedHost h).isEmpty && !r.host.isEmpty then [(xForwardedHost, [r.host])]
      else entries xForwardedHost h := by
  obtain ⟨⟨-, proto_host, -⟩, ⟨port_host, -⟩, ⟨host_prefix, host_fwd⟩, -⟩ := forward_names_distinct
  unfold stepForward
  simp only [entries_put_ne host_fwd, entries_setIf_ne host_prefix, entries_setIf_self,
    get1_setIf_ne port_host.symm, get1_setIf_ne proto_host.symm,
    entries_setIf_ne port_host.symm, entries_setIf_ne proto_host.symm]

theorem stepForward_forwarded (cfg : Cfg) (strip : Str) (r : Req) (ip : Str) (h : Headers) :
    entries forwarded (stepForward cfg strip r ip h) =
      [(forwarded, [(if (get1 forwarded h).isEmpty then "for=".toList ++ ip ++ "; proto=".toList ++ scheme h r.tls.isSome
                     else get1 forwarded h) ++ forwardedTail cfg r.proto r.tls])] := by
  obtain ⟨⟨-, -, -, proto_fwd⟩, ⟨-, -, port_fwd⟩, ⟨-, host_fwd⟩, prefix_fwd⟩ := forward_names_distinct
  unfold stepForward
  simp only [entries_put_self, get1_setIf_ne prefix_fwd.symm, get1_setIf_ne host_fwd.symm,
    get1_setIf_ne port_fwd.symm, get1_setIf_ne proto_fwd.symm]

theorem addHeadersIP_forward_name {cfg : Cfg} {k : Str}
    (hk : k ∈ [xForwardedProto, xForwardedPort, xForwardedHost, xForwardedPrefix, forwarded])
    (hc : ClientIPKeyFree cfg k) (ht : TLSKeyFree cfg k) (strip : Str) (r : Req) (ip : Str) :
    entries k (addHeadersIP cfg strip r ip)
        = entries k (stepForward cfg strip r ip (stepWS ip (stepRealIp ip (stepClientIP cfg ip r.headers)))) ∧
      entries k (stepWS ip (stepRealIp ip (stepClientIP cfg ip r.headers))) = entries k r.headers := by
  have hn := forward_names_not_elsewhere k hk
  simp only [List.mem_cons, List.not_mem_nil, or_false, not_or] at hn
  refine ⟨?_, firstSteps_other hc hn.1 hn.2.1 ip _⟩
  rw [addHeadersIP_entries hn.2.2]
  unfold addHeadersCore
  rw [stepTLS_other ht]

theorem addHeadersIP_xfhost (cfg : Cfg) (strip : Str) (r : Req) (ip : Str)
    (hx : get1 xForwardedHost r.headers = []) (hh : r.host ≠ [])
    (hc : ClientIPKeyFree cfg xForwardedHost) (ht : TLSKeyFree cfg xForwardedHost) :
    entries xForwardedHost (addHeadersIP cfg strip r ip) = [(xForwardedHost, [r.host])] := by
  obtain ⟨e1, e2⟩ := addHeadersIP_forward_name (k := xForwardedHost) (by simp) hc ht strip r ip
  rw [e1, stepForward_xfhost, get1_congr e2, hx, List.isEmpty_eq_false_iff.2 hh]; rfl

theorem addHeadersIP_xfport (cfg : Cfg) (strip : Str) (r : Req) (ip : Str)
    (hx : get1 xForwardedPort r.headers = [])
    (hc : ClientIPKeyFree cfg xForwardedPort) (ht : TLSKeyFree cfg xForwardedPort) :
    entries xForwardedPort (addHeadersIP cfg strip r ip) = [(xForwardedPort, [localPort r.host r.tls.isSome])] := by
  obtain ⟨e1, e2⟩ := addHeadersIP_forward_name (k := xForwardedPort) (by simp) hc ht strip r ip
  rw [e1, stepForward_xfport, get1_congr e2, hx]; rfl

theorem foldl_del_other (k : Str) (ks : List Str) (h : Headers) (hk : k ∉ ks) :
    entries k (ks.foldl (fun acc k' => del k' acc) h) = entries k h := by
  induction ks generalizing h with
  | nil => rfl
  | cons a t ih =>
    simp only [List.mem_cons, not_or] at hk
    simp only [List.foldl_cons]
    rw [ih _ hk.2, entries_del_ne hk.1]

theorem entries_removeHopByHop (k : Str) (h : Headers) (hk : k ∉ hopByHopNames h) (hf : k ∉ fixedHopByHop) :
    entries k (removeHopByHop h) = entries k h := by
  unfold removeHopByHop
  rw [foldl_del_other k _ _ hf, foldl_del_other k _ h hk]

/-- the `if`: the `Connection: Upgrade` / `Upgrade: <type>` pair the reverse proxy puts back for a protocol switch -/
theorem entries_upgrade_readd (k : Str) (up : Str) (h : Headers) (h1 : k ≠ upgrade) (h2 : k ≠ connection) :
    entries k (if up.isEmpty then h else put upgrade [up] (put connection ["Upgrade".toList] h)) = entries k h := by
  split
  · rfl
  · rw [entries_put_ne h1, entries_put_ne h2]

theorem reverseProxy_keeps_unnamed (ip : Str) (h : Headers) (k : Str)
    (hx : k ≠ xForwardedFor) (hk : k ∉ hopByHopNames h) (hf : k ∉ fixedHopByHop) :
    entries k (reverseProxy ip h) = entries k h := by
  unfold reverseProxy
  simp only
  rw [xffAppend_other hx, entries_upgrade_readd k _ _ (not_fixed_ne hf).1 (not_fixed_ne hf).2,
    entries_removeHopByHop k h hk hf]

theorem splitComma_keepTokens {cfg : Cfg} {v v' : Str} (h : keepTokens cfg v = some v') :
    splitComma v' = (splitComma v).filter (fun t => !(managedKeys cfg).contains (tokenKey t)) := by
  unfold keepTokens at h
  simp only at h
  split at h
  · cases h
  · next hne =>
    cases h
    exact splitComma_joinComma _ (fun e => hne (by rw [e]; rfl))
      (fun t ht => splitComma_comma_free _ _ (List.mem_filter.mp ht).1)

theorem keepTokens_spec {cfg : Cfg} {v v' : Str} (h : keepTokens cfg v = some v') :
    ∀ t ∈ splitComma v', t ∈ splitComma v ∧ tokenKey t ∉ managedKeys cfg := by
  rw [splitComma_keepTokens h]
  intro t ht
  simpa using List.mem_filter.mp ht

theorem connection_values_stepConnection (cfg : Cfg) (h : Headers) :
    (vals connection (stepConnection cfg h)).getD [] = ((vals connection h).getD []).filterMap (keepTokens cfg) := by
  unfold stepConnection
  cases hc : vals connection h with
  | none => simp only [hc]; rfl
  | some conn =>
    simp only [Option.getD_some]
    split
    · next he => rw [vals_del_self, List.isEmpty_iff.mp he]; rfl
    · rw [vals_put_self]; rfl

/-- `protectManagedHeaders` only removes tokens, and all that name a header fabio maintains: what the `Connection`
header names afterwards it named before, and it is no managed header — for every `Connection` header (any number of
lines, any casing, any spacing) the client sent. -/
theorem stepConnection_names (cfg : Cfg) (h : Headers) (k : Str) (hk : k ∈ hopByHopNames (stepConnection cfg h)) :
    k ∈ hopByHopNames h ∧ k ∉ managedKeys cfg := by
  unfold hopByHopNames at hk ⊢
  rw [connection_values_stepConnection] at hk
  simp only [List.mem_flatMap, List.mem_filterMap] at hk ⊢
  obtain ⟨v, ⟨v0, hv0m, hv0⟩, t, ht, hkt⟩ := hk
  refine ⟨⟨v0, hv0m, t, (keepTokens_spec hv0 t ht).1, hkt⟩, ?_⟩
  split at hkt
  · cases hkt
  · cases hkt
    exact (keepTokens_spec hv0 t ht).2

theorem hopByHopNames_stepConnection (cfg : Cfg) (h : Headers) (k : Str)
    (hk : k ∈ hopByHopNames (stepConnection cfg h)) : k ∈ hopByHopNames h := (stepConnection_names cfg h k hk).1

theorem connection_names_no_managed (cfg : Cfg) (h : Headers) (k : Str)
    (hk : k ∈ hopByHopNames (stepConnection cfg h)) : k ∉ managedKeys cfg := (stepConnection_names cfg h k hk).2

end Fabio.Lemmas.C08
