import Fabio.Model.C03
import Fabio.Lemmas.Order
import Fabio.Lemmas.Route
/-!
General facts about definitions the models share, as far as C03 needs them: `strLt` on strings with a common prefix,
the longest match as the first in a list sorted by a lexicographic combination (`find_longest`), `RoutesSorted` (the
order `sortRoutes` leaves a host's routes in). The orders themselves and insertion sort by a strict order are in
`Lemmas/Order.lean`.
-/
namespace Fabio.Lemmas.C03
open Fabio Fabio.Model.Route Fabio.Model.C03

theorem strLt_append_left (p a b : Str) : strLt (p ++ a) (p ++ b) = strLt a b := by
  rw [strLt_eq_ltBy]; exact ltBy_append_left _ p a b

theorem strLt_of_head_lt (p : Str) (a b : Char) (u v : Str) (h : a.toNat < b.toNat) :
    strLt (p ++ a :: u) (p ++ b :: v) = true := by
  rw [strLt_append_left]; simp [strLt, h]

theorem strLt_of_prefixes {p q u : Str} (hp : p <+: u) (hq : q <+: u) (hl : p.length < q.length) :
    strLt p q = true := by
  obtain ⟨w, rfl⟩ := List.prefix_of_prefix_length_le hp hq (Nat.le_of_lt hl)
  cases w with
  | nil => simp at hl
  | cons c w => simpa [strLt] using strLt_append_left p [] (c :: w)

/-- were `q` longer, `f p` would be a proper prefix of `f q` (both are prefixes of `u`), hence below it -/
theorem length_le_of_not_lexBy {f : Str → Str} (hlen : ∀ s, (f s).length = s.length) {ltR : Str → Str → Bool}
    {p q u : Str} (hp : f p <+: u) (hq : f q <+: u) (h : lexBy strLt f ltR p q = false) : q.length ≤ p.length := by
  apply Nat.le_of_not_lt
  intro hlt
  have h1 := strLt_of_prefixes hp hq (by rw [hlen, hlen]; exact hlt)
  have hne : f p ≠ f q := fun e => by rw [e, strLt_strict.irrefl] at h1; cases h1
  simp [lexBy, hne, h1] at h

/-- In a list in descending `lexBy strLt f _` order of the paths `π a` (`f` keeps lengths), the first element whose folded
path is a prefix of `u` has a longest such path: a longer one further back would have to stand in front of it. -/
theorem find_longest {α : Type} (π : α → Str) {f : Str → Str} (hlen : ∀ s, (f s).length = s.length)
    {ltR : Str → Str → Bool} {q : α → Bool} {u : Str} (hq : ∀ a, q a = true → f (π a) <+: u) {xs : List α}
    (hs : xs.Pairwise (fun a b => lexBy strLt f ltR (π a) (π b) = false))
    {x : α} (hres : xs.find? q = some x) {y : α} (hy : y ∈ xs) (hqy : q y = true) :
    (π y).length ≤ (π x).length := by
  obtain ⟨hqx, pre, post, e, hpre⟩ := List.find?_eq_some_iff_append.1 hres
  rw [e] at hy hs
  rcases first_match_before (q := fun a => q a = true) hs (fun z hz => by simpa using hpre z hz) hy hqy with rfl | hlt
  · exact Nat.le_refl _
  · exact length_le_of_not_lexBy hlen (hq _ hqx) (hq _ hqy) hlt

/-- a host's routes after `newTable` -/
def RoutesSorted (rs : List Route) : Prop := rs.Pairwise (fun a b => pathLt a.path b.path = false)

theorem sortRoutes_sorted (rs : List Route) : RoutesSorted (sortRoutes rs) := by
  rw [Route.sortRoutes_eq]; exact sortBy_pairwise (pathLt_strict.flipOn Route.path) rs

end Fabio.Lemmas.C03
