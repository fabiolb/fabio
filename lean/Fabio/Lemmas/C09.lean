import Fabio.Model.C09
/-! Lemmas for C09 (core Lean only). Each operation of the scripted connection and of the bufio reader is
characterised once, in terms of the stream still to come and not of its segmentation (`Continues`), and so is `sniServe`
(`frontOf`, `sniServe_eq`). The tunnel machine has one invariant per copy direction (`Dir`) and one for the teardown
(`Teardown`). -/
namespace Fabio.Lemmas.C09
open Fabio.Model.C09

theorem take_ne_nil {α : Type} {l : List α} {n : Nat} (hl : l ≠ []) (hn : 0 < n) : l.take n ≠ [] := by
  intro h
  rcases List.take_eq_nil_iff.mp h with h | h
  · omega
  · exact hl h

structure ConnReadOK (cap : Nat) (s : Script) (r : Bytes × Option RdErr × Script) : Prop where
  stream : streamOf s = r.1 ++ streamOf r.2.2
  ends : endOf r.2.2 = endOf s
  len : r.1.length ≤ cap
  err : ∀ e, r.2.1 = some e → r.1 = [] ∧ streamOf s = [] ∧ endOf s = e
  progress : 0 < cap → r.2.1 = none → r.1 ≠ []

theorem connRead_ok (cap : Nat) (s : Script) : ConnReadOK cap s (connRead cap s) := by
  induction s with
  | nil => constructor <;> simp [connRead, streamOf, endOf]
  | cons ev r ih =>
    cases ev with
    | eof => constructor <;> simp [connRead, streamOf, endOf]
    | err => constructor <;> simp [connRead, streamOf, endOf]
    | chunk bs =>
      simp only [connRead]
      split
      · next hb =>
        subst hb
        exact ⟨ih.stream, ih.ends, ih.len, ih.err, ih.progress⟩
      · next hb =>
        split
        · next hle => exact ⟨rfl, rfl, hle, fun _ h => (nomatch h), fun _ _ => hb⟩
        · refine ⟨?_, rfl, List.length_take_le _ _, fun _ h => (nomatch h), fun hc _ => take_ne_nil hb hc⟩
          simp only [streamOf, ← List.append_assoc, List.take_append_drop]

theorem ConnReadOK.err_rest {cap : Nat} {s : Script} {r : Bytes × Option RdErr × Script}
    (h : ConnReadOK cap s r) (e : RdErr) (he : r.2.1 = some e) : streamOf r.2.2 = [] := by
  have := h.stream
  rw [(h.err e he).2.1] at this
  exact (List.append_eq_nil_iff.mp this.symm).2

structure CopyOK (s : Script) (w : WScript) (r : CopyRes) : Prop where
  notStuck : r.err ≠ .stuck
  pref : r.written <+: streamOf s
  counter : r.counter = r.written.length
  clean : (r.err = .none ∨ r.err = .read) → r.written = streamOf s ∧ r.err = .ofRd (endOf s)
  fullWriter : w = [] → (r.err = .none ∨ r.err = .read)

theorem connWrite_le (bs : Bytes) (w : WScript) : (connWrite bs w).1 ≤ bs.length := by
  cases w with
  | nil => simp [connWrite]
  | cons e r => cases e <;> simp [connWrite] <;> omega

theorem copyLoop_ok (cap : Nat) (hcap : 0 < cap) :
    ∀ (fuel : Nat) (s : Script) (w : WScript), totalBytes s < fuel → CopyOK s w (copyLoop cap fuel s w) := by
  intro fuel
  induction fuel with
  | zero => intro s w h; omega
  | succ fuel ih =>
    intro s w hf
    have hr := connRead_ok cap s
    rcases hcr : connRead cap s with ⟨bs, er, s'⟩
    rw [hcr] at hr
    have hst : streamOf s = bs ++ streamOf s' := hr.stream
    simp only [copyLoop, hcr]
    -- an error comes without bytes, a read without error hands out some
    cases er with
    | some e =>
      obtain ⟨rfl, hnil, hend⟩ := hr.err e rfl
      simp only [ne_eq, not_true_eq_false, if_false]
      refine ⟨by cases e <;> simp [CopyErr.ofRd], ?_, rfl, ?_, ?_⟩
      · simp [hnil]
      · intro _; simp [hnil, hend]
      · intro _; cases e <;> simp [CopyErr.ofRd]
    | none =>
      have hbs : bs ≠ [] := hr.progress hcap rfl
      simp only [ne_eq, hbs, not_false_eq_true, if_true]
      rcases hcw : connWrite bs w with ⟨nw, ew, w'⟩
      have hle : nw ≤ bs.length := by have := connWrite_le bs w; rwa [hcw] at this
      have hfull : w = [] → nw = bs.length ∧ ew = false ∧ w' = [] := by
        rintro rfl; simpa [connWrite, eq_comm] using hcw
      have hstop : ∀ e, e = CopyErr.write ∨ e = CopyErr.shortWrite → ¬ w = [] →
          CopyOK s w { written := bs.take nw, counter := nw, err := e, src := s', dst := w' } := by
        intro e he hw
        have hpre : bs.take nw <+: streamOf s := by
          rw [hst]; exact (List.take_prefix nw bs).trans (List.prefix_append bs _)
        rcases he with rfl | rfl <;>
          exact ⟨by simp, hpre, by simp [List.length_take]; omega, by simp, fun h => absurd h hw⟩
      simp only
      cases ew with
      | true => exact hstop _ (.inl rfl) fun hw => nomatch (hfull hw).2.1
      | false =>
        simp only [Bool.false_eq_true, if_false]
        by_cases hnw : nw = bs.length
        · subst hnw
          simp only [not_true_eq_false, if_false]
          have hrec := ih s' w' (by
            have hlen : 0 < bs.length := List.length_pos_iff.mpr hbs
            have : totalBytes s = bs.length + totalBytes s' := by
              unfold totalBytes; rw [hst, List.length_append]
            omega)
          refine ⟨hrec.notStuck, ?_, ?_, ?_, fun hw => hrec.fullWriter (hfull hw).2.2⟩
          · rw [hst]; exact (List.prefix_append_right_inj bs).mpr hrec.pref
          · simp [hrec.counter]
          · intro h
            have := hrec.clean h
            rw [hst, this.1, this.2, hr.ends]; exact ⟨rfl, rfl⟩
        · simp only [hnw, not_false_eq_true, if_true]
          exact hstop _ (.inr rfl) fun hw => hnw (hfull hw).1

theorem copyBuffer_ok (cap : Nat) (hcap : 0 < cap) (s : Script) (w : WScript) :
    CopyOK s w (copyBuffer cap s w) :=
  copyLoop_ok cap hcap _ s w (Nat.lt_succ_self _)

theorem copy_full_writer (cap : Nat) (hcap : 0 < cap) (s : Script) :
    (copyBuffer cap s []).written = streamOf s :=
  have h := copyBuffer_ok cap hcap s []
  (h.clean (h.fullWriter rfl)).1

/-- `bufio.Reader` records an error only from a `Read` of the socket that returned it: the socket is at its end. Its
buffer has room for at least one byte (`bufio.NewReaderSize` makes it 16 bytes or more). -/
structure WF (b : BufReader) : Prop where
  err : ∀ e, b.err = some e → streamOf b.conn = []
  size : 0 < b.size

def rest (b : BufReader) : Bytes := b.buf ++ streamOf b.conn

theorem wf_new (s : Script) (n : Nat) (hn : 0 < n) : WF (BufReader.new s n) :=
  ⟨nofun, hn⟩

theorem rest_new (s : Script) (n : Nat) : rest (BufReader.new s n) = streamOf s := by
  simp [rest, BufReader.new]

/-- `b'` continues `b` after handing out `out`: what is still to come is what was to come, without `out`. -/
structure Continues (b : BufReader) (out : Bytes) (b' : BufReader) : Prop where
  wf : WF b'
  rest : out ++ rest b' = rest b
  size : b'.size = b.size

theorem Continues.refl {b : BufReader} (hb : WF b) : Continues b [] b := ⟨hb, rfl, rfl⟩

theorem Continues.trans {b b₁ b₂ : BufReader} {o₁ o₂ : Bytes} (h₁ : Continues b o₁ b₁) (h₂ : Continues b₁ o₂ b₂) :
    Continues b (o₁ ++ o₂) b₂ :=
  ⟨h₂.wf, by rw [List.append_assoc, h₂.rest, h₁.rest], h₂.size.trans h₁.size⟩

theorem fill_ok (b : BufReader) (hb : WF b) : Continues b [] b.fill := by
  unfold BufReader.fill
  have hr := connRead_ok (b.size - b.buf.length) b.conn
  rcases hcr : connRead (b.size - b.buf.length) b.conn with ⟨bs, e, c'⟩
  rw [hcr] at hr
  refine ⟨⟨fun x hx => ?_, hb.size⟩, by simp [rest, hr.stream, List.append_assoc], rfl⟩
  cases e with
  | some y => exact hr.err_rest y rfl
  | none =>
    have := hr.stream
    rw [hb.err x hx] at this
    exact (List.append_eq_nil_iff.mp this.symm).2

theorem fill_grows (b : BufReader) (hroom : b.buf.length < b.size) (he : b.fill.err = none) :
    b.buf.length < b.fill.buf.length := by
  unfold BufReader.fill at he ⊢
  have hr := connRead_ok (b.size - b.buf.length) b.conn
  rcases hcr : connRead (b.size - b.buf.length) b.conn with ⟨bs, e, c'⟩
  rw [hcr] at hr he
  cases e with
  | some x => cases he
  | none =>
    have : 0 < bs.length := List.length_pos_iff.mpr (hr.progress (by omega) rfl)
    simp only [List.length_append]; omega

/-- It is not the fuel that stops the fill loop of `Peek(n)`: once the fuel covers the bytes still missing (every
`fill` adds one or records an error) the loop ends with its condition false. -/
theorem peekLoop_done (n : Nat) : ∀ (fuel : Nat) (b : BufReader), n < fuel + b.buf.length ∨ b.err ≠ none →
    ¬ ((BufReader.peekLoop n fuel b).buf.length < n ∧
       (BufReader.peekLoop n fuel b).buf.length < (BufReader.peekLoop n fuel b).size ∧
       (BufReader.peekLoop n fuel b).err = none) := by
  intro fuel
  induction fuel with
  | zero =>
    intro b hb
    simp only [BufReader.peekLoop]
    intro hc
    rcases hb with hb | hb
    · exact absurd hc.1 (by omega)
    · exact hb hc.2.2
  | succ f ih =>
    intro b hb
    simp only [BufReader.peekLoop]
    split
    · next hc =>
      apply ih
      by_cases he : b.fill.err = none
      · have := fill_grows b hc.2.1 he
        rcases hb with hb | hb
        · exact Or.inl (by omega)
        · exact absurd hc.2.2 hb
      · exact Or.inr he
    · next hc => exact hc

theorem peekLoop_ok (n : Nat) : ∀ (fuel : Nat) (b : BufReader), WF b → Continues b [] (BufReader.peekLoop n fuel b) := by
  intro fuel
  induction fuel with
  | zero => intro b hb; exact .refl hb
  | succ f ih =>
    intro b hb
    simp only [BufReader.peekLoop]
    split
    · exact (fill_ok b hb).trans (ih b.fill (fill_ok b hb).wf)
    · exact .refl hb

theorem peek_ok (n : Nat) (b : BufReader) (hb : WF b) : Continues b [] (b.peek n).2.2 := by
  have h := peekLoop_ok n (n + 1) b hb
  unfold BufReader.peek
  simp only
  split
  · exact h
  · split
    · split
      · exact ⟨⟨nofun, h.wf.size⟩, h.rest, h.size⟩
      · exact h
    · exact h

theorem peek_eq (n : Nat) (b : BufReader) (hb : WF b) (hn : n ≤ b.size) :
    ∃ e b', b.peek n = ((rest b).take n, e, b') ∧ (e = none ↔ n ≤ (rest b).length) ∧ Continues b [] b' := by
  have hl := peekLoop_ok n (n + 1) b hb
  have hs := hl.size
  have ht := peekLoop_done n (n + 1) b (Or.inl (by omega))
  unfold BufReader.peek
  simp only
  generalize BufReader.peekLoop n (n + 1) b = b' at hl hs ht
  have hR : rest b = b'.buf ++ streamOf b'.conn := hl.rest.symm
  rw [if_neg (by omega)]
  by_cases hlt : b'.buf.length < n
  · rw [if_pos hlt]
    have herr : b'.err ≠ none := fun he => ht ⟨hlt, by omega, he⟩
    cases he : b'.err with
    | none => exact absurd he herr
    | some e =>
      rw [hl.wf.err e he, List.append_nil] at hR
      rw [hR, List.take_of_length_le (Nat.le_of_lt hlt)]
      exact ⟨_, _, rfl, ⟨nofun, fun h => by omega⟩, ⟨nofun, hl.wf.size⟩, hl.rest, hl.size⟩
  · rw [if_neg hlt, hR, List.take_append_of_le_length (by omega)]
    exact ⟨_, _, rfl, ⟨fun _ => by rw [List.length_append]; omega, fun _ => rfl⟩, hl⟩

structure ReadOK (n : Nat) (b : BufReader) (r : Bytes × Option RdErr × BufReader) : Prop where
  cont : Continues b r.1 r.2.2
  len : r.1.length ≤ n
  err : 0 < n → ∀ e, r.2.1 = some e → r.1 = [] ∧ rest r.2.2 = []
  progress : 0 < n → r.2.1 = none → r.1 ≠ []

theorem read_ok (n : Nat) (b : BufReader) (hb : WF b) : ReadOK n b (b.read n) := by
  unfold BufReader.read
  split
  · next hn =>
    subst hn
    split
    · exact ⟨.refl hb, Nat.le_refl _, nofun, nofun⟩
    · exact ⟨⟨⟨fun e he => by simp at he, hb.size⟩, rfl, rfl⟩, Nat.le_refl _, nofun, nofun⟩
  · split
    · next hbuf =>
      split
      · next x he =>
        -- a pending error is reported and cleared
        exact ⟨⟨⟨fun e he => by simp at he, hb.size⟩, rfl, rfl⟩, Nat.zero_le _,
          fun _ _ _ => ⟨rfl, by simp only [rest, hbuf, hb.err x he, List.append_nil]⟩, fun _ h => by simp at h⟩
      · split
        · -- large read, empty buffer: straight from the socket
          have hr := connRead_ok n b.conn
          rcases hcr : connRead n b.conn with ⟨bs, e, c'⟩
          rw [hcr] at hr
          exact ⟨⟨⟨fun x hx => by simp at hx, hb.size⟩, by simp only [rest, hbuf, hr.stream, List.nil_append], rfl⟩, hr.len,
            fun _ x hx => ⟨(hr.err x hx).1, by simp only [rest, hbuf, hr.err_rest x hx, List.append_nil]⟩,
            hr.progress⟩
        · -- one read into the buffer, the caller gets its first `n` bytes
          have hr := connRead_ok b.size b.conn
          rcases hcr : connRead b.size b.conn with ⟨bs, e, c'⟩
          rw [hcr] at hr
          simp only
          split
          · next hbs =>
            subst hbs
            exact ⟨⟨⟨fun x hx => by simp at hx, hb.size⟩, by simp only [rest, hbuf, hr.stream, List.nil_append], rfl⟩,
              Nat.zero_le _, fun _ x hx => ⟨rfl, by simp only [rest, hbuf, hr.err_rest x hx, List.append_nil]⟩,
              fun _ h => absurd rfl (hr.progress hb.size h)⟩
          · next hbs =>
            refine ⟨⟨⟨fun x hx => hr.err_rest x hx, hb.size⟩, ?_, rfl⟩, List.length_take_le _ _,
              fun _ x hx => by simp at hx, fun hn _ => take_ne_nil hbs hn⟩
            simp only [rest, hbuf, hr.stream, List.nil_append, ← List.append_assoc, List.take_append_drop]
    · next hn hbuf =>
      -- buffered bytes first
      refine ⟨⟨⟨hb.err, hb.size⟩, ?_, rfl⟩, List.length_take_le _ _, fun _ x hx => by simp at hx,
        fun hn _ => take_ne_nil hbuf hn⟩
      simp only [rest, ← List.append_assoc, List.take_append_drop]

/-- The fuel covers the bytes still missing: every `read` without error hands out one. -/
theorem readFullLoop_spec (want : Nat) : ∀ (fuel : Nat) (acc : Bytes) (b : BufReader), WF b → acc.length ≤ want →
    want < acc.length + fuel →
    (BufReader.readFullLoop want fuel acc b).1 = acc ++ (rest b).take (want - acc.length) ∧
    ((BufReader.readFullLoop want fuel acc b).2.1 = none ↔ want ≤ acc.length + (rest b).length) ∧
    Continues b ((rest b).take (want - acc.length)) (BufReader.readFullLoop want fuel acc b).2.2 := by
  intro fuel
  induction fuel with
  | zero => intro acc b _ hacc hf; omega
  | succ f ih =>
    intro acc b hb hacc hf
    simp only [BufReader.readFullLoop]
    by_cases hge : acc.length ≥ want
    · rw [if_pos hge, Nat.sub_eq_zero_of_le hge, List.take_zero, List.append_nil]
      exact ⟨rfl, ⟨fun _ => by omega, fun _ => rfl⟩, .refl hb⟩
    · rw [if_neg hge]
      have hn : 0 < want - acc.length := by omega
      have hr := read_ok (want - acc.length) b hb
      rcases hrd : b.read (want - acc.length) with ⟨bs, e, b'⟩
      rw [hrd] at hr
      have hlen : bs.length ≤ want - acc.length := hr.len
      -- what is missing is `bs`, then what is missing after `bs`
      have htake : (rest b).take (want - acc.length) = bs ++ (rest b').take (want - (acc ++ bs).length) := by
        rw [← hr.cont.rest, List.take_append, List.take_of_length_le hlen, List.length_append, Nat.sub_add_eq]
      have hrl : (rest b).length = bs.length + (rest b').length := by rw [← hr.cont.rest, List.length_append]
      rw [htake, hrl]
      cases e with
      | none =>
        have hpos : 0 < bs.length := List.length_pos_iff.mpr (hr.progress hn rfl)
        have hal : (acc ++ bs).length = acc.length + bs.length := List.length_append
        obtain ⟨h1, h2, h3⟩ := ih (acc ++ bs) b' hr.cont.wf (by omega) (by omega)
        exact ⟨by rw [h1, List.append_assoc], by rw [h2, hal, Nat.add_assoc], hr.cont.trans h3⟩
      | some e =>
        -- an error comes with no byte and with nothing to come
        obtain ⟨hbs, hnil⟩ := hr.err hn e rfl
        subst hbs
        simp only
        rw [hnil, List.take_nil, if_neg (by simpa using hge)]
        split <;> exact ⟨rfl, ⟨nofun, fun h => absurd h (by simpa using hge)⟩, hr.cont⟩

theorem readFull_eq (want : Nat) (b : BufReader) (hb : WF b) :
    ∃ e b', b.readFull want = ((rest b).take want, e, b') ∧ (e = none ↔ want ≤ (rest b).length) ∧
      Continues b ((rest b).take want) b' := by
  obtain ⟨h1, h2, h3⟩ := readFullLoop_spec want (want + 1) [] b hb (Nat.zero_le _) (by simp)
  rw [List.length_nil, Nat.zero_add] at h2
  exact ⟨_, _, Prod.ext h1 rfl, h2, h3⟩

theorem readFull_ok (want : Nat) (b : BufReader) (hb : WF b) : Continues b (b.readFull want).1 (b.readFull want).2.2 := by
  obtain ⟨e, b', h, -, hc⟩ := readFull_eq want b hb
  rw [h]; exact hc

theorem asScript_stream (b : BufReader) (hb : WF b) : streamOf b.asScript = rest b := by
  unfold BufReader.asScript rest
  cases he : b.err with
  | none =>
    by_cases hbuf : b.buf = [] <;> simp [hbuf, streamOf]
  | some e =>
    have := hb.err e he
    by_cases hbuf : b.buf = [] <;> cases e <;> simp [hbuf, streamOf, this]

/-- The stage `SNIProxy.ServeTCP` reaches and the bytes `io.ReadFull` returned, as a function of the client's stream:
`Peek(9)`, the size function, `ReadFull` of that size, the routing decision. -/
def frontOf (routed : Bool) (st : Bytes) : SniStage × Bytes :=
  if st.length < 9 then (.peekFailed, []) else
  match helloSize (st.take 9) with
  | none => (.badHeader, [])
  | some want =>
    (if st.length < want then .readFullFailed else if routed then .tunnel else .noRoute, st.take want)

theorem frontOf_tunnel_iff (routed : Bool) (st : Bytes) :
    (frontOf routed st).1 = .tunnel ↔
      routed = true ∧ ∃ want, 9 ≤ st.length ∧ helloSize (st.take 9) = some want ∧ want ≤ st.length := by
  unfold frontOf
  by_cases h9 : st.length < 9
  · rw [if_pos h9]; exact ⟨nofun, fun ⟨_, _, h, _⟩ => absurd h9 (Nat.not_lt.mpr h)⟩
  rw [if_neg h9]
  cases helloSize (st.take 9) with
  | none => exact ⟨nofun, fun ⟨_, _, _, h, _⟩ => nomatch h⟩
  | some want =>
    dsimp only
    by_cases hlt : st.length < want
    · rw [if_pos hlt]; exact ⟨nofun, fun ⟨_, _, _, hw, hle⟩ => by cases hw; exact absurd hlt (Nat.not_lt.mpr hle)⟩
    · rw [if_neg hlt]
      cases routed
      · exact ⟨nofun, fun h => nomatch h.1⟩
      · exact ⟨fun _ => ⟨rfl, want, Nat.le_of_not_lt h9, rfl, Nat.le_of_not_lt hlt⟩, fun _ => rfl⟩

theorem frontOf_hello (routed : Bool) (st : Bytes) (want : Nat) (h9 : 9 ≤ st.length)
    (hsz : helloSize (st.take 9) = some want) : (frontOf routed st).2 = st.take want := by
  unfold frontOf
  rw [if_neg (by omega), hsz]

theorem frontOf_hello_indep (routed routed' : Bool) (st : Bytes) : (frontOf routed st).2 = (frontOf routed' st).2 := by
  unfold frontOf
  by_cases h9 : st.length < 9
  · rw [if_pos h9, if_pos h9]
  · rw [if_neg h9, if_neg h9]; cases helloSize (st.take 9) <;> rfl

/-- `SNIProxy.ServeTCP` as a function of the client's stream alone: stage and hello are `frontOf`, and nothing is written
upstream before the tunnel stage. There `excess` is what the bufio reader has read beyond the hello and `tail` what is
still in the socket: a copy from the raw connection forwards `tail` only (D13). -/
theorem sniServe_eq (src : CopySrc) (routed : Bool) (line : Bytes) (script : Script) :
    let r := sniServe src routed line script
    r.stage = (frontOf routed (streamOf script)).1 ∧ r.hello = (frontOf routed (streamOf script)).2 ∧
    ∃ tail : Bytes, (r.stage = .tunnel → streamOf script = r.hello ++ r.excess ++ tail) ∧
      r.upstream =
        if r.stage = .tunnel then
          line ++ r.hello ++
            (match (generalizing := false) src with
              | .rawConn => tail
              | .buffered => r.excess ++ tail)
        else [] := by
  obtain ⟨pe, rd1, hpk, hpe, hp⟩ := peek_eq 9 (BufReader.new script) (wf_new script defaultBufSize (by decide))
    (by simp [BufReader.new, defaultBufSize])
  have hrest := hp.rest
  rw [rest_new] at hpk hpe hrest
  rw [List.nil_append] at hrest
  simp only
  -- the result gets a name, so that `sniServe` is unfolded once and not at each of its occurrences
  generalize hr : sniServe src routed line script = r
  unfold sniServe at hr
  unfold frontOf
  simp only [hpk] at hr
  cases pe with
  | some e =>
    subst hr
    rw [if_pos (Nat.lt_of_not_le fun h9 => nomatch hpe.mpr h9)]
    exact ⟨rfl, rfl, [], nofun, rfl⟩
  | none =>
    have h9 : 9 ≤ (streamOf script).length := hpe.mp rfl
    rw [if_neg (by omega)]
    simp only at hr
    cases hw : helloSize ((streamOf script).take 9) with
    | none => rw [hw] at hr; subst hr; exact ⟨rfl, rfl, [], nofun, rfl⟩
    | some want =>
      obtain ⟨fe, rd2, hrf, hfe, hro⟩ := readFull_eq want rd1 hp.wf
      rw [hrest] at hrf hfe hro
      simp only [hw, hrf] at hr ⊢
      cases fe with
      | some e =>
        subst hr
        rw [if_pos (Nat.lt_of_not_le fun hle => nomatch hfe.mpr hle)]
        exact ⟨rfl, rfl, [], nofun, rfl⟩
      | none =>
        have hle : want ≤ (streamOf script).length := hfe.mp rfl
        rw [if_neg (by omega)]
        cases routed with
        | false => subst hr; exact ⟨rfl, rfl, [], nofun, rfl⟩
        | true =>
          simp only [Bool.not_true, Bool.false_eq_true, if_false] at hr
          subst hr
          have hsplit : streamOf script = (streamOf script).take want ++ rd2.buf ++ streamOf rd2.conn := by
            rw [List.append_assoc]; exact (hro.rest.trans hrest).symm
          refine ⟨rfl, rfl, streamOf rd2.conn, fun _ => hsplit, ?_⟩
          cases src with
          | rawConn => simp [copy_full_writer copyBufSize (by decide)]
          | buffered => simp [copy_full_writer copyBufSize (by decide), asScript_stream rd2 hro.wf, rest]

theorem sniServe_tunnel_iff (src : CopySrc) (routed : Bool) (line : Bytes) (s : Script) :
    (sniServe src routed line s).stage = .tunnel ↔
      routed = true ∧ ∃ want, 9 ≤ (streamOf s).length ∧ helloSize ((streamOf s).take 9) = some want ∧
        want ≤ (streamOf s).length := by
  rw [(sniServe_eq src routed line s).1]
  exact frontOf_tunnel_iff routed _

/-- The bytes `io.ReadFull` returned are recorded before the routing decision, the copy source or the PROXY line play
any part: they are a function of the client's stream. -/
theorem sniServe_hello_eq (src : CopySrc) (routed : Bool) (line : Bytes) (s : Script) :
    (sniServe src routed line s).hello = (frontOf true (streamOf s)).2 :=
  (sniServe_eq src routed line s).2.1.trans (frontOf_hello_indep routed true _)

theorem sniServe_hello (src : CopySrc) (routed : Bool) (line : Bytes) (s : Script) (want : Nat)
    (h9 : 9 ≤ (streamOf s).length) (hsz : helloSize ((streamOf s).take 9) = some want) :
    (sniServe src routed line s).hello = (streamOf s).take want :=
  (sniServe_hello_eq src routed line s).trans (frontOf_hello true _ want h9 hsz)

theorem sniServe_upstream_nil (src : CopySrc) (routed : Bool) (line : Bytes) (s : Script)
    (h : (sniServe src routed line s).stage ≠ .tunnel) : (sniServe src routed line s).upstream = [] := by
  obtain ⟨-, -, tail, -, hu⟩ := sniServe_eq src routed line s
  rw [hu, if_neg h]

theorem not_routed_no_tunnel (src : CopySrc) (line : Bytes) (script : Script) :
    (sniServe src false line script).stage ≠ .tunnel ∧ (sniServe src false line script).upstream = [] := by
  have h : (sniServe src false line script).stage ≠ .tunnel := fun ht =>
    Bool.noConfusion ((sniServe_tunnel_iff src false line script).1 ht).1
  exact ⟨h, sniServe_upstream_nil src false line script h⟩

theorem sni_split (src : CopySrc) (routed : Bool) (line : Bytes) (s : Script)
    (h : (sniServe src routed line s).stage = .tunnel) :
    ∃ tail : Bytes,
      streamOf s = (sniServe src routed line s).hello ++ (sniServe src routed line s).excess ++ tail ∧
      (sniServe src routed line s).upstream =
        line ++ (sniServe src routed line s).hello ++
          (match (generalizing := false) src with
            | .rawConn => tail
            | .buffered => (sniServe src routed line s).excess ++ tail) := by
  obtain ⟨-, -, tail, hs, hu⟩ := sniServe_eq src routed line s
  exact ⟨tail, hs h, by rw [hu, if_pos h]⟩

structure Dir (pre sent saw : Bytes) (n : Nat) (fin done : Bool) : Prop where
  saw_eq : saw = pre ++ sent.take n
  le : n ≤ sent.length
  ended : done = true → fin = true ∧ n = sent.length

namespace Dir
variable {pre sent saw : Bytes} {n : Nat} {fin done : Bool}

theorem send (h : Dir pre sent saw n fin done) (hf : ¬ fin = true) (bs : Bytes) :
    Dir pre (sent ++ bs) saw n fin done :=
  ⟨by rw [h.saw_eq, List.take_append_of_le_length h.le], by rw [List.length_append]; exact Nat.le_add_right_of_le h.le,
    fun hd => absurd (h.ended hd).1 hf⟩

theorem finished (h : Dir pre sent saw n fin done) : Dir pre sent saw n true done :=
  ⟨h.saw_eq, h.le, fun hd => ⟨rfl, (h.ended hd).2⟩⟩

theorem forward (h : Dir pre sent saw n fin done) : Dir pre sent (saw ++ sent.drop n) sent.length fin done :=
  ⟨by rw [h.saw_eq, List.append_assoc, List.take_append_drop, List.take_length], Nat.le_refl _,
    fun hd => ⟨(h.ended hd).1, rfl⟩⟩

theorem eof (h : Dir pre sent saw n fin done) (hf : fin = true) (hl : sent.length ≤ n) : Dir pre sent saw n fin true :=
  ⟨h.saw_eq, h.le, fun _ => ⟨hf, Nat.le_antisymm h.le hl⟩⟩

theorem delivered (h : Dir pre sent saw n fin done) (hd : done = true) : fin = true ∧ saw = pre ++ sent :=
  ⟨(h.ended hd).1, by rw [h.saw_eq, (h.ended hd).2, List.take_length]⟩

theorem seen_prefix (h : Dir pre sent saw n fin done) : saw <+: pre ++ sent := by
  rw [h.saw_eq]; exact (List.prefix_append_right_inj pre).mpr (List.take_prefix _ _)

end Dir

structure Inv (pre : Bytes) (s : Tun) : Prop where
  c2u : Dir pre s.cSent s.upSaw s.c2u s.cFin s.c2uDone
  u2c : Dir [] s.uSent s.clSaw s.u2c s.uFin s.u2cDone

/-- The guard of `finish`: which copy directions must have ended before `ServeTCP` returns. -/
def ready (m : Mode) (s : Tun) : Prop :=
  match m with
  | .firstEnds => s.c2uDone = true ∨ s.u2cDone = true
  | .halfClose => s.c2uDone = true ∧ s.u2cDone = true
  | .clientHalf => s.u2cDone = true

theorem step_finish (m : Mode) (s : Tun) :
    step m s .finish = s ∨
    (ready m s ∧ step m s .finish = { s with torn := true, upEOF := true, clEOF := true }) := by
  cases m <;> simp only [step, ready]
  all_goals
    split
    · exact Or.inl rfl
    · next hg => exact Or.inr ⟨Decidable.by_contra fun hn => hg (Or.inr (by simp [hn])), rfl⟩

/-! The four steps of the copy goroutines, each with its guard as what must hold for it to do something and with one
new state for the three modes. -/

theorem step_fwdC2U (m : Mode) (s : Tun) : step m s .fwdC2U =
    if s.torn = false ∧ s.c2uDone = false then
      { s with c2u := s.cSent.length, upSaw := s.upSaw ++ s.cSent.drop s.c2u }
    else s := by
  simp only [step]
  rw [← ite_not]
  simp only [not_or, Bool.not_eq_true]

theorem step_fwdU2C (m : Mode) (s : Tun) : step m s .fwdU2C =
    if s.torn = false ∧ s.u2cDone = false then
      { s with u2c := s.uSent.length, clSaw := s.clSaw ++ s.uSent.drop s.u2c }
    else s := by
  simp only [step]
  rw [← ite_not]
  simp only [not_or, Bool.not_eq_true]

theorem step_c2uEOF (m : Mode) (s : Tun) : step m s .c2uEOF =
    if s.torn = false ∧ s.c2uDone = false ∧ s.cFin = true ∧ s.cSent.length ≤ s.c2u then
      { s with c2uDone := true, upEOF := m != .firstEnds || s.upEOF }
    else s := by
  simp only [step]
  rw [← ite_not]
  simp only [not_or, Bool.not_eq_true, Bool.not_eq_false', Nat.not_lt]
  cases m <;> rfl

theorem step_u2cEOF (m : Mode) (s : Tun) : step m s .u2cEOF =
    if s.torn = false ∧ s.u2cDone = false ∧ s.uFin = true ∧ s.uSent.length ≤ s.u2c then
      { s with u2cDone := true, clEOF := m == .halfClose || s.clEOF }
    else s := by
  simp only [step]
  rw [← ite_not]
  simp only [not_or, Bool.not_eq_true, Bool.not_eq_false', Nat.not_lt]
  cases m <;> rfl

theorem step_inv (m : Mode) (pre : Bytes) (s : Tun) (e : Ev) (h : Inv pre s) : Inv pre (step m s e) := by
  obtain ⟨hc, hu⟩ := h
  cases e
  case finish => rcases step_finish m s with h | ⟨-, h⟩ <;> rw [h] <;> exact ⟨hc, hu⟩
  case fwdC2U =>
    rw [step_fwdC2U]
    split
    · exact ⟨hc.forward, hu⟩
    · exact ⟨hc, hu⟩
  case fwdU2C =>
    rw [step_fwdU2C]
    split
    · exact ⟨hc, hu.forward⟩
    · exact ⟨hc, hu⟩
  case c2uEOF =>
    rw [step_c2uEOF]
    split
    · next hg => obtain ⟨-, -, hf, hl⟩ := hg; exact ⟨hc.eof hf hl, hu⟩
    · exact ⟨hc, hu⟩
  case u2cEOF =>
    rw [step_u2cEOF]
    split
    · next hg => obtain ⟨-, -, hf, hl⟩ := hg; exact ⟨hc, hu.eof hf hl⟩
    · exact ⟨hc, hu⟩
  all_goals simp only [step]
  case clientSend bs =>
    split
    · exact ⟨hc, hu⟩
    · next hf => exact ⟨hc.send hf bs, hu⟩
  case clientFin => exact ⟨hc.finished, hu⟩
  case upSend bs =>
    split
    · exact ⟨hc, hu⟩
    · next hf => exact ⟨hc, hu.send hf bs⟩
  case upFin => exact ⟨hc, hu.finished⟩

theorem run_inv (m : Mode) (pre : Bytes) (h : List Ev) : Inv pre (run m (Tun.init pre) h) :=
  List.foldlRecOn h (step m) (by constructor <;> constructor <;> simp [Tun.init]) fun s hs e _ => step_inv m pre s e hs

/-- `upEOF`: the upstream sees EOF through the teardown or, in the modes that half-close, through the `CloseWrite`
that follows the end of the client→upstream copy. -/
structure Teardown (m : Mode) (s : Tun) : Prop where
  torn : s.torn = true → ready m s
  upEOF : s.upEOF = true → s.torn = true ∨ (m ≠ .firstEnds ∧ s.c2uDone = true)

theorem step_teardown (m : Mode) (s : Tun) (e : Ev) (h : Teardown m s) : Teardown m (step m s e) := by
  obtain ⟨a, b⟩ := h
  cases e
  case finish =>
    rcases step_finish m s with h | ⟨hr, h⟩ <;> rw [h]
    · exact ⟨a, b⟩
    · exact ⟨fun _ => hr, fun _ => Or.inl rfl⟩
  case c2uEOF =>
    rw [step_c2uEOF]
    split
    · next hg =>
      have nt : ¬ s.torn = true := by simp [hg.1]
      cases m
      · exact ⟨fun h => absurd h nt, fun h => Or.inl ((b h).resolve_right fun x => x.1 rfl)⟩
      all_goals exact ⟨fun h => absurd h nt, fun _ => Or.inr ⟨by decide, rfl⟩⟩
    · exact ⟨a, b⟩
  case u2cEOF =>
    rw [step_u2cEOF]
    split
    · next hg =>
      have nt : ¬ s.torn = true := by simp [hg.1]
      cases m <;> exact ⟨fun h => absurd h nt, b⟩
    · exact ⟨a, b⟩
  case fwdC2U => rw [step_fwdC2U]; split <;> exact ⟨a, b⟩
  case fwdU2C => rw [step_fwdU2C]; split <;> exact ⟨a, b⟩
  all_goals simp only [step] <;> (try split) <;> exact ⟨a, b⟩

theorem run_teardown (m : Mode) (pre : Bytes) (h : List Ev) : Teardown m (run m (Tun.init pre) h) :=
  List.foldlRecOn h (step m) ⟨by simp [Tun.init], by simp [Tun.init]⟩ fun s hs e _ => step_teardown m s e hs

theorem torn_step (m : Mode) (s : Tun) (e : Ev) (h : s.torn = true) :
    (step m s e).torn = true ∧ (step m s e).clSaw = s.clSaw ∧ (step m s e).upSaw = s.upSaw := by
  cases e
  case clientFin | upFin => exact ⟨h, rfl, rfl⟩
  case clientSend | upSend => simp only [step]; split <;> exact ⟨h, rfl, rfl⟩
  case finish =>
    rcases step_finish m s with h' | ⟨-, h'⟩ <;> rw [h']
    · exact ⟨h, rfl, rfl⟩
    · exact ⟨rfl, rfl, rfl⟩
  -- the guard of every step of a copy goroutine asks for `torn = false`
  all_goals simp [step_fwdC2U, step_fwdU2C, step_c2uEOF, step_u2cEOF, h]

theorem torn_run (m : Mode) (h : List Ev) (s : Tun) (hs : s.torn = true) :
    (run m s h).torn = true ∧ (run m s h).clSaw = s.clSaw ∧ (run m s h).upSaw = s.upSaw :=
  List.foldlRecOn (motive := fun t => t.torn = true ∧ t.clSaw = s.clSaw ∧ t.upSaw = s.upSaw) h (step m) ⟨hs, rfl, rfl⟩
    fun t ht e _ => have h1 := torn_step m t e ht.1; ⟨h1.1, h1.2.1.trans ht.2.1, h1.2.2.trans ht.2.2⟩

theorem uSent_step (m : Mode) (s : Tun) (e : Ev) : s.uSent.length ≤ (step m s e).uSent.length := by
  cases e
  case finish => rcases step_finish m s with h | ⟨-, h⟩ <;> rw [h] <;> exact Nat.le_refl _
  case upSend bs => simp only [step]; split <;> simp
  case clientSend | clientFin | upFin => simp only [step] <;> (try split) <;> exact Nat.le_refl _
  all_goals simp only [step_fwdC2U, step_fwdU2C, step_c2uEOF, step_u2cEOF] <;> split <;> exact Nat.le_refl _

theorem uSent_run (m : Mode) (h : List Ev) (s : Tun) : s.uSent.length ≤ (run m s h).uSent.length :=
  List.foldlRecOn (motive := fun t => s.uSent.length ≤ t.uSent.length) h (step m) (Nat.le_refl _)
    fun t ht e _ => Nat.le_trans ht (uSent_step m t e)

theorem sent_after_teardown_lost (m : Mode) (s : Tun) (ht : s.torn = true) (hfin : s.uFin = false)
    (hseen : s.clSaw.length ≤ s.uSent.length) (reply : Bytes) (hr : reply ≠ []) (h' : List Ev) :
    (run m s (.upSend reply :: h')).clSaw ≠ (run m s (.upSend reply :: h')).uSent := by
  intro heq
  have hlen := congrArg List.length heq
  rw [(torn_run m (.upSend reply :: h') s ht).2.1] at hlen
  have hsent : (step m s (.upSend reply)).uSent.length = s.uSent.length + reply.length := by
    simp [step, hfin]
  have hgrow : (step m s (.upSend reply)).uSent.length ≤ (run m s (.upSend reply :: h')).uSent.length :=
    uSent_run m h' (step m s (.upSend reply))
  have hpos : 0 < reply.length := List.length_pos_iff.mpr hr
  omega

/-- The forward step being idle means everything is forwarded, and then the EOF step being idle means it has been
taken. `quiescent_u2cDone` is the same for the other direction. -/
theorem quiescent_c2uDone (m : Mode) (s : Tun) (hq : quiescent m s) (ht : s.torn = false)
    (hc : s.cFin = true) : s.c2uDone = true := by
  rcases Bool.eq_false_or_eq_true s.c2uDone with hd | hd
  · exact hd
  · have h1 := hq .fwdC2U (by simp [proxyEvs])
    have h2 := hq .c2uEOF (by simp [proxyEvs])
    rw [step_fwdC2U, if_pos ⟨ht, hd⟩] at h1
    rw [step_c2uEOF, if_pos ⟨ht, hd, hc, Nat.le_of_eq (congrArg Tun.c2u h1)⟩] at h2
    exact (congrArg Tun.c2uDone h2).symm

theorem quiescent_u2cDone (m : Mode) (s : Tun) (hq : quiescent m s) (ht : s.torn = false)
    (hu : s.uFin = true) : s.u2cDone = true := by
  rcases Bool.eq_false_or_eq_true s.u2cDone with hd | hd
  · exact hd
  · have h1 := hq .fwdU2C (by simp [proxyEvs])
    have h2 := hq .u2cEOF (by simp [proxyEvs])
    rw [step_fwdU2C, if_pos ⟨ht, hd⟩] at h1
    rw [step_u2cEOF, if_pos ⟨ht, hd, hu, Nat.le_of_eq (congrArg Tun.u2c h1)⟩] at h2
    exact (congrArg Tun.u2cDone h2).symm

theorem halfClose_waits_for_upstream : ∀ (l : List Ev) (t : Tun), (∀ e ∈ l, e ∈ proxyEvs) →
    t.torn = false → t.u2cDone = false → t.uFin = false → t.c2uDone = true →
    (run .halfClose t l).torn = false ∧ (run .halfClose t l).upSaw = t.upSaw := by
  intro l
  induction l with
  | nil => intro t _ a _ _ _; exact ⟨a, rfl⟩
  | cons e l ih =>
    intro t hl a b c d
    have he : e ∈ proxyEvs := hl e (by simp)
    have hl' : ∀ x ∈ l, x ∈ proxyEvs := fun x hx => hl x (by simp [hx])
    simp only [proxyEvs, List.mem_cons, List.not_mem_nil, or_false] at he
    -- neither copy goroutine can take a step that matters, and `finish` waits for both
    have hs : step .halfClose t e = t ∨ step .halfClose t e = { t with u2c := t.uSent.length, clSaw := t.clSaw ++ t.uSent.drop t.u2c } := by
      rcases he with rfl | rfl | rfl | rfl | rfl
      · exact .inl (by rw [step_fwdC2U, if_neg (by simp [d])])
      · exact .inr (by rw [step_fwdU2C, if_pos ⟨a, b⟩])
      · exact .inl (by rw [step_c2uEOF, if_neg (by simp [d])])
      · exact .inl (by rw [step_u2cEOF, if_neg (by simp [c])])
      · exact (step_finish .halfClose t).imp_right fun h => absurd h.1.2 (by simp [b])
    rcases hs with hs | hs <;> rw [run, List.foldl_cons, hs] <;> exact ih _ hl' a b c d

theorem run_append (m : Mode) (s : Tun) (h h' : List Ev) : run m s (h ++ h') = run m (run m s h) h' :=
  List.foldl_append ..

theorem run_barrier (m : Mode) (pre c u : Bytes) :
    run m (Tun.init pre) [.clientSend c, .upSend u, .fwdC2U, .fwdU2C] =
      { pre := pre, cSent := c, uSent := u, c2u := c.length, u2c := u.length, upSaw := pre ++ c, clSaw := u } := by
  simp [run, step, Tun.init]

theorem scenario_eq (m : Mode) (pre c u reply : Bytes) (order : CloseOrder) :
    scenario m pre c u reply order =
      let t := run m
        { pre := pre, cSent := c, uSent := u, c2u := c.length, u2c := u.length, upSaw := pre ++ c, clSaw := u }
        (closeHistory order reply m)
      match order with
      | .halfIdle => serverClose m t
      | _ => t := by
  unfold scenario
  rw [run_append, run_barrier]
  rfl

theorem writes_all_ok (a : Arming) (wt : Nat) (P : ConnW → Prop) (Q : Nat × Nat → Prop)
    (hstep : ∀ c t d, P c → Q (t, d) → (c.write a wt t d).1 = true ∧ P (c.write a wt t d).2) :
    ∀ (ws : List (Nat × Nat)) (c : ConnW), P c → (∀ w ∈ ws, Q w) →
      ∀ ok ∈ ConnW.writes a wt c ws, ok = true := by
  intro ws
  induction ws with
  | nil => intro c _ _ ok hok; simp [ConnW.writes] at hok
  | cons w r ih =>
    obtain ⟨t, d⟩ := w
    intro c hc h ok hok
    have hw := hstep c t d hc (h (t, d) (by simp))
    simp only [ConnW.writes, List.mem_cons] at hok
    rcases hok with rfl | hok
    · exact hw.1
    · exact ih _ hw.2 (fun w hw => h w (by simp [hw])) ok hok

end Fabio.Lemmas.C09
