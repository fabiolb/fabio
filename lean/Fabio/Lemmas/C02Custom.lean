import Fabio.Lemmas.C02
import Fabio.Model.C02Custom
/-!
The custom backend's poll loop as the one writer of the cell (core Lean only): the list of its `SetTable` calls, the
sequential machine `customRun` and the specification `lastGoodPoll` agree.
-/
namespace Fabio.Lemmas.C02Custom
open Fabio Fabio.Model.C02 Fabio.Model.C02Custom Fabio.Lemmas.C02

section poll
variable {T D : Type}

@[simp] theorem calls_http (b : D → Option T) (ps : List (Poll D)) : calls b (.httpError :: ps) = calls b ps := rfl
@[simp] theorem calls_decode (b : D → Option T) (ps : List (Poll D)) : calls b (.decodeError :: ps) = calls b ps := rfl
@[simp] theorem calls_null (b : D → Option T) (ps : List (Poll D)) : calls b (.null :: ps) = none :: calls b ps := rfl
@[simp] theorem calls_defs (b : D → Option T) (ds : D) (ps : List (Poll D)) :
    calls b (.defs ds :: ps) = b ds :: calls b ps := rfl

/-- what one poll does to the active table: `lastGoodPoll` is the fold of it (`lastGoodPoll_cons`), one iteration of the
repaired `customRoutes` computes it (`customStep_eq`), and so does the `SetTable` call the iteration ends with, if it makes
one (`calls_cons_fold`) -/
def pollStep (b : D → Option T) (a : T) : Poll D → T
  | .defs ds => (b ds).getD a
  | _ => a

theorem lastGoodPoll_cons (b : D → Option T) (a : T) (p : Poll D) (ps : List (Poll D)) :
    lastGoodPoll b a (p :: ps) = lastGoodPoll b (pollStep b a p) ps := rfl

theorem customStep_eq (b : D → Option T) (a : T) (p : Poll D) :
    customStep (newTableCustom b) a p = .ok (pollStep b a p) := by
  cases p with
  | defs ds => exact congrArg Outcome.ok (setTable_eq_getD a (b ds))
  | _ => rfl

theorem calls_cons_fold (b : D → Option T) (a : T) (p : Poll D) (ps : List (Poll D)) :
    (calls b (p :: ps)).foldl setTable a = (calls b ps).foldl setTable (pollStep b a p) := by
  cases p with
  | defs ds => rw [calls_defs, List.foldl_cons, setTable_eq_getD]; rfl
  | _ => rfl

theorem customRun_eq_calls (buildDefs : D → Option T) (ps : List (Poll D)) : ∀ a : T,
    customRun (newTableCustom buildDefs) a ps = .ok ((calls buildDefs ps).foldl setTable a) := by
  induction ps with
  | nil => intro a; rfl
  | cons p ps ih => intro a; rw [customRun, customStep_eq, calls_cons_fold]; exact ih _

theorem calls_fold_lastGood (buildDefs : D → Option T) (ps : List (Poll D)) : ∀ a : T,
    (calls buildDefs ps).foldl setTable a = lastGoodPoll buildDefs a ps := by
  induction ps with
  | nil => intro a; rfl
  | cons p ps ih => intro a; rw [calls_cons_fold, lastGoodPoll_cons]; exact ih _

theorem calls_mem (buildDefs : D → Option T) (ps : List (Poll D)) (t : T) (h : some t ∈ calls buildDefs ps) :
    ∃ ds, Poll.defs ds ∈ ps ∧ buildDefs ds = some t := by
  obtain ⟨p, hp, hc⟩ := List.mem_filterMap.mp h
  cases p with
  | defs ds => exact ⟨ds, hp, Option.some.inj hc⟩
  | _ => cases hc

theorem lastGoodPoll_mem (buildDefs : D → Option T) (ps : List (Poll D)) : ∀ a : T,
    lastGoodPoll buildDefs a ps = a ∨ ∃ ds, Poll.defs ds ∈ ps ∧ buildDefs ds = some (lastGoodPoll buildDefs a ps) := by
  -- the fold of `setTable` over the calls ends on the start value or on one of the non-nil calls (`getLast_calls`)
  intro a
  rw [← calls_fold_lastGood]
  rcases List.mem_cons.mp (List.mem_of_getLast? (getLast_calls (calls buildDefs ps) a)) with h | h
  · exact Or.inl h
  · obtain ⟨o, ho, hid⟩ := List.mem_filterMap.mp h
    have ho' : some ((calls buildDefs ps).foldl setTable a) ∈ calls buildDefs ps := by
      rw [← show o = some _ from hid]; exact ho
    exact Or.inr (calls_mem buildDefs ps _ ho')

theorem lastGoodPoll_failures (buildDefs : D → Option T) (qs : List (Poll D))
    (hq : ∀ ds, Poll.defs ds ∈ qs → buildDefs ds = none) (a : T) : lastGoodPoll buildDefs a qs = a :=
  (lastGoodPoll_mem buildDefs qs a).resolve_right fun ⟨ds, hd, hs⟩ => by rw [hq ds hd] at hs; cases hs

end poll
end Fabio.Lemmas.C02Custom
