import Fabio.Model.C11Load
/-!
The two loaders of `Model/C11Load.lean` as "all or nothing": the loops `fetchNames` and `walkFold` are a filter over the
listed names / the visits, and `loadURL_eq` / `loadPath_eq` put the result of a load in that form, for the loaders before and
after their repairs. Core Lean only.
-/
namespace Fabio.Lemmas.C11
open Fabio Fabio.Model.C11

section url
variable {B : Type}

def entryOf (chk : Bool) (fetch : Name → Fetch B) (b p : Name) : Option (Name × B) :=
  (fetchBody chk (fetch (b ++ p))).map fun x => (b ++ p, x)

theorem entryOf_eq_some_iff (chk : Bool) (fetch : Name → Fetch B) (b p k : Name) (body : B) :
    entryOf chk fetch b p = some (k, body) ↔ k = b ++ p ∧ fetchBody chk (fetch (b ++ p)) = some body := by
  simp only [entryOf, Option.map_eq_some_iff, Prod.mk.injEq]
  constructor
  · rintro ⟨x, hx, rfl, rfl⟩; exact ⟨rfl, hx⟩
  · rintro ⟨rfl, hx⟩; exact ⟨body, hx, rfl, rfl⟩

theorem filter_nonEmpty_cons (p : Name) (ps : List Name) :
    (p :: ps).filter (!·.isEmpty) = if p.isEmpty then ps.filter (!·.isEmpty) else p :: ps.filter (!·.isEmpty) := by
  rw [List.filter_cons]
  cases p.isEmpty <;> rfl

theorem fetchNames_result (chk : Bool) (fetch : Name → Fetch B) (b : Name) (ps : List Name) (acc : PemMap B) :
    (fetchNames chk fetch b ps acc).2 =
      if (ps.filter (!·.isEmpty)).all (fun p => (fetchBody chk (fetch (b ++ p))).isSome)
      then some (((ps.filter (!·.isEmpty)).filterMap (entryOf chk fetch b)).reverse ++ acc)
      else none := by
  fun_induction fetchNames chk fetch b ps acc with
  | case1 acc => rfl
  | case2 p ps acc hp ih => rw [filter_nonEmpty_cons, if_pos hp]; exact ih
  | case3 p ps acc hp hf => rw [filter_nonEmpty_cons, if_neg hp, List.all_cons, hf]; rfl
  | case4 p ps acc hp x hf ih =>
    rw [filter_nonEmpty_cons, if_neg hp, List.all_cons, List.filterMap_cons, entryOf, hf, ih]
    simp

theorem fetchNames_requests_prefix (chk : Bool) (fetch : Name → Fetch B) (b : Name) (ps : List Name)
    (acc : PemMap B) : (fetchNames chk fetch b ps acc).1 <+: (ps.filter (!·.isEmpty)).map (b ++ ·) := by
  fun_induction fetchNames chk fetch b ps acc with
  | case1 acc => exact List.nil_prefix
  | case2 p ps acc hp ih => simpa [filter_nonEmpty_cons, hp] using ih
  | case3 p ps acc hp hf => simp [hp]
  | case4 p ps acc hp x hf ih => simpa [filter_nonEmpty_cons, hp, List.prefix_cons_inj] using ih

theorem fetchNames_requests_ok (chk : Bool) (fetch : Name → Fetch B) (b : Name) (ps : List Name) (acc : PemMap B)
    (h : (fetchNames chk fetch b ps acc).2 ≠ none) :
    (fetchNames chk fetch b ps acc).1 = (ps.filter (!·.isEmpty)).map (b ++ ·) := by
  fun_induction fetchNames chk fetch b ps acc with
  | case1 acc => rfl
  | case2 p ps acc hp ih => simpa [filter_nonEmpty_cons, hp] using ih h
  | case3 p ps acc hp hf => exact absurd rfl h
  | case4 p ps acc hp x hf ih => simpa [filter_nonEmpty_cons, hp] using ih h

omit B in
theorem blocks_or_err_eq_err {M : Type} (c : Bool) (m : M) :
    (if c then LoadResult.blocks m else .err) = .err ↔ c = false := by
  cases c <;> simp

/-- `chk = false` is the loader before `ea73618`, which did not look at the status of an answer. -/
theorem loadURL_eq (chk : Bool) (base : Name → Option Name) (fetch : Name → Fetch B) (text : B → List Char)
    (listURL : Name) (hu : listURL ≠ []) :
    loadURL chk base fetch text listURL =
      match base listURL, fetchBody chk (fetch listURL) with
      | some b, some list =>
        if (listedNames (text list)).all (fun p => (fetchBody chk (fetch (b ++ p))).isSome)
        then .blocks (some ((listedNames (text list)).filterMap (entryOf chk fetch b)).reverse)
        else .err
      | _, _ => .err := by
  have hu' : listURL.isEmpty = false := by simpa using hu
  simp only [loadURL, loadURLRun, hu', Bool.false_eq_true, if_false]
  cases base listURL with
  | none => rfl
  | some b =>
    cases fetchBody chk (fetch listURL) with
    | none => rfl
    | some list =>
      have hl : (splitOn '\n' (text list)).filter (!·.isEmpty) = listedNames (text list) := rfl
      simp only [fetchNames_result, List.append_nil, hl]
      generalize (listedNames (text list)).all _ = c
      cases c <;> rfl

end url

section path
variable {B : Type}

def addOf (onlyNotExist : Bool) (maxSize : Nat) (root : Name) (v : Visit B) : Option (Name × B) :=
  match pathCallback onlyNotExist maxSize root v with
  | .add k b => some (k, b)
  | _ => none

theorem addOf_eq_some_iff (onlyNotExist : Bool) (maxSize : Nat) (root : Name) (v : Visit B) (k : Name) (b : B) :
    addOf onlyNotExist maxSize root v = some (k, b) ↔ pathCallback onlyNotExist maxSize root v = .add k b := by
  unfold addOf; cases pathCallback onlyNotExist maxSize root v <;> simp

theorem walkFold_result (onlyNotExist : Bool) (maxSize : Nat) (root : Name) (vs : List (Visit B)) (acc : PemMap B) :
    walkFold onlyNotExist maxSize root vs acc =
      if vs.all (fun v => !(pathCallback onlyNotExist maxSize root v).isFail)
      then some ((vs.filterMap (addOf onlyNotExist maxSize root)).reverse ++ acc) else none := by
  fun_induction walkFold onlyNotExist maxSize root vs acc with
  | case1 acc => rfl
  | case2 v vs acc hc ih =>
    simp only [List.all_cons, List.filterMap_cons, addOf, hc, CbRes.isFail, Bool.not_false, Bool.true_and]
    exact ih
  | case3 v vs acc hc =>
    simp only [List.all_cons, hc, CbRes.isFail, Bool.not_true, Bool.false_and, Bool.false_eq_true, if_false]
  | case4 v vs acc k b hc ih =>
    simp only [List.all_cons, List.filterMap_cons, addOf, hc, CbRes.isFail, Bool.not_false, Bool.true_and,
      List.reverse_cons, List.append_assoc, List.singleton_append]
    exact ih

def swallowed (onlyNotExist : Bool) (root : Name) (v : Visit B) (e : FsErr) : Bool :=
  v.path = root && (!onlyNotExist || e == .notExist)

theorem swallowed_true_eq_false_iff (root : Name) (v : Visit B) (e : FsErr) :
    swallowed true root v e = false ↔ ¬(v.path = root ∧ e = .notExist) := by
  simp [swallowed]

theorem pathCallback_err (onlyNotExist : Bool) (maxSize : Nat) (root : Name) (v : Visit B) (e : FsErr)
    (h : v.kind = .lstatErr e ∨ v.kind = .dir (some e)) :
    pathCallback onlyNotExist maxSize root v = if swallowed onlyNotExist root v e then .skip else .fail := by
  rcases h with h | h <;> simp only [pathCallback, h, swallowed] <;> rfl

theorem pathCallback_file (onlyNotExist : Bool) (maxSize : Nat) (root path name : Name) (size : Nat) (content : Option B) :
    pathCallback onlyNotExist maxSize root ⟨path, name, .file size content⟩ =
      if selected maxSize ⟨path, name, .file size content⟩
      then (match content with | none => .fail | some b => .add path b) else .skip := by
  simp only [pathCallback, selected]
  by_cases h1 : ext name = sPem <;> by_cases h2 : hasDotPrefix name = true <;>
    by_cases h3 : size ≤ maxSize <;> simp [h1, h2, h3, Nat.not_lt.mpr, Nat.lt_of_not_le]
  cases content <;> rfl

theorem pathCallback_fail_iff (onlyNotExist : Bool) (maxSize : Nat) (root : Name) (v : Visit B) :
    pathCallback onlyNotExist maxSize root v = .fail ↔
      (∃ e, v.err = some e ∧ swallowed onlyNotExist root v e = false) ∨
      (selected maxSize v = true ∧ ∃ size, v.kind = .file size none) := by
  obtain ⟨path, name, kind⟩ := v
  match kind with
  | .file size content =>
    rw [pathCallback_file]
    cases hs : selected maxSize ⟨path, name, .file size content⟩ <;> cases content <;> simp [Visit.err]
  | .dir none => simp [pathCallback, Visit.err, selected]
  | .lstatErr e | .dir (some e) =>
    rw [pathCallback_err onlyNotExist maxSize root _ e (by simp)]
    cases hs : swallowed onlyNotExist root ⟨path, name, _⟩ e <;> simp [Visit.err, selected, hs]

theorem pathCallback_add_iff (onlyNotExist : Bool) (maxSize : Nat) (root : Name) (v : Visit B) (k : Name) (b : B) :
    pathCallback onlyNotExist maxSize root v = .add k b ↔
      k = v.path ∧ selected maxSize v = true ∧ ∃ size, v.kind = .file size (some b) := by
  obtain ⟨path, name, kind⟩ := v
  match kind with
  | .file size content =>
    rw [pathCallback_file]
    cases hs : selected maxSize ⟨path, name, .file size content⟩ <;> cases content <;> simp [eq_comm]
  | .dir none => simp [pathCallback]
  | .lstatErr e | .dir (some e) =>
    rw [pathCallback_err onlyNotExist maxSize root _ e (by simp)]
    cases hs : swallowed onlyNotExist root ⟨path, name, _⟩ e <;> simp

theorem CbRes.isFail_iff (r : CbRes B) : r.isFail = true ↔ r = .fail := by
  cases r <;> simp [CbRes.isFail]

theorem loadPath_eq (onlyNotExist : Bool) (maxSize : Nat) (root : Name) (vs : List (Visit B)) (hr : root ≠ []) :
    loadPath onlyNotExist maxSize root vs =
      if vs.all (fun v => !(pathCallback onlyNotExist maxSize root v).isFail)
      then .blocks (some (vs.filterMap (addOf onlyNotExist maxSize root)).reverse) else .err := by
  have hr' : root.isEmpty = false := by simpa using hr
  simp only [loadPath, hr', Bool.false_eq_true, if_false, walkFold_result, List.append_nil]
  generalize vs.all _ = c
  cases c <;> rfl

end path

end Fabio.Lemmas.C11
