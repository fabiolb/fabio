import Fabio.Model.C15Slice
/-! C15, list-valued options: appending to a slice that lives in an array above `n` leaves the first `n` arrays of
the store alone (`setLoop_take`), and a slice backed by a real array reads back what was appended (`setLoop_read`). -/
namespace Fabio.Lemmas.C15Slice
open Fabio Fabio.Model.C15

theorem setAt_length {α} (l : List α) (i : Nat) (x : α) : (setAt l i x).length = l.length := by
  fun_induction setAt l i x <;> simp_all

theorem write_length {α} (h : Store α) (a i : Nat) (x : α) : (Store.write h a i x).length = h.length := by
  fun_induction Store.write h a i x <;> simp_all

theorem write_take {α} (h : Store α) (a i n : Nat) (x : α) (hn : n ≤ a) :
    (Store.write h a i x).take n = h.take n := by
  fun_induction Store.write h a i x generalizing n <;> cases n <;> simp_all <;> omega

/-- The invariant `n ≤ v.arr` is kept: in place `append` writes array `v.arr`, otherwise the new array goes to the
end of the store.  `sliceSet` starts from capacity 0, so its first `append` allocates whatever `arr` is; it takes
`arr := h.length`, which makes the invariant hold from the start. -/
theorem appendH_take {α} (zero : α) (grow : Nat → Nat) (h : Store α) (v : SliceH) (x : α) (n : Nat)
    (hh : n ≤ h.length) (hv : n ≤ v.arr) :
    (appendH zero grow h v x).1.take n = h.take n ∧ n ≤ (appendH zero grow h v x).1.length
      ∧ n ≤ (appendH zero grow h v x).2.arr := by
  unfold appendH
  split
  · exact ⟨write_take h _ _ n x hv, by rw [write_length]; exact hh, hv⟩
  · refine ⟨?_, ?_, hh⟩
    · simp [List.take_append_of_le_length hh]
    · simp; omega

theorem setLoop_take {α} (zero : α) (grow : Nat → Nat) (parse : Str → Option α) (fs : List Str) (h : Store α)
    (v : SliceH) (n : Nat) (hh : n ≤ h.length) (hv : n ≤ v.arr) :
    (setLoop zero grow parse fs h v).1.take n = h.take n := by
  induction fs generalizing h v with
  | nil => rfl
  | cons f fs ih =>
    simp only [setLoop]
    cases parse f with
    | none => rfl
    | some x =>
      obtain ⟨h1, h2, h3⟩ := appendH_take zero grow h v x n hh hv
      simp only
      rw [ih _ _ h2 h3, h1]

theorem setAt_take {α} (l : List α) (i : Nat) (x : α) (hi : i < l.length) :
    (setAt l i x).take (i + 1) = l.take i ++ [x] := by
  fun_induction setAt l i x <;> simp_all

theorem write_get {α} (h : Store α) (a i : Nat) (x : α) (cells : List α) (ha : h[a]? = some cells) :
    (Store.write h a i x)[a]? = some (setAt cells i x) := by
  fun_induction Store.write h a i x <;> simp_all

def Backed {α} (h : Store α) (v : SliceH) : Prop :=
  v.len ≤ v.cap ∧ (v.cap = 0 ∨ ∃ cells, h[v.arr]? = some cells ∧ cells.length = v.cap)

theorem read_new {α} (h : Store α) (r rest : List α) (x : α) (c : Nat) :
    Store.read (h ++ [r ++ [x] ++ rest]) { arr := h.length, len := r.length + 1, cap := c } = r ++ [x] := by
  have : r.length + 1 = (r ++ [x]).length := by simp
  simp only [Store.read, List.getElem?_concat_length, Option.getD_some]
  rw [this, List.take_left']
  rfl

theorem appendH_read {α} (zero : α) (grow : Nat → Nat) (h : Store α) (v : SliceH) (x : α) (hb : Backed h v) :
    (appendH zero grow h v x).1.read (appendH zero grow h v x).2 = h.read v ++ [x] ∧
    Backed (appendH zero grow h v x).1 (appendH zero grow h v x).2 := by
  obtain ⟨hle, hc⟩ := hb
  unfold appendH
  split
  · rename_i hlt
    rcases hc with hc | ⟨cells, hg, hl⟩
    · omega
    · refine ⟨?_, ?_, Or.inr ⟨setAt cells v.len x, write_get h _ _ x cells hg, by rw [setAt_length]; exact hl⟩⟩
      · simp only [Store.read, write_get h _ _ x cells hg, hg, Option.getD_some]
        exact setAt_take cells v.len x (by omega)
      · show v.len + 1 ≤ v.cap; omega
  · rename_i hnlt
    have hrl : (h.read v).length = v.len := by
      rcases hc with hc | ⟨cells, hg, hl⟩
      · have : v.len = 0 := by omega
        simp [Store.read, this]
      · simp only [Store.read, hg, Option.getD_some, List.length_take]
        omega
    have hget : (h ++ [h.read v ++ [x] ++ List.replicate (grow (v.len + 1)) zero])[h.length]? =
        some (h.read v ++ [x] ++ List.replicate (grow (v.len + 1)) zero) := by simp
    refine ⟨?_, ?_, Or.inr ⟨_, hget, ?_⟩⟩
    · have := read_new h (h.read v) (List.replicate (grow (v.len + 1)) zero) x (v.len + 1 + grow (v.len + 1))
      rw [hrl] at this
      exact this
    · show v.len + 1 ≤ v.len + 1 + grow (v.len + 1); omega
    · simp [hrl]; omega

theorem setLoop_read {α} (zero : α) (grow : Nat → Nat) (parse : Str → Option α) (fs : List Str) (h : Store α)
    (v : SliceH) (hb : Backed h v) :
    (setLoop zero grow parse fs h v).1.read (setLoop zero grow parse fs h v).2.1 = h.read v ++ setValue parse fs := by
  induction fs generalizing h v with
  | nil => simp [setLoop, setValue]
  | cons f fs ih =>
    simp only [setLoop, setValue]
    cases parse f with
    | none => simp
    | some x =>
      obtain ⟨h1, h2⟩ := appendH_read zero grow h v x hb
      simp only
      rw [ih _ _ h2, h1]
      simp

end Fabio.Lemmas.C15Slice
