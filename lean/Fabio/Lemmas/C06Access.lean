import Fabio.Model.C06Access
import Fabio.Lemmas.C06
/-!
The published table under every schedule (core Lean only): every `TableStep` keeps ring and rules as published and the
invariant of the scan in flight (`table_inv`); goroutines given as syntax (`STh`) run as syntax, and reads and scans are
stutter steps of the core state, so their run projects onto a run of the core model (`run_syn`).
-/
namespace Fabio.Lemmas.C06
open Fabio.Model.C06

theorem tLocalInv_init (ring0 : List Nat) (rules0 : List Block) : TLocalInv ring0 rules0 {} :=
  ⟨nofun, nofun, nofun⟩

section iter
variable {s : TState} {l : TLocal} {b : Block}

theorem scanIter_idle (ha : l.sactive = false) : scanIter s l = (s, l) := by
  simp [scanIter, ha]

theorem scanIter_end (ha : l.sactive = true) (hlt : ¬ l.si < l.slen) :
    scanIter s l = (s, finishScan l false) := by
  simp [scanIter, ha, hlt]

theorem scanIter_hit (ha : l.sactive = true) (hlt : l.si < l.slen)
    (hb : s.rules[l.si]? = some b) (hc : b.contains l.scur = true) : scanIter s l = (s, finishScan l true) := by
  simp [scanIter, ha, hlt, hb, hc]

theorem scanIter_miss (ha : l.sactive = true) (hlt : l.si < l.slen)
    (hb : s.rules[l.si]? = some b) (hc : b.contains l.scur = false) :
    scanIter s l = (s, { l with si := l.si + 1 }) := by
  simp [scanIter, ha, hlt, hb, hc]

end iter

theorem scanIter_frame (s : TState) (l : TLocal) :
    (scanIter s l).1 = s ∧ (scanIter s l).2.core = l.core ∧ (scanIter s l).2.targets = l.targets := by
  unfold scanIter
  repeat' split
  all_goals exact ⟨rfl, rfl, rfl⟩

theorem any_false_of_all_idx {α : Type} (p : α → Bool) (xs : List α)
    (h : ∀ j, j < xs.length → ∀ b, xs[j]? = some b → p b = false) : xs.any p = false := by
  rw [List.any_eq_false]
  intro x hx hp
  obtain ⟨j, hj, rfl⟩ := List.getElem_of_mem hx
  rw [h j hj _ (List.getElem?_eq_getElem hj)] at hp
  cases hp

theorem scanIter_inv (ring0 : List Nat) {rules0 : List Block} {s : TState} (l : TLocal) (hu : s.rules = rules0)
    (hJ : TLocalInv ring0 rules0 l) : TLocalInv ring0 rules0 (scanIter s l).2 := by
  obtain ⟨h1, h2, h3⟩ := hJ
  cases ha : l.sactive with
  | false => rw [scanIter_idle ha]; exact ⟨h1, h2, h3⟩
  | true =>
    obtain ⟨hlen, hle, hseen⟩ := h1 ha
    by_cases hlt : l.si < l.slen
    · have hlt' : l.si < rules0.length := hlen ▸ hlt
      have hget : rules0[l.si]? = some rules0[l.si] := List.getElem?_eq_getElem hlt'
      cases hc : (rules0[l.si]).contains l.scur with
      | true =>
        rw [scanIter_hit ha hlt (hu ▸ hget) hc]
        exact ⟨nofun, h2, forall_mem_concat h3 (List.any_eq_true.mpr ⟨_, List.mem_of_getElem? hget, hc⟩).symm⟩
      | false =>
        rw [scanIter_miss ha hlt (hu ▸ hget) hc]
        refine ⟨fun _ => ⟨hlen, hlt, fun j hj b hb => ?_⟩, h2, h3⟩
        rcases Nat.lt_succ_iff_lt_or_eq.mp hj with hj' | rfl
        · exact hseen j hj' b hb
        · rw [hget] at hb
          cases hb
          exact hc
    · rw [scanIter_end ha hlt]
      exact ⟨nofun, h2, forall_mem_concat h3 (any_false_of_all_idx _ _ fun j hj b hb => hseen j (by omega) b hb).symm⟩

theorem table_step_inv (ring0 : List Nat) (rules0 : List Block) (f : TSt) (hf : TableStep f)
    (s : TState) (l : TLocal) (hI : s.ring = ring0 ∧ s.rules = rules0) (hJ : TLocalInv ring0 rules0 l) :
    ((f s l).1.ring = ring0 ∧ (f s l).1.rules = rules0) ∧ TLocalInv ring0 rules0 (f s l).2 := by
  obtain ⟨hr, hu⟩ := hI
  obtain ⟨h1, h2, h3⟩ := hJ
  cases hf with
  | core g => exact ⟨⟨hr, hu⟩, h1, h2, h3⟩
  | read => exact ⟨⟨hr, hu⟩, h1, h2, h3⟩
  | ring =>
    unfold ringRead
    cases l.core.picks.getLast? with
    | none => exact ⟨⟨hr, hu⟩, h1, h2, h3⟩
    | some i => exact ⟨⟨hr, hu⟩, h1, forall_mem_concat h2 (by rw [hr]), h3⟩
  | begin a => exact ⟨⟨hr, hu⟩, fun _ => ⟨congrArg List.length hu, Nat.zero_le _, fun j hj => absurd hj (Nat.not_lt_zero _)⟩, h2, h3⟩
  | iter => exact ⟨by rw [(scanIter_frame s l).1]; exact ⟨hr, hu⟩, scanIter_inv ring0 l hu ⟨h1, h2, h3⟩⟩

theorem sem_tableStep (op : TOp) : TableStep op.sem := by
  cases op with
  | core f => exact .core f
  | pick N => exact .core _
  | ringRead => exact .ring
  | scanBegin a => exact .begin a
  | scanIter => exact .iter
  | tableRead => exact .read

theorem pickTarget_steps (N : Nat) : ∀ f ∈ pickTarget N, TableStep f := by
  simp only [pickTarget, List.forall_mem_cons, List.not_mem_nil, false_imp_iff, implies_true, and_true]
  exact ⟨.core _, .ring⟩

theorem scanProg_steps (a : Addr) (n : Nat) : ∀ f ∈ scanProg a n, TableStep f := by
  intro f hf
  rcases List.mem_cons.mp hf with rfl | hf
  · exact .begin a
  · rw [(List.mem_replicate.mp hf).2]; exact .iter

theorem toT_steps (ts : List STh) : ∀ t ∈ ts.map STh.toT, ∀ f ∈ t.steps, TableStep f := by
  intro t ht f hf
  obtain ⟨st, _, rfl⟩ := List.mem_map.mp ht
  obtain ⟨op, _, rfl⟩ := List.mem_map.mp hf
  exact sem_tableStep op

theorem table_inv (ring0 : List Nat) (rules0 : List Block) (sch : List Nat) (ts : List TTh) (s : TState)
    (hsteps : ∀ t ∈ ts, ∀ f ∈ t.steps, TableStep f) (hs : s.ring = ring0 ∧ s.rules = rules0)
    (hJ : ∀ t ∈ ts, TLocalInv ring0 rules0 t.loc) :
    ((run sch ts s).1.ring = ring0 ∧ (run sch ts s).1.rules = rules0) ∧
      ∀ t ∈ (run sch ts s).2, TLocalInv ring0 rules0 t.loc := by
  have h := run_inv (fun s : TState => s.ring = ring0 ∧ s.rules = rules0) (TLocalInv ring0 rules0) TableStep
    (table_step_inv ring0 rules0) sch ts s hsteps hs hJ
  exact ⟨h.1, h.2.1⟩

theorem stepAt_toT (i : Nat) (ts : List STh) (s : TState) :
    stepAt i (ts.map STh.toT) s = (s, ts.map STh.toT) ∨
    ∃ op rest l, ts[i]? = some ⟨op :: rest, l⟩ ∧
      stepAt i (ts.map STh.toT) s = ((op.sem s l).1, (ts.set i ⟨rest, (op.sem s l).2⟩).map STh.toT) := by
  cases hget : ts[i]? with
  | none => exact .inl (stepAt_skip (by simp [hget]) s)
  | some t =>
    have hmap : (ts.map STh.toT)[i]? = some t.toT := by rw [List.getElem?_map, hget]; rfl
    obtain ⟨ops, l⟩ := t
    cases ops with
    | nil => exact .inl (stepAt_skip (by simp [hmap, STh.toT]) s)
    | cons op rest => exact .inr ⟨op, rest, l, rfl, by rw [stepAt_eq hmap rfl, List.map_set]; rfl⟩

theorem core_sem {op : TOp} {f : St} (h : op.coreStep = some f) : op.sem = liftCore f := by
  cases op <;> simp [TOp.coreStep] at h <;> subst h <;> rfl

theorem noncore_frame (op : TOp) (h : op.coreStep = none) (s : TState) (l : TLocal) :
    (op.sem s l).1.core = s.core ∧ (op.sem s l).2.core = l.core := by
  cases op with
  | core f => cases h
  | pick N => cases h
  | ringRead =>
    simp only [TOp.sem, ringRead]
    cases l.core.picks.getLast? <;> exact ⟨rfl, rfl⟩
  | scanBegin a => exact ⟨rfl, rfl⟩
  | scanIter => exact ⟨congrArg TState.core (scanIter_frame s l).1, (scanIter_frame s l).2.1⟩
  | tableRead => exact ⟨rfl, rfl⟩

/-- Reads and scans are stutter steps of the core state: the projections run under `sch'`, which is `sch` with those
steps left out. Along the run the goroutines stay syntax (`ts'`) and keep any invariant `Inv` that every single
operation preserves (`hstep`), whatever the shared state it runs on. -/
theorem run_syn (Inv : STh → Prop)
    (hstep : ∀ op rest l s, Inv ⟨op :: rest, l⟩ → Inv ⟨rest, (op.sem s l).2⟩) (sch : List Nat) :
    ∀ (ts : List STh) (s : TState), (∀ t ∈ ts, Inv t) →
      ∃ (sch' : List Nat) (ts' : List STh), (run sch (ts.map STh.toT) s).2 = ts'.map STh.toT ∧ (∀ t ∈ ts', Inv t) ∧
        run sch' (ts.map STh.proj) s.core = ((run sch (ts.map STh.toT) s).1.core, ts'.map STh.proj) := by
  induction sch with
  | nil => exact fun ts s h => ⟨[], ts, rfl, h, rfl⟩
  | cons i sch ih =>
    intro ts s h
    simp only [run]
    rcases stepAt_toT i ts s with e | ⟨op, rest, l, hget, e⟩
    · rw [e]; exact ih ts s h
    · rw [e]
      obtain ⟨sch1, ts', e1, hinv, e2⟩ := ih (ts.set i ⟨rest, (op.sem s l).2⟩) (op.sem s l).1 fun t' ht' => by
        rcases List.mem_or_eq_of_mem_set ht' with h2 | rfl
        · exact h t' h2
        · exact hstep op rest l s (h _ (List.mem_of_getElem? hget))
      have hgp : (ts.map STh.proj)[i]? = some (STh.proj ⟨op :: rest, l⟩) := by rw [List.getElem?_map, hget]; rfl
      rw [List.map_set] at e2
      cases hc : op.coreStep with
      | some f =>
        refine ⟨i :: sch1, ts', e1, hinv, ?_⟩
        have hst : (STh.proj ⟨op :: rest, l⟩).steps = f :: rest.filterMap TOp.coreStep := by
          simp only [STh.proj, List.filterMap_cons, hc]
        simp only [run]
        rw [stepAt_eq hgp hst]
        rw [core_sem hc] at e2 ⊢
        exact e2
      | none =>
        -- a read or a scan: core state and projected goroutine are unchanged, and `i` is left out of `sch'`
        obtain ⟨c1, c2⟩ := noncore_frame op hc s l
        have : STh.proj ⟨rest, (op.sem s l).2⟩ = STh.proj ⟨op :: rest, l⟩ := by simp [STh.proj, hc, c2]
        rw [this, set_same hgp, c1] at e2
        exact ⟨sch1, ts', e1, hinv, e2⟩

theorem run_proj (sch : List Nat) : ∀ (ts : List STh) (s : TState),
    ∃ (sch' : List Nat) (ts' : List STh),
      (run sch (ts.map STh.toT) s).2 = ts'.map STh.toT ∧
      run sch' (ts.map STh.proj) s.core = ((run sch (ts.map STh.toT) s).1.core, ts'.map STh.proj) := by
  intro ts s
  obtain ⟨sch', ts', e1, _, e2⟩ := run_syn (fun _ => True) (fun _ _ _ _ _ => trivial) sch ts s fun _ _ => trivial
  exact ⟨sch', ts', e1, e2⟩

theorem allPicks_proj (ts : List STh) : allPicks (ts.map STh.proj) = allPicksT (ts.map STh.toT) := by
  simp only [allPicks, allPicksT, List.flatMap_map]
  rfl

theorem ops_nil_of_finished {ts : List STh} (h : finished (ts.map STh.toT) = true) : ∀ t ∈ ts, t.ops = [] := by
  intro t ht
  have := List.all_eq_true.mp h t.toT (List.mem_map_of_mem ht)
  simpa [STh.toT] using this

theorem finished_proj {ts : List STh} (h : finished (ts.map STh.toT) = true) : finished (ts.map STh.proj) = true := by
  rw [finished, List.all_eq_true]
  intro t ht
  obtain ⟨st, hst, rfl⟩ := List.mem_map.mp ht
  simp [STh.proj, ops_nil_of_finished h st hst]

theorem filterMap_replicate_none (k : Nat) (op : TOp) (h : op.coreStep = none) :
    (List.replicate k op).filterMap TOp.coreStep = [] := by
  induction k with
  | zero => rfl
  | succ k ih => rw [List.replicate_succ, List.filterMap_cons, h]; exact ih

theorem requestThread_proj (N n : Nat) (as : List Addr) :
    (requestThread N n as).proj = rrThreadRepaired N as.length := by
  have h : (as.flatMap (requestOps N n)).filterMap TOp.coreStep = (List.replicate as.length (pickRepaired N)).flatten := by
    induction as with
    | nil => rfl
    | cons a as ih =>
      rw [List.flatMap_cons, List.filterMap_append, ih, List.length_cons, List.replicate_succ, List.flatten_cons,
        requestOps, List.filterMap_append, filterMap_replicate_none _ _ rfl]
      rfl
  simp only [STh.proj, requestThread, rrThreadRepaired, mkThread, h]

theorem readerThread_proj (N k : Nat) : (readerThread k).proj = rrThreadRepaired N 0 := by
  simp only [STh.proj, readerThread, rrThreadRepaired, mkThread, filterMap_replicate_none k .tableRead rfl]
  rfl

theorem forall_mem_requests_readers {P : STh → Prop} (N n : Nat) (ass : List (List Addr)) (readers : List Nat)
    (hq : ∀ as, P (requestThread N n as)) (hr : ∀ k, P (readerThread k)) :
    ∀ t ∈ ass.map (requestThread N n) ++ readers.map readerThread, P t := by
  intro t ht
  simp only [List.mem_append, List.mem_map] at ht
  rcases ht with ⟨as, _, rfl⟩ | ⟨k, _, rfl⟩
  · exact hq as
  · exact hr k

theorem rr_on_published_table (ring0 : List Nat) (hN : 0 < ring0.length) (rules0 : List Block) (ts : List STh)
    (ks : List Nat) (hproj : ts.map STh.proj = ks.map (rrThreadRepaired ring0.length))
    (hJ : ∀ t ∈ ts, TLocalInv ring0 rules0 t.loc) (s : State) (sch : List Nat) :
    let r := run sch (ts.map STh.toT) { core := s, ring := ring0, rules := rules0 }
    let K := r.1.core.total - s.total
    r.1.ring = ring0 ∧ r.1.rules = rules0 ∧ s.total ≤ r.1.core.total ∧
    (allPicksT r.2).Perm ((List.range' s.total K).map (· % ring0.length)) ∧
    (∀ t ∈ r.2, TLocalInv ring0 rules0 t.loc) ∧
    K ≤ ks.sum ∧ (finished r.2 = true → K = ks.sum) := by
  intro r K
  obtain ⟨⟨hring, hrules⟩, hloc⟩ := table_inv ring0 rules0 sch (ts.map STh.toT)
    { core := s, ring := ring0, rules := rules0 } (toT_steps ts) ⟨rfl, rfl⟩ (List.forall_mem_map.mpr hJ)
  obtain ⟨sch', ts', e1, e2⟩ := run_proj sch ts { core := s, ring := ring0, rules := rules0 }
  obtain ⟨hc, hle, hall, hperm⟩ := rr_run_fresh ring0.length hN ks s sch'
  rw [← hproj, e2] at hc hle hall hperm
  rw [allPicks_proj, ← e1] at hperm
  exact ⟨hring, hrules, hc, hperm, hloc, hle, fun hfin => hall (finished_proj (e1 ▸ hfin))⟩

/-- every index the goroutine was handed has been read from the ring, except the one whose read is the very next
operation -/
def Linked (t : STh) : Prop :=
  t.loc.core.dead = false ∧
  ∃ p : Bool, wfFrom p t.ops = true ∧
    (p = false → t.loc.core.picks = t.loc.targets.map (·.1)) ∧
    (p = true → ∃ i, t.loc.core.picks = t.loc.targets.map (·.1) ++ [i])

theorem linked_step (op : TOp) (rest : List TOp) (l : TLocal) (s : TState)
    (h : Linked ⟨op :: rest, l⟩) : Linked ⟨rest, (op.sem s l).2⟩ := by
  obtain ⟨hd, p, hwf, h0, h1⟩ := h
  have keep : ∀ l' : TLocal, l'.core = l.core → l'.targets = l.targets → p = false → wfFrom false rest = true →
      Linked ⟨rest, l'⟩ :=
    fun l' hc ht hp hw => ⟨hc ▸ hd, false, hw, fun _ => by rw [hc, ht]; exact h0 hp, nofun⟩
  cases op <;> cases p <;> simp only [wfFrom, Bool.and_eq_true, decide_eq_true_eq, Bool.false_eq_true] at hwf
  next N =>
    -- the pick: one more index than targets
    have e := rrFetchAdd_eq N hwf.1 s.core l.core hd
    refine ⟨?_, true, hwf.2, nofun, fun _ => ⟨s.core.total % N, ?_⟩⟩
    · show (rrFetchAdd N s.core l.core).2.dead = false
      rw [e]; exact hd
    · show (rrFetchAdd N s.core l.core).2.picks = l.targets.map (·.1) ++ [s.core.total % N]
      rw [e, ← h0 rfl]
  next =>
    -- the read of the slot: the pending index moves to `targets`
    obtain ⟨i, hi⟩ := h1 rfl
    have hl : l.core.picks.getLast? = some i := by rw [hi]; simp
    refine ⟨?_, false, hwf, fun _ => ?_, nofun⟩
    · simp only [TOp.sem, ringRead, hl]; exact hd
    · simp only [TOp.sem, ringRead, hl, List.map_append, List.map_cons, List.map_nil]; exact hi
  next a => exact keep _ rfl rfl rfl hwf
  next => exact keep _ (scanIter_frame s l).2.1 (scanIter_frame s l).2.2 rfl hwf
  next => exact keep _ rfl rfl rfl hwf

theorem wf_replicate_scanIter (k : Nat) (rest : List TOp) :
    wfFrom false (List.replicate k .scanIter ++ rest) = wfFrom false rest := by
  induction k with
  | zero => rfl
  | succ k ih => rw [List.replicate_succ, List.cons_append]; simp only [wfFrom]; exact ih

theorem wf_requests (N n : Nat) (hN : 0 < N) (as : List Addr) : wfFrom false (as.flatMap (requestOps N n)) = true := by
  induction as with
  | nil => rfl
  | cons a as ih =>
    rw [List.flatMap_cons]
    unfold requestOps
    simp only [List.cons_append, List.nil_append, wfFrom, hN, decide_true, Bool.true_and]
    rw [wf_replicate_scanIter]; exact ih

theorem wf_reader (k : Nat) : wfFrom false (List.replicate k .tableRead) = true := by
  induction k with
  | zero => rfl
  | succ k ih => rw [List.replicate_succ]; simp only [wfFrom]; exact ih

theorem linked_request (N n : Nat) (hN : 0 < N) (as : List Addr) : Linked (requestThread N n as) :=
  ⟨rfl, false, wf_requests N n hN as, fun _ => rfl, fun hc => by cases hc⟩

theorem linked_reader (k : Nat) : Linked (readerThread k) :=
  ⟨rfl, false, wf_reader k, fun _ => rfl, fun hc => by cases hc⟩

theorem linked_finished (t : STh) (h : Linked t) (hf : t.ops = []) : t.loc.core.picks = t.loc.targets.map (·.1) := by
  obtain ⟨_, p, hwf, h0, _⟩ := h
  rw [hf] at hwf
  cases p with
  | true => simp [wfFrom] at hwf
  | false => exact h0 rfl

theorem allPicksT_of_linked (ts : List STh) (hl : ∀ t ∈ ts, Linked t) (hfin : finished (ts.map STh.toT) = true) :
    allPicksT (ts.map STh.toT) = (allTargetsT (ts.map STh.toT)).map (·.1) := by
  have hops := ops_nil_of_finished hfin
  simp only [allPicksT, allTargetsT, List.flatMap_map, List.map_flatMap]
  rw [List.flatMap_def, List.flatMap_def]
  exact congrArg List.flatten (List.map_congr_left fun t ht => linked_finished t (hl t ht) (hops t ht))

end Fabio.Lemmas.C06
