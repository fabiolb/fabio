import Fabio.Model.C08Serve
import Fabio.Lemmas.C08Steps
/-!
C08 lemmas about `serveHTTP` (`Model/C08Serve.lean`): its forwarding exit, the handler switch and what a handler sends,
as equations in terms of `addHeadersIP` on the request with the request id set.
-/
namespace Fabio.Lemmas.C08
open Fabio Fabio.Model.C08
open Fabio.Props.C08Serve (withRequestID)

theorem serveHTTP_forward (cfg : Cfg) (uuid : Str) (t : Route) (r : Req) (ip port : Str)
    (hred : (t.redirectCode != 0 && t.hasRedirectURL) = false)
    (hsplit : splitHostPort r.remoteAddr = some (ip, port)) :
    serveHTTP cfg uuid (some t) r =
      .forward (chooseHandler (addHeadersIP cfg t.strip (withRequestID cfg uuid r) ip))
        (overrideHost t.hostOpt t.targetHost r.host)
        (handlerSends (chooseHandler (addHeadersIP cfg t.strip (withRequestID cfg uuid r) ip)) ip
          (addHeadersIP cfg t.strip (withRequestID cfg uuid r) ip))
        (addResponseHeaders cfg r.tls.isSome []) := by
  simp only [serveHTTP, hred, hsplit, withRequestID]
  rfl

theorem chooseHandler_eq_tunnel (h : Headers) : chooseHandler h = .tunnel ↔ isWebsocket h = true := by
  unfold chooseHandler
  split
  · next hw => exact iff_of_true rfl hw
  · next hw => exact iff_of_false (by split <;> nofun) hw

theorem handlerSends_eq (k : HandlerKind) (ip : Str) (h : Headers) :
    handlerSends k ip h = if k = .tunnel then h else reverseProxy ip h := by cases k <;> rfl

theorem responseWrittenByFabio_eq (k : HandlerKind) : responseWrittenByFabio k = !decide (k = .tunnel) := by
  cases k <;> rfl

/-- `restoreHeaders` puts back exactly what the informational responses cleared: with no 1xx response the map is
complete and nothing is missing, after one it is empty and everything remembered is missing. -/
theorem finalResponseHeaders_eq (n : Nat) (resp : Headers) : finalResponseHeaders n resp = resp := by
  unfold finalResponseHeaders afterInformational restoreHeaders
  split
  · have : resp.filter (fun e => (vals e.1 resp).isNone) = [] :=
      List.filter_eq_nil_iff.mpr fun e he => by rw [Option.isNone_eq_false_iff.mpr (vals_isSome_of_mem he)]; exact Bool.false_ne_true
    rw [this, List.append_nil]
  · exact List.filter_eq_self.mpr fun _ _ => rfl

end Fabio.Lemmas.C08
