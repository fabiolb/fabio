import Fabio.Model.C05Spec
import Fabio.Lemmas.Basic
import Fabio.Lemmas.RouteParse
/-!
Facts about the shared routing-table model (`Model/Route.lean`) and its abstraction `abs` (`Model/C05Spec.lean`): `weigh`
reads a target only up to its share, the duplicate test of `addTarget` is membership up to `dupId`, tables are association
lists of route lists, and what a command does to a table is a `put` — the target list at one (host, path) set — which is
`upd` under `abs`.
-/
namespace Fabio.Lemmas.Route
open Fabio Fabio.Model.Route Fabio.Model.Parse Fabio.Model.C05Spec

/-- `Except ε α` has no `DecidableEq` instance in core; with it `decide` settles what a command returns on a
concrete table -/
scoped instance {ε α : Type} [DecidableEq ε] [DecidableEq α] : DecidableEq (Except ε α)
  | .ok a, .ok b => decidable_of_iff (a = b) ⟨congrArg _, Except.ok.inj⟩
  | .error a, .error b => decidable_of_iff (a = b) ⟨congrArg _, Except.error.inj⟩
  | .ok _, .error _ => isFalse nofun
  | .error _, .ok _ => isFalse nofun

theorem foldlM_invariant {σ α ε : Type} {f : σ → α → Except ε σ} {P : σ → Prop} (l : List α)
    (step : ∀ s s' a, a ∈ l → P s → f s a = .ok s' → P s') {s s' : σ} (hs : P s) (h : l.foldlM f s = .ok s') :
    P s' := by
  induction l generalizing s with
  | nil =>
    simp only [List.foldlM_nil, pure, Except.pure] at h
    injection h with h
    subst h; exact hs
  | cons a l ih =>
    rw [List.foldlM_cons] at h
    cases h1 : f s a with
    | error e => rw [h1] at h; cases h
    | ok s1 =>
      rw [h1] at h
      exact ih (fun s s' b hb => step s s' b (List.mem_cons_of_mem _ hb)) (step s s1 a List.mem_cons_self hs h1) h

theorem foldlM_refines {σ τ α ε : Type} {f : σ → α → Except ε σ} {g : τ → α → Except ε τ} {φ : σ → τ} {P : σ → Prop}
    (l : List α) (step : ∀ s a, P s → (f s a).map φ = g (φ s) a) (inv : ∀ s s' a, P s → f s a = .ok s' → P s')
    {s : σ} (hs : P s) : (l.foldlM f s).map φ = l.foldlM g (φ s) := by
  induction l generalizing s with
  | nil => rfl
  | cons a l ih =>
    rw [List.foldlM_cons, List.foldlM_cons, ← step s a hs]
    cases ha : f s a with
    | error e => rfl
    | ok s1 => exact ih (inv s s1 a hs ha)

theorem ok_of_map_eq {ε α β : Type} {f : α → β} {r : Except ε α} {s : Except ε β} (h : r.map f = s) {a : α}
    (hr : r = .ok a) : s = .ok (f a) := by
  rw [← h, hr]; rfl

theorem of_map_eq_ok {ε α β : Type} {f : α → β} {r : Except ε α} {b : β} (h : r.map f = .ok b) :
    ∃ a, r = .ok a ∧ f a = b := by
  cases r with
  | error e => cases h
  | ok a => exact ⟨a, rfl, Except.ok.inj h⟩

theorem toOption_eq_some_iff {ε α : Type} {r : Except ε α} {a : α} : r.toOption = some a ↔ r = .ok a := by
  cases r <;> simp [Except.toOption]

theorem hostpath_eq (h rest : Str) (hs : '/' ∉ h) (hr : rest = [] ∨ ∃ r, rest = '/' :: r) :
    hostpath (h ++ rest) =
      if hasPrefix (h ++ rest) [':'] then (h ++ rest, []) else (h, if rest = [] then ['/'] else rest) := by
  unfold hostpath
  split
  · rfl
  · have hi : indexOf '/' (h ++ rest) = indexOf.go '/' (0 + h.length) rest := indexOf_go_append '/' h rest 0 hs
    rw [hi]
    rcases hr with hr | ⟨r, hr⟩
    · subst hr; simp [indexOf.go]
    · subst hr; simp [indexOf.go]

theorem slash_not_mem_lowerL (h : Str) (hs : '/' ∉ h) : '/' ∉ lowerL h := by
  unfold lowerL
  intro hm
  obtain ⟨c, hc, he⟩ := List.mem_map.mp hm
  rw [(lowerChar_eq_iff (by decide)).mp he] at hc
  exact hs hc

theorem lowerChar_noSp (c : Char) (h : isReSpace c = false) : isReSpace (lowerChar c) = false := by
  simpa (disch := decide) only [isReSpace, Bool.or_eq_false_iff, beq_eq_false_iff_ne, ne_eq, lowerChar_eq_iff] using h

theorem lowerL_noSp {s : Str} (hs : ∀ c ∈ s, isReSpace c = false) : ∀ c ∈ lowerL s, isReSpace c = false := by
  intro c hc
  unfold lowerL at hc
  obtain ⟨c0, h0, rfl⟩ := List.mem_map.1 hc
  exact lowerChar_noSp c0 (hs c0 h0)

theorem split_slash (s : Str) : ∃ h rest, '/' ∉ h ∧ (rest = [] ∨ ∃ r, rest = '/' :: r) ∧ s = h ++ rest := by
  induction s with
  | nil => exact ⟨[], [], by simp, Or.inl rfl, rfl⟩
  | cons c s ih =>
    by_cases hc : c = '/'
    · exact ⟨[], c :: s, by simp, Or.inr ⟨s, by rw [hc]⟩, rfl⟩
    · obtain ⟨h, rest, h1, h2, h3⟩ := ih
      refine ⟨c :: h, rest, ?_, h2, by rw [h3]; rfl⟩
      simp only [List.mem_cons, not_or]
      exact ⟨fun e => hc e.symm, h1⟩

theorem hasPrefix_colon_cons (c : Char) (s : Str) : hasPrefix (c :: s) [':'] = (':' == c) := by
  simp [hasPrefix, List.isPrefixOf]

theorem colon_beq_lowerChar (c : Char) : (':' == lowerChar c) = (':' == c) := beq_lowerChar_small c ':' (by decide)

theorem hasPrefix_lowerL (s : Str) : hasPrefix (lowerL s) [':'] = hasPrefix s [':'] :=
  isPrefixOf_lowerL [':'] (by decide) s

theorem key_colon {s : Str} (hp : hasPrefix s [':'] = true) : key s = (lowerL s, []) := by
  unfold key hostpath
  rw [if_pos hp]

theorem key_eq (h rest : Str) (hs : '/' ∉ h) (hr : rest = [] ∨ ∃ r, rest = '/' :: r) : key (h ++ rest) =
    if hasPrefix (h ++ rest) [':'] then (lowerL (h ++ rest), []) else (lowerL h, if rest = [] then ['/'] else rest) := by
  unfold key
  rw [hostpath_eq h rest hs hr]
  split <;> rfl

/-- the per-target function `weigh` maps over the list (parameters: length, number of fixed, sum of fixed) -/
def wfun (n nf : Nat) (sf : Rat) (t : Target) : Target :=
  if nf = 0 then { t with weight := 1 / (n : Rat) }
  else
    if 0 < t.fixedWeight then
      { t with weight := t.fixedWeight * (if 1 < sf ∨ (nf = n ∧ sf < 1) then 1 / sf else 1) }
    else
      { t with weight := if (1 - sf) / ((n - nf : Nat) : Rat) < 0 then 0 else (1 - sf) / ((n - nf : Nat) : Rat) }

theorem weigh_eq (ts : List Target) :
    weigh ts = ts.map (wfun ts.length (nFixed ts) (sumFixed ts)) := by
  unfold weigh wfun
  split <;> simp [*]

/-- `wfun` writes the `weight` field and nothing else -/
theorem wfun_eq (n nf : Nat) (sf : Rat) (t : Target) :
    wfun n nf sf t = { t with weight := (wfun n nf sf t).weight } := by
  unfold wfun
  split
  · rfl
  · split <;> rfl

theorem wfun_fixed (n nf : Nat) (sf : Rat) (t : Target) : (wfun n nf sf t).fixedWeight = t.fixedWeight := by
  rw [wfun_eq]

theorem weigh_nil : weigh [] = [] := rfl

theorem weigh_length (ts : List Target) : (weigh ts).length = ts.length := by
  rw [weigh_eq]; simp

theorem weigh_ne_nil {ts : List Target} (h : ts ≠ []) : weigh ts ≠ [] :=
  fun he => h (List.eq_nil_of_length_eq_zero (by rw [← weigh_length, he]; rfl))

theorem nFixed_map (g : Target → Target) (hg : ∀ t, (g t).fixedWeight = t.fixedWeight) (ts : List Target) :
    nFixed (ts.map g) = nFixed ts := by
  unfold nFixed
  rw [List.filter_map, List.length_map]
  congr 1
  simp only [Function.comp_def, hg]

theorem sumFixed_map (g : Target → Target) (hg : ∀ t, (g t).fixedWeight = t.fixedWeight) (ts : List Target) :
    sumFixed (ts.map g) = sumFixed ts := by
  unfold sumFixed
  rw [List.filter_map, List.foldl_map]
  simp only [Function.comp_def, hg]

theorem nFixed_weigh (ts : List Target) : nFixed (weigh ts) = nFixed ts := by
  rw [weigh_eq, nFixed_map _ (wfun_fixed _ _ _)]

theorem sumFixed_weigh (ts : List Target) : sumFixed (weigh ts) = sumFixed ts := by
  rw [weigh_eq, sumFixed_map _ (wfun_fixed _ _ _)]

/-- a target without its share: all that `weigh` reads of it, and what it leaves as it is -/
def coreT (x : Target) : Target := { x with weight := 0 }

theorem weigh_coreT (ts : List Target) : weigh (ts.map coreT) = weigh ts := by
  have hf : ∀ t, (coreT t).fixedWeight = t.fixedWeight := fun _ => rfl
  rw [weigh_eq, weigh_eq ts, List.length_map, nFixed_map coreT hf, sumFixed_map coreT hf, List.map_map]
  -- `wfun` reads `fixedWeight` and writes `weight`
  rfl

theorem weigh_congr {us ts : List Target} (h : us.map coreT = ts.map coreT) : weigh us = weigh ts := by
  rw [← weigh_coreT us, h, weigh_coreT]

theorem map_weigh {β : Type} (f : Target → β) (hf : ∀ t w, f { t with weight := w } = f t) (ts : List Target) :
    (weigh ts).map f = ts.map f := by
  rw [weigh_eq, List.map_map]
  apply List.map_congr_left
  intro x _
  show f (wfun _ _ _ x) = f x
  rw [wfun_eq, hf]

/-- what `isDup`, the duplicate test of `addTarget`, compares -/
def dupId (t : Target) : Str × Str × Rat × List Str := (t.service, t.url, t.fixedWeight, t.tags)

theorem isDup_iff (ts : List Target) (x : Target) : isDup ts x = true ↔ ∃ y ∈ ts, dupId y = dupId x := by
  unfold isDup dupId
  simp only [List.any_eq_true, Bool.and_eq_true, beq_iff_eq, Prod.mk.injEq, and_assoc]

theorem isDup_weigh (ts : List Target) (x : Target) : isDup (weigh ts) x = isDup ts x :=
  Bool.eq_iff_iff.2 (by rw [isDup_iff, isDup_iff, ← List.mem_map, ← List.mem_map, map_weigh dupId fun _ _ => rfl])

theorem coreT_weigh (ts : List Target) : (weigh ts).map coreT = ts.map coreT :=
  map_weigh coreT (fun _ _ => rfl) ts

theorem weigh_weigh (ts : List Target) : weigh (weigh ts) = weigh ts :=
  weigh_congr (coreT_weigh ts)

theorem weigh_weigh_append (xs : List Target) (y : Target) : weigh (weigh xs ++ [y]) = weigh (xs ++ [y]) :=
  weigh_congr (by rw [List.map_append, List.map_append, coreT_weigh])

theorem mem_weigh {β : Type} (f : Target → β) (hf : ∀ t w, f { t with weight := w } = f t) {ts : List Target}
    {y : Target} (h : y ∈ weigh ts) : ∃ z ∈ ts, f z = f y := by
  have : f y ∈ (weigh ts).map f := List.mem_map_of_mem h
  rw [map_weigh f hf] at this
  exact List.mem_map.1 this

theorem get_mem_or_nil (t : Table) (k : Str) : t.get k = [] ∨ (k, t.get k) ∈ t := by
  unfold Table.get
  cases h : t.lookup k with
  | none => left; rfl
  | some rs => right; exact mem_of_lookup h

theorem mem_get {t : Table} {h : Str} {r : Route} (hr : r ∈ t.get h) : (h, t.get h) ∈ t := by
  rcases get_mem_or_nil t h with e | e
  · rw [e] at hr; cases hr
  · exact e

theorem get_of_mem {t : Table} {host : Str} (hn : (t.map (·.1)).Nodup) {rs : List Route} (hm : (host, rs) ∈ t) :
    t.get host = rs := by
  unfold Table.get
  rw [lookup_of_mem hn hm]
  rfl

theorem get_map_snd (f : List Route → List Route) (hf : f [] = []) (t : Table) (k : Str) :
    Table.get (t.map (fun kv => (kv.1, f kv.2))) k = f (t.get k) := by
  unfold Table.get
  rw [lookup_map_snd]
  cases t.lookup k with
  | none => exact hf.symm
  | some rs => rfl

theorem any_key (t : Table) (host : Str) : t.any (fun kv => kv.1 == host) = t.has host := by
  unfold Table.has
  induction t with
  | nil => rfl
  | cons a l ih =>
    obtain ⟨k', v⟩ := a
    simp only [List.any_cons, List.lookup_cons, ih]
    by_cases h : k' = host
    · subst h; simp
    · have h1 : (k' == host) = false := by simpa using h
      have h2 : (host == k') = false := by simpa using fun e => h e.symm
      simp [h1, h2]

theorem lookup_of_has_false {t : Table} {host : Str} (h : t.has host = false) : t.lookup host = none := by
  unfold Table.has at h
  simpa using h

theorem get_of_has_false {t : Table} {host : Str} (h : t.has host = false) : t.get host = [] := by
  unfold Table.get
  rw [lookup_of_has_false h]
  rfl

theorem lookup_of_has_true {t : Table} {host : Str} (h : t.has host = true) : t.lookup host = some (t.get host) := by
  unfold Table.has at h
  obtain ⟨rs0, h0⟩ := Option.isSome_iff_exists.mp h
  unfold Table.get
  rw [h0]; rfl

theorem has_of_mem_get {t : Table} {host : Str} {r : Route} (hr : r ∈ t.get host) : t.has host = true := by
  cases hs : t.has host
  · rw [get_of_has_false hs] at hr; cases hr
  · rfl

theorem not_mem_keys_of_has_false {t : Table} {host : Str} (h : t.has host = false) : host ∉ t.map (·.1) := by
  rw [← any_key, List.any_eq_false] at h
  intro hm
  obtain ⟨kv, hkv, he⟩ := List.mem_map.mp hm
  exact h kv hkv (by simpa using he)

theorem lookup_setmap (t : Table) (host : Str) (rs' : List Route) (k : Str) :
    (t.map (fun kv => if kv.1 == host then (host, rs') else kv)).lookup k
      = if k = host then (t.lookup host).map (fun _ => rs') else t.lookup k := by
  have e : t.map (fun kv => if kv.1 == host then (host, rs') else kv) =
      t.map (fun kv => if kv.1 == host then (kv.1, rs') else kv) :=
    List.map_congr_left fun kv _ => by
      split
      · next h => rw [eq_of_beq h]
      · rfl
  rw [e, lookup_map_key t host k fun _ => rs']
  by_cases hk : k = host
  · rw [hk, beq_self_eq_true, if_pos rfl, if_pos rfl]
  · rw [if_neg hk, beq_eq_false_iff_ne.2 hk, if_neg Bool.false_ne_true]

theorem keys_setmap (t : Table) (host : Str) (rs' : List Route) :
    (t.map (fun kv => if kv.1 == host then (host, rs') else kv)).map (·.1) = t.map (·.1) := by
  rw [List.map_map]
  apply List.map_congr_left
  intro kv _
  simp only [Function.comp]
  by_cases h : kv.1 = host
  · simp [h]
  · have : (kv.1 == host) = false := by simpa using h
    simp [this]

theorem set_of_has_true {t : Table} {host : Str} (rs' : List Route) (h : t.has host = true) :
    t.set host rs' = t.map (fun kv => if kv.1 == host then (host, rs') else kv) := by
  unfold Table.set
  rw [any_key, if_pos h]

theorem set_of_has_false {t : Table} {host : Str} (rs' : List Route) (h : t.has host = false) :
    t.set host rs' = t ++ [(host, rs')] := by
  unfold Table.set
  rw [any_key, h]
  rfl

theorem lookup_set (t : Table) (host : Str) (rs' : List Route) (k : Str) :
    (t.set host rs').lookup k = if k = host then some rs' else t.lookup k := by
  cases hh : t.has host
  · rw [set_of_has_false _ hh, List.lookup_append]
    by_cases hk : k = host
    · subst hk; simp [lookup_of_has_false hh]
    · have : (k == host) = false := by simpa using hk
      simp [List.lookup_cons, this, hk]
  · rw [set_of_has_true _ hh, lookup_setmap, lookup_of_has_true hh]
    rfl

theorem get_set (t : Table) (host : Str) (rs' : List Route) (k : Str) :
    (t.set host rs').get k = if k = host then rs' else t.get k := by
  unfold Table.get
  rw [lookup_set]
  split <;> rfl

theorem mem_set {t : Table} {host : Str} {rs' : List Route} {kv : Str × List Route}
    (h : kv ∈ t.set host rs') : kv = (host, rs') ∨ kv ∈ t := by
  cases hh : t.has host
  · rw [set_of_has_false _ hh] at h
    rcases List.mem_append.mp h with h | h
    · right; exact h
    · left; simpa using h
  · rw [set_of_has_true _ hh] at h
    obtain ⟨kv0, h0, he⟩ := List.mem_map.mp h
    split at he
    · left; exact he.symm
    · right; rw [← he]; exact h0

theorem forall_set {t : Table} {host : Str} {rs' : List Route} {P : Str × List Route → Prop}
    (ht : ∀ kv ∈ t, P kv) (hn : P (host, rs')) : ∀ kv ∈ t.set host rs', P kv := by
  intro kv hkv
  rcases mem_set hkv with he | hm
  · rw [he]; exact hn
  · exact ht kv hm

theorem set_pred (P : Route → Prop) (t : Table) (host : Str) (rs : List Route)
    (ht : ∀ kv ∈ t, ∀ r ∈ kv.2, P r) (hrs : ∀ r ∈ rs, P r) : ∀ kv ∈ t.set host rs, ∀ r ∈ kv.2, P r :=
  forall_set (P := fun kv => ∀ r ∈ kv.2, P r) ht hrs

theorem get_pred (P : Route → Prop) (t : Table) (host : Str)
    (ht : ∀ kv ∈ t, ∀ r ∈ kv.2, P r) : ∀ r ∈ t.get host, P r :=
  fun r hr => ht _ (mem_get hr) r hr

theorem keys_set_nodup {t : Table} (host : Str) (rs' : List Route) (hn : (t.map (·.1)).Nodup) :
    ((t.set host rs').map (·.1)).Nodup := by
  cases hh : t.has host
  · rw [set_of_has_false _ hh, List.map_append, List.nodup_append]
    refine ⟨hn, by simp, ?_⟩
    intro a ha b hb
    have hb' : b = host := by simpa using hb
    subst hb'
    intro he; subst he
    exact not_mem_keys_of_has_false hh ha
  · rw [set_of_has_true _ hh, keys_setmap]; exact hn

theorem set_get_self {t : Table} {host : Str} (hn : (t.map (·.1)).Nodup) (hh : t.has host = true) :
    t.set host (t.get host) = t := by
  rw [set_of_has_true _ hh]
  have : t.map (fun kv => if kv.1 == host then (host, t.get host) else kv) = t.map id := by
    apply List.map_congr_left
    intro kv hkv
    by_cases h : kv.1 = host
    · have hkv' : kv = (host, t.get host) :=
        eq_of_map_eq (f := (·.1)) hn hkv (mem_of_lookup (lookup_of_has_true hh)) h
      simp [hkv']
    · have : (kv.1 == host) = false := by simpa using h
      simp [this]
  rw [this, List.map_id]

theorem find_some {rs : List Route} {p : Str} {r : Route} (h : findRoute rs p = some r) : r ∈ rs ∧ r.path = p := by
  unfold findRoute at h
  exact ⟨List.mem_of_find?_eq_some h, by simpa using List.find?_some h⟩

theorem find_none {rs : List Route} {p : Str} (h : findRoute rs p = none) : p ∉ rs.map (·.path) := by
  unfold findRoute at h
  rw [List.find?_eq_none] at h
  intro hm
  obtain ⟨x, hx, he⟩ := List.mem_map.mp hm
  exact h x hx (by simpa using he)

theorem find_of_mem_nodup {rs : List Route} {r : Route} (hr : r ∈ rs) (hn : (rs.map (·.path)).Nodup) :
    findRoute rs r.path = some r := by
  cases hf : findRoute rs r.path with
  | none => exact absurd (List.mem_map_of_mem hr) (find_none hf)
  | some x =>
    obtain ⟨hx, hp⟩ := find_some hf
    rw [eq_of_map_eq (f := (·.path)) hn hx hr hp]

theorem replace_paths (rs : List Route) (r' : Route) : (replaceRoute rs r').map (·.path) = rs.map (·.path) := by
  unfold replaceRoute
  rw [List.map_map]
  apply List.map_congr_left
  intro x _
  simp only [Function.comp]
  cases hx : (x.path == r'.path)
  · rfl
  · have : x.path = r'.path := by simpa using hx
    simp [this]

theorem mem_replace {rs : List Route} {r' x : Route} (h : x ∈ replaceRoute rs r') : x = r' ∨ x ∈ rs := by
  unfold replaceRoute at h
  obtain ⟨y, hy, hyx⟩ := List.mem_map.mp h
  split at hyx
  · left; exact hyx.symm
  · right; rw [← hyx]; exact hy

theorem forall_replace {rs : List Route} {r' : Route} {P : Route → Prop}
    (hrs : ∀ x ∈ rs, P x) (hr : P r') : ∀ x ∈ replaceRoute rs r', P x := by
  intro x hx
  rcases mem_replace hx with he | hx
  · rw [he]; exact hr
  · exact hrs x hx

theorem replace_ne_nil {rs : List Route} (r' : Route) (h : rs ≠ []) : replaceRoute rs r' ≠ [] := by
  unfold replaceRoute
  rwa [Ne, List.map_eq_nil_iff]

theorem replace_self {rs : List Route} {r : Route} (hn : (rs.map (·.path)).Nodup) (hr : r ∈ rs) :
    replaceRoute rs r = rs := by
  unfold replaceRoute
  have : rs.map (fun x => if x.path == r.path then r else x) = rs.map id := by
    apply List.map_congr_left
    intro x hx
    by_cases h : x.path = r.path
    · have : x = r := eq_of_map_eq (f := (·.path)) hn hx hr h
      simp [this]
    · have : (x.path == r.path) = false := by simpa using h
      simp [this]
  rw [this, List.map_id]

theorem insertDesc_eq : insertDesc = insBy (fun a b : Route => pathLt b.path a.path) := by
  funext r l
  induction l with
  | nil => rfl
  | cons y ys ih => simp [insertDesc, insBy, ih]

theorem sortRoutes_eq : sortRoutes = sortBy (fun a b : Route => pathLt b.path a.path) := by
  funext rs; rw [sortRoutes, insertDesc_eq]; rfl

theorem sortRoutes_perm (rs : List Route) : (sortRoutes rs).Perm rs := by
  rw [sortRoutes_eq]; exact sortBy_perm _ rs

theorem insertHostDesc_eq : insertHostDesc = insBy (fun a b => strLt b a) := by
  funext h l
  induction l with
  | nil => rfl
  | cons x xs ih => simp only [insertHostDesc, insBy, ih]

theorem hostOrder_eq (t : Table) :
    hostOrder t = sortBy (fun a b => strLt b a) ((t.map (·.1)).filter (fun h => !h.isEmpty)) ++ [[]] := by
  unfold hostOrder; rw [insertHostDesc_eq]; rfl

theorem mem_hostOrder (t : Table) (h : Str) : h ∈ hostOrder t ↔ (h ∈ t.map (·.1) ∧ h ≠ []) ∨ h = [] := by
  rw [hostOrder_eq, List.mem_append, mem_sortBy, List.mem_filter]
  simp

theorem key_mem_hostOrder {t : Table} {kv : Str × List Route} (hm : kv ∈ t) : kv.1 ∈ hostOrder t := by
  rw [mem_hostOrder]
  by_cases e : kv.1 = []
  · right; exact e
  · left; exact ⟨List.mem_map_of_mem hm, e⟩

theorem hostOrder_nodup {t : Table} (hn : (t.map (·.1)).Nodup) : (hostOrder t).Nodup := by
  rw [hostOrder_eq, List.nodup_append]
  refine ⟨(sortBy_perm _ _).symm.nodup (List.Nodup.sublist List.filter_sublist hn), by simp, ?_⟩
  intro a ha b hb
  rw [mem_sortBy, List.mem_filter] at ha
  simp only [List.mem_singleton] at hb
  subst hb
  intro e
  subst e
  simp at ha

/-- the routing map of one route list -/
def tgs (rs : List Route) (p : Str) : List Target :=
  match findRoute rs p with
  | some r => r.targets
  | none => []

theorem abs_eq (t : Table) (h p : Str) : abs t h p = tgs (t.get h) p := rfl

theorem tgs_cons (r : Route) (rs : List Route) (p : Str) :
    tgs (r :: rs) p = if r.path == p then r.targets else tgs rs p := by
  unfold tgs findRoute
  rw [List.find?_cons]
  cases (r.path == p) <;> rfl

theorem tgs_of_find_none {rs : List Route} {p : Str} (h : findRoute rs p = none) : tgs rs p = [] := by
  unfold tgs; rw [h]

theorem tgs_of_find_some {rs : List Route} {p : Str} {r : Route} (h : findRoute rs p = some r) :
    tgs rs p = r.targets := by
  unfold tgs; rw [h]

theorem tgs_of_not_mem (rs : List Route) (p : Str) (h : p ∉ rs.map (·.path)) : tgs rs p = [] := by
  cases hf : findRoute rs p with
  | none => exact tgs_of_find_none hf
  | some r =>
    obtain ⟨hr, hp⟩ := find_some hf
    exact absurd (hp ▸ List.mem_map_of_mem hr) h

theorem tgs_append (rs : List Route) (R : Route) (p : Str) (hn : findRoute rs R.path = none) :
    tgs (rs ++ [R]) p = if p = R.path then R.targets else tgs rs p := by
  unfold tgs findRoute
  rw [List.find?_append]
  by_cases h : p = R.path
  · subst h
    unfold findRoute at hn
    rw [hn, if_pos rfl]
    simp
  · rw [if_neg h]
    have : (R.path == p) = false := by simpa using fun e => h e.symm
    cases rs.find? (fun r => r.path == p) <;> simp [this]

theorem tgs_replace (rs : List Route) (r' : Route) (p : Str) (h : ∃ x ∈ rs, x.path = r'.path) :
    tgs (replaceRoute rs r') p = if p = r'.path then r'.targets else tgs rs p := by
  -- without `h` the new targets show only if some route carries the path
  have hg : ∀ rs : List Route, tgs (replaceRoute rs r') p =
      if p = r'.path ∧ (∃ x ∈ rs, x.path = r'.path) then r'.targets else tgs rs p := by
    intro rs
    induction rs with
    | nil => simp [replaceRoute, tgs, findRoute]
    | cons x rs ih =>
      unfold replaceRoute at ih ⊢
      simp only [beq_iff_eq] at ih
      rw [List.map_cons, tgs_cons, tgs_cons]
      by_cases hx : x.path = r'.path
      · by_cases hp : p = r'.path
        · simp only [hx, BEq.rfl, ↓reduceIte, hp, List.mem_cons, exists_eq_or_imp, true_or, and_self]
        · have : ¬ r'.path = p := fun e => hp e.symm
          simp only [hx, BEq.rfl, ↓reduceIte, beq_iff_eq, this, ih, hp, false_and]
      · by_cases hxp : x.path = p
        · have : ¬ p = r'.path := fun e => hx (hxp.trans e)
          simp only [hxp, beq_iff_eq, this, ↓reduceIte, BEq.rfl, false_and]
        · simp only [beq_iff_eq, hx, ↓reduceIte, hxp, ih, List.mem_cons, exists_eq_or_imp, false_or]
  rw [hg]
  simp only [h, and_true]

/-- needs unique paths: a route without targets would shadow a later one with its path -/
theorem tgs_filter_nonempty (rs : List Route) (p : Str) (hn : (rs.map (·.path)).Nodup) :
    tgs (rs.filter (fun r => !r.targets.isEmpty)) p = tgs rs p := by
  induction rs with
  | nil => rfl
  | cons r rs ih =>
    simp only [List.map_cons, List.nodup_cons] at hn
    have ih := ih hn.2
    rw [List.filter_cons]
    cases he : r.targets.isEmpty
    · simp only [Bool.not_false, if_true, tgs_cons, ih]
    · simp only [Bool.not_true, Bool.false_eq_true, if_false, tgs_cons, ih]
      cases hp : (r.path == p)
      · rfl
      · have hpp : r.path = p := by simpa using hp
        have hnil : r.targets = [] := by simpa using he
        simp only [if_true, hnil]
        exact tgs_of_not_mem _ _ (hpp ▸ hn.1)

theorem tgs_map (f : Route → Route) (g : List Target → List Target) (hp : ∀ r, (f r).path = r.path)
    (ht : ∀ r, (f r).targets = g r.targets) (hg : g [] = []) (rs : List Route) (p : Str) :
    tgs (rs.map f) p = g (tgs rs p) := by
  induction rs with
  | nil => exact hg.symm
  | cons r rs ih =>
    rw [List.map_cons, tgs_cons, tgs_cons, ih, hp, ht]
    cases (r.path == p) <;> rfl

theorem tgs_perm {l1 l2 : List Route} (hp : l1.Perm l2) (hn : (l1.map (·.path)).Nodup) (p : Str) :
    tgs l1 p = tgs l2 p := by
  cases hf : findRoute l1 p with
  | none =>
    rw [tgs_of_find_none hf, tgs_of_not_mem]
    exact fun hm => find_none hf ((hp.map _).mem_iff.mpr hm)
  | some r =>
    obtain ⟨hr, rfl⟩ := find_some hf
    rw [tgs_of_find_some hf, tgs_of_find_some (find_of_mem_nodup (hp.mem_iff.mp hr) ((hp.map _).nodup hn))]

theorem upd_same (S : Spec) (h p : Str) (a : List Target) : upd S h p a h p = a := by
  unfold upd; simp

theorem upd_other (S : Spec) (h p h' p' : Str) (a : List Target) (hne : ¬ (h' = h ∧ p' = p)) :
    upd S h p a h' p' = S h' p' := by
  unfold upd; rw [if_neg hne]

theorem upd_upd (S : Spec) (h p : Str) (a b : List Target) : upd (upd S h p a) h p b = upd S h p b := by
  funext h' p'
  unfold upd
  split <;> simp_all

theorem upd_eq_self {S : Spec} {h p : Str} {ts : List Target} (hS : S h p = ts) : upd S h p ts = S := by
  funext h' p'
  unfold upd
  split
  · rename_i he; rw [he.1, he.2, hS]
  · rfl

section inv
variable {t : Table} {host : Str} {rs' : List Route}

theorem paths_get (hw : WF t) (host : Str) : ((t.get host).map (·.path)).Nodup := by
  rcases get_mem_or_nil t host with he | hm
  · rw [he]; exact List.nodup_nil
  · exact hw.paths _ hm

theorem host_get (hw : WF t) {r : Route} (hr : r ∈ t.get host) : r.host = host :=
  hw.hostOf _ (mem_get hr) r hr

theorem targets_get (hn : NoEmpty t) {r : Route} (hr : r ∈ t.get host) : r.targets ≠ [] :=
  get_pred (·.targets ≠ []) t host (fun kv h => (hn kv h).2) r hr

theorem weighed_get (hw : Weighed t) {r : Route} (hr : r ∈ t.get host) : weigh r.targets = r.targets :=
  get_pred _ t host hw r hr

theorem abs_of_mem_get (hw : WF t) {r : Route} (hr : r ∈ t.get host) : abs t host r.path = r.targets :=
  tgs_of_find_some (find_of_mem_nodup hr (paths_get hw host))

theorem mem_get_of_abs {p : Str} (hne : abs t host p ≠ []) :
    ∃ r ∈ t.get host, r.path = p ∧ r.targets = abs t host p := by
  cases hr : findRoute (t.get host) p with
  | none => exact absurd (tgs_of_find_none hr) hne
  | some r => exact ⟨r, (find_some hr).1, (find_some hr).2, (tgs_of_find_some hr).symm⟩

theorem mem_targets_of_abs {p : Str} {y : Target} (hy : y ∈ abs t host p) :
    ∃ r ∈ t.get host, r.path = p ∧ y ∈ r.targets :=
  let ⟨r, hr, hp, ht⟩ := mem_get_of_abs (List.ne_nil_of_mem hy)
  ⟨r, hr, hp, ht ▸ hy⟩

theorem abs_ne_nil_of_mem_get (hw : WF t) (hn : NoEmpty t) {r : Route} (hr : r ∈ t.get host) :
    abs t host r.path ≠ [] := by
  rw [abs_of_mem_get hw hr]; exact targets_get hn hr

theorem keys_iff (hw : WF t) (hn : NoEmpty t) (x : Str) : x ∈ t.map (·.1) ↔ ∃ p, abs t x p ≠ [] := by
  constructor
  · intro hx
    obtain ⟨kv, hkv, rfl⟩ := List.mem_map.1 hx
    obtain ⟨k, rs⟩ := kv
    have hne := hn _ hkv
    have hg : t.get k = rs := get_of_mem hw.hosts hkv
    cases hrs : rs with
    | nil => exact absurd hrs hne.1
    | cons r l =>
      exact ⟨r.path, abs_ne_nil_of_mem_get hw hn (by rw [hg, hrs]; simp)⟩
  · rintro ⟨p, hp⟩
    obtain ⟨r, hr, _, _⟩ := mem_get_of_abs hp
    exact List.mem_map.2 ⟨_, mem_get hr, rfl⟩

/-- the keys of a table with the invariant are the hosts under which `abs` holds a target: a statement about every key
is a statement about the inhabited (host, path) pairs -/
theorem forall_keys_iff (hi : Inv t) (Q : Str → Prop) : (∀ kv ∈ t, Q kv.1) ↔ ∀ h p, abs t h p ≠ [] → Q h := by
  constructor
  · intro hq h p hne
    obtain ⟨r, hr, _, _⟩ := mem_get_of_abs hne
    exact hq _ (mem_get hr)
  · intro hq kv hkv
    obtain ⟨p, hp⟩ := (keys_iff hi.wf hi.noEmpty kv.1).1 (List.mem_map_of_mem hkv)
    exact hq _ p hp

theorem abs_of_find_none {path : Str} (hf : findRoute (t.get host) path = none) : abs t host path = [] :=
  tgs_of_find_none hf

theorem abs_of_find_some {path : Str} {r : Route} (hf : findRoute (t.get host) path = some r) :
    abs t host path = r.targets :=
  tgs_of_find_some hf

theorem isNone_route (hn : NoEmpty t) (h p : Str) : (t.route h p).isNone = (abs t h p).isEmpty := by
  cases hr : t.route h p with
  | none => rw [abs_of_find_none hr]; rfl
  | some r =>
    rw [abs_of_find_some hr]
    exact (List.isEmpty_eq_false_iff.2 (targets_get hn (find_some hr).1)).symm

theorem weighed_abs (hw : Weighed t) (h p : Str) : weigh (abs t h p) = abs t h p := by
  by_cases hne : abs t h p = []
  · rw [hne]; rfl
  · obtain ⟨r, hr, _, ht⟩ := mem_get_of_abs hne
    rw [← ht]; exact weighed_get hw hr

theorem wf_set (hw : WF t) (hp : (rs'.map (·.path)).Nodup) (hh : ∀ r ∈ rs', r.host = host) :
    WF (t.set host rs') :=
  ⟨keys_set_nodup host rs' hw.hosts, forall_set hw.paths hp, forall_set hw.hostOf hh⟩

theorem abs_set_upd (t : Table) (host path : Str) (rs' : List Route) (ts : List Target)
    (h : ∀ p', tgs rs' p' = if p' = path then ts else tgs (t.get host) p') :
    abs (t.set host rs') = upd (abs t) host path ts := by
  funext h' p'
  unfold upd
  rw [abs_eq, abs_eq, get_set]
  by_cases hh : h' = host
  · subst hh
    rw [if_pos rfl, h]
    by_cases hp : p' = path
    · rw [if_pos hp, if_pos ⟨rfl, hp⟩]
    · rw [if_neg hp, if_neg (fun h => hp h.2)]
  · rw [if_neg hh, if_neg (fun h => hh h.1)]

/-! `put`: the target list at one (host, path) set to `ts`. `addRoute`, `weighRoute` and `delRoute` with a source all
are a `put` (`Lemmas/C05Add|Weight|Del.lean`), and `put` is `upd` under `abs`. -/

def putRoute (rs : List Route) (host path : Str) (ts : List Target) : List Route :=
  match findRoute rs path with
  | none => rs ++ [⟨host, path, ts⟩]
  | some r => replaceRoute rs { r with targets := ts }

def put (t : Table) (host path : Str) (ts : List Target) : Table := t.set host (putRoute (t.get host) host path ts)

variable {path : Str} {ts : List Target}

theorem put_of_find_none (ts : List Target) (h : findRoute (t.get host) path = none) :
    put t host path ts = t.set host (t.get host ++ [⟨host, path, ts⟩]) := by
  unfold put putRoute; rw [h]

theorem put_of_find_some {r : Route} (ts : List Target) (h : findRoute (t.get host) path = some r) :
    put t host path ts = t.set host (replaceRoute (t.get host) { r with targets := ts }) := by
  unfold put putRoute; rw [h]

theorem tgs_putRoute (rs : List Route) (host path : Str) (ts : List Target) (p' : Str) :
    tgs (putRoute rs host path ts) p' = if p' = path then ts else tgs rs p' := by
  unfold putRoute
  cases hf : findRoute rs path with
  | none => exact tgs_append rs ⟨host, path, ts⟩ p' hf
  | some r =>
    obtain ⟨hr, rfl⟩ := find_some hf
    exact tgs_replace rs { r with targets := ts } p' ⟨r, hr, rfl⟩

theorem abs_put (t : Table) (host path : Str) (ts : List Target) :
    abs (put t host path ts) = upd (abs t) host path ts :=
  abs_set_upd t host path _ ts (tgs_putRoute _ host path ts)

theorem mem_putRoute {rs : List Route} {x : Route} (hx : x ∈ putRoute rs host path ts) :
    x ∈ rs ∨ (x.targets = ts ∧ (x.host = host ∨ ∃ r ∈ rs, x.host = r.host)) := by
  unfold putRoute at hx
  split at hx
  · rcases List.mem_append.1 hx with h | h
    · exact .inl h
    · rw [List.mem_singleton.1 h]; exact .inr ⟨rfl, .inl rfl⟩
  · rename_i r hf
    rcases mem_replace hx with rfl | h
    · exact .inr ⟨rfl, .inr ⟨r, (find_some hf).1, rfl⟩⟩
    · exact .inl h

theorem paths_putRoute {rs : List Route} (host : Str) (ts : List Target) (hn : (rs.map (·.path)).Nodup) :
    ((putRoute rs host path ts).map (·.path)).Nodup := by
  unfold putRoute
  split
  · rename_i hf
    rw [List.map_append, List.nodup_append]
    refine ⟨hn, by simp, fun a ha b hb e => ?_⟩
    have hb' : b = path := by simpa using hb
    exact find_none hf (hb' ▸ e ▸ ha)
  · rw [replace_paths]; exact hn

theorem wf_put (hw : WF t) (host path : Str) (ts : List Target) : WF (put t host path ts) :=
  wf_set hw (paths_putRoute host ts (paths_get hw host)) fun x hx => by
    rcases mem_putRoute hx with h | ⟨_, h | ⟨r, hr, h⟩⟩
    · exact host_get hw h
    · exact h
    · exact h.trans (host_get hw hr)

theorem weighed_put (hw : Weighed t) (host path : Str) (h : weigh ts = ts) : Weighed (put t host path ts) :=
  forall_set hw fun x hx => by
    rcases mem_putRoute hx with h' | ⟨h', _⟩
    · exact weighed_get hw h'
    · rw [h']; exact h

theorem noEmpty_put (hn : NoEmpty t) (host path : Str) (hne : ts ≠ []) : NoEmpty (put t host path ts) := by
  refine forall_set hn ⟨?_, fun x hx => ?_⟩
  · unfold putRoute
    split
    · simp
    · rename_i r hf
      exact replace_ne_nil _ (List.ne_nil_of_mem (find_some hf).1)
  · rcases mem_putRoute hx with h | ⟨h, _⟩
    · exact targets_get hn h
    · rw [h]; exact hne

theorem inv_put (hi : Inv t) (host path : Str) (hne : ts ≠ []) (hw : weigh ts = ts) : Inv (put t host path ts) :=
  ⟨wf_put hi.wf host path ts, noEmpty_put hi.noEmpty host path hne, weighed_put hi.weighed host path hw⟩

theorem put_self (hw : WF t) (hne : abs t host path ≠ []) : put t host path (abs t host path) = t := by
  obtain ⟨r, hr, rfl, ht⟩ := mem_get_of_abs hne
  rw [put_of_find_some _ (find_of_mem_nodup hr (paths_get hw host)), ← ht]
  exact (congrArg _ (replace_self (paths_get hw host) hr)).trans (set_get_self hw.hosts (has_of_mem_get hr))

end inv

theorem get_mapRoutes (t : Table) (f : Route → Route) (h : Str) :
    (mapRoutes t f).get h = (t.get h).map f :=
  get_map_snd (fun rs => rs.map f) rfl t h

theorem wf_mapRoutes {t : Table} (f : Route → Route) (hp : ∀ r, (f r).path = r.path)
    (hh : ∀ r, (f r).host = r.host) (hw : WF t) : WF (mapRoutes t f) := by
  refine ⟨?_, List.forall_mem_map.2 fun kv h => ?_,
    List.forall_mem_map.2 fun kv h => List.forall_mem_map.2 fun r hr => (hh r).trans (hw.hostOf kv h r hr)⟩
  · exact (keys_map_snd (fun rs => rs.map f) t).symm ▸ hw.hosts
  · have : (kv.2.map f).map (·.path) = kv.2.map (·.path) := by
      rw [List.map_map]; exact List.map_congr_left fun r _ => hp r
    exact this ▸ hw.paths kv h

theorem inv_map_perm {t : Table} (f : List Route → List Route) (hf : ∀ rs, (f rs).Perm rs) (hi : Inv t) :
    Inv (t.map fun kv => (kv.1, f kv.2)) := by
  refine ⟨⟨?_, List.forall_mem_map.2 fun kv h => ?_, List.forall_mem_map.2 fun kv h r hr => ?_⟩,
    List.forall_mem_map.2 fun kv h => ⟨fun e => ?_, fun r hr => ?_⟩, List.forall_mem_map.2 fun kv h r hr => ?_⟩
  · rw [keys_map_snd f]; exact hi.wf.hosts
  · exact ((hf kv.2).map _).symm.nodup (hi.wf.paths kv h)
  · exact hi.wf.hostOf kv h r ((hf kv.2).mem_iff.1 hr)
  · exact (hi.noEmpty kv h).1 (List.Perm.eq_nil (e ▸ (hf kv.2).symm))
  · exact (hi.noEmpty kv h).2 r ((hf kv.2).mem_iff.1 hr)
  · exact hi.weighed kv h r ((hf kv.2).mem_iff.1 hr)

theorem get_prune (t : Table) (h : Str) (hn : (t.map (·.1)).Nodup) :
    (prune t).get h = (t.get h).filter (fun r => !r.targets.isEmpty) := by
  unfold prune Table.get
  rw [lookup_filter (fun rs : List Route => !rs.isEmpty) _ _ (by rw [keys_map_snd]; exact hn), lookup_map_snd]
  cases t.lookup h with
  | none => rfl
  | some rs =>
    simp only [Option.map, Option.filter, Option.getD]
    cases hh : (List.filter (fun r => !r.targets.isEmpty) rs) <;> simp

theorem mem_prune {t : Table} {kv : Str × List Route} (h : kv ∈ prune t) :
    ∃ kv0 ∈ t, kv = (kv0.1, kv0.2.filter (fun r => !r.targets.isEmpty)) ∧ kv.2 ≠ [] := by
  unfold prune at h
  obtain ⟨hm, hne⟩ := List.mem_filter.mp h
  obtain ⟨kv0, h0, he⟩ := List.mem_map.mp hm
  exact ⟨kv0, h0, he.symm, by simpa using hne⟩

theorem wf_prune {t : Table} (hw : WF t) : WF (prune t) := by
  refine ⟨?_, ?_, ?_⟩
  · unfold prune
    apply List.Nodup.sublist _ hw.hosts
    rw [← keys_map_snd (fun rs => rs.filter (fun r => !r.targets.isEmpty)) t]
    exact List.Sublist.map _ List.filter_sublist
  · intro kv hkv
    obtain ⟨kv0, h0, he, _⟩ := mem_prune hkv
    subst he
    exact List.Nodup.sublist (List.Sublist.map _ List.filter_sublist) (hw.paths kv0 h0)
  · intro kv hkv r hr
    obtain ⟨kv0, h0, he, _⟩ := mem_prune hkv
    subst he
    exact hw.hostOf kv0 h0 r (List.mem_filter.mp hr).1

theorem prune_noEmpty (t : Table) : NoEmpty (prune t) := by
  intro kv hkv
  obtain ⟨kv0, h0, he, hne⟩ := mem_prune hkv
  refine ⟨hne, ?_⟩
  subst he
  intro r hr
  have := (List.mem_filter.mp hr).2
  simpa using this

theorem weighed_prune {t : Table} (hw : Weighed t) : Weighed (prune t) := by
  intro kv hkv r hr
  obtain ⟨kv0, h0, he, _⟩ := mem_prune hkv
  subst he
  exact hw kv0 h0 r (List.mem_filter.mp hr).1

theorem abs_prune {t : Table} (hw : WF t) : abs (prune t) = abs t := by
  funext h p
  rw [abs_eq, abs_eq, get_prune t h hw.hosts]
  exact tgs_filter_nonempty _ _ (paths_get hw h)

end Fabio.Lemmas.Route
