import Fabio.Model.C18Exit
import Fabio.Lemmas.Basic
/-!
Helper lemmas for package `exit` (`Fabio.Model.C18Exit`): the process is `k` copies of one listener's run, so
everything is proved of one listener; and a burst that fits the channel between os/signal and the goroutine is
buffered whole and handled in order. Core Lean only.
-/
namespace Fabio.Lemmas.C18Exit
open Fabio.Model.C18Exit

/-- one listener goroutine over a history: its component of `run` (`run_eq`) -/
def runListener (c : ListenContract) (l : LState) (es : List Ev) : LState :=
  es.foldl (fun l e => stepListener c e l) l

theorem run_eq (c : ListenContract) (es : List Ev) : ∀ (ls : List LState) (q : Bool),
    run c { listeners := ls, quitClosed := q } es =
      { listeners := ls.map (fun l => runListener c l es), quitClosed := q || es.any (fun e => decide (e = .exitCall)) } := by
  induction es with
  | nil => intro ls q; simp [run, runListener]
  | cons e es ih =>
    intro ls q
    rw [show run c ⟨ls, q⟩ (e :: es) = run c ⟨ls.map (stepListener c e), q || decide (e = .exitCall)⟩ es from rfl, ih]
    simp [runListener, List.map_map, Function.comp_def, Bool.or_assoc]

theorem run_initial (c : ListenContract) (k : Nat) (es : List Ev) :
    run c (initial k) es =
      { listeners := List.replicate k (runListener c (.waiting false) es),
        quitClosed := es.any (fun e => decide (e = .exitCall)) } := by
  simp [initial, run_eq]

theorem ran_absorbing {l : LState} (h : handlerRan l = true) (c : ListenContract) (es : List Ev) :
    runListener c l es = l := by
  cases l with
  | waiting b => cases h
  | ran s => exact foldl_fixed fun _ _ => rfl

theorem hups_keep_waiting (c : ListenContract) (n : Nat) (b : Bool) :
    runListener c (.waiting b) (List.replicate n .hup) = .waiting (b || decide (0 < n)) := by
  induction n generalizing b with
  | zero => simp [runListener]
  | succ n ih => exact (ih true).trans (by simp)

theorem runListener_append (c : ListenContract) (l : LState) (a b : List Ev) :
    runListener c l (a ++ b) = runListener c (runListener c l a) b := by
  simp [runListener, List.foldl_append]

theorem deliver_of_room {cap : Nat} {q : List Ev} (h : q.length < cap) (e : Ev) : deliver cap q e = q ++ [e] := by
  simp [deliver, h]

theorem deliver_burst (cap : Nat) (b : List Ev) : ∀ q : List Ev, q.length + b.length ≤ cap →
    b.foldl (deliver cap) q = q ++ b := by
  induction b with
  | nil => intro q _; simp
  | cons e es ih =>
    intro q h
    simp only [List.length_cons] at h
    rw [List.foldl_cons, deliver_of_room (by omega), ih (q ++ [e]) (by simp; omega)]
    simp

theorem arrivals_fold (c : ListenContract) (cap : Nat) (b : List Ev) (l : LState) (q : List Ev) :
    (b.map Act.arrives).foldl (stepAct c cap) (l, q) = (l, b.foldl (deliver cap) q) :=
  List.foldl_map.trans (List.foldl_hom (Prod.mk l) fun _ _ => rfl)

theorem burst_fold (c : ListenContract) {cap : Nat} {b : List Ev} (hb : b.length ≤ cap) (l : LState) :
    (b.map Act.arrives ++ [Act.runs]).foldl (stepAct c cap) (l, []) = (runListener c l b, []) := by
  rw [List.foldl_append, arrivals_fold, deliver_burst cap b [] (by simpa using hb)]
  rfl

end Fabio.Lemmas.C18Exit
