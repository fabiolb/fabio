import Fabio.Model.C04F64
import Fabio.Lemmas.C04Slots
/-!
Rounding-error lemmas for `roundF64` (`Model/C04Spec.lean`), the rounding of `Arith.f64`: the result is within
half a unit in the last place of the argument, and a unit in the last place is at most `2⁻⁵²` times the argument
unless the result is a denormal.
-/
namespace Fabio.Lemmas.C04
open Fabio Fabio.Model.Route Fabio.Model.C04

theorem pow2_eq_zpow (e : Int) : pow2 e = (2 : Rat) ^ e := by
  unfold pow2
  split
  · rename_i h
    have : e = (e.toNat : Int) := (Int.toNat_of_nonneg h).symm
    conv_rhs => rw [this]
    rw [zpow_natCast]; push_cast; rfl
  · rename_i h
    have hneg : 0 ≤ -e := by omega
    have : e = -((-e).toNat : Int) := by rw [Int.toNat_of_nonneg hneg]; omega
    conv_rhs => rw [this]
    rw [zpow_neg, zpow_natCast]; push_cast
    rw [one_div]

theorem pow2_pos (e : Int) : 0 < pow2 e := by rw [pow2_eq_zpow]; exact zpow_pos (by norm_num) _

theorem half_zpow (k : Int) : (1 / 2 : Rat) * (2 : Rat) ^ k = (2 : Rat) ^ (k - 1) := by
  rw [zpow_sub_one₀ (by norm_num : (2 : Rat) ≠ 0)]; ring

/-- `⌊log₂ q⌋` the way `roundF64` finds it: the difference of the bit lengths, corrected by one -/
def expOf (q : Rat) : Int :=
  if pow2 ((Nat.log2 q.num.toNat : Int) - (Nat.log2 q.den : Int)) ≤ q
  then (Nat.log2 q.num.toNat : Int) - (Nat.log2 q.den : Int)
  else (Nat.log2 q.num.toNat : Int) - (Nat.log2 q.den : Int) - 1

/-- exponent of one unit in the last place of `q`; `-1074` is the spacing of the denormals -/
def ulpExp (q : Rat) : Int := if expOf q - 52 < -1074 then -1074 else expOf q - 52

def rne (m : Rat) : Int :=
  if (1 / 2 : Rat) < m - (m.floor : Rat) then m.floor + 1
  else if m - (m.floor : Rat) = 1 / 2 then (if m.floor % 2 = 0 then m.floor else m.floor + 1)
  else m.floor

theorem roundF64_of_pos (q : Rat) (hq : 0 < q) :
    roundF64 q = (rne (q / pow2 (ulpExp q)) : Rat) * pow2 (ulpExp q) := by
  unfold roundF64
  rw [if_neg (not_le.mpr hq)]
  rfl

theorem rne_close (m : Rat) : |(rne m : Rat) - m| ≤ 1 / 2 := by
  have h1 : (m.floor : Rat) ≤ m := Rat.floor_le m
  have h2 : m < (m.floor : Rat) + 1 := by exact_mod_cast Rat.lt_floor_add_one m
  have up : (1 / 2 : Rat) ≤ m - (m.floor : Rat) → |((m.floor + 1 : Int) : Rat) - m| ≤ 1 / 2 := fun ha => by
    rw [Int.cast_add, Int.cast_one, abs_le]; exact ⟨by linarith only [h2], by linarith only [ha]⟩
  have down : m - (m.floor : Rat) ≤ 1 / 2 → |(m.floor : Rat) - m| ≤ 1 / 2 := fun ha => by
    rw [abs_le]; exact ⟨by linarith only [ha], by linarith only [h1]⟩
  unfold rne
  by_cases ha : (1 / 2 : Rat) < m - (m.floor : Rat)
  · rw [if_pos ha]; exact up (le_of_lt ha)
  rw [if_neg ha]
  by_cases hb : m - (m.floor : Rat) = 1 / 2
  · rw [if_pos hb]
    by_cases hc : m.floor % 2 = 0
    · rw [if_pos hc]; exact down (le_of_eq hb)
    · rw [if_neg hc]; exact up (le_of_eq hb.symm)
  · rw [if_neg hb]; exact down (not_lt.mp ha)

theorem rne_nonneg (m : Rat) (hm : 0 ≤ m) : 0 ≤ rne m := by
  have := floor_nonneg_of_nonneg m hm
  unfold rne
  split_ifs <;> omega

/-- from `2^(log2 num) ≤ num` and `den < 2^(log2 den + 1)` -/
theorem exp_le (q : Rat) (hq : 0 < q) : pow2 (expOf q) ≤ q := by
  unfold expOf
  split
  · rename_i h; exact h
  · have hnum : 0 < q.num := Rat.num_pos.mpr hq
    have hn0 : q.num.toNat ≠ 0 := by omega
    have h1 : 2 ^ Nat.log2 q.num.toNat ≤ q.num.toNat := Nat.log2_self_le hn0
    have h2 : q.den < 2 ^ (Nat.log2 q.den + 1) := Nat.lt_log2_self
    have hq' : q = (q.num.toNat : Rat) / (q.den : Rat) := by
      rw [toNat_cast (le_of_lt hnum)]; exact (Rat.num_div_den q).symm
    rw [pow2_eq_zpow]
    have hden : (0 : Rat) < (q.den : Rat) := by exact_mod_cast q.den_pos
    have e1 : ((2 : Rat) ^ (Nat.log2 q.num.toNat)) ≤ (q.num.toNat : Rat) := by exact_mod_cast h1
    have e2 : (q.den : Rat) ≤ (2 : Rat) ^ (Nat.log2 q.den + 1) := by exact_mod_cast le_of_lt h2
    have : (2 : Rat) ^ ((Nat.log2 q.num.toNat : Int) - (Nat.log2 q.den : Int) - 1)
        = (2 : Rat) ^ (Nat.log2 q.num.toNat) / (2 : Rat) ^ (Nat.log2 q.den + 1) := by
      rw [show ((Nat.log2 q.num.toNat : Int) - (Nat.log2 q.den : Int) - 1) = (Nat.log2 q.num.toNat : Int) - ((Nat.log2 q.den + 1 : Nat) : Int) by push_cast; ring]
      rw [zpow_sub₀ (by norm_num : (2 : Rat) ≠ 0), zpow_natCast, zpow_natCast]
    rw [this]
    conv_rhs => rw [hq']
    exact div_le_div₀ (Nat.cast_nonneg _) e1 hden e2

theorem roundF64_nonneg (q : Rat) : 0 ≤ roundF64 q := by
  by_cases hq : 0 < q
  · rw [roundF64_of_pos q hq]
    have hu := pow2_pos (ulpExp q)
    exact mul_nonneg (by exact_mod_cast rne_nonneg _ (div_nonneg (le_of_lt hq) (le_of_lt hu))) (le_of_lt hu)
  · unfold roundF64; rw [if_pos (not_lt.mp hq)]

/-- Half an ulp, the ulp being `2⁻⁵²·2^e ≤ 2⁻⁵²·q` unless it is the denormal spacing `2⁻¹⁰⁷⁴`. -/
theorem roundF64_err (q : Rat) (hq : 0 < q) :
    |roundF64 q - q| ≤ pow2 (-1075) ∨ |roundF64 q - q| ≤ q * pow2 (-53) := by
  have hpu := pow2_pos (ulpExp q)
  -- result − q = (rne m − m)·2^u with m = q / 2^u, and `|rne m − m| ≤ 1/2`
  have hhalf : |roundF64 q - q| ≤ 1 / 2 * pow2 (ulpExp q) := by
    rw [roundF64_of_pos q hq,
      show (rne (q / pow2 (ulpExp q)) : Rat) * pow2 (ulpExp q) - q
        = ((rne (q / pow2 (ulpExp q)) : Rat) - q / pow2 (ulpExp q)) * pow2 (ulpExp q) by field_simp,
      abs_mul, abs_of_pos hpu]
    exact mul_le_mul_of_nonneg_right (rne_close _) (le_of_lt hpu)
  unfold ulpExp at hhalf
  split at hhalf
  · left
    refine le_trans hhalf (le_of_eq ?_)
    rw [pow2_eq_zpow, pow2_eq_zpow, half_zpow]
    norm_num
  · right
    refine le_trans hhalf ?_
    have : (1 / 2 : Rat) * pow2 (expOf q - 52) = pow2 (expOf q) * pow2 (-53) := by
      rw [pow2_eq_zpow, pow2_eq_zpow, pow2_eq_zpow, ← zpow_add₀ (by norm_num : (2 : Rat) ≠ 0), half_zpow]
      congr 1; ring
    rw [this]
    exact mul_le_mul_of_nonneg_right (exp_le q hq) (le_of_lt (pow2_pos _))

theorem roundF64_zero : roundF64 0 = 0 := by unfold roundF64; exact if_pos (le_refl 0)

theorem f64_rnd_of_nonneg (q : Rat) (hq : 0 ≤ q) : Arith.f64.rnd q = roundF64 q := by
  show roundF64S q = _
  unfold roundF64S
  rw [if_neg (not_lt.mpr hq)]

/-- for arguments up to 2·10⁴ (a slot product `10⁴·w`, `w ≤ 2`) the rounding error is below 10⁻⁶ -/
theorem roundF64_err_small (q : Rat) (hq : 0 ≤ q) (hle : q ≤ 20000) : |roundF64 q - q| ≤ 1 / 1000000 := by
  rcases eq_or_lt_of_le hq with rfl | hq
  · rw [roundF64_zero, sub_self, abs_zero]; norm_num
  rcases roundF64_err q hq with h | h
  · exact le_trans h (by decide +kernel)
  · refine le_trans h ?_
    have hp : (0 : Rat) ≤ pow2 (-53) := le_of_lt (pow2_pos _)
    calc q * pow2 (-53) ≤ 20000 * pow2 (-53) := mul_le_mul_of_nonneg_right hle hp
      _ ≤ 1 / 1000000 := by decide +kernel

/-- "To within the resolution of 10,000 slots" in float64: for `0 ≤ w ≤ 2` (effective weights are at most 1 up to
rounding) the slot count the code computes, `int(float64(maxSlots) * w)` bumped to 1 for a positive weight, differs
from `10⁴·w` by less than `1 + 10⁻⁶`, the tolerance of the specification clause `count-off`. Over ℚ the bound is
`< 1` (`slot_error_lt_one`). -/
theorem slot_error_f64 (w : Rat) (h0 : 0 ≤ w) (h1 : w ≤ 2) :
    |(slotCountA Arith.f64 w : Rat) - 10000 * w| < 1 + 1 / 1000000 := by
  have hq : (0 : Rat) ≤ 10000 * w := mul_nonneg (by norm_num) h0
  have hx := roundF64_nonneg (10000 * w)
  have := slot_rule_error _ _ _ (0 < w) (mul_pos (by norm_num : (0 : Rat) < 10000))
    (roundF64_err_small _ hq (by linarith only [h1]))
  unfold slotCountA
  rw [maxSlots_cast, f64_rnd_of_nonneg _ hq, truncZ_of_nonneg _ hx]
  exact this

end Fabio.Lemmas.C04
