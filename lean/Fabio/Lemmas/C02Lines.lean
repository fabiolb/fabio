import Fabio.Lemmas.C02ScanAll
import Fabio.Lemmas.RouteParse
/-!
The last link: the segments of the scanner specification (`segs` on the newline flags of a text, byte positions) are
the raw lines of the parser model (`Parse.rawLines`, character lists) — same number, same byte lengths, cut at the same
over-long line (core Lean only).

`cutLens` is part of the specification (`Props/C02Lines.lean` states its results with it); `flagsL`, `lens`, `rawLens` are
the list form of the newline flags and of their pieces, used only on the way.
-/
namespace Fabio.Lemmas.C02Lines
open Fabio Fabio.Model.C02Buf Fabio.Model.Parse Fabio.Model.Route Fabio.Lemmas.C02Scan Fabio.Lemmas.C02ScanAll
open Fabio.Lemmas.Route (splitOn_ne_nil splitOn_cons_sep splitOn_cons_ne)

def flagsL (text : Str) : List Bool :=
  text.flatMap (fun c => if c == '\n' then [true] else List.replicate c.utf8Size false)

/-- lengths of the pieces between `true`s (as `splitOn`: always at least one piece) -/
def lens : List Bool → List Nat
  | [] => [0]
  | true :: r => 0 :: lens r
  | false :: r => ((lens r).headD 0 + 1) :: (lens r).tail

/-- a final empty piece is no line (as `rawLines`) -/
def rawLens (L : List Bool) : List Nat :=
  if (lens L).getLast? == some 0 then (lens L).dropLast else lens L

def cutLens (maxTok : Nat) : List Nat → List Nat × Bool
  | [] => ([], false)
  | l :: r => if maxTok ≤ l then ([], true) else ((l :: (cutLens maxTok r).1), (cutLens maxTok r).2)

theorem lens_ne_nil : ∀ L : List Bool, lens L ≠ []
  | [] | true :: _ | false :: _ => by simp [lens]

theorem lens_replicate_append (k : Nat) (R : List Bool) :
    lens (List.replicate k false ++ R) = ((lens R).headD 0 + k) :: (lens R).tail := by
  induction k with
  | zero =>
    have := lens_ne_nil R
    cases h : lens R with
    | nil => exact absurd h this
    | cons a t => simp [h]
  | succ k ih =>
    rw [List.replicate_succ, List.cons_append, lens, ih]
    simp; omega

theorem lens_replicate_true (k : Nat) (R : List Bool) :
    lens (List.replicate k false ++ true :: R) = k :: lens R := by
  rw [lens_replicate_append]
  simp [lens]

theorem lens_replicate (k : Nat) : lens (List.replicate k false) = [k] := by
  have := lens_replicate_append k []
  simpa [lens] using this

theorem rawLens_replicate_true (k : Nat) (R : List Bool) :
    rawLens (List.replicate k false ++ true :: R) = k :: rawLens R := by
  unfold rawLens
  rw [lens_replicate_true]
  have hne := lens_ne_nil R
  cases h : lens R with
  | nil => exact absurd h hne
  | cons a t =>
    rw [List.getLast?_cons_cons]
    split
    · simp [List.dropLast]
    · rfl

theorem rawLens_replicate (k : Nat) (hk : 0 < k) : rawLens (List.replicate k false) = [k] := by
  unfold rawLens
  rw [lens_replicate]
  have : k ≠ 0 := by omega
  simp [this]

theorem rawLens_nil : rawLens [] = [] := by simp [rawLens, lens]

theorem drop_of_noNL (L : List Bool) : ∀ (d p : Nat), p + d ≤ L.length →
    NoNL L.toArray p (p + d) → L.drop p = List.replicate d false ++ L.drop (p + d) := by
  intro d
  induction d with
  | zero => intro p _ _; simp
  | succ d ih =>
    intro p hle hno
    have hp : p < L.length := by omega
    rw [List.drop_eq_getElem_cons hp]
    have hfalse : L[p] = false := by
      have := hno p (Nat.le_refl _) (by omega)
      rw [List.getElem?_toArray, List.getElem?_eq_getElem hp] at this
      cases hb : L[p] with
      | false => rfl
      | true => rw [hb] at this; exact absurd rfl this
    rw [hfalse, List.replicate_succ, List.cons_append]
    have := ih (p + 1) (by omega) (fun i h1 h2 => hno i (by omega) (by omega))
    rw [this]
    have he : p + 1 + d = p + (d + 1) := by omega
    rw [he]

theorem segs_eq_cut (L : List Bool) (maxTok : Nat) : ∀ (n p : Nat), p ≤ L.length → L.length - p < n →
    ((segs L.toArray maxTok n p).1.map (·.2), (segs L.toArray maxTok n p).2) = cutLens maxTok (rawLens (L.drop p)) := by
  intro n
  induction n with
  | zero => intro p _ h; omega
  | succ n ih =>
    intro p hp hn
    by_cases hend : L.length ≤ p
    · rw [segs_end (by simpa using hend), List.drop_eq_nil_of_le hend, rawLens_nil]
      rfl
    · have hf := findNL_spec L.toArray L.length (L.length - p) p (by omega)
      split at hf
      · -- a newline at `j`: the rest of `L` from `p` is `j - p` times `false`, then `true`
        rename_i j _
        obtain ⟨f1, f2, f3, f4⟩ := hf
        have hpj : p + (j - p) = j := by omega
        have hdrop : L.drop p = List.replicate (j - p) false ++ true :: L.drop (j + 1) := by
          have h1 := drop_of_noNL L (j - p) p (by omega) (hpj.symm ▸ f4)
          obtain ⟨hj, e⟩ := List.getElem?_eq_some_iff.1 (List.getElem?_toArray ▸ f3)
          rwa [hpj, List.drop_eq_getElem_cons hj, e] at h1
        rw [hdrop, rawLens_replicate_true, segs_line f1 f3 f4, cutLens, ← ih (j + 1) (by omega) (by omega)]
        by_cases hlong : maxTok ≤ j - p <;> simp [hlong]
      · -- no newline: the rest of `L` from `p` is all `false`
        have hpl : p + (L.length - p) = L.length := by omega
        have hdrop : L.drop p = List.replicate (L.length - p) false := by
          have h1 := drop_of_noNL L (L.length - p) p (by omega) (hpl.symm ▸ hf)
          rwa [hpl, List.drop_length, List.append_nil] at h1
        rw [hdrop, rawLens_replicate _ (by omega), segs_rest (by simpa using hend) (by simpa using hf), List.size_toArray]
        by_cases hlong : maxTok ≤ L.length - p <;> simp [hlong, cutLens]

theorem flagsL_cons_nl (cs : Str) : flagsL ('\n' :: cs) = true :: flagsL cs := by
  simp [flagsL]

theorem flagsL_cons_other (c : Char) (cs : Str) (h : c ≠ '\n') :
    flagsL (c :: cs) = List.replicate c.utf8Size false ++ flagsL cs := by
  simp [flagsL, h]

theorem nlFlags_aux (text : Str) : ∀ a : Array Bool,
    text.foldl (fun a c => if c == '\n' then a.push true else (List.replicate c.utf8Size false).foldl Array.push a) a
      = a ++ (flagsL text).toArray := by
  induction text with
  | nil => intro a; simp [flagsL]
  | cons c cs ih =>
    intro a
    rw [List.foldl_cons, ih]
    by_cases hc : c = '\n'
    · subst hc
      rw [flagsL_cons_nl]
      simp
    · rw [flagsL_cons_other c cs hc]
      have hb : (c == '\n') = false := by simpa using hc
      simp only [hb, Bool.false_eq_true, if_false]
      rw [List.foldl_push_eq_append']
      apply Array.ext'
      simp

theorem nlFlags_eq (text : Str) : nlFlags text = (flagsL text).toArray := by
  unfold nlFlags
  rw [nlFlags_aux]
  simp

theorem byteLen_aux (s : Str) : ∀ k : Nat, s.foldl (fun a c => a + c.utf8Size) k = k + byteLen s := by
  induction s with
  | nil => intro k; simp [byteLen]
  | cons c cs ih =>
    intro k
    simp only [byteLen, List.foldl_cons]
    rw [ih (k + c.utf8Size), ih (0 + c.utf8Size)]
    omega

theorem byteLen_cons (c : Char) (s : Str) : byteLen (c :: s) = byteLen s + c.utf8Size := by
  simp only [byteLen, List.foldl_cons]
  rw [byteLen_aux]
  simp only [byteLen]
  omega

theorem flagsL_length (text : Str) : (flagsL text).length = byteLen text := by
  induction text with
  | nil => rfl
  | cons c cs ih =>
    by_cases hc : c = '\n'
    · subst hc
      rw [flagsL_cons_nl, byteLen_cons, List.length_cons, ih]; rfl
    · rw [flagsL_cons_other c cs hc, byteLen_cons, List.length_append, List.length_replicate, ih]; omega

theorem nlFlags_size (text : Str) : (nlFlags text).size = byteLen text := by
  rw [nlFlags_eq, List.size_toArray, flagsL_length]

theorem byteLen_beq_zero (s : Str) : (byteLen s == 0) = s.isEmpty := by
  cases s with
  | nil => rfl
  | cons c cs =>
    have : 0 < c.utf8Size := Char.utf8Size_pos c
    rw [byteLen_cons]
    simp only [List.isEmpty_cons, beq_eq_false_iff_ne, ne_eq]
    omega

theorem lens_flagsL (text : Str) : lens (flagsL text) = (splitOn '\n' text).map byteLen := by
  induction text with
  | nil => simp [flagsL, lens, splitOn, byteLen]
  | cons c cs ih =>
    have hne := splitOn_ne_nil '\n' cs
    by_cases hc : c = '\n'
    · subst hc
      rw [flagsL_cons_nl, splitOn_cons_sep]
      show 0 :: lens (flagsL cs) = _
      rw [ih]
      simp [byteLen]
    · rw [flagsL_cons_other c cs hc, lens_replicate_append, ih, splitOn_cons_ne '\n' c cs hc]
      cases hs : splitOn '\n' cs with
      | nil => exact absurd hs hne
      | cons h t =>
        simp only [List.map_cons, List.headD_cons, List.tail_cons]
        rw [byteLen_cons]

theorem rawLens_flagsL (text : Str) : rawLens (flagsL text) = (rawLines text).map byteLen := by
  unfold rawLens rawLines
  rw [lens_flagsL]
  have hne := splitOn_ne_nil '\n' text
  generalize splitOn '\n' text = ps at *
  have hlast : ((ps.map byteLen).getLast? == some 0) = (ps.getLast? == some []) := by
    rw [List.getLast?_map]
    cases ps.getLast? with
    | none => rfl
    | some r => simp [byteLen_beq_zero]
  simp only [hlast]
  split
  · simp [List.map_dropLast]
  · rfl

theorem segs_are_rawLines (text : Str) (maxTok n : Nat) (hn : byteLen text < n) :
    ((segs (nlFlags text) maxTok n 0).1.map (·.2), (segs (nlFlags text) maxTok n 0).2) =
      cutLens maxTok ((rawLines text).map byteLen) := by
  rw [nlFlags_eq, ← rawLens_flagsL]
  have := segs_eq_cut (flagsL text) maxTok n 0 (Nat.zero_le _) (by rw [flagsL_length]; omega)
  simpa using this

theorem scanAll_rawLines (text : Str) (n : Nat) (hn : byteLen text < n) :
    ((scanAll goCfg (nlFlags text) n {}).1.map (·.2), (scanAll goCfg (nlFlags text) n {}).2.tooLong) =
      cutLens 65536 ((rawLines text).map byteLen) ∧
    ((scanAll goCfg (nlFlags text) n {}).2.tooLong = false → (scanAll goCfg (nlFlags text) n {}).2.off = byteLen text) := by
  have hsize := nlFlags_size text
  have h := scanAll_eq_segs goCfg (nlFlags text) (by decide) (by decide) n {} (Ok.init _ _)
    (by show (nlFlags text).size - 0 < n; omega)
  rw [show ({} : Scan).base = 0 from rfl] at h
  refine ⟨?_, hsize ▸ h.2.2⟩
  rw [h.1, h.2.1]
  exact segs_are_rawLines text 65536 n hn

end Fabio.Lemmas.C02Lines
