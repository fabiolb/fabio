import Fabio.Model.C04F64
import Fabio.Lemmas.C04Weights
/-!
`weighTargets` as coded (`Model/C04F64.lean`) in an arbitrary arithmetic `A`: the sums it computes are
non-negative when `A` rounds non-negative numbers to non-negative numbers, exact arithmetic gives the sum of the ℚ
model, and `weighA` maps the closed form `effA` over the targets.
-/
namespace Fabio.Lemmas.C04
open Fabio Fabio.Model.Route Fabio.Model.C04

theorem sumLoop_exact (fx : List Rat) : sumLoop Arith.exact fx = some (fx.foldl (· + ·) 0) :=
  List.foldl_hom some (fun _ _ => rfl)

theorem unitSum_of_some {A : Arith} {fx : List Rat} {s : Rat} (h : sumLoop A fx = some s) : unitSum A fx = (1, s) := by
  rw [unitSum, h]

/-- the sum overflowed -/
theorem unitSum_of_none {A : Arith} {fx : List Rat} (h : sumLoop A fx = none) :
    unitSum A fx = (maxLoop fx, relSumLoop A (maxLoop fx) fx) := by
  rw [unitSum, h]

theorem unitSum_exact (ts : List Target) :
    unitSum Arith.exact ((ts.filter (fun t => decide (0 < t.fixedWeight))).map (·.fixedWeight)) = (1, sumFixed ts) :=
  unitSum_of_some (by rw [sumLoop_exact, List.foldl_map]; rfl)

theorem sumLoop_nonneg (A : Arith) (hA : ∀ q, 0 ≤ q → 0 ≤ A.rnd q) (fx : List Rat) (hfx : ∀ f ∈ fx, 0 ≤ f)
    (s : Rat) (h : sumLoop A fx = some s) : 0 ≤ s := by
  unfold sumLoop at h
  refine List.foldlRecOn (motive := fun acc => ∀ s, acc = some s → 0 ≤ s) fx _ ?_ ?_ s h
  · intro s h; cases h; exact le_refl 0
  · intro acc ih f hf s h
    cases acc with
    | none => cases h
    | some a =>
      simp only at h
      split at h
      · cases h
      · cases h; exact hA _ (add_nonneg (ih a rfl) (hfx f hf))

theorem maxLoop_nonneg (fx : List Rat) : 0 ≤ maxLoop fx := by
  unfold maxLoop
  refine List.foldlRecOn (motive := fun m => 0 ≤ m) fx _ (le_refl 0) ?_
  intro m hm f _
  split
  · rename_i h; exact le_trans hm (le_of_lt h)
  · exact hm

theorem relSumLoop_nonneg (A : Arith) (hA : ∀ q, 0 ≤ q → 0 ≤ A.rnd q) (u : Rat) (hu : 0 ≤ u) (fx : List Rat)
    (hfx : ∀ f ∈ fx, 0 ≤ f) : 0 ≤ relSumLoop A u fx := by
  unfold relSumLoop
  exact List.foldlRecOn (motive := fun s => 0 ≤ s) fx _ (le_refl 0)
    (fun s hs f hf => hA _ (add_nonneg hs (hA _ (div_nonneg (hfx f hf) hu))))

theorem unitSum_nonneg (A : Arith) (hA : ∀ q, 0 ≤ q → 0 ≤ A.rnd q) (fx : List Rat) (hfx : ∀ f ∈ fx, 0 ≤ f) :
    0 ≤ (unitSum A fx).1 ∧ 0 ≤ (unitSum A fx).2 := by
  cases hs : sumLoop A fx with
  | some s => rw [unitSum_of_some hs]; exact ⟨zero_le_one, sumLoop_nonneg A hA fx hfx s hs⟩
  | none =>
    rw [unitSum_of_none hs]
    exact ⟨maxLoop_nonneg fx, relSumLoop_nonneg A hA _ (maxLoop_nonneg fx) fx hfx⟩

/-- `dynamic`, the share of a target without a fixed weight, after its clamp at 0; `s` is the sum `unitSum` returns -/
def dynA (A : Arith) (ts : List Target) (s : Rat) : Rat :=
  let d := A.rnd (A.rnd (1 - s) / ((ts.length - nFixed ts : Nat) : Rat))
  if d < 0 then 0 else d

/-- `us` is the pair `(unit, sumFixed)` that `unitSum` returns -/
def effA (A : Arith) (ts : List Target) (us : Rat × Rat) (t : Target) : Rat :=
  if nFixed ts = 0 then A.rnd (1 / (ts.length : Rat))
  else if 0 < t.fixedWeight then
    A.rnd (A.rnd (t.fixedWeight / us.1) / (if 1 < us.2 ∨ (nFixed ts = ts.length ∧ us.2 < 1) then us.2 else 1))
  else dynA A ts us.2

section cases
variable {A : Arith} {ts : List Target} {us : Rat × Rat} {t : Target}

theorem effA_of_no_fixed (h : nFixed ts = 0) : effA A ts us t = A.rnd (1 / (ts.length : Rat)) := if_pos h

theorem effA_of_fixed (h : nFixed ts ≠ 0) (hf : 0 < t.fixedWeight) :
    effA A ts us t =
      A.rnd (A.rnd (t.fixedWeight / us.1) / (if 1 < us.2 ∨ (nFixed ts = ts.length ∧ us.2 < 1) then us.2 else 1)) := by
  rw [effA, if_neg h, if_pos hf]

theorem effA_of_dynamic (h : nFixed ts ≠ 0) (hf : ¬ 0 < t.fixedWeight) : effA A ts us t = dynA A ts us.2 := by
  rw [effA, if_neg h, if_neg hf]

end cases

theorem weighWith_eq (A : Arith) (ts : List Target) (us : Rat × Rat) :
    weighWith A ts us = ts.map (fun t => { t with weight := effA A ts us t }) := by
  unfold weighWith effA
  by_cases h : nFixed ts = 0
  · simp only [h, if_true]
  · simp only [h, if_false]
    apply List.map_congr_left
    intro t _
    split <;> rfl

theorem weighA_eq (A : Arith) (ts : List Target) :
    weighA A ts = ts.map (fun t =>
      { t with
        weight := effA A ts (unitSum A ((ts.filter (fun t => decide (0 < t.fixedWeight))).map (·.fixedWeight))) t }) :=
  weighWith_eq A ts _

theorem dynA_nonneg (A : Arith) (ts : List Target) (s : Rat) : 0 ≤ dynA A ts s := by
  unfold dynA
  simp only
  split
  · exact le_refl _
  · rename_i h; exact not_lt.mp h

theorem effA_nonneg (A : Arith) (hA : ∀ q, 0 ≤ q → 0 ≤ A.rnd q) (ts : List Target) (us : Rat × Rat)
    (hu1 : 0 ≤ us.1) (hu2 : 0 ≤ us.2) (t : Target) : 0 ≤ effA A ts us t := by
  by_cases h0 : nFixed ts = 0
  · rw [effA_of_no_fixed h0]; exact hA _ (div_nonneg zero_le_one (Nat.cast_nonneg _))
  by_cases hf : 0 < t.fixedWeight
  · rw [effA_of_fixed h0 hf]
    refine hA _ (div_nonneg (hA _ (div_nonneg (le_of_lt hf) hu1)) ?_)
    split
    · exact hu2
    · exact zero_le_one
  · rw [effA_of_dynamic h0 hf]; exact dynA_nonneg A ts _

theorem effA_exact (ts : List Target) (t : Target) : effA Arith.exact ts (1, sumFixed ts) t = eff ts t := by
  by_cases h : nFixed ts = 0
  · rw [effA_of_no_fixed h, eff_of_no_fixed t h]; rfl
  by_cases hf : 0 < t.fixedWeight
  · rw [effA_of_fixed h hf, eff_of_fixed h hf]
    -- the code divides by `norm`, the ℚ model multiplies with its reciprocal
    show t.fixedWeight / 1 / _ = _
    by_cases hs : 1 < sumFixed ts ∨ (nFixed ts = ts.length ∧ sumFixed ts < 1)
    · rw [if_pos hs, scaleOf_of_scaled ts hs, div_one, mul_one_div]
    · rw [if_neg hs, scaleOf_of_not ts hs, div_one, div_one, mul_one]
  · rw [effA_of_dynamic h hf, eff_of_dynamic h hf]; rfl

theorem weighA_length (A : Arith) (ts : List Target) : (weighA A ts).length = ts.length := by
  rw [weighA_eq, List.length_map]

theorem weighA_ne_nil (A : Arith) (ts : List Target) (h : ts ≠ []) : weighA A ts ≠ [] :=
  fun h0 => h (List.eq_nil_of_length_eq_zero (by rw [← weighA_length A ts, h0]; rfl))

end Fabio.Lemmas.C04
