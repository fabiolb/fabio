import Fabio.Lemmas.C05Text
import Fabio.Lemmas.C05Main
/-!
A general fact about the routing table (`Model/Route.lean`), not about `routecmd.build`: a list of `route add`
definitions each of which an empty table accepts (`Addable`) is accepted as a whole, the table holds a target for every
definition and nothing else (`newTable_adds`).
-/
namespace Fabio.Lemmas.C14
open Fabio Fabio.Model.Route Fabio.Model.C05Spec Fabio.Model.Parse Fabio.Lemmas.C05Text
open Fabio.Lemmas.Route (upd_same upd_other of_map_eq_ok ok_of_map_eq)

/-- what an empty table checks before it accepts a `route add` -/
structure Addable (env : Env) (d : RouteDef) : Prop where
  cmd : d.cmd = .add
  src : d.src ≠ []
  dst : d.dst ≠ []
  url : ∃ u, env.normURL d.dst = some u
  globHost : env.globOK (key d.src).1 = true
  globPath : env.globOK (key d.src).2 = true

theorem specAdd_of_addable {env : Env} {d : RouteDef} (S : Spec) (hd : Addable env d) {u : Str}
    (hu : env.normURL d.dst = some u) : specAdd env S d =
      .ok (upd S (key d.src).1 (key d.src).2 (C05Add.addTs (S (key d.src).1 (key d.src).2) (newTarget d u))) :=
  (C05Add.specAdd_ok_iff rfl).2 ⟨u, hd.src, hd.dst, hu, hd.globHost, fun _ => hd.globPath, rfl⟩

/-- the empty table accepts what the spec machine accepts in the empty state, where both globs are compiled -/
theorem addRoute_nil_iff (env : Env) (d : RouteDef) (hc : d.cmd = .add) :
    (∃ t, addRoute env [] d = .ok t) ↔ Addable env d := by
  have hr := C05Add.add_refines (env := env) (d := d) C05Add.inv_nil C05Main.good_nil.hosts
  constructor
  · rintro ⟨t, h⟩
    obtain ⟨u, hs, hd, hu, hgh, hgp, _⟩ := (C05Add.specAdd_ok_iff rfl).1 (ok_of_map_eq hr h)
    exact ⟨hc, hs, hd, ⟨u, hu⟩, hgh, hgp rfl⟩
  · intro h
    obtain ⟨u, hu⟩ := h.url
    obtain ⟨t, ht, _⟩ := of_map_eq_ok (hr.trans (specAdd_of_addable _ h hu))
    exact ⟨t, ht⟩

/-- a target without its computed share -/
def core (x : Target) : Target := { x with weight := 0 }

/-- `present` is up to `addTarget`'s duplicate test (same service, URL, fixed weight and tags); `asked` compares all
of a target but its computed share, under the (host, path) of the definition's source. -/
structure Exact (env : Env) (S : Spec) (done : List RouteDef) : Prop where
  present : ∀ d ∈ done, ∃ u, env.normURL d.dst = some u ∧
    isDup (S (key d.src).1 (key d.src).2) (newTarget d u) = true
  asked : ∀ h p x, x ∈ S h p → ∃ d ∈ done, ∃ u, env.normURL d.dst = some u ∧ key d.src = (h, p) ∧
    core x = core (newTarget d u)

theorem specAdd_step {env : Env} {S : Spec} {done : List RouteDef} {d : RouteDef}
    (hE : Exact env S done) (hd : Addable env d) :
    ∃ S', specAdd env S d = .ok S' ∧ Exact env S' (done ++ [d]) := by
  obtain ⟨u, hu⟩ := hd.url
  refine ⟨_, specAdd_of_addable S hd hu, ?_, ?_⟩
  · intro d' hd'
    rcases List.mem_append.1 hd' with h | h
    · obtain ⟨u', hu', hp⟩ := hE.present d' h
      exact ⟨u', hu', C05Add.upd_rel (R := fun _ _ a b => isDup a _ = true → isDup b _ = true) (fun _ _ _ h => h)
        (C05Add.isDup_addTs_of_isDup _) _ _ hp⟩
    · simp only [List.mem_singleton] at h; subst h
      exact ⟨u, hu, by rw [upd_same]; exact C05Add.isDup_addTs _ _⟩
  · intro h p x hx
    by_cases hk : h = (key d.src).1 ∧ p = (key d.src).2
    · obtain ⟨rfl, rfl⟩ := hk
      rw [upd_same] at hx
      obtain ⟨z, hz | rfl, hc⟩ := C05Add.mem_addTs core (fun _ _ => rfl) hx
      · obtain ⟨d', hd', u', hu', hk', hc'⟩ := hE.asked _ _ z hz
        exact ⟨d', List.mem_append_left _ hd', u', hu', hk', hc.symm.trans hc'⟩
      · exact ⟨d, by simp, u, hu, rfl, hc.symm⟩
    · rw [upd_other _ _ _ _ _ _ hk] at hx
      obtain ⟨d', hd', r⟩ := hE.asked h p x hx
      exact ⟨d', List.mem_append_left _ hd', r⟩

theorem specFold_adds {env : Env} (defs : List RouteDef) : ∀ (S : Spec) (done : List RouteDef),
    Exact env S done → (∀ d ∈ defs, Addable env d) →
    ∃ S', defs.foldlM (specApply env) S = .ok S' ∧ Exact env S' (done ++ defs) := by
  induction defs with
  | nil => intro S done hE _; exact ⟨S, rfl, by simpa using hE⟩
  | cons d ds ih =>
    intro S done hE h
    have hd := h d (by simp)
    obtain ⟨S1, h1, hE1⟩ := specAdd_step hE hd
    obtain ⟨S2, h2, hE2⟩ := ih S1 (done ++ [d]) hE1 (fun x hx => h x (List.mem_cons_of_mem _ hx))
    refine ⟨S2, ?_, by simpa using hE2⟩
    rw [List.foldlM_cons]
    have : specApply env S d = .ok S1 := by unfold specApply; rw [hd.cmd]; exact h1
    rw [this]
    exact h2

theorem newTable_adds {env : Env} (defs : List RouteDef) (h : ∀ d ∈ defs, Addable env d) :
    ∃ t, newTable env defs = .ok t ∧ Exact env (abs t) defs := by
  obtain ⟨S, hS, hE⟩ := specFold_adds defs specEmpty []
    ⟨fun _ h => (nomatch h), fun _ _ _ h => (nomatch h)⟩ h
  obtain ⟨t, hn, rfl⟩ := of_map_eq_ok ((C05Main.refines_spec defs).trans hS)
  exact ⟨t, hn, by simpa using hE⟩

end Fabio.Lemmas.C14
