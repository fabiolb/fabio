import Fabio.Lemmas.C04Weights
import Fabio.Model.C04F64
import Mathlib.Algebra.Order.Ring.Abs
/-!
Slot part: the sign of the slot count in every arithmetic that rounds non-negative numbers to non-negative
numbers (`slotCount` of the ℚ model is the instance `Arith.exact`), the error of the slot rule on an approximate
product, and the total over ℚ, which is within the number of targets of `10⁴`.
-/
namespace Fabio.Lemmas.C04
open Fabio Fabio.Model.Route Fabio.Model.C04

theorem truncZ_of_nonneg (q : Rat) (h : 0 ≤ q) : truncZ q = q.floor := by simp [truncZ, h]

theorem floor_nonneg_of_nonneg (q : Rat) (h : 0 ≤ q) : 0 ≤ q.floor := by
  have := (Rat.le_floor_iff (x := 0) (a := q)).mpr (by simpa using h)
  exact this

theorem floor_zero : Rat.floor 0 = 0 := Rat.floor_intCast 0

theorem toNat_cast {z : Int} (h : 0 ≤ z) : ((z.toNat : Nat) : Rat) = ((z : Int) : Rat) := by
  exact_mod_cast congrArg (fun z : Int => (z : Rat)) (Int.toNat_of_nonneg h)

theorem slotCountA_nonneg (A : Arith) (hA : ∀ q, 0 ≤ q → 0 ≤ A.rnd q) (w : Rat) (hw : 0 ≤ w) :
    0 ≤ slotCountA A w := by
  have hr : 0 ≤ A.rnd ((maxSlots : Rat) * w) := hA _ (mul_nonneg (by simp [maxSlots]) hw)
  unfold slotCountA
  simp only
  split
  · decide
  · rw [truncZ_of_nonneg _ hr]; exact floor_nonneg_of_nonneg _ hr

theorem slotCountA_pos (A : Arith) (hA : ∀ q, 0 ≤ q → 0 ≤ A.rnd q) (w : Rat) (hw : 0 < w) :
    1 ≤ slotCountA A w := by
  have h0 := slotCountA_nonneg A hA w (le_of_lt hw)
  unfold slotCountA at h0 ⊢
  simp only at h0 ⊢
  split
  · decide
  · rename_i h
    rw [if_neg h] at h0
    have : truncZ (A.rnd ((maxSlots : Rat) * w)) ≠ 0 := fun hz => h ⟨hz, hw⟩
    omega

theorem slotCountA_zero (A : Arith) (h0 : A.rnd 0 = 0) : slotCountA A 0 = 0 := by
  unfold slotCountA
  simp only [mul_zero, h0, truncZ_of_nonneg _ (le_refl _), floor_zero, lt_irrefl, and_false, if_false]

theorem slotCount_nonneg (w : Rat) (hw : 0 ≤ w) : 0 ≤ slotCount w :=
  slotCountA_nonneg Arith.exact (fun _ h => h) w hw

theorem slotCount_pos (w : Rat) (hw : 0 < w) : 1 ≤ slotCount w :=
  slotCountA_pos Arith.exact (fun _ h => h) w hw

theorem slotCount_zero : slotCount 0 = 0 := slotCountA_zero Arith.exact rfl

/-- `x` is the product `maxSlots * w` as computed, `y` the exact one, `p` is `0 < w`: over ℚ `ε = 0`, in float64 `ε`
bounds the rounding of the product. -/
theorem slot_rule_error (x y ε : Rat) (p : Prop) [Decidable p] (hp : p → 0 < y) (h : |x - y| ≤ ε) :
    |((if x.floor = 0 ∧ p then 1 else x.floor : Int) : Rat) - y| < 1 + ε := by
  have hfl := Rat.floor_le x
  have hlt : x < (x.floor : Rat) + 1 := by exact_mod_cast Rat.lt_floor_add_one x
  obtain ⟨e1, e2⟩ := abs_le.mp h
  by_cases hb : x.floor = 0 ∧ p
  · have hy := hp hb.2
    rw [hb.1, Int.cast_zero, zero_add] at hlt
    rw [if_pos hb, Int.cast_one, abs_lt]
    exact ⟨by linarith only [hlt, e1], by linarith only [hy, e1, e2]⟩
  · rw [if_neg hb, abs_lt]
    exact ⟨by linarith only [hlt, e1], by linarith only [hfl, e2]⟩

theorem maxSlots_cast : (maxSlots : Rat) = 10000 := by norm_num [maxSlots]

theorem slotCount_abs (w : Rat) (hw : 0 ≤ w) : |(slotCount w : Rat) - 10000 * w| < 1 := by
  have hx : (0 : Rat) ≤ 10000 * w := mul_nonneg (by norm_num) hw
  have := slot_rule_error _ _ 0 (0 < w) (mul_pos (by norm_num : (0 : Rat) < 10000)) (by rw [sub_self, abs_zero])
  rw [add_zero, ← truncZ_of_nonneg _ hx] at this
  unfold slotCount
  rw [maxSlots_cast]
  exact this

theorem slots_sum_near (ws : List Rat) (h : ∀ w ∈ ws, 0 ≤ w) :
    |(((ws.map slotCount).sum : Int) : Rat) - 10000 * ws.sum| ≤ (ws.length : Rat) := by
  induction ws with
  | nil => simp
  | cons w rest ih =>
    have h1 := slotCount_abs w (h w List.mem_cons_self)
    have h2 := ih (fun x hx => h x (List.mem_cons_of_mem _ hx))
    simp only [List.map_cons, List.sum_cons, List.length_cons]
    push_cast
    have : (slotCount w : Rat) + (((rest.map slotCount).sum : Int) : Rat) - 10000 * (w + rest.sum)
        = ((slotCount w : Rat) - 10000 * w) + ((((rest.map slotCount).sum : Int) : Rat) - 10000 * rest.sum) := by ring
    rw [this]
    calc |_ + _| ≤ |(slotCount w : Rat) - 10000 * w| + |(((rest.map slotCount).sum : Int) : Rat) - 10000 * rest.sum| := abs_add_le _ _
      _ ≤ 1 + (rest.length : Rat) := add_le_add (le_of_lt h1) h2
      _ = (rest.length : Rat) + 1 := add_comm _ _

end Fabio.Lemmas.C04
