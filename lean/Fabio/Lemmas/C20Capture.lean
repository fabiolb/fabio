import Fabio.Model.C20Capture
namespace Fabio.Lemmas.C20Capture
open Fabio.Model.C20Capture

theorem foldl_spec (flusher : Bool) (ops : List RWOp) (c : Capture) :
    (ops.foldl (captureStep flusher) c).forwarded = c.forwarded ++ visible flusher ops ∧
    (ops.foldl (captureStep flusher) c).size = c.size + accepted ops ∧
    (ops.foldl (captureStep flusher) c).code = ((statuses ops).getLast?).getD c.code := by
  induction ops generalizing c with
  | nil => simp [visible, accepted, statuses]
  | cons op rest ih =>
    simp only [List.foldl_cons]
    obtain ⟨h1, h2, h3⟩ := ih (captureStep flusher c op)
    rw [h1, h2, h3]
    cases op with
    | header code =>
      refine ⟨by simp [captureStep, visible], by simp [captureStep, accepted], ?_⟩
      simp [captureStep, statuses, List.getLast?_cons]
    | write o a =>
      refine ⟨by simp [captureStep, visible], ?_, by simp [captureStep, statuses]⟩
      simp [captureStep, accepted]; omega
    | flush =>
      cases flusher <;> simp [captureStep, visible, accepted, statuses]
    | set k v =>
      exact ⟨by simp [captureStep, visible], by simp [captureStep, accepted], by simp [captureStep, statuses]⟩

theorem captureRun_spec (flusher : Bool) (ops : List RWOp) :
    (captureRun flusher ops).forwarded = visible flusher ops ∧ (captureRun flusher ops).size = accepted ops ∧
    (captureRun flusher ops).code = ((statuses ops).getLast?).getD 0 := by
  simpa [captureRun] using foldl_spec flusher ops {}

end Fabio.Lemmas.C20Capture
