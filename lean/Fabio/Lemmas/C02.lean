import Fabio.Model.C02
import Fabio.Lemmas.Basic
/-!
C02 (core Lean only): the invariants of the cell machine (per thread, a lookup in flight, a single writer —
`one_writer_system`, of which the text backends and the custom backend are instances) and of the `watchBackend`
step machine. `Model/C01.lean` transcribes that loop a second time; `Lemmas/C01.lean` maps its machine onto `WB`
(`toWB_stepOut`) and takes what it needs about an iteration from here.
-/
namespace Fabio.Lemmas.C02
open Fabio Fabio.Model.C02

section cell
variable {T Req Ans : Type}

def ThreadOk (lk : Lk T Req Ans) (h : List T) : Thread T Req Ans → Prop
  | .reader _ cur done =>
      (∀ f, cur = some f → h[f.idx]? = some f.snap ∧ ∀ r ∈ done, r.idx ≤ f.idx) ∧
      (∀ r ∈ done, ∃ t, h[r.idx]? = some t ∧ r.ans = lk.lookupPure t r.req) ∧
      List.Pairwise (· ≤ ·) (done.map (·.idx))
  | .writer _ => True

theorem ThreadOk.mono (lk : Lk T Req Ans) {h : List T} (l : List T) {th : Thread T Req Ans}
    (ok : ThreadOk lk h th) : ThreadOk lk (h ++ l) th := by
  cases th with
  | writer todo => trivial
  | reader todo cur done =>
    obtain ⟨h1, h2, h3⟩ := ok
    refine ⟨fun f hf => ⟨getElem?_append_some l (h1 f hf).1, (h1 f hf).2⟩, fun r hr => ?_, h3⟩
    obtain ⟨t, ht, ha⟩ := h2 r hr
    exact ⟨t, getElem?_append_some l ht, ha⟩

theorem ThreadOk.results {lk : Lk T Req Ans} {h : List T} {th : Thread T Req Ans} (ok : ThreadOk lk h th) :
    (∀ r ∈ th.results, ∃ t, h[r.idx]? = some t ∧ r.ans = lk.lookupPure t r.req) ∧
    List.Pairwise (· ≤ ·) (th.results.map (·.idx)) := by
  cases th with
  | writer todo => exact ⟨fun r hr => (by cases hr), List.Pairwise.nil⟩
  | reader todo cur done => exact ⟨ok.2.1, ok.2.2⟩

def CellOk (c : Cell T) : Prop := c.hist[c.hist.length - 1]? = some c.val

theorem CellOk.init (t0 : T) : CellOk (Cell.init t0) := by simp [CellOk, Cell.init]

theorem CellOk.store {c : Cell T} (t : T) : CellOk (c.store t) := by
  simp [CellOk, Cell.store]

theorem fresh_ok (lk : Lk T Req Ans) (h : List T) {th : Thread T Req Ans} (hf : th.fresh = true) :
    ThreadOk lk h th := by
  cases th with
  | writer todo => trivial
  | reader todo cur done =>
    cases cur with
    | some f => simp [Thread.fresh] at hf
    | none =>
      cases done with
      | cons r rs => simp [Thread.fresh] at hf
      | nil => exact ⟨fun f hf => (by cases hf), fun r hr => (by cases hr), by simp⟩

def answerOf (lk : Lk T Req Ans) (f : InFlight T Req) : Result Req Ans :=
  { req := f.req, idx := f.idx, ans := lk.lookupPure f.snap f.req }

theorem reader_step (lk : Lk T Req Ans) (c : Cell T) (a : List Req) (b : Option (InFlight T Req))
    (d : List (Result Req Ans)) :
    ((Thread.reader a b d).step lk c).1 = c ∧
      ∃ a' b' e, ((Thread.reader a b d).step lk c).2 = .reader a' b' (d ++ e) := by
  cases b with
  | some f =>
    cases hl : f.left with
    | succ n => exact ⟨by simp [Thread.step, hl], a, some { f with left := n }, [], by simp [Thread.step, hl]⟩
    | zero => exact ⟨by simp [Thread.step, hl], a, none, [answerOf lk f], by simp [Thread.step, hl, answerOf]⟩
  | none =>
    cases a with
    | nil => exact ⟨rfl, [], none, [], by simp [Thread.step]⟩
    | cons r rest => exact ⟨rfl, rest, _, [], by simp [Thread.step]; rfl⟩

theorem step_ok (lk : Lk T Req Ans) (c : Cell T) (th : Thread T Req Ans) (hc : CellOk c)
    (ok : ThreadOk lk c.hist th) :
    CellOk (th.step lk c).1 ∧
    (∃ l, (th.step lk c).1.hist = c.hist ++ l ∧ ∀ t ∈ l, t ∈ th.stores) ∧
    ThreadOk lk (th.step lk c).1.hist (th.step lk c).2 ∧
    (∀ t ∈ (th.step lk c).2.stores, t ∈ th.stores) := by
  cases th with
  | writer todo =>
    cases todo with
    | nil => exact ⟨hc, ⟨[], by simp [Thread.step], by simp⟩, trivial, fun t ht => ht⟩
    | cons o rest =>
      cases o with
      | none =>
        refine ⟨hc, ⟨[], by simp [Thread.step, Cell.setTable], by simp⟩, trivial, ?_⟩
        intro t ht; simpa [Thread.step, Thread.stores] using ht
      | some t =>
        refine ⟨CellOk.store t, ⟨[t], by simp [Thread.step, Cell.setTable, Cell.store], ?_⟩, trivial, ?_⟩
        · intro x hx; simp at hx; subst hx; simp [Thread.stores]
        · intro x hx
          simp [Thread.step, Thread.stores] at hx ⊢
          exact Or.inr hx
  | reader todo cur done =>
    obtain ⟨h1, h2, h3⟩ := ok
    obtain ⟨hcell, a', b', d', hth⟩ := reader_step lk c todo cur done
    refine ⟨by rw [hcell]; exact hc, ⟨[], by rw [hcell, List.append_nil], by simp⟩, ?_, fun t ht => by rw [hth] at ht; cases ht⟩
    rw [hcell]
    cases cur with
    | some f =>
      cases hl : f.left with
      | succ n =>
        simp only [Thread.step, hl]
        exact ⟨fun g hg => by cases hg; exact h1 f rfl, h2, h3⟩
      | zero =>
        simp only [Thread.step, hl]
        refine ⟨fun g hg => (by cases hg), fun r hr => ?_, ?_⟩
        · rcases List.mem_append.mp hr with hr | hr
          · exact h2 r hr
          · simp at hr; subst hr
            exact ⟨f.snap, (h1 f rfl).1, rfl⟩
        · rw [List.map_append, List.pairwise_append]
          refine ⟨h3, by simp, fun a ha b hb => ?_⟩
          simp at hb; subst hb
          obtain ⟨r, hr, rfl⟩ := List.mem_map.mp ha
          exact (h1 f rfl).2 r hr
    | none =>
      cases todo with
      | nil => exact ⟨h1, h2, h3⟩
      | cons r rest =>
        -- the load: the snapshot is the newest entry of the history, so no earlier result has a larger index
        simp only [Thread.step]
        refine ⟨fun g hg => ?_, h2, h3⟩
        cases hg
        refine ⟨by simpa [Cell.load, CellOk] using hc, fun q hq => ?_⟩
        obtain ⟨t, ht, _⟩ := h2 q hq
        have := (List.getElem?_eq_some_iff.mp ht).1
        simp [Cell.load]; omega

theorem stepAt_threads (lk : Lk T Req Ans) (s : Sys T Req Ans) (i j : Nat) :
    (s.stepAt lk i).threads[j]? =
      if j = i then s.threads[i]?.map (fun th => (th.step lk s.cell).2) else s.threads[j]? := by
  unfold Sys.stepAt
  cases hi : s.threads[i]? with
  | none => by_cases h : j = i <;> simp [h, hi]
  | some th => simp [List.getElem?_set, (List.getElem?_eq_some_iff.mp hi).1, eq_comm]

theorem stepAt_cell (lk : Lk T Req Ans) {s : Sys T Req Ans} {i : Nat} {th : Thread T Req Ans}
    (hi : s.threads[i]? = some th) : (s.stepAt lk i).cell = (th.step lk s.cell).1 := by
  unfold Sys.stepAt; rw [hi]

theorem stepAt_none (lk : Lk T Req Ans) {s : Sys T Req Ans} {i : Nat} (hi : s.threads[i]? = none) :
    s.stepAt lk i = s := by
  unfold Sys.stepAt; rw [hi]

theorem run_inv (lk : Lk T Req Ans) {P : Sys T Req Ans → Prop} (hstep : ∀ s i, P s → P (s.stepAt lk i))
    (sch : List Nat) : ∀ {s : Sys T Req Ans}, P s → P (Sys.run lk sch s) := by
  induction sch with
  | nil => intro s h; exact h
  | cons i sch ih => intro s h; exact ih (hstep s i h)

/-- `S` = the tables the writers were given -/
structure Inv (lk : Lk T Req Ans) (t0 : T) (S : List T) (s : Sys T Req Ans) : Prop where
  cell : CellOk s.cell
  mem : ∀ t ∈ s.cell.hist, t = t0 ∨ t ∈ S
  pend : ∀ th ∈ s.threads, ∀ t ∈ th.stores, t ∈ S
  thr : ∀ th ∈ s.threads, ThreadOk lk s.cell.hist th

theorem Inv.start (lk : Lk T Req Ans) (t0 : T) (ths : List (Thread T Req Ans))
    (hf : ∀ th ∈ ths, th.fresh = true) : Inv lk t0 (ths.flatMap Thread.stores) (Sys.start t0 ths) where
  cell := CellOk.init t0
  mem := by intro t ht; simp [Sys.start, Cell.init] at ht; exact Or.inl ht
  pend := by
    intro th hth t ht
    exact List.mem_flatMap.mpr ⟨th, hth, ht⟩
  thr := fun th hth => fresh_ok lk _ (hf th hth)

theorem Inv.stepAt {lk : Lk T Req Ans} {t0 : T} {S : List T} {s : Sys T Req Ans} (inv : Inv lk t0 S s) (i : Nat) :
    Inv lk t0 S (s.stepAt lk i) ∧ ∃ l, (s.stepAt lk i).cell.hist = s.cell.hist ++ l := by
  unfold Sys.stepAt
  cases hi : s.threads[i]? with
  | none => exact ⟨inv, [], by simp⟩
  | some th =>
    have hmem : th ∈ s.threads := List.mem_of_getElem? hi
    obtain ⟨c1, ⟨l, hl, hls⟩, c3, c4⟩ := step_ok lk s.cell th inv.cell (inv.thr th hmem)
    refine ⟨⟨c1, ?_, ?_, ?_⟩, l, hl⟩
    · intro t ht
      simp only [hl] at ht
      rcases List.mem_append.mp ht with ht | ht
      · exact inv.mem t ht
      · exact Or.inr (inv.pend th hmem t (hls t ht))
    · intro th' hth' t ht
      rcases List.mem_or_eq_of_mem_set hth' with h | h
      · exact inv.pend th' h t ht
      · subst h; exact inv.pend th hmem t (c4 t ht)
    · intro th' hth'
      rcases List.mem_or_eq_of_mem_set hth' with h | h
      · simp only [hl]; exact (inv.thr th' h).mono lk l
      · subst h; exact c3

theorem Inv.run {lk : Lk T Req Ans} {t0 : T} {S : List T} (sch : List Nat) {s : Sys T Req Ans} (inv : Inv lk t0 S s) :
    Inv lk t0 S (Sys.run lk sch s) ∧ ∃ l, (Sys.run lk sch s).cell.hist = s.cell.hist ++ l := by
  refine run_inv lk (P := fun s' => Inv lk t0 S s' ∧ ∃ l, s'.cell.hist = s.cell.hist ++ l) ?_ sch ⟨inv, [], by simp⟩
  intro s' i ⟨inv', l, hl⟩
  obtain ⟨inv1, l1, h1⟩ := inv'.stepAt i
  exact ⟨inv1, l ++ l1, by rw [h1, hl, List.append_assoc]⟩

theorem run_append (lk : Lk T Req Ans) (a b : List Nat) (s : Sys T Req Ans) :
    Sys.run lk (a ++ b) s = Sys.run lk b (Sys.run lk a s) := by
  induction a generalizing s with
  | nil => rfl
  | cons i a ih => simp [Sys.run, ih]

/-- thread state reachable from "lookup `f` in flight, `done` completed before it" -/
def Fut (lk : Lk T Req Ans) (f : InFlight T Req) (done : List (Result Req Ans)) (th : Thread T Req Ans) : Prop :=
  (∃ todo n, th = .reader todo (some { f with left := n }) done) ∨
  (∃ todo cur more, th = .reader todo cur (done ++ [answerOf lk f] ++ more))

theorem Fut.step (lk : Lk T Req Ans) {f : InFlight T Req} {done : List (Result Req Ans)} {th : Thread T Req Ans}
    (h : Fut lk f done th) (c : Cell T) : Fut lk f done (th.step lk c).2 := by
  rcases h with ⟨todo, n, rfl⟩ | ⟨todo, cur, more, rfl⟩
  · cases n with
    | succ n => exact Or.inl ⟨todo, n, by simp [Thread.step]⟩
    | zero => exact Or.inr ⟨todo, none, [], by simp [Thread.step, answerOf]⟩
  · obtain ⟨_, a', b', e, h⟩ := reader_step lk c todo cur (done ++ [answerOf lk f] ++ more)
    exact Or.inr ⟨a', b', more ++ e, by rw [h, List.append_assoc _ more e]⟩

theorem Fut.run (lk : Lk T Req Ans) {f : InFlight T Req} {done : List (Result Req Ans)} (i : Nat) (sch : List Nat)
    (s : Sys T Req Ans) (h : ∃ th, s.threads[i]? = some th ∧ Fut lk f done th) :
    ∃ th, (Sys.run lk sch s).threads[i]? = some th ∧ Fut lk f done th := by
  refine run_inv lk (P := fun s => ∃ th, s.threads[i]? = some th ∧ Fut lk f done th) (fun s j ⟨th, hth, hf⟩ => ?_) sch h
  rw [stepAt_threads]
  split
  · next hij => subst hij; exact ⟨_, by rw [hth]; rfl, hf.step lk s.cell⟩
  · exact ⟨th, hth, hf⟩

theorem setTable_eq_getD (a : T) (o : Option T) : setTable a o = o.getD a := by cases o <;> rfl

theorem getLast_calls (l : List (Option T)) (t0 : T) :
    (t0 :: l.filterMap id).getLast? = some (l.foldl setTable t0) := by
  rw [List.getLast?_cons]
  exact congrArg some ((foldl_last setTable id id id (fun _ e => by cases e <;> rfl) l t0).trans
    (by rw [Option.map_id_fun]; rfl)).symm

/-- thread `w` is the only writer: the non-nil ones of the calls it has made are the history after the initial table, in
order -/
def OneWriter (t0 : T) (P : List (Option T)) (w : Nat) (s : Sys T Req Ans) : Prop :=
  ∃ done pending, done ++ pending = P ∧ s.cell.hist = t0 :: done.filterMap id ∧
    s.threads[w]? = some (.writer pending) ∧
    ∀ i th, s.threads[i]? = some th → i ≠ w → ∃ a b d, th = Thread.reader a b d

theorem OneWriter.stepAt (lk : Lk T Req Ans) {t0 : T} {P : List (Option T)} {w : Nat} {s : Sys T Req Ans}
    (h : OneWriter t0 P w s) (i : Nat) : OneWriter t0 P w (s.stepAt lk i) := by
  obtain ⟨done, pending, hdp, hh, hw, hrd⟩ := h
  cases hi : s.threads[i]? with
  | none => rw [stepAt_none lk hi]; exact ⟨done, pending, hdp, hh, hw, hrd⟩
  | some th =>
    -- the threads other than `w` stay readers if the one that moved does
    have others : (i ≠ w → ∃ a b d, (th.step lk s.cell).2 = .reader a b d) →
        ∀ j th', (s.stepAt lk i).threads[j]? = some th' → j ≠ w → ∃ a b d, th' = Thread.reader a b d := by
      intro hx j th' hj hne
      rw [stepAt_threads, hi] at hj
      split at hj
      · next hji => cases hj; exact hx (hji ▸ hne)
      · exact hrd j th' hj hne
    by_cases hiw : i = w
    · subst hiw
      rw [hw] at hi; cases hi
      have hthr : (s.stepAt lk i).threads[i]? = some ((Thread.writer pending).step lk s.cell).2 := by
        rw [stepAt_threads, if_pos rfl, hw]; rfl
      cases pending with
      | nil => exact ⟨done, [], hdp, by rw [stepAt_cell lk hw]; exact hh, hthr, others (fun h => absurd rfl h)⟩
      | cons p rest =>
        refine ⟨done ++ [p], rest, by simpa using hdp, ?_, hthr, others (fun h => absurd rfl h)⟩
        rw [stepAt_cell lk hw]
        cases p with
        | none => simpa [Thread.step, Cell.setTable] using hh
        | some t => simp [Thread.step, Cell.setTable, Cell.store, hh]
    · obtain ⟨a, b, d, rfl⟩ := hrd i th hi hiw
      obtain ⟨hc, a', b', e, hth⟩ := reader_step lk s.cell a b d
      refine ⟨done, pending, hdp, ?_, ?_, others (fun _ => ⟨a', b', d ++ e, hth⟩)⟩
      · rw [stepAt_cell lk hi, hc]; exact hh
      · rw [stepAt_threads, if_neg (Ne.symm hiw)]; exact hw

theorem OneWriter.start (t0 : T) (P : List (Option T)) (rs : List (Thread T Req Ans))
    (hr : ∀ th ∈ rs, ∃ a b d, th = Thread.reader a b d) :
    OneWriter t0 P rs.length (Sys.start t0 (rs ++ [.writer P])) := by
  refine ⟨[], P, rfl, rfl, by simp [Sys.start], ?_⟩
  intro i th hi hne
  simp only [Sys.start] at hi
  have hlt : i < rs.length := by
    have := (List.getElem?_eq_some_iff.mp hi).1
    simp at this; omega
  rw [List.getElem?_append_left hlt] at hi
  exact hr th (List.mem_of_getElem? hi)

/-- **Readers and one writer, every schedule.** Request goroutines `rs` that have not started and ONE goroutine making
the `SetTable` calls `P` (nil ones among them): (a) every completed lookup was answered from one entry of the history,
the initial table or a table one of the calls passed; (b) once the writer has made all its calls the cell holds the table
of the last non-nil call. -/
theorem one_writer_system (lk : Lk T Req Ans) (t0 : T) (P : List (Option T)) (rs : List (Thread T Req Ans))
    (hr : ∀ th ∈ rs, ∃ todo, th = Thread.reader todo none []) (sch : List Nat) :
    (∀ th ∈ (Sys.run lk sch (Sys.start t0 (rs ++ [.writer P]))).threads, ∀ r ∈ th.results,
      ∃ t, (Sys.run lk sch (Sys.start t0 (rs ++ [.writer P]))).cell.hist[r.idx]? = some t ∧ (t = t0 ∨ some t ∈ P) ∧
        r.ans = lk.lookupPure t r.req) ∧
    ((∃ th, (Sys.run lk sch (Sys.start t0 (rs ++ [.writer P]))).threads[rs.length]? = some th ∧ th.finished = true) →
      (Sys.run lk sch (Sys.start t0 (rs ++ [.writer P]))).cell.val = P.foldl setTable t0) := by
  have hfresh : ∀ th ∈ rs ++ [Thread.writer P], th.fresh = true := by
    intro th hth
    rcases List.mem_append.mp hth with h | h
    · obtain ⟨todo, rfl⟩ := hr th h; rfl
    · rw [List.mem_singleton.mp h]; rfl
  have inv := (Inv.run sch (Inv.start lk t0 _ hfresh)).1
  obtain ⟨done, pending, hdp, hh, hw, _⟩ := run_inv lk (P := OneWriter t0 P rs.length) (fun _ i h => h.stepAt lk i) sch
    (OneWriter.start t0 P rs (fun th h => by obtain ⟨todo, rfl⟩ := hr th h; exact ⟨_, _, _, rfl⟩))
  generalize Sys.run lk sch (Sys.start t0 (rs ++ [.writer P])) = s at *
  constructor
  · intro th hth r hrr
    obtain ⟨t, ht, ha⟩ := (inv.thr _ hth).results.1 r hrr
    refine ⟨t, ht, ?_, ha⟩
    have hm := List.mem_of_getElem? ht
    rw [hh] at hm
    rcases List.mem_cons.mp hm with h | h
    · exact Or.inl h
    · obtain ⟨o, ho, rfl⟩ := List.mem_filterMap.mp h
      exact Or.inr (hdp ▸ List.mem_append_left _ ho)
  · rintro ⟨th, hth, hfin⟩
    rw [hw] at hth; cases hth
    cases pending with
    | cons x xs => cases hfin
    | nil =>
      rw [List.append_nil] at hdp; subst hdp
      have hc := inv.cell
      unfold CellOk at hc
      rw [← List.getLast?_eq_getElem?, hh, getLast_calls] at hc
      exact (Option.some.inj hc).symm

end cell

section wb
variable {T : Type}

def WBInv (build : Text → Option T) (st : WB T) : Prop := st.lastTable = [] ∨ build st.lastTable = some st.active

theorem nextText_ne_nil (st : WB T) : st.nextText ≠ [] := by
  simp [WB.nextText]

theorem recv_lastTable (st : WB T) (e : Ev) : (st.recv e).lastTable = st.lastTable := by
  cases e <;> rfl

theorem recv_active (st : WB T) (e : Ev) : (st.recv e).active = st.active := by
  cases e <;> rfl

theorem recv_recv (st : WB T) (e : Ev) : (st.recv e).recv e = st.recv e := by
  cases e <;> rfl

theorem WBInv.init (build : Text → Option T) (t0 : T) : WBInv build (WB.init t0) := Or.inl rfl

/-- a text equal to the remembered one is the text the active table was built from: the remembered text is not the
initial `""`, because a concatenation contains the `"\n"` -/
theorem skip_builds {build : Text → Option T} {st : WB T} {e : Ev} (inv : WBInv build st)
    (heq : (st.recv e).nextText = (st.recv e).lastTable) : build st.lastTable = some st.active := by
  have hne : st.lastTable ≠ [] := by
    rw [← recv_lastTable st e, ← heq]; exact nextText_ne_nil _
  exact inv.resolve_left hne

theorem installed_eq_none_iff {build : Text → Option T} {st : WB T} {e : Ev} :
    WB.installed build st e = none ↔
      (st.recv e).nextText = (st.recv e).lastTable ∨ build (st.recv e).nextText = none := by
  unfold WB.installed
  split <;> simp [*]

theorem installed_eq_some_iff {build : Text → Option T} {st : WB T} {e : Ev} {t : T} :
    WB.installed build st e = some t ↔
      (st.recv e).nextText ≠ (st.recv e).lastTable ∧ build (st.recv e).nextText = some t := by
  unfold WB.installed
  split <;> simp [*]

theorem installed_recv (build : Text → Option T) (st : WB T) (e : Ev) :
    WB.installed build (st.recv e) e = WB.installed build st e := by
  unfold WB.installed; rw [recv_recv]

theorem step_eq (build : Text → Option T) (st : WB T) (e : Ev) :
    WB.step build st e = match WB.installed build st e with
      | none => st.recv e
      | some t => { st.recv e with active := t, lastTable := (st.recv e).nextText } := by
  unfold WB.step WB.installed
  by_cases h : (st.recv e).nextText = (st.recv e).lastTable
  · simp only [if_pos h]
  · simp only [if_neg h]
    cases build (st.recv e).nextText <;> rfl

theorem step_cfg (build : Text → Option T) (st : WB T) (e : Ev) :
    (WB.step build st e).svccfg = (st.recv e).svccfg ∧ (WB.step build st e).mancfg = (st.recv e).mancfg := by
  rw [step_eq]
  cases WB.installed build st e <;> exact ⟨rfl, rfl⟩

theorem step_installed (build : Text → Option T) (st : WB T) (e : Ev) :
    (WB.step build st e).active = (WB.installed build st e).getD st.active := by
  rw [step_eq]
  cases WB.installed build st e with
  | none => exact recv_active st e
  | some t => rfl

theorem step_eq_noSkip (build : Text → Option T) (st : WB T) (e : Ev) (inv : WBInv build st) :
    WB.step build st e = WB.stepNoSkip build st e := by
  rw [step_eq]
  unfold WB.stepNoSkip
  simp only
  cases hi : WB.installed build st e with
  | some t => rw [(installed_eq_some_iff.1 hi).2]
  | none =>
    rcases installed_eq_none_iff.1 hi with heq | hn
    · -- the skipped text is the one the active table was built from: rebuilding it changes nothing
      rw [heq, recv_lastTable, skip_builds inv heq]
      cases e <;> rfl
    · rw [hn]

/-- Under the invariant the test against the remembered text cannot be observed: the iteration installs what its text
builds, if it builds. -/
theorem step_active (build : Text → Option T) (st : WB T) (e : Ev) (inv : WBInv build st) :
    (WB.step build st e).active = (build (st.recv e).nextText).getD st.active ∧ WBInv build (WB.step build st e) := by
  rw [step_eq_noSkip build st e inv]
  unfold WB.stepNoSkip
  simp only
  cases hb : build (st.recv e).nextText with
  | none => exact ⟨recv_active st e, by unfold WBInv; rwa [recv_lastTable, recv_active]⟩
  | some t => exact ⟨rfl, .inr hb⟩

theorem WBInv.run (build : Text → Option T) (es : List Ev) (st : WB T) (h : WBInv build st) :
    WBInv build (WB.run build st es) :=
  List.foldlRecOn es (WB.step build) h fun st hs e _ => (step_active build st e hs).2

theorem run_snoc_active (build : Text → Option T) (st : WB T) (inv : WBInv build st) (es : List Ev) (e : Ev) :
    (WB.run build st (es ++ [e])).active =
      (build ((WB.run build st es).recv e).nextText).getD (WB.run build st es).active := by
  have := (step_active build _ e (WBInv.run build es st inv)).1
  simpa only [WB.run, List.foldl_append, List.foldl_cons, List.foldl_nil] using this

theorem lastGood_cons (build : Text → Option T) (a : T) (x : Text) (ts : List Text) :
    lastGood build a (x :: ts) = lastGood build ((build x).getD a) ts := by
  unfold lastGood
  rw [List.reverse_cons, List.findSome?_append]
  cases h : ts.reverse.findSome? build with
  | some t => simp
  | none => cases hb : build x <;> simp [hb]

theorem lastGood_append_one (build : Text → Option T) (a : T) (ts : List Text) (x : Text) :
    lastGood build a (ts ++ [x]) = (build x).getD (lastGood build a ts) := by
  unfold lastGood
  rw [List.reverse_append]
  cases hb : build x <;> simp [hb]

theorem recv_nextText_eq (st : WB T) (e : Ev) (es : List Ev) :
    textsFrom st.svccfg st.mancfg (e :: es) =
      (st.recv e).nextText :: textsFrom (st.recv e).svccfg (st.recv e).mancfg es := by
  cases e <;> simp [textsFrom, WB.recv, WB.nextText]

theorem run_active (build : Text → Option T) (es : List Ev) : ∀ (st : WB T), WBInv build st →
    (WB.run build st es).active = lastGood build st.active (textsFrom st.svccfg st.mancfg es) := by
  induction es with
  | nil => intro st _; simp [WB.run, textsFrom, lastGood]
  | cons e es ih =>
    intro st inv
    obtain ⟨ha, inv'⟩ := step_active build st e inv
    have := ih _ inv'
    simp only [WB.run, List.foldl_cons] at this ⊢
    rw [this, recv_nextText_eq, lastGood_cons, ha, (step_cfg build st e).1, (step_cfg build st e).2]

theorem installs_last (build : Text → Option T) (es : List Ev) : ∀ st : WB T,
    ((WB.installs build st es).map some).foldl setTable st.active = (WB.run build st es).active := by
  induction es with
  | nil => intro st; rfl
  | cons e es ih =>
    intro st
    have := ih (WB.step build st e)
    simp only [WB.run] at this
    simp only [WB.installs, WB.run, List.foldl_cons, List.map_append, List.foldl_append]
    rw [← this, step_installed]
    cases WB.installed build st e <;> rfl

theorem installs_mem (build : Text → Option T) (es : List Ev) : ∀ (st : WB T) (t : T),
    t ∈ WB.installs build st es → ∃ text ∈ textsFrom st.svccfg st.mancfg es, build text = some t := by
  induction es with
  | nil => intro st t h; simp [WB.installs] at h
  | cons e es ih =>
    intro st t h
    simp only [WB.installs, List.mem_append] at h
    rw [recv_nextText_eq]
    rcases h with h | h
    · exact ⟨_, List.mem_cons_self, (installed_eq_some_iff.1 (Option.mem_toList.1 h)).2⟩
    · obtain ⟨text, hm, hb⟩ := ih _ t h
      rw [(step_cfg build st e).1, (step_cfg build st e).2] at hm
      exact ⟨text, List.mem_cons_of_mem _ hm, hb⟩

end wb

end Fabio.Lemmas.C02
