/-!
Residues of consecutive numbers: the share of a label on a ring of `N` slots after `K` consecutive cursor values
(core Lean only).
-/
namespace Fabio.Lemmas.C06

theorem window_perm (N : Nat) : ∀ c, ((List.range' c N).map (· % N)).Perm (List.range N) := by
  intro c
  induction c with
  | zero =>
    rw [← List.range_eq_range']
    exact .of_eq ((List.map_congr_left fun a ha => Nat.mod_eq_of_lt (List.mem_range.mp ha)).trans (List.map_id _))
  | succ c ih =>
    -- the window from `c + 1` is the window from `c` without its head `c`, with `c + N` at the end
    have e := congrArg (List.map (· % N))
      ((List.range'_succ (s := c) (n := N) (step := 1)).symm.trans List.range'_concat)
    simp only [List.map_cons, List.map_append, List.map_nil, Nat.one_mul, Nat.add_mod_right] at e
    exact ((List.Perm.of_eq e).trans (List.perm_append_singleton _ _)).cons_inv.trans ih

/-- `g` labels the slots of a ring of `N`: how many of the `K` consecutive cursor values from `c` land on label `t` -/
def labelShare {β : Type} [BEq β] (g : Nat → β) (N c K : Nat) (t : β) : Nat :=
  ((List.range' c K).map (fun x => g (x % N))).count t

def labelWeight {β : Type} [BEq β] (g : Nat → β) (N : Nat) (t : β) : Nat :=
  ((List.range N).map g).count t

section share
variable {β : Type} [BEq β] (g : Nat → β) (N : Nat) (t : β)

theorem count_of_perm_residues {l : List Nat} {c K : Nat} (h : l.Perm ((List.range' c K).map (· % N))) :
    (l.map g).count t = labelShare g N c K t := by
  have := (h.map g).count_eq t
  rwa [List.map_map] at this

theorem labelShare_window (c : Nat) : labelShare g N c N t = labelWeight g N t :=
  (count_of_perm_residues g N t (window_perm N c).symm).symm

theorem labelShare_add (c K₁ K₂ : Nat) :
    labelShare g N c (K₁ + K₂) t = labelShare g N c K₁ t + labelShare g N (c + K₁) K₂ t := by
  unfold labelShare
  rw [← List.range'_append_1, List.map_append, List.count_append]

theorem labelShare_le_weight (c K : Nat) (hK : K ≤ N) : labelShare g N c K t ≤ labelWeight g N t := by
  have h := labelShare_add g N t c K (N - K)
  rw [Nat.add_sub_cancel' hK, labelShare_window] at h
  omega

theorem labelShare_cycles (c q : Nat) : labelShare g N c (N * q) t = q * labelWeight g N t := by
  induction q generalizing c with
  | zero => simp [labelShare]
  | succ q ih => rw [Nat.mul_succ, Nat.add_comm, labelShare_add, labelShare_window, ih, Nat.succ_mul, Nat.add_comm]

theorem labelShare_split (c K : Nat) :
    labelShare g N c K t = K / N * labelWeight g N t + labelShare g N (c + N * (K / N)) (K % N) t := by
  have h := labelShare_add g N t c (N * (K / N)) (K % N)
  rwa [Nat.div_add_mod, labelShare_cycles] at h

theorem labelShare_bounds (hN : 0 < N) (K c : Nat) :
    (K / N) * labelWeight g N t ≤ labelShare g N c K t ∧
    labelShare g N c K t ≤ (K / N + 1) * labelWeight g N t ∧
    (K % N = 0 → labelShare g N c K t = (K / N) * labelWeight g N t) := by
  have hs := labelShare_split g N t c K
  have hr := labelShare_le_weight g N t (c + N * (K / N)) (K % N) (Nat.le_of_lt (Nat.mod_lt K hN))
  rw [Nat.succ_mul]
  refine ⟨by omega, by omega, fun hm => ?_⟩
  rw [hs, hm]
  rfl

end share

theorem labelWeight_id (N j : Nat) (hj : j < N) : labelWeight (fun x => x) N j = 1 := by
  unfold labelWeight
  rw [List.map_id', List.nodup_range.count]
  simp [hj]

theorem ring_weight (ring : List Nat) (t : Nat) :
    labelWeight (fun x => ring[x]?.getD 0) ring.length t = ring.count t := by
  unfold labelWeight
  congr 1
  apply List.ext_getElem
  · simp
  · intro i h1 h2
    simp at h1
    simp [h1]

end Fabio.Lemmas.C06
