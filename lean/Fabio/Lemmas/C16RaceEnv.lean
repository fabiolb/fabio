import Fabio.Model.C16RaceEnv
import Fabio.Lemmas.C16Race
/-! The accounting invariant `J2` of the race of C16 with cleanup iterations in the schedule. -/
namespace Fabio.Lemmas.C16RaceEnv
open Fabio.Model.Route (Str)
open Fabio.Model.C16 Fabio.Model.C16.RaceEnv Fabio.Lemmas.C16 Fabio.Lemmas.C16Race
open Fabio.Model.C16.Race (TState tstep isDone)

def Accounted (k : Str) (s : EState) (i : Nat) : Prop :=
  (∃ c, s.pool.find k = some c ∧ c.id = i ∧ c.shut = false) ∨ i ∈ s.closed ∨ i ∈ s.handed ∨
    (∃ j : Nat, s.ts[j]? = some (TState.dialled i))

structure J2 (next0 : Nat) (k : Str) (s : EState) : Prop where
  acct : ∀ i : Nat, next0 ≤ i → i < s.next → Accounted k s i
  budget : s.next + total s.ts ≤ next0 + s.ts.length
  mono : next0 ≤ s.next

/-- `Accounted` is `Acct` with the closer's list as one more place (its disjuncts stand in another order) -/
theorem accounted_iff {k : Str} {s : EState} {x : Nat} :
    Accounted k s x ↔ Acct k s.pool s.closed s.ts x ∨ x ∈ s.handed := by
  unfold Accounted Acct
  rw [or_assoc, or_assoc, or_comm (a := x ∈ s.handed)]

theorem j2_start (p : Pool) (next n : Nat) (k : Str) : J2 next k (start p next n) where
  acct := fun i h1 h2 => absurd h2 (Nat.not_lt.mpr h1)
  budget := by simp [start, total_replicate_start]
  mono := Nat.le_refl _

theorem j2_thread (next0 : Nat) (k : Str) (s : EState) (i : Nat) (h : J2 next0 k s) :
    J2 next0 k (step k s (.thread i)) := by
  simp only [step]
  cases hi : s.ts[i]? with
  | none => exact h
  | some t =>
    have hm := tstep_move k s.pool s.next s.closed t
    have hbud := budget_move hm hi
    exact {
      acct := fun x h0 h1 => accounted_iff.mpr
        (acct_move hm hi (fun x h0 h1 => accounted_iff.mp (h.acct x h0 h1)) x h0 h1)
      budget := by rw [List.length_set]; exact Nat.le_trans hbud.2 h.budget
      mono := Nat.le_trans h.mono hbud.1 }

theorem j2_cleanup (next0 : Nat) (k : Str) (s : EState) (urls : List Str) (h : J2 next0 k s) :
    J2 next0 k (step k s (.cleanup urls)) := by
  obtain ⟨acct, budget, mono⟩ := h
  simp only [step]
  refine ⟨?_, budget, mono⟩
  intro x h1 h2
  rcases acct x h1 h2 with ⟨c, hc, hid, hl⟩ | a | a | a
  · by_cases hu : urls.contains k = true
    · exact Or.inl ⟨c, find_cleanup s.pool urls k c hc hl hu, hid, hl⟩
    · have : c ∈ s.pool.toClose urls := mem_toClose.mpr ⟨k, find_mem hc, hl, fun hk => hu (by simpa using hk)⟩
      exact Or.inr (Or.inr (Or.inl (List.mem_append.mpr (Or.inr (List.mem_map.mpr ⟨c, this, hid⟩)))))
  · exact Or.inr (Or.inl a)
  · exact Or.inr (Or.inr (Or.inl (List.mem_append.mpr (Or.inl a))))
  · exact Or.inr (Or.inr (Or.inr a))

theorem j2_step (next0 : Nat) (k : Str) (s : EState) (e : Ev) (h : J2 next0 k s) : J2 next0 k (step k s e) := by
  cases e with
  | thread i => exact j2_thread next0 k s i h
  | cleanup urls => exact j2_cleanup next0 k s urls h

theorem j2_run (next0 : Nat) (k : Str) (s : EState) (es : List Ev) (h : J2 next0 k s) : J2 next0 k (run k s es) :=
  List.foldlRecOn es (step k) h fun s hs e _ => j2_step next0 k s e hs

theorem step_length (k : Str) (s : EState) (e : Ev) : (step k s e).ts.length = s.ts.length := by
  cases e with
  | thread i =>
    simp only [step]
    cases s.ts[i]? with
    | none => rfl
    | some t => simp
  | cleanup urls => rfl

theorem run_length (k : Str) (s : EState) (es : List Ev) : (run k s es).ts.length = s.ts.length :=
  List.foldlRecOn (motive := fun t => t.ts.length = s.ts.length) es (step k) rfl
    fun t ht e _ => (step_length k t e).trans ht

end Fabio.Lemmas.C16RaceEnv
