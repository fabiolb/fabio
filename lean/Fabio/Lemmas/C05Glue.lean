import Fabio.Model.C05Glue
import Fabio.Lemmas.C05Text
import Fabio.Lemmas.C05Del
import Fabio.Lemmas.C05Main
/-!
C05 — lemmas about the glue model (`Model/C05Glue.lean`): the two readers of the command language
agree, non-finite weights never reach a table, option-derived fields survive the round trip, the admin listing
enumerates the table. Core Lean only.
-/
namespace Fabio.Lemmas.C05Glue
open Fabio Fabio.Model.Route Fabio.Model.Parse Fabio.Model.C05Spec Fabio.Model.C05Glue
open Fabio.Lemmas.C05Text Fabio.Lemmas.Route

theorem parseLineW_dropCR (pf : ParseFloat) (s : Str) : parseLineW pf (dropCR s) = parseLineW pf s := by
  unfold parseLineW
  rw [parseLine_dropCR, trimSpace_dropCR]

theorem shape_weighted_cmd {s w : Str} {mk : Rat → RouteDef} (h : shape s = .weighted w mk) (q : Rat) :
    (mk q).cmd = .add ∨ (mk q).cmd = .weight := by
  have := shape_opts s
  rw [h] at this
  exact (this q).imp id And.left

/-! ### the float parser matters only through `parseWeight` -/

theorem parseWeight_finPf (pf : ParseFloat) (w : Str) :
    parseWeight (finPf pf) w =
      (match parseWeight pf w with
       | .ok q => .ok q
       | .error (.syn e) => .error (.syn e)
       | .error (.nonFinite _) => .ok 0) := by
  unfold parseWeight finPf
  split
  · rfl
  · cases pf w with
    | none => rfl
    | some v => cases v <;> rfl

theorem nonFiniteTok_eq (pf : ParseFloat) (w : Str) :
    nonFiniteTok pf w = (match parseWeight pf w with
      | .error (.nonFinite _) => true
      | _ => false) := by
  unfold parseWeight nonFiniteTok
  cases hw : w.isEmpty
  · cases pf w with
    | none => rfl
    | some x => cases x <;> rfl
  · rfl

theorem parseWeight_syn {pf : ParseFloat} {w : Str} {e : SynErr} (h : parseWeight pf w = .error (.syn e)) :
    nonFiniteTok pf w = false := by
  rw [nonFiniteTok_eq, h]

/-- the weight-blind parser against `Parse`, on any line shape: they differ exactly where `Parse` stops at a non-finite
weight, which the weight-blind parser reads as weight 0 -/
theorem runShape_finPf (pf : ParseFloat) (sh : Shape) :
    runShape (finPf pf) sh = (match runShape pf sh, sh with
      | .error (.nonFinite _), .weighted _ mk => .ok (some (mk 0))
      | r, _ => r) := by
  cases sh with
  | weighted w mk =>
    simp only [runShape]
    rw [parseWeight_finPf]
    cases parseWeight pf w with
    | ok q => rfl
    | error e => cases e <;> rfl
  | _ => rfl

/-- what the weight-blind reader and the reader that is total over float64 weights make of a line, given what
`Parse`'s reader makes of it: they differ from it exactly at a non-finite weight, where both go on with the same
command, the second one flagging it -/
theorem line_readers (pf : ParseFloat) (l : Str) :
    match parseLine pf l with
    | .ok r => parseLine (finPf pf) l = .ok r ∧ parseLineW pf l = .ok (r.map (fun d => { d, bad := false }))
    | .error (.syn e) => parseLine (finPf pf) l = .error (.syn e) ∧ parseLineW pf l = .error (.syn e)
    | .error (.nonFinite _) => ∃ d, parseLine (finPf pf) l = .ok (some d) ∧
        parseLineW pf l = .ok (some { d, bad := true }) ∧ (d.cmd = .add ∨ d.cmd = .weight) := by
  unfold parseLineW
  rw [parseLine_shape, parseLine_shape, weightTok_shape, runShape_finPf]
  cases hs : shape (trimSpace l) with
  | skip => exact ⟨rfl, rfl⟩
  | err e => exact ⟨rfl, rfl⟩
  | plain d => exact ⟨rfl, by simp [runShape, nonFiniteTok, Shape.tok]⟩
  | weighted w mk =>
    simp only [runShape, Shape.tok]
    cases hw : parseWeight pf w with
    | ok q => exact ⟨rfl, by simp only [nonFiniteTok_eq, hw]; rfl⟩
    | error e =>
      cases e with
      | syn e' => exact ⟨rfl, rfl⟩
      | nonFinite v => exact ⟨mk 0, rfl, by simp only [nonFiniteTok_eq, hw], shape_weighted_cmd hs 0⟩

theorem line_fin_err {pf : ParseFloat} {l : Str} {e : LineErr} (h : parseLine (finPf pf) l = .error e) :
    parseLine pf l = .error e := by
  have := line_readers pf l
  cases hp : parseLine pf l with
  | ok r => rw [hp] at this; rw [this.1] at h; cases h
  | error e' =>
    rw [hp] at this
    cases e' with
    | syn e'' => rw [this.1] at h; exact h
    | nonFinite v => obtain ⟨d, hd, _⟩ := this; rw [hd] at h; cases h

theorem parseLineW_nil (pf : ParseFloat) : parseLineW pf [] = .ok none := by
  unfold parseLineW; rw [parseLine_nil]

/-- how the result of one scan carries over to another: successes through `φ`, syntax errors as they are, a line
that is too long when both scans have the same limit; where the first scan stops at a non-finite weight the second
goes on, and fails later or delivers a list that holds an element with `Q` -/
def Carries {α β : Type} (φ : α → β) (sameLim : Bool) (Q : β → Prop) :
    Except ParseErr (List α) → Except ParseErr (List β) → Prop
  | .ok ds, r => r = .ok (ds.map φ)
  | .error (.syn j e), r => r = .error (.syn j e)
  | .error (.tooLong j), r => sameLim = true → r = .error (.tooLong j)
  | .error (.nonFinite _ _), r => (∃ e, r = .error e) ∨ ∃ ys, r = .ok ys ∧ ∃ y ∈ ys, Q y

theorem scan_carries {α β : Type} (f : Str → Except LineErr (Option α)) (g : Str → Except LineErr (Option β))
    (φ : α → β) (Q : β → Prop) (lim lim' : Bool) (hl : lim' = true → lim = true)
    (hok : ∀ raw r, f raw = .ok r → g raw = .ok (r.map φ))
    (hsyn : ∀ raw e, f raw = .error (.syn e) → g raw = .error (.syn e))
    (hnf : ∀ raw v, f raw = .error (.nonFinite v) → ∃ y, g raw = .ok (some y) ∧ Q y) (i : Nat) (ls : List Str) :
    Carries φ (lim' == lim) Q (scan lim f i ls) (scan lim' g i ls) := by
  induction ls generalizing i with
  | nil => simp only [scan, Carries, List.map_nil]
  | cons raw rest ih =>
    rw [scan_cons, scan_cons]
    cases hc : (lim && decide (maxToken ≤ byteLen raw)) with
    | true =>
      simp only [if_true, Carries]
      intro hll
      rw [beq_iff_eq.1 hll, hc]; rfl
    | false =>
      have hc' : (lim' && decide (maxToken ≤ byteLen raw)) = false := by
        cases hl' : lim' with
        | false => rfl
        | true => rw [hl hl'] at hc; simpa using hc
      rw [hc']
      simp only [Bool.false_eq_true, if_false]
      cases hf : f raw with
      | error e =>
        cases e with
        | syn e' => rw [hsyn raw e' hf]; simp only [Carries]
        | nonFinite v =>
          obtain ⟨y, hy, hq⟩ := hnf raw v hf
          rw [hy]
          simp only [Carries]
          cases scan lim' g (i + 1) rest with
          | error e => exact .inl ⟨e, rfl⟩
          | ok ys => exact .inr ⟨_, rfl, y, List.mem_cons_self, hq⟩
      | ok r =>
        rw [hok raw r hf]
        cases r with
        | none => exact ih (i+1)
        | some d =>
          have hrest := ih (i+1)
          simp only [Option.map]
          cases hr : scan lim f (i+1) rest with
          | ok ds => rw [hr] at hrest; simp only [Carries] at hrest ⊢; rw [hrest]; rfl
          | error e =>
            rw [hr] at hrest
            cases e with
            | syn j e' => simp only [Carries] at hrest ⊢; rw [hrest]
            | tooLong j => simp only [Carries] at hrest ⊢; intro hll; rw [hrest hll]
            | nonFinite j v =>
              simp only [Carries] at hrest ⊢
              rcases hrest with ⟨e, he⟩ | ⟨ys, he, y, hy, hq⟩ <;> rw [he]
              · exact .inl ⟨e, rfl⟩
              · exact .inr ⟨_, rfl, y, List.mem_cons_of_mem _ hy, hq⟩

/-- the final empty piece `strings.Split` keeps (and the scanner drops) is a blank line -/
theorem aliasDefs_rawLines (pf : ParseFloat) (text : Str) :
    aliasDefs pf text = scan false (parseLine (finPf pf)) 1 (rawLines text) := by
  unfold aliasDefs
  rcases splitOn_rawLines text with h | h
  · rw [h]
  · rw [h, scan_append_blank _ _ (parseLine_nil _)]

/-- `ParseAliases` against `Parse`: no line limit, no look at the weight -/
theorem parse_aliasDefs (pf : ParseFloat) (text : Str) :
    Carries id false (fun _ => True) (parse pf text) (aliasDefs pf text) := by
  rw [parse_eq_scan, aliasDefs_rawLines]
  exact scan_carries (fun raw => parseLine pf (dropCR raw)) (parseLine (finPf pf)) id (fun _ => True) true false nofun
    (fun raw r h => by
      have := line_readers pf raw
      rw [← parseLine_dropCR, h] at this
      rw [this.1]; cases r <;> rfl)
    (fun raw e h => by
      have := line_readers pf raw
      rw [← parseLine_dropCR, h] at this
      exact this.1)
    (fun raw v h => by
      have := line_readers pf raw
      rw [← parseLine_dropCR, h] at this
      obtain ⟨d, hd, _⟩ := this
      exact ⟨d, hd, trivial⟩) 1 (rawLines text)

/-- `Parse` total over float64 weights against `Parse`: where `Parse` stops at a non-finite weight, the total reader
goes on with a flagged `route add` or `route weight` -/
theorem parse_parseW (pf : ParseFloat) (text : Str) :
    Carries (fun d => ({ d, bad := false } : WDef)) true (fun x => x.bad = true ∧ (x.d.cmd = .add ∨ x.d.cmd = .weight))
      (parse pf text) (parseW pf text) := by
  rw [parse_eq_scan]
  exact scan_carries (fun raw => parseLine pf (dropCR raw)) (fun raw => parseLineW pf (dropCR raw))
    (fun d => ({ d, bad := false } : WDef)) (fun x => x.bad = true ∧ (x.d.cmd = .add ∨ x.d.cmd = .weight)) true true
    (fun h => h)
    (fun raw r h => by have := line_readers pf (dropCR raw); rw [h] at this; exact this.2)
    (fun raw e h => by have := line_readers pf (dropCR raw); rw [h] at this; exact this.2)
    (fun raw v h => by
      have := line_readers pf (dropCR raw)
      rw [h] at this
      obtain ⟨d, _, hd, hc⟩ := this
      exact ⟨_, hd, rfl, hc⟩) 1 (rawLines text)

/-- the command looks at its weight: the argument checks that come first pass and the weight is NaN or ±Inf -/
def refused (x : WDef) : Bool :=
  x.bad && (match x.d.cmd with
    | .add => !x.d.src.isEmpty && !x.d.dst.isEmpty
    | .weight => !x.d.src.isEmpty
    | _ => false)

/-- `validWeight` is the only thing `applyW` adds to `applyDef`: where the argument checks fail, `addRoute` and
`weighRoute` report the same error themselves -/
theorem applyW_eq (env : Env) (t : Table) (x : WDef) :
    applyW env t x = if refused x then .error .invalidWeight else liftErr (applyDef env t x.d) := by
  unfold applyW applyDef refused
  cases hc : x.d.cmd with
  | add =>
    simp only
    rw [C05Add.addRoute_eq]
    cases x.d.src.isEmpty <;> cases x.d.dst.isEmpty <;> cases x.bad <;> rfl
  | weight =>
    simp only
    rw [C05Weight.weighRoute_eq]
    cases x.d.src.isEmpty <;> cases x.bad <;> rfl
  | del => simp only [Bool.and_false, Bool.false_eq_true, if_false]
  | other s => simp only [Bool.and_false, Bool.false_eq_true, if_false]

theorem specApplyW_eq (env : Env) (S : Spec) (x : WDef) :
    specApplyW env S x = if refused x then .error .invalidWeight else liftSpec (specApply env S x.d) := by
  unfold specApplyW specApply refused
  cases hc : x.d.cmd with
  | add =>
    simp only
    unfold specAdd
    cases x.d.src.isEmpty <;> cases x.d.dst.isEmpty <;> cases x.bad <;> rfl
  | weight =>
    simp only
    unfold specWeigh
    cases x.d.src.isEmpty <;> cases x.bad <;> rfl
  | del => simp only [Bool.and_false, Bool.false_eq_true, if_false]
  | other s => simp only [Bool.and_false, Bool.false_eq_true, if_false]

theorem foldW_fin (env : Env) (xs : List WDef) (hb : ∀ x ∈ xs, x.bad = false) (t0 : Table) :
    xs.foldlM (applyW env) t0 = ((xs.map (·.d)).foldlM (applyDef env) t0).mapError .table := by
  induction xs generalizing t0 with
  | nil => rfl
  | cons x rest ih =>
    simp only [List.map_cons, List.foldlM_cons]
    rw [applyW_eq, refused, hb x (by simp)]
    cases applyDef env t0 x.d with
    | error e => rfl
    | ok t1 => exact ih (fun y hy => hb y (List.mem_cons_of_mem _ hy)) t1

theorem newTableW_fin (env : Env) (xs : List WDef) (hb : ∀ x ∈ xs, x.bad = false) :
    newTableW env xs = (newTable env (xs.map (·.d))).mapError .table := by
  unfold newTableW newTable buildFrom
  rw [foldW_fin env xs hb]
  cases (xs.map (·.d)).foldlM (applyDef env) ([] : Table) <;> rfl

theorem applyW_bad (env : Env) (t : Table) (x : WDef) (hb : x.bad = true) (hc : x.d.cmd = .add ∨ x.d.cmd = .weight) :
    ∃ e, applyW env t x = .error e := by
  unfold applyW
  rcases hc with hc | hc <;> rw [hc] <;> simp only [hb, if_true]
  · split
    · exact ⟨_, rfl⟩
    · split <;> exact ⟨_, rfl⟩
  · split <;> exact ⟨_, rfl⟩

theorem foldW_bad (env : Env) (xs : List WDef) (x : WDef) (hx : x ∈ xs)
    (hb : x.bad = true) (hc : x.d.cmd = .add ∨ x.d.cmd = .weight) (t0 : Table) :
    ∃ e, xs.foldlM (applyW env) t0 = .error e := by
  induction xs generalizing t0 with
  | nil => cases hx
  | cons y rest ih =>
    simp only [List.foldlM_cons]
    rcases List.mem_cons.1 hx with rfl | hx'
    · obtain ⟨e, he⟩ := applyW_bad env t0 x hb hc
      rw [he]; exact ⟨e, rfl⟩
    · cases applyW env t0 y with
      | error e => exact ⟨e, rfl⟩
      | ok t1 => exact ih hx' t1

theorem applyW_invalidWeight (env : Env) (t : Table) (x : WDef) (h : applyW env t x = .error .invalidWeight) :
    x.bad = true := by
  rw [applyW_eq] at h
  split at h
  · next hr => unfold refused at hr; exact (Bool.and_eq_true _ _ ▸ hr).1
  · cases hd : applyDef env t x.d <;> rw [hd] at h <;> cases h

theorem applyW_ok {env : Env} {t t1 : Table} {x : WDef} (h : applyW env t x = .ok t1) : applyDef env t x.d = .ok t1 := by
  rw [applyW_eq] at h
  split at h
  · cases h
  · cases hd : applyDef env t x.d with
    | ok a => rw [hd] at h; exact congrArg Except.ok (Except.ok.inj h)
    | error e => rw [hd] at h; cases h

theorem map_liftErr (r : Except Err Table) : (liftErr r).map abs = liftSpec (r.map abs) := by
  cases r <;> rfl

theorem applyW_refines {env : Env} {t : Table} (x : WDef) (hg : C05Main.Good env t) :
    (applyW env t x).map abs = specApplyW env (abs t) x := by
  rw [applyW_eq, specApplyW_eq]
  split
  · rfl
  · rw [map_liftErr, C05Main.apply_refines hg]

theorem refinesW_spec (env : Env) (xs : List WDef) : (newTableW env xs).map abs = specRunW env xs := by
  have e : newTableW env xs = (xs.foldlM (applyW env) []).map C05Weight.sortTable := by
    unfold newTableW
    cases xs.foldlM (applyW env) ([] : Table) <;> rfl
  rw [e]
  exact C05Main.run_refines (fun _ x hg => applyW_refines x hg) (fun _ _ _ hg h => C05Main.good_apply hg (applyW_ok h)) xs

theorem lookup_cons' (k : Str) (x : Str × Str) (xs : List (Str × Str)) :
    (x :: xs).lookup k = if k = x.1 then some x.2 else xs.lookup k := by
  obtain ⟨a, b⟩ := x
  rw [List.lookup_cons]
  by_cases h : k = a
  · subst h; simp
  · have : (k == a) = false := by simpa using h
    rw [this]; simp [h]

theorem redirect_range (s : Str) : redirectCode s = 0 ∨ (300 ≤ redirectCode s ∧ redirectCode s ≤ 399) := by
  unfold redirectCode
  generalize stripPlus s = ds
  dsimp only
  split
  · left; rfl
  · split
    · next h => right; simpa using h
    · left; rfl

theorem lookup_optInsert (kv : Str × Str) (m : List (Str × Str)) (k : Str) :
    (optInsert kv m).lookup k = if k = kv.1 then some kv.2 else m.lookup k := by
  induction m with
  | nil =>
    simp only [optInsert, lookup_cons', List.lookup_nil]
  | cons x xs ih =>
    unfold optInsert
    split
    · next he =>
      have he : kv.1 = x.1 := by simpa using he
      simp only [lookup_cons']
      by_cases h : k = kv.1
      · simp [h]
      · have : ¬ k = x.1 := by rw [← he]; exact h
        simp [h, this]
    · next hne =>
      have hne : ¬ kv.1 = x.1 := by simpa using hne
      split
      · simp only [lookup_cons']
      · simp only [lookup_cons', ih]
        by_cases h : k = kv.1
        · subst h; simp [hne]
        · simp [h]

theorem lookup_foldl_optInsert (ps acc : List (Str × Str)) (k : Str) (hn : (ps.map (·.1)).Nodup) :
    (ps.foldl (fun m kv => optInsert kv m) acc).lookup k =
      (match ps.lookup k with
       | some v => some v
       | none => acc.lookup k) := by
  induction ps generalizing acc with
  | nil => rfl
  | cons kv rest ih =>
    simp only [List.map_cons, List.nodup_cons] at hn
    simp only [List.foldl_cons]
    rw [ih _ hn.2, lookup_optInsert, lookup_cons']
    by_cases h : k = kv.1
    · subst h
      rw [List.lookup_eq_none_iff.2 fun p hp => bne_iff_ne.2 fun e => hn.1 (List.mem_map.2 ⟨p, hp, e.symm⟩)]
      simp
    · rw [if_neg h, if_neg h]

/-- sorting the options by key (what the text rendering and `parseOpts` do) keeps every lookup -/
theorem lookup_sortOpts (o : List (Str × Str)) (k : Str) (hn : (o.map (·.1)).Nodup) :
    (sortOpts o).lookup k = o.lookup k := by
  unfold sortOpts optsOfPairs
  rw [lookup_foldl_optInsert o [] k hn]
  cases o.lookup k <;> rfl

theorem derive_sortOpts (o : List (Str × Str)) (hn : (o.map (·.1)).Nodup) : derive (sortOpts o) = derive o := by
  unfold derive optGet
  simp only [lookup_sortOpts o _ hn]

theorem hostsAsc_eq_sortBy (t : Table) : hostsAsc t = sortBy (fun a b : Str => strLt a b) (t.map (·.1)) := by
  have h : insertHostAsc = insBy (fun a b : Str => strLt a b) := by
    funext x l
    induction l with
    | nil => rfl
    | cons y ys ih => simp only [insertHostAsc, insBy, ih]
  rw [hostsAsc, h]; rfl

theorem mem_hostsAsc (t : Table) (x : Str) : x ∈ hostsAsc t ↔ x ∈ t.map (·.1) := by
  rw [hostsAsc_eq_sortBy]; exact mem_sortBy _

theorem nodup_hostsAsc (t : Table) (hn : (t.map (·.1)).Nodup) : (hostsAsc t).Nodup := by
  rw [hostsAsc_eq_sortBy]; exact (sortBy_perm _ _).nodup_iff.2 hn

def atKey (h p : Str) (a : ApiRoute) : Bool := a.host == h && a.path == p

theorem filter_entries_ne (h p : Str) (r : Route) (hne : ¬ (r.host = h ∧ r.path = p)) :
    (r.targets.map (apiEntry r)).filter (atKey h p) = [] := by
  rw [List.filter_eq_nil_iff]
  intro a ha
  obtain ⟨tg, _, rfl⟩ := List.mem_map.1 ha
  simp only [atKey, apiEntry, Bool.and_eq_true, beq_iff_eq]
  exact hne

theorem filter_entries_eq (r : Route) :
    (r.targets.map (apiEntry r)).filter (atKey r.host r.path) = r.targets.map (apiEntry r) := by
  rw [List.filter_eq_self]
  intro a ha
  obtain ⟨tg, _, rfl⟩ := List.mem_map.1 ha
  simp [atKey, apiEntry]

theorem filter_routes (h p : Str) (rs : List Route) (hh : ∀ r ∈ rs, r.host = h) (hn : (rs.map (·.path)).Nodup) :
    (rs.flatMap (fun r => r.targets.map (apiEntry r))).filter (atKey h p) =
      (match findRoute rs p with
       | some r => r.targets.map (apiEntry r)
       | none => []) := by
  induction rs with
  | nil => rfl
  | cons x xs ih =>
    simp only [List.map_cons, List.nodup_cons] at hn
    have hx : x.host = h := hh x (by simp)
    have ih' := ih (fun r hr => hh r (List.mem_cons_of_mem _ hr)) hn.2
    rw [List.flatMap_cons, List.filter_append, ih']
    unfold findRoute
    rw [List.find?_cons]
    by_cases hp : x.path = p
    · have : (x.path == p) = true := by simpa using hp
      rw [this]
      subst hp; subst hx
      rw [filter_entries_eq]
      have hnone : List.find? (fun r => r.path == x.path) xs = none := by
        rw [List.find?_eq_none]
        intro r hr
        have : r.path ≠ x.path := fun he => hn.1 (by rw [← he]; exact List.mem_map.2 ⟨r, hr, rfl⟩)
        simpa using this
      rw [hnone]; simp
    · have : (x.path == p) = false := by simpa using hp
      rw [this, filter_entries_ne h p x (fun hc => hp hc.2)]
      simp

theorem filter_hosts (F : Str → List ApiRoute) (P : ApiRoute → Bool) (h : Str) (L : List Str) (hn : L.Nodup)
    (hF : ∀ h', h' ≠ h → (F h').filter P = []) :
    (L.flatMap F).filter P = if h ∈ L then (F h).filter P else [] := by
  induction L with
  | nil => simp
  | cons y ys ih =>
    simp only [List.nodup_cons] at hn
    rw [List.flatMap_cons, List.filter_append, ih hn.2]
    by_cases hy : y = h
    · subst hy
      simp [hn.1]
    · rw [hF y hy]
      have : (h ∈ y :: ys) ↔ h ∈ ys := List.mem_cons.trans (or_iff_right (Ne.symm hy))
      simp only [List.nil_append, this]

theorem api_at_key {t : Table} (hw : WF t) (h p : Str) :
    (apiRoutes t).filter (atKey h p) = (abs t h p).map (apiEntry ⟨h, p, abs t h p⟩) := by
  unfold apiRoutes
  have hF : ∀ h', h' ≠ h →
      ((t.get h').flatMap (fun r => r.targets.map (apiEntry r))).filter (atKey h p) = [] := by
    intro h' hne
    rw [List.filter_eq_nil_iff]
    intro a ha
    simp only [List.mem_flatMap, List.mem_map] at ha
    obtain ⟨r, hr, tg, _, rfl⟩ := ha
    simp only [atKey, apiEntry, Bool.and_eq_true, beq_iff_eq, host_get hw hr]
    exact fun hc => hne hc.1
  rw [filter_hosts _ _ h _ (nodup_hostsAsc t hw.hosts) hF]
  rcases get_mem_or_nil t h with h0 | h0
  · have : abs t h p = [] := by rw [abs_eq, h0]; rfl
    rw [this, h0]
    split <;> rfl
  · have hmem : h ∈ hostsAsc t := (mem_hostsAsc t h).2 (List.mem_map.2 ⟨_, h0, rfl⟩)
    rw [if_pos hmem, filter_routes h p (t.get h) (hw.hostOf _ h0) (hw.paths _ h0)]
    cases hf : findRoute (t.get h) p with
    | none => rw [abs_of_find_none hf]; rfl
    | some r =>
      have hr := find_some hf
      rw [abs_of_find_some hf]
      simp only
      apply List.map_congr_left
      intro tg _
      simp only [apiEntry, hw.hostOf _ h0 r hr.1, hr.2]

theorem api_lists_abs {t : Table} (hw : WF t) (a : ApiRoute) :
    a ∈ apiRoutes t ↔ ∃ h p, ∃ tg ∈ abs t h p, a = apiEntry ⟨h, p, abs t h p⟩ tg := by
  constructor
  · intro ha
    have : a ∈ (apiRoutes t).filter (atKey a.host a.path) := List.mem_filter.2 ⟨ha, by simp [atKey]⟩
    rw [api_at_key hw] at this
    obtain ⟨tg, htg, e⟩ := List.mem_map.1 this
    exact ⟨_, _, tg, htg, e.symm⟩
  · rintro ⟨h, p, tg, htg, rfl⟩
    have : apiEntry ⟨h, p, abs t h p⟩ tg ∈ (apiRoutes t).filter (atKey h p) := by
      rw [api_at_key hw]
      exact List.mem_map_of_mem htg
    exact (List.mem_filter.1 this).1

end Fabio.Lemmas.C05Glue

