import Fabio.Model.C12
import Fabio.Lemmas.Basic
import Fabio.Lemmas.RouteParse
/-! What the definitions of `Model/C12.lean` do, an equation or an iff for each form of input: containment under a CIDR mask,
`denyByIP` by rule kind, admission, authorisation and the gate order. Core Lean only. -/
namespace Fabio.Lemmas.C12
open Fabio Fabio.Model.C12

theorem cut_append (c : Char) (u p : List Char) (hu : ∀ x ∈ u, x ≠ c) : cut c (u ++ c :: p) = some (u, p) := by
  simp [cut, indexOf_append c u p fun hm => hu c hm rfl]

theorem cut_some (c : Char) (s u p : List Char) (h : cut c s = some (u, p)) :
    s = u ++ c :: p ∧ ∀ x ∈ u, x ≠ c := by
  unfold cut at h
  split at h
  · cases h
  · rename_i i hi
    cases h
    exact (indexOf_eq_some hi).imp_right fun hn x hx e => hn (e ▸ hx)

theorem splitOn_eq (sep : Char) (s : List Char) : splitOn sep s = Model.Parse.splitOn sep s := by
  induction s with
  | nil => rfl
  | cons c cs ih => rw [splitOn, Model.Parse.splitOn, ih]; rfl

theorem splitOn_append_sep (sep : Char) (a b : List Char) :
    splitOn sep (a ++ sep :: b) = splitOn sep a ++ splitOn sep b := by
  simp only [splitOn_eq]; exact Route.splitOn_append_sep sep a b

theorem testBit_cidrMask (ones bits i : Nat) :
    (cidrMask ones bits).testBit i = (decide (bits - ones ≤ i) && decide (i - (bits - ones) < ones)) := by
  unfold cidrMask
  rw [Nat.testBit_shiftLeft, Nat.testBit_two_pow_sub_one]

theorem and_cidrMask (x ones bits : Nat) (hx : x < 2^bits) (ho : ones ≤ bits) :
    x &&& cidrMask ones bits = x >>> (bits - ones) <<< (bits - ones) := by
  apply Nat.eq_of_testBit_eq
  intro i
  rw [Nat.testBit_and, testBit_cidrMask, Nat.testBit_shiftLeft, Nat.testBit_shiftRight]
  by_cases hi : bits - ones ≤ i
  · have e : bits - ones + (i - (bits - ones)) = i := by omega
    by_cases hj : i - (bits - ones) < ones
    · simp [hi, hj, e]
    · have : x < 2 ^ i := Nat.lt_of_lt_of_le hx (Nat.pow_le_pow_right (by decide) (by omega))
      simp [hj, e, Nat.testBit_lt_two_pow this]
  · simp [hi]

theorem masked_eq_iff_prefix_eq (x y ones bits : Nat) (hx : x < 2^bits) (hy : y < 2^bits) (ho : ones ≤ bits) :
    (x &&& cidrMask ones bits = y &&& cidrMask ones bits) ↔ x >>> (bits - ones) = y >>> (bits - ones) := by
  rw [and_cidrMask x ones bits hx ho, and_cidrMask y ones bits hy ho, Nat.shiftLeft_eq, Nat.shiftLeft_eq,
    Nat.mul_left_inj (Nat.pos_iff_ne_zero.mp (Nat.two_pow_pos _))]

/-- Go: `m = m[12:]` in `networkNumberAndMask`. -/
theorem cidrMask_low32 (ones : Nat) (h1 : 96 ≤ ones) (h2 : ones ≤ 128) :
    cidrMask ones 128 % 2^32 = cidrMask (ones - 96) 32 := by
  apply Nat.eq_of_testBit_eq
  intro i
  rw [Nat.testBit_mod_two_pow, testBit_cidrMask, testBit_cidrMask, Bool.eq_iff_iff]
  simp only [Bool.and_eq_true, decide_eq_true_eq]
  omega

/-- the 16-byte form `::ffff:a.b.c.d` of an IPv4 number is unmapped to that number -/
theorem to4_mapped (nn : Nat) (hn : nn < 2^32) : IP.to4 { v6 := true, val := 0xffff <<< 32 + nn } = some nn := by
  have : (0xffff <<< 32 + nn) >>> 32 = 0xffff ∧ (0xffff <<< 32 + nn) % 2^32 = nn := by
    simp only [Nat.shiftLeft_eq, Nat.shiftRight_eq_div_pow]
    omega
  simp only [IP.to4, this, ↓reduceIte]

theorem to4_lt {ip : IP} {v : Nat} (hip : ip.wf) (h : ip.to4 = some v) : v < 2^32 := by
  unfold IP.to4 at h
  split at h
  · split at h
    · cases h; exact Nat.mod_lt _ (by decide)
    · cases h
  · cases h; simpa [IP.wf, *] using hip

/-- `networkNumberAndMask` hands out the 4-byte form for an IPv4 literal and for an IPv4-mapped one (its mask cut to
the last four bytes). -/
theorem contains_number4 (n : IPNet) (nn ones : Nat) (ip : IP)
    (hnm : n.numberAndMask = some (false, nn, cidrMask ones 32)) (hn : nn < 2^32) (ho : ones ≤ 32) (hip : ip.wf) :
    n.contains ip = true ↔ ∃ v, ip.to4 = some v ∧ nn >>> (32 - ones) = v >>> (32 - ones) := by
  simp only [IPNet.contains, hnm]
  cases h4 : ip.to4 with
  | none => simp
  | some v => simp [masked_eq_iff_prefix_eq nn v ones 32 hn (to4_lt hip h4) ho]

theorem val_lt_of_to4_none {ip : IP} (hip : ip.wf) (h : ip.to4 = none) : ip.val < 2^128 := by
  unfold IP.to4 at h
  split at h
  · simpa [IP.wf, *] using hip
  · cases h

theorem contains_number16 (n : IPNet) (nn ones : Nat) (ip : IP)
    (hnm : n.numberAndMask = some (true, nn, cidrMask ones 128)) (hn : nn < 2^128) (ho : ones ≤ 128) (hip : ip.wf) :
    n.contains ip = true ↔ ip.to4 = none ∧ nn >>> (128 - ones) = ip.val >>> (128 - ones) := by
  simp only [IPNet.contains, hnm]
  cases h4 : ip.to4 with
  | some v => simp
  | none => simp [masked_eq_iff_prefix_eq nn ip.val ones 128 hn (val_lt_of_to4_none hip h4) ho]

theorem denyByIP_none {r : Rules} (hr : r.isEmpty = false) : denyByIP r none = true := by
  simp [denyByIP, hr]

theorem denyByIP_allow {r : Rules} {bs : List IPNet} (ha : r.allow = some bs) (ip : IP) :
    denyByIP r (some ip) = !bs.any (·.contains ip) := by
  simp [denyByIP, Rules.isEmpty, ha]

theorem denyByIP_deny {r : Rules} {bs : List IPNet} (ha : r.allow = none) (hd : r.deny = some bs) (ip : IP) :
    denyByIP r (some ip) = bs.any (·.contains ip) := by
  simp [denyByIP, Rules.isEmpty, ha, hd]

theorem not_denied_inside_outside {r : Rules} {ip : IP} (h : denyByIP r (some ip) = false) :
    (∀ bs, r.allow = some bs → ∃ b ∈ bs, b.contains ip = true) ∧
    (∀ bs, r.allow = none → r.deny = some bs → ∀ b ∈ bs, b.contains ip = false) := by
  constructor
  · intro bs ha; simpa [denyByIP_allow ha] using h
  · intro bs ha hd; simpa [denyByIP_deny ha hd] using h

theorem denyByIP_denyAll (ip : Option IP) : denyByIP Rules.denyAll ip = true := by
  cases ip <;> rfl

theorem xffDenied_iff (P : Parsers) (r : Rules) (host : List Char) (xs : List (List Char)) :
    xffDenied P r host xs = true ↔
      ∃ x ∈ xs, trimSpace x ≠ host ∧ ∃ ip, P.parseIP (stripZone (trimSpace x)) = some ip ∧ denyByIP r (some ip) = true := by
  induction xs with
  | nil => simp [xffDenied]
  | cons y ys ih =>
    simp only [xffDenied, List.mem_cons, exists_eq_or_imp]
    by_cases hy : trimSpace y = host
    · simp [hy, ih]
    · cases hp : P.parseIP (stripZone (trimSpace y)) with
      | none => simp [hy, ih]
      | some ip => cases hd : denyByIP r (some ip) <;> simp [hy, hd, ih]

theorem xffDenied_empty_elem (P : Parsers) (r : Rules) (host : List Char) (hP : P.parseIP [] = none) :
    xffDenied P r host [[]] = false := by
  refine Bool.of_not_eq_true fun h => ?_
  obtain ⟨x, hx, _, ip, hp, _⟩ := (xffDenied_iff P r host _).mp h
  cases List.mem_singleton.mp hx
  rw [show stripZone (trimSpace []) = [] from rfl, hP] at hp; cases hp

/-- The rules were asked and let the request through: the peer address can be determined and passes them, and so does every
element of every `X-Forwarded-For` line that is an address and not textually the peer host. -/
def Checked (P : Parsers) (r : Rules) (remote : List Char) (xff : List (List Char)) : Prop :=
  ∃ host ip, P.splitHostPort remote = some host ∧ P.parseIP (stripZone host) = some ip ∧
    denyByIP r (some ip) = false ∧
    ∀ line ∈ xff, ∀ x ∈ splitOn ',' line, trimSpace x ≠ host →
      ∀ ip', P.parseIP (stripZone (trimSpace x)) = some ip' → denyByIP r (some ip') = false

/-- What the access rules ask of an HTTP request, in the words of the property: there are no rules, or the request is
`Checked`. -/
def Admits (P : Parsers) (r : Rules) (remote : List Char) (xff : List (List Char)) : Prop :=
  r.isEmpty = true ∨ Checked P r remote xff

theorem Admits.checked {P : Parsers} {r : Rules} {remote : List Char} {xff : List (List Char)}
    (h : Admits P r remote xff) (hr : r.isEmpty = false) : Checked P r remote xff :=
  h.resolve_left (by simp [hr])

theorem accessDeniedHTTP_false_iff (P : Parsers) (r : Rules) (remote : List Char) (xff : List (List Char)) :
    accessDeniedHTTP P r remote xff = false ↔ Admits P r remote xff := by
  have hx : ∀ host, xffDenied P r host (xffElems xff) = false ↔
      ∀ line ∈ xff, ∀ x ∈ splitOn ',' line, trimSpace x ≠ host →
        ∀ ip', P.parseIP (stripZone (trimSpace x)) = some ip' → denyByIP r (some ip') = false := by
    intro host
    rw [← Bool.not_eq_true, xffDenied_iff]
    simp only [xffElems, List.mem_flatMap, not_exists, not_and, Bool.not_eq_true]
    exact ⟨fun h line hl x hx hne ip hp => h x ⟨line, hl, hx⟩ hne ip hp,
      fun h x ⟨line, hl, hx⟩ hne ip hp => h line hl x hx hne ip hp⟩
  -- first with the loop's own verdict in the last place, then `hx` under the binders
  have key : accessDeniedHTTP P r remote xff = false ↔ r.isEmpty = true ∨
      ∃ host ip, P.splitHostPort remote = some host ∧ P.parseIP (stripZone host) = some ip ∧
        denyByIP r (some ip) = false ∧ xffDenied P r host (xffElems xff) = false := by
    unfold accessDeniedHTTP
    cases hr : r.isEmpty with
    | true => simp
    | false =>
      cases hs : P.splitHostPort remote with
      | none => simp
      | some host =>
        cases hp : P.parseIP (stripZone host) with
        | none => simp [hp, denyByIP_none hr]
        | some ip => cases hd : denyByIP r (some ip) <;> simp [hp, hd]
  exact key.trans (or_congr_right <| exists_congr fun host => exists_congr fun _ =>
    and_congr_right fun _ => and_congr_right fun _ => and_congr_right fun _ => hx host)

theorem accessDeniedHTTP_denyAll (P : Parsers) (remote : List Char) (xff : List (List Char)) :
    accessDeniedHTTP P Rules.denyAll remote xff = true := by
  refine Bool.of_not_eq_false fun h => ?_
  obtain ⟨_, ip, _, _, hd, _⟩ := ((accessDeniedHTTP_false_iff P _ remote xff).mp h).checked rfl
  rw [denyByIP_denyAll] at hd; cases hd

theorem accessDeniedTCP_denyAll (p : TCPPeer) : accessDeniedTCP Rules.denyAll p = true := by
  cases p with
  | notTCP => rfl
  | addr ip => exact denyByIP_denyAll ip

theorem parseItems_appends (P : Parsers) (cs : List (List Char)) (acc : List IPNet) :
    ∃ more, (parseItems P cs acc).1 = acc ++ more ∧ ((parseItems P cs acc).2 = none → more.length = cs.length) := by
  induction cs generalizing acc with
  | nil => exact ⟨[], by simp [parseItems]⟩
  | cons c cs ih =>
    simp only [parseItems]
    split
    · exact ⟨[], by simp⟩
    · rename_i n _
      obtain ⟨m, hm, hl⟩ := ih (acc ++ [n])
      exact ⟨n :: m, by simp [hm], fun h => by simp [hl h]⟩

theorem processAccessRules_error {P : Parsers} {allow deny : List Char} {e : RuleErr}
    (h : (processAccessRules P allow deny).2 = some e) : (processAccessRules P allow deny).1 = Rules.denyAll := by
  unfold processAccessRules at h ⊢
  split
  · rfl
  · rename_i r heq; simp [heq] at h

theorem authorized_iff {σ} (scheme : List Char) (schemes : List (List Char × σ)) (verdict : σ → Bool) :
    authorized scheme schemes verdict = true ↔
      scheme = [] ∨ ∃ s, schemes.lookup scheme = some s ∧ verdict s = true := by
  unfold authorized
  cases scheme with
  | nil => simp
  | cons c cs => cases schemes.lookup (c :: cs) <;> simp

theorem basicVerdict_iff (secrets : List (List Char × List Char)) (cred : Option (List Char × List Char)) :
    basicVerdict secrets cred = true ↔ ∃ u p, cred = some (u, p) ∧ secrets.lookup u = some p := by
  rcases cred with _ | ⟨u, p⟩
  · simp [basicVerdict]
  · simp only [basicVerdict, beq_iff_eq]
    exact ⟨fun h => ⟨u, p, rfl, h⟩, fun ⟨_, _, e, h⟩ => by cases e; exact h⟩

def passes (env : Env) : Step → Bool
  | .lookup => env.found
  | .access => !env.denied
  | .auth => env.authorized
  | .redirect => !env.redirect
  | .upstream => true

/-- `upstream` lets every request through; its value here stands for no run. -/
def refusal : Step → Reply
  | .lookup => .noRoute
  | .access => .forbidden
  | .auth => .unauthorized
  | .redirect => .redirected
  | .upstream => .served

theorem refusal_inj {g t : Step} (h : refusal g = refusal t) : g = t := by
  cases g <;> cases t <;> first | rfl | cases h

theorem runGate_cons (env : Env) (s : Step) (ss : List Step) (c : Bool) :
    runGate env (s :: ss) c =
      if passes env s = true then runGate env ss (if s = .upstream then true else c) else (refusal s, c) := by
  cases s
  case access => cases h : env.denied <;> simp [runGate, passes, refusal, h]
  case redirect => cases h : env.redirect <;> simp [runGate, passes, refusal, h]
  all_goals simp [runGate, passes, refusal]

theorem runGate_before (env : Env) (t : Step) (ss : List Step) (c : Bool) :
    (∀ g ∈ ss.takeWhile (· != t), passes env g = true) ∨
    ∃ g, g ≠ t ∧ (runGate env ss c).1 = refusal g ∧ (t = .upstream → (runGate env ss c).2 = c) := by
  induction ss generalizing c with
  | nil => exact .inl (by simp)
  | cons s ss ih =>
    by_cases hs : s = t
    · exact .inl (by simp [hs])
    · rw [runGate_cons]
      by_cases hp : passes env s = true
      · rw [if_pos hp]
        rcases ih (if s = .upstream then true else c) with h | ⟨g, hg, h1, h2⟩
        · exact .inl (by simpa [List.takeWhile_cons, hs, hp] using h)
        · exact .inr ⟨g, hg, h1, fun ht => by rw [h2 ht, if_neg (ht ▸ hs)]⟩
      · rw [if_neg hp]
        exact .inr ⟨s, hs, rfl, fun _ => rfl⟩

/-- All of `gates` stand before the first `t` of `ss`; the model's `gateOrdered` is this at `upstream`, its
`redirectOrdered` at `redirect`. -/
def orderedBefore (t : Step) (gates ss : List Step) : Bool := gates.all fun g => (ss.takeWhile (· != t)).contains g

/-- Statement `t` took effect in the run: the upstream was contacted (the flag went up), resp. the gate `t` answered with its
refusal. -/
def fired (env : Env) (ss : List Step) (c : Bool) : Step → Prop
  | .upstream => (runGate env ss c).2 = !c
  | t => (runGate env ss c).1 = refusal t

theorem reached_passed_gates {env : Env} {t : Step} {gates ss : List Step} {c : Bool}
    (ho : orderedBefore t gates ss = true) (h : fired env ss c t) : ∀ g ∈ gates, passes env g = true := by
  rcases runGate_before env t ss c with hb | ⟨g, hg, h1, h2⟩
  · exact fun g hg => hb g (by simpa using List.all_eq_true.mp ho g hg)
  · cases t
    case upstream => rw [fired, h2 rfl] at h; cases c <;> cases h
    all_goals exact absurd (refusal_inj (h1.symm.trans h)) hg

theorem runAuth_append_attempt (secrets : List (List Char × List Char)) (h : List AuthOp)
    (c : Option (List Char × List Char)) :
    runAuth secrets (h ++ [.attempt c]) = runAuth secrets h ++ [basicVerdict (fileAfter secrets h) c] := by
  induction h generalizing secrets with
  | nil => rfl
  | cons op h ih => cases op <;> simp [runAuth, fileAfter, ih]

end Fabio.Lemmas.C12
