import Fabio.Lemmas.C03Order
import Fabio.Model.C03Fold
/-!
Lemmas about the model of C03 (core Lean only): the host order is a strict order and `sortHosts` sorts by it, the two
scans as `List.find?` (routes of a host) and `List.findSome?` (hosts), lower-casing and the default ports,
`net.SplitHostPort` on keys without a colon and on `host:port`, `globLib` on a literal and on `*`+literal.
-/
namespace Fabio.Lemmas.C03
open Fabio Fabio.Model.Route Fabio.Model.C03 Fabio.Model.C03Fold

/-- the converse of `hostBefore` as a nest of `lexBy` (reversed host part under `lessSpecificHost`, port, key), so that
`lexBy_strict` applies -/
def hostLt : Str → Str → Bool :=
  lexBy lessSpecificHost (fun k => (revParts k).1) (lexBy strLt (fun k => (revParts k).2) strLt)

theorem hostBefore_eq (a b : Str) : hostBefore a b = hostLt b a := by
  unfold hostBefore hostLt lexBy
  rw [bne_comm (a := (revParts a).1), bne_comm (a := (revParts a).2)]

theorem hostLt_strict : StrictOrd hostLt :=
  lexBy_strict (ltBy_strict starRank) (lexBy_strict strLt_strict strLt_strict)

theorem hostBefore_strict : StrictOrd hostBefore := by
  have : hostBefore = fun a b => hostLt b a := by funext a b; exact hostBefore_eq a b
  rw [this]; exact hostLt_strict.flipOn id

theorem insHost_eq : insHost = insBy hostBefore := by
  funext x ys
  induction ys with
  | nil => rfl
  | cons y ys ih => simp [insHost, insBy, ih]

theorem sortByRev_eq : sortByRev = sortBy hostBefore := by
  funext xs; rw [sortByRev, insHost_eq]; rfl

/-- how two keys stand in a list `sortHosts` returns, `a` in front of `b` (`sortHosts_pairwise`) -/
def hostOrd (a b : Str) : Prop :=
  (isGlobPat a = false ∧ isGlobPat b = true) ∨ (isGlobPat a = isGlobPat b ∧ hostBefore b a = false)

theorem hostOrd.exact {a b : Str} (h : hostOrd a b) (hb : isGlobPat b = false) : isGlobPat a = false :=
  h.elim (·.1) (·.1.trans hb)

theorem hostOrd.pattern {a b : Str} (h : hostOrd a b) (ha : isGlobPat a = true) : hostBefore b a = false :=
  h.elim (fun h => absurd (h.1.symm.trans ha) Bool.false_ne_true) (·.2)

theorem mem_sortHosts {a : Str} {hs : List Str} : a ∈ sortHosts hs ↔ a ∈ hs := by
  unfold sortHosts
  split
  · exact Iff.rfl
  · simp only [List.mem_append, List.mem_filter, sortByRev_eq, mem_sortBy]
    cases isGlobPat a <;> simp

theorem sortHosts_pairwise (hs : List Str) : (sortHosts hs).Pairwise hostOrd := by
  unfold sortHosts
  split
  · rename_i h
    match hs, h with
    | [], _ => exact List.Pairwise.nil
    | [x], _ => exact List.pairwise_singleton _ _
    | _ :: _ :: _, h => simp at h; omega
  · have hp := sortBy_pairwise hostBefore_strict hs
    rw [← sortByRev_eq] at hp
    -- within either part the class is constant and the sort's order is inherited; across, names precede patterns
    have part (q : Str → Bool) (hq : ∀ a b, q a = true → q b = true → isGlobPat a = isGlobPat b) :
        ((sortByRev hs).filter q).Pairwise hostOrd :=
      (List.Pairwise.and_mem.1 (hp.filter q)).imp fun ⟨ha, hb, hab⟩ =>
        Or.inr ⟨hq _ _ (List.mem_filter.1 ha).2 (List.mem_filter.1 hb).2, hab⟩
    refine List.pairwise_append.2 ⟨part _ fun a b ha hb => ?_, part _ fun a b ha hb => by rw [ha, hb], ?_⟩
    · simp only [Bool.not_eq_true'] at ha hb; rw [ha, hb]
    · intro a ha b hb
      have ha := (List.mem_filter.1 ha).2; have hb := (List.mem_filter.1 hb).2
      exact Or.inl ⟨by simpa using ha, hb⟩

/-- what `Table.lookup` answers once it stands at the first route whose path matches -/
def choose (pick : Route → Target) (r : Route) : Option (Route × Target) :=
  match r.targets with
  | [] => none
  | [x] => some (r, x)
  | _ => some (r, pick r)

theorem lookupRoutes_eq (m : Str → Str → Bool) (pick : Route → Target) (path : Str) (rs : List Route) :
    lookupRoutes m pick path rs = (rs.find? (fun r => m path r.path)).bind (choose pick) := by
  induction rs with
  | nil => rfl
  | cons r rs ih =>
    simp only [lookupRoutes, List.find?_cons]
    cases m path r.path
    · simpa using ih
    · rfl

theorem choose_some {pick : Route → Target} {r r' : Route} {tg : Target} (h : choose pick r = some (r', tg)) :
    r' = r ∧ r.targets ≠ [] ∧ (tg ∈ r.targets ∨ tg = pick r) := by
  unfold choose at h
  split at h
  · cases h
  · rename_i x hx; cases h; simp [hx]
  · rename_i hne _; cases h; exact ⟨rfl, hne, Or.inr rfl⟩

theorem choose_isSome {pick : Route → Target} {r : Route} (h : r.targets ≠ []) : (choose pick r).isSome = true := by
  unfold choose; split <;> first | contradiction | rfl

theorem lookupRoutes_find {m : Str → Str → Bool} {pick : Route → Target} {path : Str} {rs : List Route}
    {r : Route} {tg : Target} (h : lookupRoutes m pick path rs = some (r, tg)) :
    rs.find? (fun r => m path r.path) = some r ∧ r.targets ≠ [] ∧ (tg ∈ r.targets ∨ tg = pick r) := by
  rw [lookupRoutes_eq, Option.bind_eq_some_iff] at h
  obtain ⟨r0, hf, hc⟩ := h
  obtain ⟨rfl, hr⟩ := choose_some hc
  exact ⟨hf, hr⟩

theorem lookupRoutes_some {m : Str → Str → Bool} {pick : Route → Target} {path : Str} {rs : List Route}
    {r : Route} {tg : Target} (h : lookupRoutes m pick path rs = some (r, tg)) :
    ∃ pre post, rs = pre ++ r :: post ∧ (∀ x ∈ pre, m path x.path = false) ∧ m path r.path = true ∧
      r.targets ≠ [] ∧ (tg ∈ r.targets ∨ tg = pick r) := by
  obtain ⟨hf, hr⟩ := lookupRoutes_find h
  obtain ⟨hm, pre, post, e, hpre⟩ := List.find?_eq_some_iff_append.1 hf
  exact ⟨pre, post, e, fun x hx => by simpa using hpre x hx, hm, hr⟩

theorem lookupRoutes_isSome {m : Str → Str → Bool} {pick : Route → Target} {path : Str} {rs : List Route}
    (hne : ∀ r ∈ rs, r.targets ≠ []) {r : Route} (hr : r ∈ rs) (hm : m path r.path = true) :
    (lookupRoutes m pick path rs).isSome = true := by
  rw [lookupRoutes_eq]
  obtain ⟨r0, h0⟩ := Option.isSome_iff_exists.1
    (List.find?_isSome (p := fun r => m path r.path) |>.2 ⟨r, hr, hm⟩)
  rw [h0]
  exact choose_isSome (hne r0 (List.mem_of_find?_eq_some h0))

theorem pathMatchBy_fold_prefix (g : Char → Char) (pg : Str → Str → Bool) {kind : MatcherKind} (hk : kind ≠ .glob)
    (uri p : Str) (h : pathMatchBy (List.map g) pg kind uri p = true) : p.map g <+: uri.map g := by
  cases kind with
  | glob => exact absurd rfl hk
  | pfx =>
    simp only [pathMatchBy, List.isPrefixOf_iff_prefix] at h
    obtain ⟨w, rfl⟩ := h
    exact ⟨w.map g, by simp⟩
  | iprefix =>
    simpa only [pathMatchBy, List.isPrefixOf_iff_prefix] using h

theorem pathMatch_eq (pg : Str → Str → Bool) : pathMatch pg = pathMatchBy (List.map lowerChar) pg := by
  funext kind; cases kind <;> rfl

/-- one host of the loop of `Lookup`: the per-host answer unless the redirect skip rejects it -/
def tryHost (look : Str → Option (Route × Target)) (skip : Target → Bool) (h : Str) : Option (Str × Route × Target) :=
  ((look h).filter (fun p => !skip p.2)).map (fun p => (h, p))

theorem lookupHosts_eq (look : Str → Option (Route × Target)) (skip : Target → Bool) (hs : List Str) :
    lookupHosts look skip hs none = hs.findSome? (tryHost look skip) := by
  induction hs with
  | nil => rfl
  | cons h hs ih =>
    simp only [lookupHosts, List.findSome?_cons, tryHost]
    cases look h with
    | none => simpa using ih
    | some p => cases hsk : skip p.2 <;> simp [Option.filter, hsk, ih]

theorem tryHost_some {look : Str → Option (Route × Target)} {skip : Target → Bool} {x h : Str} {r : Route} {tg : Target} :
    tryHost look skip x = some (h, r, tg) ↔ x = h ∧ look h = some (r, tg) ∧ skip tg = false := by
  unfold tryHost
  constructor
  · intro e
    obtain ⟨p, hp, e⟩ := Option.map_eq_some_iff.1 e
    cases e
    obtain ⟨hl, hs⟩ := Option.filter_eq_some_iff.1 hp
    exact ⟨rfl, hl, by simpa using hs⟩
  · rintro ⟨rfl, hl, hs⟩
    simp [hl, Option.filter, hs]

theorem tryHost_none {look : Str → Option (Route × Target)} {skip : Target → Bool} {x : Str} :
    tryHost look skip x = none ↔ ∀ p, look x = some p → skip p.2 = true := by
  unfold tryHost
  rw [Option.map_eq_none_iff, Option.filter_eq_none_iff]
  simp

theorem normalizeHostNoLower_lowerL (h : Str) (tls : Bool) :
    normalizeHostNoLower (lowerL h) tls = lowerL (normalizeHostNoLower h tls) := by
  unfold normalizeHostNoLower hasSuffix
  rw [isSuffixOf_lowerL port80 (by decide), isSuffixOf_lowerL port443 (by decide)]
  have hl : (lowerL h).length = h.length := by simp [lowerL]
  rw [hl]
  split
  · simp [lowerL, List.map_take]
  · split
    · simp [lowerL, List.map_take]
    · rfl

theorem normalizeHost_lowerL (h : Str) (tls : Bool) : normalizeHost (lowerL h) tls = normalizeHost h tls := by
  unfold normalizeHost
  rw [normalizeHostNoLower_lowerL, lowerL_idem]

theorem normalizeHost_nil (tls : Bool) : normalizeHost [] tls = [] := by cases tls <;> decide

theorem globLib_nil (s : Str) : globLib [] s = s.isEmpty := by
  simp [globLib, globFrag, gobwasQuirk]

theorem globFrag_literal (p s : Str) (hp : ∀ c ∈ p, (c == '*') = false ∧ (c == '?') = false) :
    globFrag p s = (s == p) := by
  induction p generalizing s with
  | nil => cases s <;> simp [globFrag]
  | cons c p ih =>
    have hc := hp c (by simp)
    have ih' := fun s => ih s (fun x hx => hp x (by simp [hx]))
    cases s with
    | nil => simp [globFrag, hc.1]
    | cons d s' =>
      simp only [globFrag, hc.1, Bool.false_eq_true, if_false, hc.2, Bool.false_or, ih' s']
      by_cases hcd : c = d
      · subst hcd; simp
      · have : (d :: s' == c :: p) = false := by
          simp only [List.cons_beq_cons] ; simp [Ne.symm hcd]
        simp [hcd, this]

theorem anySuffix_eq (p : Str) (s : Str) :
    anySuffix (fun s' => s' == p) s = p.isSuffixOf s := by
  induction s with
  | nil =>
    cases p with
    | nil => rfl
    | cons c p => simp [anySuffix, List.isSuffixOf]
  | cons d s ih =>
    simp only [anySuffix, ih]
    by_cases h : (d :: s) = p
    · subst h; simp [List.isSuffixOf]
    · have h1 : ((d :: s) == p) = false := by simpa using h
      rw [h1, Bool.false_or]
      -- a proper suffix of d :: s is a suffix of s
      apply Bool.eq_iff_iff.2
      rw [List.isSuffixOf_iff_suffix, List.isSuffixOf_iff_suffix, List.suffix_cons_iff]
      constructor
      · intro hs; exact Or.inr hs
      · rintro (he | hs)
        · exact absurd he.symm h
        · exact hs

theorem gobwasQuirk_star (lit s : Str) :
    gobwasQuirk ('*' :: lit) s = false := by
  simp [gobwasQuirk, List.takeWhile]

theorem gobwasQuirk_literal (p s : Str) (hp : ∀ c ∈ p, (c == '*') = false ∧ (c == '?') = false) :
    gobwasQuirk p s = false := by
  have ht : ∀ q : Str, (∀ c ∈ q, (c == '*') = false ∧ (c == '?') = false) →
      q.takeWhile (· != '*') = q ∧ q.dropWhile (· != '*') = [] := by
    intro q hq
    induction q with
    | nil => exact ⟨rfl, rfl⟩
    | cons c q ih =>
      have hc := (hq c (by simp)).1
      have hc' : (c != '*') = true := by simp [bne, hc]
      have := ih (fun x hx => hq x (by simp [hx]))
      simp only [List.takeWhile, List.dropWhile, hc', this]
      exact ⟨trivial, trivial⟩
  have hd := (ht p hp).2
  have ht := (ht p hp).1
  have hq : (p == ['?']) = false := by
    cases p with
    | nil => rfl
    | cons c p =>
      have := (hp c (by simp)).2
      simp only [List.cons_beq_cons]; simp [this]
  simp [gobwasQuirk, ht, hd, hq]

theorem globLib_literal (p s : Str) (hp : ∀ c ∈ p, (c == '*') = false ∧ (c == '?') = false) :
    globLib p s = (s == p) := by
  rw [globLib, gobwasQuirk_literal _ _ hp, Bool.or_false, globFrag_literal _ _ hp]

theorem globLib_star_literal (p s : Str) (hp : ∀ c ∈ p, (c == '*') = false ∧ (c == '?') = false) :
    globLib ('*' :: p) s = p.isSuffixOf s := by
  have : globFrag p = (fun s' => s' == p) := funext fun s' => globFrag_literal _ _ hp
  rw [globLib, gobwasQuirk_star, Bool.or_false]
  simp only [globFrag, beq_self_eq_true, if_true]
  rw [this, anySuffix_eq]

theorem hasSuffix_append_self (h p : Str) : hasSuffix (h ++ p) p = true := by
  unfold hasSuffix List.isSuffixOf
  rw [List.reverse_append, List.isPrefixOf_iff_prefix]
  exact List.prefix_append _ _

theorem normalizeHostNoLower_port80 (h : Str) : normalizeHostNoLower (h ++ port80) false = h := by
  unfold normalizeHostNoLower
  simp [hasSuffix_append_self, port80]

theorem normalizeHostNoLower_port443 (h : Str) : normalizeHostNoLower (h ++ port443) true = h := by
  unfold normalizeHostNoLower
  simp [hasSuffix_append_self, port443]

theorem splitHostPort_no_colon (s : Str) (h : ':' ∉ s) : splitHostPort s = none := by
  unfold splitHostPort lastIndexOf
  rw [lastIndexOf_go_not_mem ':' s 0 none h]

theorem hostPart_no_colon (s : Str) (h : ':' ∉ s) : hostPart s = s := by
  simp [hostPart, splitHostPort_no_colon s h]

theorem splitHostPort_host_port (h p : Str) (hh : ∀ c ∈ h, c ≠ ':' ∧ c ≠ '[' ∧ c ≠ ']')
    (hp : ∀ c ∈ p, c ≠ ':' ∧ c ≠ '[' ∧ c ≠ ']') : splitHostPort (h ++ ':' :: p) = some (h, p) := by
  have hc : ':' ∉ h := fun m => (hh _ m).1 rfl
  have pc : ':' ∉ p := fun m => (hp _ m).1 rfl
  have hd : (h ++ ':' :: p).head? ≠ some '[' := by
    cases h with
    | nil => simp
    | cons x xs => simpa using (hh x (by simp)).2.1
  have nb (c : Char) (hcc : c ≠ ':') (h1 : c ∉ h) (h2 : c ∉ p) : (h ++ ':' :: p).contains c = false := by
    simp [h1, h2, hcc]
  have tk : (h ++ ':' :: p).take h.length = h := by simp
  have dr : (h ++ ':' :: p).drop (h.length + 1) = p := by
    rw [← List.drop_drop]; simp
  have hcont : h.contains ':' = false := by simp [hc]
  unfold splitHostPort
  rw [lastIndexOf_append_cons ':' h p pc]
  have : ((h ++ ':' :: p).head? == some '[') = false := by
    rw [beq_eq_false_iff_ne]; exact hd
  simp only [this, Bool.false_eq_true, ↓reduceIte, tk, dr, hcont,
    nb '[' (by decide) (fun m => (hh _ m).2.1 rfl) (fun m => (hp _ m).2.1 rfl),
    nb ']' (by decide) (fun m => (hh _ m).2.2 rfl) (fun m => (hp _ m).2.2 rfl)]

theorem hostPart_host_port (h p : Str) (hne : h ≠ []) (hh : ∀ c ∈ h, c ≠ ':' ∧ c ≠ '[' ∧ c ≠ ']')
    (hp : ∀ c ∈ p, c ≠ ':' ∧ c ≠ '[' ∧ c ≠ ']') : hostPart (h ++ ':' :: p) = h := by
  unfold hostPart
  rw [splitHostPort_host_port h p hh hp]
  cases h with
  | nil => exact absurd rfl hne
  | cons x xs => simp

end Fabio.Lemmas.C03
