import Fabio.Model.C02Buf
/-!
The scanner model of `Model/C02Buf.lean` delivers LINES (core Lean only).

`Scan.next` mimics `bufio.Scanner.Scan` on positions: buffer capacity, `start`, `end`, bytes read, EOF. `next_spec`
says what a call returns, for every source, every state the scanner can be in (`Ok`) and all `bufio` constants.
So the tokens are exactly the maximal newline-free segments, up to the first one of `maxTok` bytes or more: the
line-level model of `route.Parse` (`Parse.rawLines`, `maxToken ≤ byteLen raw`) and the chunked reader agree.
-/
namespace Fabio.Lemmas.C02Scan
open Fabio Fabio.Model.C02Buf

def NoNL (data : Array Bool) (a b : Nat) : Prop := ∀ i, a ≤ i → i < b → data[i]? ≠ some true

theorem NoNL.empty {data : Array Bool} {a b : Nat} (h : b ≤ a) : NoNL data a b := fun _ h1 h2 => by omega

theorem NoNL.cons {data : Array Bool} {a b : Nat} (ha : data[a]? ≠ some true) (h : NoNL data (a + 1) b) : NoNL data a b := by
  intro k hk1 hk2
  by_cases hka : k = a
  · exact hka ▸ ha
  · exact h k (by omega) hk2

theorem findNL_spec (data : Array Bool) (hi : Nat) : ∀ (fuel i : Nat), hi - i ≤ fuel →
    match findNL data hi fuel i with
    | some j => i ≤ j ∧ j < hi ∧ data[j]? = some true ∧ NoNL data i j
    | none => NoNL data i hi := by
  intro fuel
  induction fuel with
  | zero => intro i h; exact NoNL.empty (by omega)
  | succ fuel ih =>
    intro i h
    unfold findNL
    by_cases hlt : i < hi
    · rw [if_pos hlt]
      by_cases hd : data[i]? = some true
      · rw [if_pos (by simpa using hd)]
        exact ⟨Nat.le_refl _, hlt, hd, NoNL.empty (Nat.le_refl _)⟩
      · rw [if_neg (by simpa using hd)]
        have := ih (i+1) (by omega)
        split at this
        · exact ⟨by omega, this.2.1, this.2.2.1, this.2.2.2.cons hd⟩
        · exact this.cons hd
    · rw [if_neg hlt]
      exact NoNL.empty (by omega)

theorem findNL_eq_some {data : Array Bool} {hi fuel i j : Nat} (hf : hi - i ≤ fuel) (h1 : i ≤ j) (h2 : j < hi)
    (h3 : data[j]? = some true) (h4 : NoNL data i j) : findNL data hi fuel i = some j := by
  have := findNL_spec data hi fuel i hf
  split at this
  · rename_i k hk
    obtain ⟨f1, _, f3, f4⟩ := this
    by_cases hlt : k < j
    · exact absurd f3 (h4 k f1 hlt)
    · by_cases hgt : j < k
      · exact absurd h3 (f4 j h1 hgt)
      · rw [hk, show k = j by omega]
  · exact absurd h3 (this j h1 h2)

theorem findNL_eq_none {data : Array Bool} {hi fuel i : Nat} (hf : hi - i ≤ fuel) (h : NoNL data i hi) :
    findNL data hi fuel i = none := by
  have := findNL_spec data hi fuel i hf
  split at this
  · rename_i k hk
    exact absurd this.2.2.1 (h k this.1 this.2.1)
  · assumption

/-- what holds of the scanner between two steps:
* `se`, `ec`: the held bytes `buf[start:end]` lie inside the buffer;
* `ho`: they are the last of the `off` bytes read, so they begin at position `base = off - held` of the source;
* `ol`: nothing is read beyond the source;
* `eo`, `ee`: EOF is seen only once everything is read, and by a read into free space — a rest delivered at EOF does not
  fill the buffer;
* `nl`: after `ErrTooLong` there is no further step;
* `cm`: the buffer never grows beyond the token limit. -/
structure Ok (cfg : ScanCfg) (data : Array Bool) (s : Scan) : Prop where
  se : s.start ≤ s.end_
  ec : s.end_ ≤ s.cap
  ho : s.end_ - s.start ≤ s.off
  ol : s.off ≤ data.size
  eo : s.eof = true → s.off = data.size
  ee : s.eof = true → s.end_ < s.cap
  nl : s.tooLong = false
  cm : s.cap ≤ cfg.maxTok

theorem Ok.init (cfg : ScanCfg) (data : Array Bool) : Ok cfg data {} :=
  ⟨Nat.le_refl _, Nat.le_refl _, Nat.zero_le _, Nat.zero_le _, by simp, by simp, rfl, Nat.zero_le _⟩

theorem shift_off (s : Scan) : s.shift.off = s.off := by unfold Scan.shift; split <;> rfl
theorem grow_off (cfg : ScanCfg) (s : Scan) : (s.grow cfg).off = s.off := by unfold Scan.grow; split <;> rfl

theorem shift_ok {cfg : ScanCfg} {data : Array Bool} {s : Scan} (h : Ok cfg data s) (he : s.eof = false) :
    Ok cfg data s.shift ∧ s.shift.base = s.base ∧ s.shift.eof = false := by
  unfold Scan.shift
  split
  · refine ⟨⟨by simp, ?_, ?_, h.ol, by simp [he], by simp [he], h.nl, h.cm⟩, ?_, he⟩
    · have := h.ec; have := h.se; simp [Scan.held]; omega
    · have := h.ho; simp [Scan.held]; omega
    · simp [Scan.base, Scan.held]
  · exact ⟨h, rfl, he⟩

theorem grow_ok {cfg : ScanCfg} {data : Array Bool} {s : Scan} (hsb : 0 < cfg.startBuf) (hsm : cfg.startBuf ≤ cfg.maxTok)
    (h : Ok cfg data s) (he : s.eof = false) (hf : s.full cfg = false) :
    Ok cfg data (s.grow cfg) ∧ (s.grow cfg).base = s.base ∧ (s.grow cfg).eof = false ∧
      (s.grow cfg).end_ < (s.grow cfg).cap := by
  have hse := h.se; have hec := h.ec; have hho := h.ho; have hcm := h.cm
  by_cases hfull : s.end_ = s.cap
  · have hlt : s.cap < cfg.maxTok := by
      unfold Scan.full at hf
      simp only [hfull, beq_self_eq_true, Bool.true_and, decide_eq_false_iff_not, ge_iff_le, Nat.not_le] at hf
      exact hf
    -- the new capacity `c`: the start size, or twice the old one up to the token limit
    obtain ⟨c, hg, hc1, hc2⟩ : ∃ c, s.grow cfg = { s with cap := c, end_ := s.end_ - s.start, start := 0 } ∧
        s.cap < c ∧ c ≤ cfg.maxTok := by
      by_cases hz : s.cap = 0
      · exact ⟨cfg.startBuf, by unfold Scan.grow; simp [hfull, hz], by omega, hsm⟩
      · exact ⟨min (s.cap * 2) cfg.maxTok, by unfold Scan.grow; simp [hfull, hz], by simp [Nat.lt_min]; omega,
          Nat.min_le_right _ _⟩
    have noeof : ∀ {P : Prop}, s.eof = true → P := fun h1 => by rw [he] at h1; cases h1
    rw [hg]
    refine ⟨⟨Nat.zero_le _, ?_, ?_, h.ol, noeof, noeof, h.nl, hc2⟩, ?_, he, ?_⟩
    · show s.end_ - s.start ≤ c; omega
    · exact hho
    · rfl
    · show s.end_ - s.start < c; omega
  · have hg : s.grow cfg = s := by unfold Scan.grow; simp [hfull]
    rw [hg]
    exact ⟨h, rfl, he, by omega⟩

theorem read_ok {cfg : ScanCfg} {data : Array Bool} {s : Scan} (h : Ok cfg data s) (he : s.eof = false)
    (hlt : s.end_ < s.cap) :
    Ok cfg data (s.read data) ∧ (s.read data).base = s.base ∧
      data.size - (s.read data).off + (if (s.read data).eof then 0 else 1) < data.size - s.off + 1 := by
  have hse := h.se; have hec := h.ec; have hho := h.ho; have hol := h.ol
  by_cases hr : data.size - s.off = 0
  · -- nothing left in the source: the read answers `0, io.EOF`
    have hg : s.read data = { s with eof := true } := by unfold Scan.read; simp [hr]
    rw [hg]
    refine ⟨⟨hse, hec, hho, hol, fun _ => ?_, fun _ => hlt, h.nl, h.cm⟩, rfl, ?_⟩
    · show s.off = data.size; omega
    · show data.size - s.off + (if true = true then 0 else 1) < data.size - s.off + 1
      simp
  · -- `n ≥ 1` bytes are copied: `end_` and `off` move on together, so `base` stays and the unread part shrinks
    have hn1 : 1 ≤ min (s.cap - s.end_) (data.size - s.off) := by simp [Nat.le_min]; omega
    have hn2 : min (s.cap - s.end_) (data.size - s.off) ≤ s.cap - s.end_ := Nat.min_le_left _ _
    have hn3 : min (s.cap - s.end_) (data.size - s.off) ≤ data.size - s.off := Nat.min_le_right _ _
    have hg : s.read data = { s with end_ := s.end_ + min (s.cap - s.end_) (data.size - s.off),
                                      off := s.off + min (s.cap - s.end_) (data.size - s.off) } := by
      unfold Scan.read; simp [hr]
    rw [hg]
    generalize min (s.cap - s.end_) (data.size - s.off) = n at *
    refine ⟨⟨?_, ?_, ?_, ?_, ?_, ?_, h.nl, h.cm⟩, ?_, ?_⟩
    · show s.start ≤ s.end_ + n; omega
    · show s.end_ + n ≤ s.cap; omega
    · show s.end_ + n - s.start ≤ s.off + n
      rw [Nat.sub_add_comm hse]; exact Nat.add_le_add_right hho n
    · show s.off + n ≤ data.size; omega
    · intro h1; rw [he] at h1; cases h1
    · intro h1; rw [he] at h1; cases h1
    · show s.off + n - (s.end_ + n - s.start) = s.off - (s.end_ - s.start)
      rw [Nat.sub_add_comm hse, Nat.add_sub_add_right]
    · show data.size - (s.off + n) + (if s.eof = true then 0 else 1) < data.size - s.off + 1
      simp [he]; omega

theorem read_off (data : Array Bool) (s : Scan) (h : s.off ≤ data.size) :
    s.off ≤ (s.read data).off ∧ (s.read data).off ≤ data.size := by
  unfold Scan.read
  split
  · exact ⟨Nat.le_refl _, h⟩
  · have := Nat.min_le_right (s.cap - s.end_) (data.size - s.off)
    constructor
    · show s.off ≤ s.off + min (s.cap - s.end_) (data.size - s.off); omega
    · show s.off + min (s.cap - s.end_) (data.size - s.off) ≤ data.size; omega

theorem next_off (cfg : ScanCfg) (data : Array Bool) : ∀ (fuel : Nat) (s : Scan), s.off ≤ data.size →
    s.off ≤ (Scan.next cfg data fuel s).2.off ∧ (Scan.next cfg data fuel s).2.off ≤ data.size := by
  intro fuel
  induction fuel with
  | zero => intro s h; exact ⟨Nat.le_refl _, h⟩
  | succ fuel ih =>
    intro s h
    unfold Scan.next
    split
    · exact ⟨Nat.le_refl _, h⟩
    · split
      · exact ⟨Nat.le_refl _, h⟩
      · split
        · show s.off ≤ s.shift.off ∧ s.shift.off ≤ data.size
          rw [shift_off]; exact ⟨Nat.le_refl _, h⟩
        · have hr := read_off data (s.shift.grow cfg) (by rw [grow_off, shift_off]; exact h)
          rw [grow_off, shift_off] at hr
          have := ih _ hr.2
          exact ⟨Nat.le_trans hr.1 this.1, this.2⟩

theorem base_add_held {cfg : ScanCfg} {data : Array Bool} {s : Scan} (h : Ok cfg data s) : s.base + s.held = s.off := by
  have := h.ho
  simp only [Scan.base, Scan.held]; omega

/-- what `ScanLines` finds in the held bytes: a line ended by a newline, or at EOF the non-empty rest -/
theorem token_spec {cfg : ScanCfg} {data : Array Bool} {s : Scan} (h : Ok cfg data s) :
    match s.token data with
    | some (p, l, adv) => p = s.base ∧ NoNL data p (p + l) ∧ adv ≤ s.held ∧
        ((data[p + l]? = some true ∧ adv = l + 1) ∨ (s.eof = true ∧ 0 < l ∧ l = s.held ∧ adv = l))
    | none => NoNL data s.base s.off ∧ (s.eof = true → s.held = 0) := by
  have hbh := base_add_held h
  have hfind := findNL_spec data s.off (s.held + 1) s.base (by omega)
  unfold Scan.token
  by_cases hcond : (decide (s.held > 0) || s.eof) = true
  · rw [if_pos hcond]
    split at hfind
    · rename_i i hi
      rw [hi]
      dsimp only
      obtain ⟨f1, f2, f3, f4⟩ := hfind
      have hpl : s.base + (i - s.base) = i := by omega
      exact ⟨rfl, by rw [hpl]; exact f4, by omega, Or.inl ⟨by rw [hpl]; exact f3, by omega⟩⟩
    · -- no newline: the held bytes are a token only at EOF, and only if there are any
      rename_i hnone
      by_cases hfin : (s.eof && decide (s.held > 0)) = true
      · rw [hnone, if_pos hfin]
        dsimp only
        simp only [Bool.and_eq_true, decide_eq_true_eq] at hfin
        exact ⟨rfl, by rw [hbh]; exact hfind, Nat.le_refl _, Or.inr ⟨hfin.1, hfin.2, rfl, rfl⟩⟩
      · rw [hnone, if_neg hfin]
        dsimp only
        exact ⟨hfind, fun he => by simpa [he] using hfin⟩
  · rw [if_neg hcond]
    simp only [Bool.or_eq_true, decide_eq_true_eq, not_or, Nat.not_lt, Nat.le_zero_eq, Bool.not_eq_true] at hcond
    exact ⟨NoNL.empty (by omega), fun _ => hcond.1⟩

theorem advance_ok {cfg : ScanCfg} {data : Array Bool} {s : Scan} (h : Ok cfg data s) {adv : Nat} (ha : adv ≤ s.held) :
    Ok cfg data { s with start := s.start + adv } ∧ ({ s with start := s.start + adv } : Scan).base = s.base + adv := by
  have := h.se; have := h.ho
  simp only [Scan.held] at ha
  refine ⟨⟨?_, h.ec, ?_, h.ol, h.eo, h.ee, h.nl, h.cm⟩, ?_⟩
  · show s.start + adv ≤ s.end_; omega
  · show s.end_ - (s.start + adv) ≤ s.off; omega
  · show s.off - (s.end_ - (s.start + adv)) = s.off - (s.end_ - s.start) + adv
    rw [Nat.sub_add_eq]
    generalize s.end_ - s.start = held at *
    omega

/-- a buffer that is full after the shift starts at 0: it holds `maxTok` bytes -/
theorem full_shift {cfg : ScanCfg} {data : Array Bool} {s : Scan} (h : Ok cfg data s) (hf : s.shift.full cfg = true) :
    cfg.maxTok ≤ s.held := by
  have := h.se
  unfold Scan.shift at hf
  split at hf
  · simp only [Scan.full, Scan.held, Bool.and_eq_true, beq_iff_eq, decide_eq_true_eq] at hf ⊢
    omega
  · rename_i hc
    simp only [Scan.full, Scan.held, Bool.and_eq_true, beq_iff_eq, decide_eq_true_eq, Bool.or_eq_true, not_and, not_or] at hf hc ⊢
    by_cases hs0 : s.start = 0
    · omega
    · have := (hc (by omega)).1
      omega

theorem refill_ok {cfg : ScanCfg} {data : Array Bool} {s : Scan} (hsb : 0 < cfg.startBuf) (hsm : cfg.startBuf ≤ cfg.maxTok)
    (h : Ok cfg data s) (he : s.eof = false) (hf : s.shift.full cfg = false) :
    Ok cfg data ((s.shift.grow cfg).read data) ∧ ((s.shift.grow cfg).read data).base = s.base ∧
      data.size - ((s.shift.grow cfg).read data).off + (if ((s.shift.grow cfg).read data).eof then 0 else 1) <
        data.size - s.off + 1 := by
  obtain ⟨hok1, hb1, he1⟩ := shift_ok h he
  obtain ⟨hok2, hb2, he2, hlt2⟩ := grow_ok hsb hsm hok1 he1 hf
  obtain ⟨hok3, hb3, hm3⟩ := read_ok hok2 he2 hlt2
  exact ⟨hok3, by rw [hb3, hb2, hb1], by rw [grow_off, shift_off] at hm3; exact hm3⟩

/-- the fuel `scanLoop` and `scanAll` hand every call, `data.size + 40`, exceeds the measure of `next_spec` in every state -/
theorem fuel_suffices (data : Array Bool) (s : Scan) :
    data.size - s.off + (if s.eof then 0 else 1) < data.size + 40 := by
  split <;> omega

/-- **What one call of `Scan()` returns.** Induction on the fuel; the measure is the number of unread bytes, plus one until
EOF has been seen. When `token` finds nothing in the held bytes and neither EOF nor the full buffer ends the call, shift,
grow and read leave `base` where it is and lower the measure (`refill_ok`). -/
theorem next_spec (cfg : ScanCfg) (data : Array Bool) (hsb : 0 < cfg.startBuf) (hsm : cfg.startBuf ≤ cfg.maxTok) :
    ∀ (fuel : Nat) (s : Scan), Ok cfg data s →
      data.size - s.off + (if s.eof then 0 else 1) < fuel →
      match Scan.next cfg data fuel s with
      | (some (p, l), s') =>
          Ok cfg data s' ∧ p = s.base ∧ NoNL data p (p + l) ∧ l < cfg.maxTok ∧
          ((data[p + l]? = some true ∧ s'.base = p + l + 1) ∨
           (0 < l ∧ p + l = data.size ∧ s'.base = data.size ∧ s'.eof = true))
      | (none, s') =>
          (s'.tooLong = true ∧ NoNL data s.base (s.base + cfg.maxTok) ∧ s.base + cfg.maxTok ≤ data.size) ∨
          (s'.tooLong = false ∧ s.base = data.size) := by
  intro fuel
  induction fuel with
  | zero => intro s _ hf; omega
  | succ fuel ih =>
    intro s h hf
    have htok := token_spec h
    have hbh := base_add_held h
    unfold Scan.next
    cases hT : s.token data with
    | some tk =>
      obtain ⟨p, l, adv⟩ := tk
      rw [hT] at htok
      obtain ⟨rfl, hno, hadv, hcase⟩ := htok
      obtain ⟨hok', hb'⟩ := advance_ok h hadv
      have hcap : s.held ≤ cfg.maxTok := by
        have := h.ec; have := h.cm
        simp only [Scan.held]; omega
      rcases hcase with ⟨hnl, rfl⟩ | ⟨he, hl, rfl, rfl⟩
      · -- a line and its newline are among the held bytes, which are at most `maxTok`
        exact ⟨hok', rfl, hno, by omega, Or.inl ⟨hnl, by rw [hb']; omega⟩⟩
      · -- the rest at EOF: the buffer is not full (`ee`), everything has been read (`eo`)
        have := h.ee he; have := h.cm; have := h.eo he
        exact ⟨hok', rfl, hno, by simp only [Scan.held]; omega, Or.inr ⟨hl, by omega, by rw [hb']; omega, he⟩⟩
    | none =>
      rw [hT] at htok
      obtain ⟨hno, hz⟩ := htok
      simp only
      by_cases he : s.eof = true
      · simp only [he, if_true]
        have := hz he; have := h.eo he
        exact Or.inr ⟨h.nl, by omega⟩
      · have he' : s.eof = false := by simpa using he
        simp only [he', Bool.false_eq_true, if_false]
        by_cases hfull : s.shift.full cfg = true
        · -- the buffer is full, as large as it may get, and holds no newline
          simp only [hfull, if_true]
          have := full_shift h hfull
          have := h.ol
          exact Or.inl ⟨trivial, fun k hk1 hk2 => hno k hk1 (by omega), by omega⟩
        · have hfull' : s.shift.full cfg = false := by simpa using hfull
          simp only [hfull', Bool.false_eq_true, if_false]
          obtain ⟨hok', hb', hm'⟩ := refill_ok hsb hsm h he' hfull'
          simp only [he', Bool.false_eq_true, if_false] at hf
          have := ih _ hok' (by omega)
          rw [hb'] at this
          exact this

end Fabio.Lemmas.C02Scan
