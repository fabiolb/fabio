import Fabio.Model.C12Htpasswd
/-! `Model/C12Htpasswd.lean`: the entry of a user comes from a line of the file; histories of attempts and reloads of the
file text. -/
namespace Fabio.Lemmas.C12
open Fabio Fabio.Model.C12

theorem htLookup_mem {es : List (List Char × (List Char → Bool))} {u : List Char} {m : List Char → Bool}
    (h : htLookup es u = some m) : (u, m) ∈ es := by
  obtain ⟨e, hf, rfl⟩ := Option.map_eq_some_iff.mp h
  have hk : e.1 = u := by simpa using List.find?_some hf
  rw [← hk]
  simpa using List.mem_of_find?_eq_some hf

theorem runAuthF_append_attempt (H : List Char → Option (List Char → Bool)) (text : List Char) (h : List AuthOpF)
    (c : Option (List Char × List Char)) :
    runAuthF H text (h ++ [.attempt c]) = runAuthF H text h ++ [fileVerdict H (fileAfterF text h) c] := by
  induction h generalizing text with
  | nil => rfl
  | cons op h ih => cases op <;> simp [runAuthF, fileAfterF, ih]

end Fabio.Lemmas.C12
