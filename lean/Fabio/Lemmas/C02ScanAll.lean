import Fabio.Lemmas.C02Scan
/-!
The scanner model delivers EXACTLY the lines: the whole token sequence (core Lean only).

`segs` is the specification that the statements of `Props/C02Buf.lean` and `Props/C02Lines.lean` speak of, `scanAll` the
run of the scanner model that is compared with it.
-/
namespace Fabio.Lemmas.C02ScanAll
open Fabio Fabio.Model.C02Buf Fabio.Lemmas.C02Scan

/-- `n` bounds the number of calls -/
def scanAll (cfg : ScanCfg) (data : Array Bool) : Nat → Scan → List (Nat × Nat) × Scan
  | 0, s => ([], s)
  | n+1, s =>
    match Scan.next cfg data (data.size + 40) s with
    | (none, s') => ([], s')
    | (some t, s') => let r := scanAll cfg data n s'; (t :: r.1, r.2)

/-- SPECIFICATION, independent of buffers and chunks: the maximal newline-free segments of the source from position
`p` on (position, length), up to the first one of `maxTok` bytes or more (`true` = there is such a segment) -/
def segs (data : Array Bool) (maxTok : Nat) : Nat → Nat → List (Nat × Nat) × Bool
  | 0, _ => ([], false)
  | n+1, p =>
    if data.size ≤ p then ([], false) else
    match findNL data data.size (data.size - p) p with
    | some j => if maxTok ≤ j - p then ([], true) else let r := segs data maxTok n (j+1); ((p, j - p) :: r.1, r.2)
    | none => if maxTok ≤ data.size - p then ([], true) else ([(p, data.size - p)], false)

theorem segs_end {data : Array Bool} {maxTok n p : Nat} (h : data.size ≤ p) : segs data maxTok n p = ([], false) := by
  cases n with
  | zero => rfl
  | succ n => rw [segs, if_pos h]

theorem segs_line {data : Array Bool} {maxTok n p j : Nat} (hpj : p ≤ j) (hnl : data[j]? = some true)
    (hno : NoNL data p j) :
    segs data maxTok (n + 1) p =
      if maxTok ≤ j - p then ([], true)
      else ((p, j - p) :: (segs data maxTok n (j + 1)).1, (segs data maxTok n (j + 1)).2) := by
  have hj := (Array.getElem?_eq_some_iff.1 hnl).1
  rw [segs, if_neg (by omega), findNL_eq_some (Nat.le_refl _) hpj hj hnl hno]

theorem segs_rest {data : Array Bool} {maxTok n p : Nat} (hp : p < data.size) (hno : NoNL data p data.size) :
    segs data maxTok (n + 1) p = if maxTok ≤ data.size - p then ([], true) else ([(p, data.size - p)], false) := by
  rw [segs, if_neg (by omega), findNL_eq_none (Nat.le_refl _) hno]

theorem segs_tooLong {data : Array Bool} {maxTok n p : Nat} (hp : p < data.size) (hno : NoNL data p (p + maxTok))
    (hle : p + maxTok ≤ data.size) : segs data maxTok (n + 1) p = ([], true) := by
  have hf := findNL_spec data data.size (data.size - p) p (Nat.le_refl _)
  split at hf
  · rename_i j _
    have : maxTok ≤ j - p := Nat.le_of_not_lt fun hd => absurd hf.2.2.1 (hno j hf.1 (by omega))
    rw [segs_line hf.1 hf.2.2.1 hf.2.2.2, if_pos this]
  · rw [segs_rest hp hf, if_pos (by omega)]

/-- **The scanner delivers exactly the lines**, from any state it can be in, and unless it ends with `ErrTooLong` it has
read the whole source. Each of the four things a call can return (`next_spec`) is one of the equations of `segs` above. -/
theorem scanAll_eq_segs (cfg : ScanCfg) (data : Array Bool) (hsb : 0 < cfg.startBuf) (hsm : cfg.startBuf ≤ cfg.maxTok) :
    ∀ (n : Nat) (s : Scan), Ok cfg data s → data.size - s.base < n →
      (scanAll cfg data n s).1 = (segs data cfg.maxTok n s.base).1 ∧
      (scanAll cfg data n s).2.tooLong = (segs data cfg.maxTok n s.base).2 ∧
      ((scanAll cfg data n s).2.tooLong = false → (scanAll cfg data n s).2.off = data.size) := by
  intro n
  induction n with
  | zero => intro s _ h; omega
  | succ n ih =>
    intro s hok hn
    have hspec := next_spec cfg data hsb hsm (data.size + 40) s hok (fuel_suffices data s)
    have hmono := next_off cfg data (data.size + 40) s hok.ol
    unfold scanAll
    cases hnext : Scan.next cfg data (data.size + 40) s with
    | mk o s' =>
      rw [hnext] at hspec hmono
      cases o with
      | none =>
        simp only at hspec hmono ⊢
        rcases hspec with ⟨hl, hno, hle⟩ | ⟨hl, hb⟩
        · rw [segs_tooLong (by omega) hno hle]
          exact ⟨rfl, hl, fun h => by rw [hl] at h; cases h⟩
        · -- the source is exhausted: the line start is its end, so everything has been read
          have := base_add_held hok
          rw [segs_end (by omega)]
          exact ⟨rfl, hl, fun _ => by omega⟩
      | some t =>
        obtain ⟨p, l⟩ := t
        simp only at hspec ⊢
        obtain ⟨hok', rfl, hno, hlt, hcase⟩ := hspec
        rcases hcase with ⟨hnl, hb'⟩ | ⟨hl0, hend, hb', heof⟩
        · have hin := (Array.getElem?_eq_some_iff.1 hnl).1
          have := ih s' hok' (by rw [hb']; omega)
          rw [hb'] at this
          rw [segs_line (Nat.le_add_right _ _) hnl hno, if_neg (by omega), Nat.add_sub_cancel_left]
          exact ⟨by rw [this.1], this.2⟩
        · have hrest := ih s' hok' (by rw [hb']; omega)
          rw [hb', segs_end (Nat.le_refl _)] at hrest
          rw [segs_rest (by omega) (hend ▸ hno), if_neg (by omega), show data.size - s.base = l by omega]
          exact ⟨by rw [hrest.1], hrest.2⟩

end Fabio.Lemmas.C02ScanAll
