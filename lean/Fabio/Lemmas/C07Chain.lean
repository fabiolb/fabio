import Fabio.Model.C07Chain
import Fabio.Model.C07Spec
import Fabio.Lemmas.C17Proxy
/-!
`Reply.script` is the relay of C17's model of the reverse proxy for the response `Reply.up` (`script_eq_relay`), so what
C17's `decision`, `writesOf` and `bareRun` make of it is read off `Lemmas/C17Proxy.lean`; and C17's `acceptsGzip` against
the specification's reading of Accept-Encoding (`C07Spec.gzipAcceptable`).
-/
namespace Fabio.Lemmas.C07Chain
open Fabio.Model Fabio.Model.C07Chain Fabio.Model.C07Spec

variable {Z : Type}

/-- The reply as a response in C17's model of the reverse proxy (`Model/C17Proxy.lean`): informational responses
without header lines of their own, no `Flush` behind a chunk. -/
def _root_.Fabio.Model.C07Chain.Reply.up (r : Reply) : C17.UpResp :=
  { info := r.interim.map (·, []), code := r.status, hdr := r.hdr, chunks := r.chunks, flushEach := false }

theorem relayInfo_bare (cs : List Nat) :
    ((cs.map (·, ([] : List (String × String)))).map (C17.relayInfo [])).flatten = cs.map C17.Op.wh := by
  induction cs with
  | nil => rfl
  | cons c cs ih => exact congrArg (C17.Op.wh c :: ·) ih

theorem copyBody_plain (cs : List Bytes) : C17.copyBody false cs = cs.map C17.Op.w := by
  induction cs with
  | nil => rfl
  | cons c cs ih => exact congrArg (C17.Op.w c :: ·) ih

/-- The two models of `httputil.ReverseProxy` agree on a writer whose header map is empty when the reverse proxy is
entered (`before = []`: its `clear(h)` after an informational response then deletes nothing). -/
theorem script_eq_relay (r : Reply) : r.script = C17.relay [] r.up := by
  show _ = ((r.interim.map (·, [])).map (C17.relayInfo [])).flatten ++
    (C17.addAll r.hdr ++ C17.Op.wh r.status :: C17.copyBody false r.chunks)
  rw [relayInfo_bare, copyBody_plain]
  rfl

theorem hops_whs (cs : List Nat) (h : Hdr) : C17.hops (cs.map C17.Op.wh) h = h := by
  induction cs with
  | nil => rfl
  | cons c cs ih => exact ih

theorem headersOn_eq (r : Reply) (h : Hdr) : r.headersOn h = Lemmas.C17.liveAtStatus [] r.up h := by
  show _ = C17.hops (C17.addAll r.hdr) (C17.hops ((r.interim.map (·, [])).map (C17.relayInfo [])).flatten h)
  rw [relayInfo_bare, hops_whs]
  symm
  exact List.foldl_map

theorem up_informational {r : Reply} (hw : ∀ c ∈ r.interim, C17.informational c = true) :
    ∀ i ∈ r.up.info, C17.informational i.1 = true := by
  intro i hi
  obtain ⟨c, hc, rfl⟩ := List.mem_map.mp hi
  exact hw c hc

theorem script_decision (C : C17.Cfg Z) (cf : Bool) (h : Hdr) (r : Reply) (hw : r.wellFormed) :
    C17.decision C cf h r.script = some (r.headersOn h, r.status) := by
  rw [script_eq_relay, headersOn_eq]
  exact Lemmas.C17.relay_decision C cf [] r.up h (up_informational hw.1) hw.2

theorem writesOf_script (r : Reply) (hw : ∀ c ∈ r.interim, C17.informational c = true) :
    C17.writesOf r.script = r.chunks := by
  rw [script_eq_relay]
  exact Lemmas.C17.relay_writes [] r.up (up_informational hw)

theorem bare_replay (C : C17.Cfg Z) (cf : Bool) (h0 : Hdr) (r : Reply) (hw : r.wellFormed) :
    (C17.bareRun C cf (h0, {}) r.script).2.obs (C17.bareRun C cf (h0, {}) r.script).1 = r.asIs h0 := by
  rw [Fabio.Lemmas.C17.bare_obs, script_decision C cf h0 r hw]
  simp [Reply.asIs, writesOf_script r hw.1]

/-- stated once: left to the unifier, this equation is found by unfolding `C17.serve` first -/
theorem respond_some (C : C17.Cfg Z) (head dfl : Bool) (req : Hdr) (pool : List Z) (r : Reply) :
    respond (some C) head dfl req pool r = (C17.serve C head dfl req [] pool r.script).obs := rfl

theorem gzipEngages_iff (typeOk : String → Bool) (head : Bool) (req : Hdr) (r : Reply) :
    gzipEngages typeOk head req r = true ↔
      C17.acceptsGzip req = true ∧ head = false ∧ C17.bodyAllowedForStatus r.status = true ∧
      C17.hget (r.headersOn varyHdr) C17.hContentEncoding = "" ∧
      typeOk (C17.hget (r.headersOn varyHdr) C17.hContentType) = true := by
  simp [gzipEngages, and_assoc]

/-- the first `q` parameter decides in both; the code asks `ParseFloat`, the specification the RFC's literals -/
theorem zeroWeightL_qParam (ps : List (List Char)) :
    C17.zeroWeightL ps = (match qParam ps with | some v => C17.zeroLit v | none => false) := by
  induction ps with
  | nil => rfl
  | cons p ps ih =>
    simp only [C17.zeroWeightL, qParam]
    split <;> simp_all

theorem rfcZero_zeroLit (v : List Char) (h : rfcZero v = true) : C17.zeroLit v = true := by
  simp only [rfcZero, Bool.or_eq_true, beq_iff_eq] at h
  rcases h with (((h | h) | h) | h) | h <;> subst h <;> decide

theorem refused_zeroWeight (e : List Char) (h : refused e = true) : C17.zeroWeight (C17.cut ';' e).2 = true := by
  unfold refused at h
  unfold C17.zeroWeight
  rw [zeroWeightL_qParam]
  split at h
  · next v hv => rw [hv]; exact rfcZero_zeroLit v h
  · cases h

theorem acceptsL_acceptableL (es : List (List Char)) (h : C17.acceptsL es = true) : acceptableL es = true := by
  obtain ⟨e, hm, hn, hz⟩ := Lemmas.C17.acceptsL_sound es h
  have hnamed : namesCoding "gzip".toList e = true := by
    simp only [namesCoding, hn]; decide
  have hnr : refused e = false := by
    cases hr : refused e with
    | false => rfl
    | true => rw [refused_zeroWeight e hr] at hz; cases hz
  have hin : e ∈ es.filter (namesCoding "gzip".toList) := List.mem_filter.mpr ⟨hm, hnamed⟩
  unfold acceptableL
  simp only [List.isEmpty_eq_false_iff_exists_mem.mpr ⟨e, hin⟩]
  exact List.any_eq_true.mpr ⟨e, hin, by simp [hnr]⟩

theorem acceptsGzip_acceptable (req : Hdr) (h : C17.acceptsGzip req = true) :
    gzipAcceptable (C17.hget req C17.hAcceptEncoding) = true := by
  unfold C17.acceptsGzip at h
  split at h
  · cases h
  · exact acceptsL_acceptableL _ h

end Fabio.Lemmas.C07Chain
