import Fabio.Model.C05Lang
import Fabio.Model.C05Glue
import Fabio.Lemmas.C05Text
import Fabio.Lemmas.Lit
/-!
C05: every well-formed route command, written in the command language (`Model/C05Lang.lean`, `printDef`), is read
back by `parseLine` as that very command — all three commands, all eight forms. A printed line as `route` followed by
words, the clauses ` weight …`, ` tags "…"`, ` opts "…"` and the `route add` line as a whole are treated in
`Lemmas/C05Text.lean`, which reads the same line as the rendering of a table; here are `route del` and `route weight`,
each form as the list of its words (`printed_*`), and the case split over the forms (`printDef_reads`). Core Lean only.
-/
namespace Fabio.Lemmas.C05Lang
open Fabio Fabio.Model.Route Fabio.Model.Parse Fabio.Model.C05Lang Fabio.Model.C05Glue Fabio.Lemmas.C05Text
open Fabio.Lemmas.Route (not_reSpace_of_not_uniSpace)

theorem ws1_sub {s s' : Str} (h : ws1 s = some s') : ∀ c ∈ s', c ∈ s := by
  cases s with
  | nil => simp [ws1] at h
  | cons x xs =>
    simp only [ws1] at h
    split at h
    · injection h with h
      subst h
      intro c hc
      exact List.mem_cons_of_mem _ ((List.dropWhile_suffix _).subset hc)
    · cases h

theorem lit_sub {p s s' : Str} (h : lit p s = some s') : ∀ c ∈ s', c ∈ s := by
  unfold lit at h
  split at h
  · injection h with h
    subst h
    intro c hc
    exact (List.drop_suffix _ _).subset hc
  · cases h

theorem quoted_head {s : Str} {r : Str × Str} (h : quoted s = some r) : '"' ∈ s := by
  cases s with
  | nil => simp [quoted] at h
  | cons x xs =>
    by_cases hx : x = '"'
    · subst hx; simp
    · unfold quoted at h
      split at h
      · next heq => injection heq with h1 _; exact absurd h1 hx
      · cases h

theorem kwQuoted_none (kw s : Str) (h : '"' ∉ s) : kwQuoted kw s = none := by
  cases hr : kwQuoted kw s with
  | none => rfl
  | some r =>
    exfalso
    unfold kwQuoted at hr
    cases h1 : ws1 s with
    | none => simp [h1] at hr
    | some s1 =>
      cases h2 : lit kw s1 with
      | none => simp [h1, h2] at hr
      | some s2 =>
        cases h3 : ws1 s2 with
        | none => simp [h1, h2, h3] at hr
        | some s3 =>
          simp [h1, h2, h3] at hr
          exact h (ws1_sub h1 _ (lit_sub h2 _ (ws1_sub h3 _ (quoted_head hr))))

def Tok (s : Str) : Prop := s ≠ [] ∧ ∀ c ∈ s, isUniSpace c = false ∧ c ≠ '"'

theorem Tok.re {s : Str} (h : Tok s) : ∀ c ∈ s, isReSpace c = false :=
  fun c hc => not_reSpace_of_not_uniSpace c (h.2 c hc).1

theorem Tok.ok {s : Str} (h : Tok s) : (Word.tok s).OK := ⟨h.1, h.re⟩

theorem Tok.lastOK {s : Str} (h : Tok s) : LastOK s := LastOK.of_all h.1 (fun c hc => (h.2 c hc).1)

theorem Tok.noQuote {s : Str} (h : Tok s) : '"' ∉ s := fun hc => (h.2 _ hc).2 rfl

/-- a tag list the grammar can carry: no quote, comma or newline inside a tag, tags trimmed, not the single
empty tag -/
structure TagsOK (ts : List Str) : Prop where
  q : ∀ tag ∈ ts, '"' ∉ tag ∧ ',' ∉ tag ∧ '\n' ∉ tag ∧ trimSpace tag = tag
  ne : ts ≠ [] → join [','] ts ≠ []

/-- an option map the grammar can carry, in its canonical (key-sorted, as `parseOpts` builds it) form -/
structure OptsOK (o : List (Str × Str)) : Prop where
  k : ∀ kv ∈ o, '=' ∉ kv.1 ∧ (∀ c ∈ kv.1, isUniSpace c = false ∧ c ≠ '"') ∧ (∀ c ∈ kv.2, isUniSpace c = false ∧ c ≠ '"')
  sorted : sortOpts o = o

/-- the decimal text `w` of a weight `q`: no text = weight 0, else `strconv.ParseFloat` reads `q` from it -/
structure WeightOK (pf : ParseFloat) (w : Str) (q : Rat) : Prop where
  tok : ∀ c ∈ w, isUniSpace c = false ∧ c ≠ '"'
  val : if w.isEmpty then q = 0 else pf w = some (.fin q)

theorem TagsOK.noQuote {ts : List Str} (h : TagsOK ts) : '"' ∉ join [','] ts := TagsQ.noQuote h.q

theorem TagsOK.noNL {ts : List Str} (h : TagsOK ts) : '\n' ∉ join [','] ts := TagsQ.noNL h.q

theorem TagsOK.parseTags {ts : List Str} (h : TagsOK ts) : parseTags (join [','] ts) = ts := TagsQ.parseTags h.q h.ne

theorem OptsOK.optsK {o : List (Str × Str)} (h : OptsOK o) : OptsK o := h.k

theorem WeightOK.parse {pf : ParseFloat} {w : Str} {q : Rat} (h : WeightOK pf w q) : parseWeight pf w = .ok q := by
  have := h.val
  unfold parseWeight
  split
  · next he => rw [if_pos he] at this; rw [this]
  · next he => rw [if_neg he] at this; rw [this]

theorem WeightOK.noSp {pf : ParseFloat} {w : Str} {q : Rat} (h : WeightOK pf w q) : ∀ c ∈ w, isUniSpace c = false :=
  fun c hc => (h.tok c hc).1

/-- a command the language can carry, with the decimal text `w` of its weight: tokens where the grammar wants
tokens, a `del` either by tags (then nothing else but an optional service) or by service (source and destination
optional, no destination without source), a `weight` with a weight text and — when it names no service — tags; a
number does not start with the letter `w` (the source-only form of `route weight` is recognised by the keyword
`weight` in second position); `del` and `weight` carry no options, `del` no weight -/
def DefOK (pf : ParseFloat) (w : Str) (d : RouteDef) : Prop :=
  match d.cmd with
  | .add => Tok d.service ∧ Tok d.src ∧ Tok d.dst ∧ WeightOK pf w d.weight ∧ TagsOK d.tags ∧ OptsOK d.opts
  | .del => w = [] ∧ d.weight = 0 ∧ d.opts = [] ∧ TagsOK d.tags ∧
      (if d.tags.isEmpty then Tok d.service ∧ (d.src = [] ∨ Tok d.src) ∧ (d.dst = [] ∨ Tok d.dst) ∧ (d.src = [] → d.dst = [])
       else (d.service = [] ∨ Tok d.service) ∧ d.src = [] ∧ d.dst = [])
  | .weight => w ≠ [] ∧ w.head? ≠ some 'w' ∧ WeightOK pf w d.weight ∧ d.dst = [] ∧ d.opts = [] ∧ TagsOK d.tags ∧ Tok d.src ∧
      (if d.service.isEmpty then d.tags ≠ [] else Tok d.service)
  | .other _ => False

theorem DefOK.add {pf : ParseFloat} {w : Str} {d : RouteDef} (h : DefOK pf w d) (hc : d.cmd = .add) :
    Tok d.service ∧ Tok d.src ∧ Tok d.dst ∧ WeightOK pf w d.weight ∧ TagsOK d.tags ∧ OptsOK d.opts := by
  unfold DefOK at h
  rwa [hc] at h

abbrev NoNL (s : Str) : Prop := '\n' ∉ s

theorem NoNL.append {a b : Str} (ha : NoNL a) (hb : NoNL b) : NoNL (a ++ b) := by
  intro hc
  rcases List.mem_append.1 hc with hc | hc
  · exact ha hc
  · exact hb hc

theorem noNL_of_uni {s : Str} (h : ∀ c ∈ s, isUniSpace c = false ∧ c ≠ '"') : NoNL s :=
  nl_not_uniSpace_free (fun c hc => (h c hc).1)

theorem Tok.noNL {s : Str} (h : Tok s) : NoNL s := noNL_of_uni h.2

theorem noNL_orTok {s : Str} (h : s = [] ∨ Tok s) : NoNL s := by
  rcases h with rfl | h
  · exact List.not_mem_nil
  · exact h.noNL

def optTok (a : Str) : List Word := if a.isEmpty then [] else [.tok a]

theorem optTok_of_tok {a : Str} (h : Tok a) : optTok a = [.tok a] := by
  unfold optTok; rw [if_neg (by simpa using h.1)]

theorem mem_optTok {a : Str} {w : Word} (h : w ∈ optTok a) : w = .tok a := by
  unfold optTok at h
  split at h
  · cases h
  · simpa using h

theorem noNL_optTok {a : Str} (h : a = [] ∨ Tok a) : ∀ u ∈ optTok a, '\n' ∉ u.text := by
  intro u hu
  rw [mem_optTok hu]
  exact noNL_orTok h

theorem optTok_nilOrLast {a : Str} (h : a = [] ∨ Tok a) : NilOrLast (sp (optTok a)) := by
  rcases h with rfl | h
  · exact .inl rfl
  · rw [optTok_of_tok h]; exact sp_nilOrLast (fun u hu => by cases hu; exact h.lastOK)

section forms
variable {pf : ParseFloat} {svc src dst w : Str} {q : Rat} {ts : List Str}

theorem matchDel_print (hv : Tok svc) (hs : src = [] ∨ Tok src) (hd : dst = [] ∨ Tok dst) (hsd : src = [] → dst = []) :
    matchDel (line (.tok kDel :: .tok svc :: (optTok src ++ optTok dst))) = some (svc, src, dst) := by
  unfold matchDel
  simp only [Option.bind_eq_bind]
  rw [head_line kDel_ok, Option.bind_some, bind_wsTok hv.ok]
  rcases hs with rfl | hs
  · rw [hsd rfl]; rfl
  · rw [optTok_of_tok hs, List.cons_append, List.nil_append, wsTok_sp hs.ok]
    rcases hd with rfl | hd
    · rfl
    · rw [optTok_of_tok hd]
      simp only [optGroup, wsTok_sp hd.ok]
      rfl

theorem noQuote_del (hv : Tok svc) (hs : src = [] ∨ Tok src) (hd : dst = [] ∨ Tok dst) :
    '"' ∉ sp (.tok svc :: (optTok src ++ optTok dst)) := by
  refine sp_not_mem (by decide) (fun u hu => ?_)
  simp only [List.mem_cons, List.mem_append] at hu
  rcases hu with rfl | hu | hu
  · exact hv.noQuote
  · rw [mem_optTok hu]
    rcases hs with rfl | hs
    · exact List.not_mem_nil
    · exact hs.noQuote
  · rw [mem_optTok hu]
    rcases hd with rfl | hd
    · exact List.not_mem_nil
    · exact hd.noQuote

/-- `route del <svc>[ <src>[ <dst>]]`: no quote in the line, so neither of the two forms with tags matches -/
theorem printed_del (hv : Tok svc) (hs : src = [] ∨ Tok src) (hd : dst = [] ∨ Tok dst) (hsd : src = [] → dst = []) :
    Printed (line (.tok kDel :: .tok svc :: (optTok src ++ optTok dst)))
      (.plain { cmd := .del, service := svc, src := src, dst := dst }) := by
  refine .words ?_ ?_ ?_
  · rw [shape_del]
    unfold shapeDel
    rw [matchDel_print hv hs hd hsd]
    have hq := noQuote_del hv hs hd
    have h1 : matchDelSvcTags (line (.tok kDel :: .tok svc :: (optTok src ++ optTok dst))) = none := by
      unfold matchDelSvcTags
      simp only [Option.bind_eq_bind]
      rw [head_line kDel_ok, Option.bind_some, bind_wsTok hv.ok,
        kwQuoted_none _ _ (fun hc => hq (by rw [sp]; exact List.mem_cons_of_mem _ (List.mem_append_right _ hc)))]
      rfl
    have h2 : matchDelTags (line (.tok kDel :: .tok svc :: (optTok src ++ optTok dst))) = none := by
      unfold matchDelTags
      simp only [Option.bind_eq_bind]
      rw [head_line kDel_ok, Option.bind_some, kwQuoted_none _ _ hq]
      rfl
    rw [h1, h2]
  · rw [show Word.tok kDel :: Word.tok svc :: (optTok src ++ optTok dst) = [.tok kDel, .tok svc] ++ (optTok src ++ optTok dst)
      from rfl, line_append, sp_append]
    exact (line_lastOK (List.cons_ne_nil _ _) (fun u hu => by cases hu; exact hv.lastOK)).append_nilOrLast
      ((optTok_nilOrLast hs).append (optTok_nilOrLast hd))
  · exact List.forall_mem_cons.2 ⟨kDel_ok.noNL, List.forall_mem_cons.2 ⟨hv.noNL,
      List.forall_mem_append.2 ⟨noNL_optTok hs, noNL_optTok hd⟩⟩⟩

/-- `route del tags "…"`: the form with a service reads `tags` as the service and then misses the keyword -/
theorem printed_delTags (ht : TagsOK ts) :
    Printed (line [.tok kDel, .tok kTags, .quo (join [','] ts)]) (.plain { cmd := .del, tags := ts }) := by
  refine .words ?_ (line_lastOK_quo [_, _] _) ?_
  · have h1 : matchDelSvcTags (line [.tok kDel, .tok kTags, .quo (join [','] ts)]) = none := by
      unfold matchDelSvcTags
      simp only [Option.bind_eq_bind]
      rw [head_line kDel_ok, Option.bind_some, bind_wsTok kTags_ok,
        kwQuoted_other (by decide) (fun u hu => by cases hu; exact ⟨ht.noQuote, nofun⟩)]
      rfl
    have h2 : matchDelTags (line [.tok kDel, .tok kTags, .quo (join [','] ts)]) = some (join [','] ts) := by
      unfold matchDelTags
      simp only [Option.bind_eq_bind]
      rw [head_line kDel_ok, Option.bind_some, kwQuoted_sp kTags_ok ht.noQuote]
      rfl
    rw [shape_del]
    unfold shapeDel
    rw [h1, h2]
    simp only [ht.parseTags]
  · exact List.forall_mem_cons.2 ⟨kDel_ok.noNL, List.forall_mem_cons.2 ⟨kTags_ok.noNL,
      List.forall_mem_cons.2 ⟨noNL_quo (ht.noNL), nofun⟩⟩⟩

theorem printed_delSvcTags (hv : Tok svc) (ht : TagsOK ts) :
    Printed (line [.tok kDel, .tok svc, .tok kTags, .quo (join [','] ts)])
      (.plain { cmd := .del, service := svc, tags := ts }) := by
  refine .words ?_ (line_lastOK_quo [_, _, _] _) ?_
  · have h1 : matchDelSvcTags (line [.tok kDel, .tok svc, .tok kTags, .quo (join [','] ts)]) =
        some (svc, join [','] ts) := by
      unfold matchDelSvcTags
      simp only [Option.bind_eq_bind]
      rw [head_line kDel_ok, Option.bind_some, bind_wsTok hv.ok, kwQuoted_sp kTags_ok ht.noQuote]
      rfl
    rw [shape_del]
    unfold shapeDel
    rw [h1]
    simp only [ht.parseTags]
  · exact List.forall_mem_cons.2 ⟨kDel_ok.noNL, List.forall_mem_cons.2 ⟨hv.noNL, List.forall_mem_cons.2
      ⟨kTags_ok.noNL, List.forall_mem_cons.2 ⟨noNL_quo (ht.noNL), nofun⟩⟩⟩⟩

/-- `route weight <src> weight <w> tags "…"`: `reWeightSvc` is tried first and fails, because it would take `<src>` for
the service, the keyword `weight` for the source, and then finds `<w>` where it wants the keyword — `<w>` does not
start with `w` -/
theorem printed_weightSrc (hs : Tok src) (hne : w ≠ []) (h1 : w.head? ≠ some 'w') (hw : WeightOK pf w q)
    (ht : TagsOK ts) :
    Printed (line [.tok kWeight, .tok src, .tok kWeight, .tok w, .tok kTags, .quo (join [','] ts)])
      (.weighted w (fun x => { cmd := .weight, src := src, weight := x, tags := ts })) := by
  have hwk : (Word.tok w).OK := ⟨hne, fun c hc => not_reSpace_of_not_uniSpace c (hw.tok c hc).1⟩
  refine .words ?_ (line_lastOK_quo [_, _, _, _, _] _) ?_
  · have m1 : matchWeightSvc (line [.tok kWeight, .tok src, .tok kWeight, .tok w, .tok kTags, .quo (join [','] ts)]) =
        none := by
      unfold matchWeightSvc
      simp only [Option.bind_eq_bind]
      rw [head_line kWeight_ok, Option.bind_some, bind_wsTok hs.ok, bind_wsTok kWeight_ok,
        kwTok_other (kw := kWeight) (by decide) (other_tok (kw := kWeight) hwk h1 _)]
      rfl
    have m2 : matchWeightSrc (line [.tok kWeight, .tok src, .tok kWeight, .tok w, .tok kTags, .quo (join [','] ts)]) =
        some (src, w, join [','] ts) := by
      unfold matchWeightSrc
      simp only [Option.bind_eq_bind]
      rw [head_line kWeight_ok, Option.bind_some, bind_wsTok hs.ok, kwTok_sp kWeight_ok hwk, Option.bind_some,
        kwQuoted_sp kTags_ok ht.noQuote]
      rfl
    rw [shape_weight]
    unfold shapeWeight
    rw [m1, m2]
    simp only [ht.parseTags]
  · exact List.forall_mem_cons.2 ⟨kWeight_ok.noNL, List.forall_mem_cons.2 ⟨hs.noNL, List.forall_mem_cons.2
      ⟨kWeight_ok.noNL, List.forall_mem_cons.2 ⟨noNL_of_uni hw.tok, List.forall_mem_cons.2
        ⟨kTags_ok.noNL, List.forall_mem_cons.2 ⟨noNL_quo (ht.noNL), nofun⟩⟩⟩⟩⟩⟩

theorem printed_weightSvc (hv : Tok svc) (hs : Tok src) (hne : w ≠ []) (hw : WeightOK pf w q) (ht : TagsOK ts) :
    Printed (line (.tok kWeight :: .tok svc :: .tok src :: .tok kWeight :: .tok w ::
        quoClause kTags (!ts.isEmpty) (join [','] ts)))
      (.weighted w (fun x => { cmd := .weight, service := svc, src := src, weight := x, tags := ts })) := by
  have hwk : (Word.tok w).OK := ⟨hne, fun c hc => not_reSpace_of_not_uniSpace c (hw.tok c hc).1⟩
  have e : Word.tok kWeight :: Word.tok svc :: Word.tok src :: Word.tok kWeight :: Word.tok w ::
      quoClause kTags (!ts.isEmpty) (join [','] ts) =
      [.tok kWeight, .tok svc, .tok src, .tok kWeight, .tok w] ++ quoClause kTags (!ts.isEmpty) (join [','] ts) := rfl
  refine .words ?_ ?_ ?_
  · have m : matchWeightSvc (line (.tok kWeight :: .tok svc :: .tok src :: .tok kWeight :: .tok w ::
        quoClause kTags (!ts.isEmpty) (join [','] ts))) = some (svc, src, w, join [','] ts) := by
      unfold matchWeightSvc
      simp only [Option.bind_eq_bind]
      rw [head_line kWeight_ok, Option.bind_some, bind_wsTok hv.ok, bind_wsTok hs.ok,
        kwTok_sp kWeight_ok hwk, Option.bind_some]
      simp only [optGroup_quoClause_last kTags_ok ht.noQuote, join_of_present]
      rfl
    rw [shape_weight]
    unfold shapeWeight
    rw [m]
    simp only [ht.parseTags]
  · rw [e, line_append]
    exact (line_lastOK (List.cons_ne_nil _ _) (fun u hu => by cases hu; exact LastOK.of_all hne hw.noSp)).append_nilOrLast
      (quoClause_nilOrLast _ _ _)
  · rw [e]
    exact List.forall_mem_append.2
      ⟨List.forall_mem_cons.2 ⟨kWeight_ok.noNL, List.forall_mem_cons.2 ⟨hv.noNL, List.forall_mem_cons.2
        ⟨hs.noNL, List.forall_mem_cons.2 ⟨kWeight_ok.noNL, List.forall_mem_cons.2 ⟨noNL_of_uni hw.tok, nofun⟩⟩⟩⟩⟩,
       quoClause_noNL kTags_ok.noNL _ (ht.noNL)⟩

end forms

/-- what the rest of the development needs to know of a printed line `l`: it is a command line, whose shape `pf`
reads as `d` and whose weight token is `w` -/
def Reads (pf : ParseFloat) (l : Str) (d : RouteDef) (w : Str) : Prop :=
  ∃ sh, Printed l sh ∧ runShape pf sh = .ok (some d) ∧ sh.tok = w

section reads
variable {pf : ParseFloat} {l w : Str} {d : RouteDef}

theorem Reads.of_plain {d' : RouteDef} (h : Printed l (.plain d')) (hd : d = d') : Reads pf l d [] :=
  ⟨_, h, by rw [hd]; rfl, rfl⟩

theorem Reads.of_weighted {mk : Rat → RouteDef} {q : Rat} (h : Printed l (.weighted w mk))
    (hq : parseWeight pf w = .ok q) (hd : d = mk q) : Reads pf l d w :=
  ⟨_, h, by rw [hd]; simp only [runShape, hq], rfl⟩

theorem Reads.framed (h : Reads pf l d w) : Framed l := let ⟨_, hp, _⟩ := h; hp.toFramed

theorem Reads.parse (h : Reads pf l d w) : parseLine pf l = .ok (some d) :=
  let ⟨_, hp, hr, _⟩ := h; (hp.parseLine pf).trans hr

theorem Reads.tok (h : Reads pf l d w) : weightTok l = w := let ⟨_, hp, _, ht⟩ := h; hp.weightTok.trans ht

end reads

theorem def_ext (a b : RouteDef) (h1 : a.cmd = b.cmd) (h2 : a.service = b.service) (h3 : a.src = b.src)
    (h4 : a.dst = b.dst) (h5 : a.weight = b.weight) (h6 : a.tags = b.tags) (h7 : a.opts = b.opts) : a = b := by
  cases a; cases b; simp_all

section printed
variable (w : Str) {d : RouteDef}

theorem printDef_add (hc : d.cmd = .add) :
    printDef w d = line (addWords d.service d.src d.dst w d.tags (d.opts.map renderOpt)) := by
  unfold printDef
  rw [hc, line_add, sp_append, sp_append, ← weightPart_eq, ← tagsPart_eq, ← optsPart_eq]

theorem line_del (svc : Str) (ws : List Word) : line (.tok kDel :: .tok svc :: ws) = "route del ".toList ++ (svc ++ sp ws) := by
  unfold line kRoute kDel
  simp only [toList_lit rfl, sp, Word.text, List.cons_append, List.nil_append]

theorem line_delTags (ws : List Word) : line (.tok kDel :: ws) = "route del".toList ++ sp ws := by
  unfold line kRoute kDel
  simp only [toList_lit rfl, sp, Word.text, List.cons_append, List.nil_append]

theorem line_weight (ws : List Word) : line (.tok kWeight :: ws) = "route weight".toList ++ sp ws := by
  unfold line kRoute kWeight
  simp only [toList_lit rfl, sp, Word.text, List.cons_append, List.nil_append]

theorem sp_weight_clause (w : Str) (ws : List Word) :
    sp (.tok kWeight :: .tok w :: ws) = " weight ".toList ++ (w ++ sp ws) := by
  unfold kWeight
  simp only [toList_lit rfl, sp, Word.text, List.cons_append, List.nil_append]

theorem quoClause_true (kw q : Str) : quoClause kw true q = [.tok kw, .quo q] := rfl

theorem printDef_del (hc : d.cmd = .del) (ht : d.tags.isEmpty = true) (hsd : d.src = [] → d.dst = []) :
    printDef w d = line (.tok kDel :: .tok d.service :: (optTok d.src ++ optTok d.dst)) := by
  unfold printDef
  rw [hc, line_del]
  simp only [ht, if_true]
  unfold optTok
  cases hs : d.src with
  | nil => rw [hsd hs]; rfl
  | cons a l => cases d.dst <;> simp [sp, Word.text]

theorem printDef_delTags (hc : d.cmd = .del) (ht : d.tags.isEmpty = false) (hs : d.service.isEmpty = true) :
    printDef w d = line [.tok kDel, .tok kTags, .quo (join [','] d.tags)] := by
  unfold printDef
  rw [hc, line_delTags, ← quoClause_true, tagsPart_eq, ht]
  simp only [hs, if_true, Bool.false_eq_true, if_false, Bool.not_false]

theorem printDef_delSvcTags (hc : d.cmd = .del) (ht : d.tags.isEmpty = false) (hs : d.service.isEmpty = false) :
    printDef w d = line [.tok kDel, .tok d.service, .tok kTags, .quo (join [','] d.tags)] := by
  unfold printDef
  rw [hc, line_del, ← quoClause_true, tagsPart_eq, ht]
  simp only [hs, Bool.false_eq_true, if_false, Bool.not_false]

theorem printDef_weightSrc (hc : d.cmd = .weight) (hs : d.service.isEmpty = true) (ht : d.tags.isEmpty = false) :
    printDef w d = line [.tok kWeight, .tok d.src, .tok kWeight, .tok w, .tok kTags, .quo (join [','] d.tags)] := by
  unfold printDef
  rw [hc, line_weight, ← quoClause_true, tagsPart_eq, ht]
  simp only [hs, if_true]
  rw [sp, sp_weight_clause]
  simp only [toList_lit rfl, Word.text, List.cons_append, List.nil_append, Bool.not_false]

theorem printDef_weightSvc (hc : d.cmd = .weight) (hs : d.service.isEmpty = false) :
    printDef w d = line (.tok kWeight :: .tok d.service :: .tok d.src :: .tok kWeight :: .tok w ::
      quoClause kTags (!d.tags.isEmpty) (join [','] d.tags)) := by
  unfold printDef
  rw [hc, line_weight, tagsPart_eq]
  simp only [hs, Bool.false_eq_true, if_false]
  rw [sp, sp, sp_weight_clause]
  simp only [toList_lit rfl, Word.text, List.cons_append, List.nil_append]

end printed

/-- a well-formed command is printed in one of six shapes (of the eight forms, the three `route del <svc>[ <src>[ <dst>]]`
are one shape with optional words), and `DefOK` says of the fields that the form does not write (no options on
`del`/`weight`, no weight on `del`, …) that they are empty, so the command is the one its line is read as -/
theorem printDef_reads {pf : ParseFloat} {w : Str} {d : RouteDef} (h : DefOK pf w d) : Reads pf (printDef w d) d w := by
  unfold DefOK at h
  cases hc : d.cmd with
  | other s => rw [hc] at h; exact h.elim
  | add =>
    rw [hc] at h
    obtain ⟨hv, hs, hd, hw, ht, ho⟩ := h
    rw [printDef_add w hc]
    have ha : AddOK d.service d.src d.dst w d.tags (d.opts.map renderOpt) :=
      ⟨hv.ok, hs.ok, ⟨hd.1, fun c hc => (hd.2 c hc).1⟩, hw.noSp, ht.q, ht.ne, ⟨ho.optsK.noQuote, ho.optsK.noNL⟩⟩
    exact Reads.of_weighted ha.printed hw.parse (def_ext _ _ hc rfl rfl rfl rfl rfl
      (ho.optsK.parseOpts.trans ho.sorted).symm)
  | del =>
    rw [hc] at h
    obtain ⟨rfl, hwt, hop, ht, hrest⟩ := h
    cases hte : d.tags.isEmpty with
    | true =>
      rw [if_pos hte] at hrest
      obtain ⟨hv, hs, hd, hsd⟩ := hrest
      rw [printDef_del _ hc hte hsd]
      exact Reads.of_plain (printed_del hv hs hd hsd) (def_ext _ _ hc rfl rfl rfl hwt (List.isEmpty_iff.1 hte) hop)
    | false =>
      rw [if_neg (by simp [hte])] at hrest
      obtain ⟨hv, hs0, hd0⟩ := hrest
      cases hse : d.service.isEmpty with
      | true =>
        rw [printDef_delTags _ hc hte hse]
        exact Reads.of_plain (printed_delTags ht) (def_ext _ _ hc (List.isEmpty_iff.1 hse) hs0 hd0 hwt rfl hop)
      | false =>
        have hv : Tok d.service := hv.resolve_left (fun e => by rw [e] at hse; cases hse)
        rw [printDef_delSvcTags _ hc hte hse]
        exact Reads.of_plain (printed_delSvcTags hv ht) (def_ext _ _ hc rfl hs0 hd0 hwt rfl hop)
  | weight =>
    rw [hc] at h
    obtain ⟨hwne, hw1, hw, hd0, hop, ht, hs, hrest⟩ := h
    cases hse : d.service.isEmpty with
    | true =>
      rw [if_pos hse] at hrest
      rw [printDef_weightSrc w hc hse (by simpa using hrest)]
      exact Reads.of_weighted (printed_weightSrc hs hwne hw1 hw ht) hw.parse
        (def_ext _ _ hc (List.isEmpty_iff.1 hse) rfl hd0 rfl rfl hop)
    | false =>
      rw [if_neg (by simp [hse])] at hrest
      rw [printDef_weightSvc w hc hse]
      exact Reads.of_weighted (printed_weightSvc hrest hs hwne hw ht) hw.parse
        (def_ext _ _ hc rfl rfl hd0 rfl rfl hop)

theorem parseLine_printDef {pf : ParseFloat} {w : Str} {d : RouteDef} (h : DefOK pf w d) :
    parseLine pf (printDef w d) = .ok (some d) :=
  (printDef_reads h).parse

theorem parse_scriptText (pf : ParseFloat) (cs : List (Str × RouteDef))
    (h : ∀ x ∈ cs, DefOK pf x.1 x.2 ∧ byteLen (printDef x.1 x.2) < maxToken) :
    parse pf (scriptText cs) = .ok (cs.map (·.2)) :=
  parse_framed pf _ _ cs (fun x hx => ⟨(printDef_reads (h x hx).1).framed, (h x hx).2, parseLine_printDef (h x hx).1⟩)

theorem weightTok_printDef {pf : ParseFloat} {w : Str} {d : RouteDef} (h : DefOK pf w d) :
    weightTok (printDef w d) = w :=
  (printDef_reads h).tok

/-- the command `Parse` delivers for a printed command when weights are float64: `DefOK` is asked of the reader that
maps NaN/±Inf to 0 (`finPf`, what Go's `parseWeight` leaves in the definition is irrelevant then), the flag says
whether the weight text denotes a non-finite value -/
theorem parseLineW_printDef {pf : ParseFloat} {w : Str} {d : RouteDef} (h : DefOK (finPf pf) w d) :
    parseLineW pf (printDef w d) = .ok (some { d, bad := nonFiniteTok pf w }) := by
  unfold parseLineW
  rw [parseLine_printDef h]
  have hp := (printDef_reads h).framed
  simp only [trimSpace_route hp.r hp.last, weightTok_printDef h]

theorem parseW_scriptText (pf : ParseFloat) (cs : List (Str × RouteDef))
    (h : ∀ x ∈ cs, DefOK (finPf pf) x.1 x.2 ∧ byteLen (printDef x.1 x.2) < maxToken) :
    parseW pf (scriptText cs) = .ok (cs.map (fun x => ({ d := x.2, bad := nonFiniteTok pf x.1 } : WDef))) :=
  scan_framed (parseLineW pf) rfl _ _ cs
    (fun x hx => ⟨(printDef_reads (h x hx).1).framed, (h x hx).2, parseLineW_printDef (h x hx).1⟩)

instance (s : Str) : Decidable (Tok s) := by unfold Tok; exact inferInstance

instance (ts : List Str) : Decidable (TagsOK ts) :=
  decidable_of_iff (TagsQ ts ∧ (ts ≠ [] → join [','] ts ≠ [])) ⟨fun h => ⟨h.1, h.2⟩, fun h => ⟨h.q, h.ne⟩⟩

instance (o : List (Str × Str)) : Decidable (OptsOK o) :=
  decidable_of_iff (OptsK o ∧ sortOpts o = o) ⟨fun h => ⟨h.1, h.2⟩, fun h => ⟨h.k, h.sorted⟩⟩

instance (pf : ParseFloat) (w : Str) (q : Rat) : Decidable (WeightOK pf w q) :=
  decidable_of_iff ((∀ c ∈ w, isUniSpace c = false ∧ c ≠ '"') ∧ (if w.isEmpty then q = 0 else pf w = some (.fin q)))
    ⟨fun h => ⟨h.1, h.2⟩, fun h => ⟨h.tok, h.val⟩⟩

instance (pf : ParseFloat) (w : Str) (d : RouteDef) : Decidable (DefOK pf w d) := by
  unfold DefOK
  split <;> exact inferInstance

theorem forall_of_all {α : Type} {P : α → Prop} [DecidablePred P] {l : List α}
    (h : l.all (fun x => decide (P x)) = true) : ∀ x ∈ l, P x :=
  fun x hx => of_decide_eq_true (List.all_eq_true.1 h x hx)

def pfEx : ParseFloat := fun s =>
  if s == "0.25".toList then some (.fin (1/4)) else if s == "1".toList then some (.fin 1) else none

def csEx : List (Str × RouteDef) :=
  [("0.25".toList, { cmd := .add, service := "svc".toList, src := "Foo.com/a".toList, dst := "http://h:1/".toList, weight := 1/4, tags := ["a".toList, "b c".toList], opts := [("k".toList, "v=w".toList), ("strip".toList, "/a".toList)] }),
   ([], { cmd := .add, service := "svc".toList, src := "/".toList, dst := "http://h:2/".toList }),
   ([], { cmd := .del, service := "svc".toList }),
   ([], { cmd := .del, service := "svc".toList, src := "foo.com/a".toList }),
   ([], { cmd := .del, service := "tags".toList, src := "foo.com/a".toList, dst := "http://h:1/".toList }),
   ([], { cmd := .del, tags := ["a".toList] }),
   ([], { cmd := .del, service := "svc".toList, tags := ["a".toList, "a".toList] }),
   ("1".toList, { cmd := .weight, service := "svc".toList, src := "weight".toList, weight := 1 }),
   ("0.25".toList, { cmd := .weight, src := "/".toList, weight := 1/4, tags := ["b c".toList] })]

theorem csEx_ok : ∀ x ∈ csEx, DefOK pfEx x.1 x.2 ∧ byteLen (printDef x.1 x.2) < maxToken :=
  forall_of_all (by unfold csEx pfEx; simp only [toList_lit rfl]; decide +kernel)

example : parse pfEx (scriptText csEx) = .ok (csEx.map (·.2)) := parse_scriptText pfEx csEx csEx_ok
example : (csEx.head?.map (fun x => printDef x.1 x.2)) =
    some "route add svc Foo.com/a http://h:1/ weight 0.25 tags \"a,b c\" opts \"k=v=w strip=/a\"".toList := by
  unfold csEx; simp only [toList_lit rfl]; decide +kernel

/-- a list whose commands all succeed: two adds, a `weight` by tag on the first (host in another letter case), a
`del` of the second -/
def csT : List (Str × RouteDef) :=
  csEx.take 2 ++
  [("0.25".toList, { cmd := .weight, src := "FOO.com/a".toList, weight := 1/4, tags := ["b c".toList] }),
   ([], { cmd := .del, service := "svc".toList, src := "/".toList })]

theorem csT_ok : ∀ x ∈ csT, DefOK pfEx x.1 x.2 ∧ byteLen (printDef x.1 x.2) < maxToken :=
  forall_of_all (by unfold csT csEx pfEx; simp only [toList_lit rfl]; decide +kernel)

/-- a reader that knows `nan` and `0.5`, and a list with a non-finite weight text: an add, a `weight … nan` on it, a del -/
def pfN : ParseFloat := fun s =>
  if s == "nan".toList then some .nan else if s == "0.5".toList then some (.fin (1/2)) else none

def csN : List (Str × RouteDef) :=
  [("0.5".toList, { cmd := .add, service := "s".toList, src := "h/".toList, dst := "http://a:1/".toList, weight := 1/2 }),
   ("nan".toList, { cmd := .weight, service := "s".toList, src := "h/".toList, weight := 0 }),
   ([], { cmd := .del, service := "s".toList })]

theorem csN_ok : ∀ x ∈ csN, DefOK (finPf pfN) x.1 x.2 ∧ byteLen (printDef x.1 x.2) < maxToken :=
  forall_of_all (by unfold csN pfN; simp only [toList_lit rfl]; decide +kernel)

end Fabio.Lemmas.C05Lang
