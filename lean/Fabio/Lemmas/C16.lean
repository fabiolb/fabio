import Fabio.Model.C16
/-! C16: `intercept` under a mapped lookup and `World.call` by the interceptor's outcome; the connection pool as an
association list: what `find` answers after `put`, `shutKey` and `cleanup`, membership after each of them, and every
way `World.get` can go. -/
namespace Fabio.Lemmas.C16
open Fabio.Model.Route (Str Table)
open Fabio.Model.C16

theorem intercept_map {T U} (f : T → U) (pp : Str → Option Str) (lookup : Str → Str → Option T)
    (hasMD : Bool) (md : MD) (method : Str) :
    intercept pp (fun h p => (lookup h p).map f) hasMD md method =
      match intercept pp lookup hasMD md method with
      | .internal => .internal
      | .notFound => .notFound
      | .forward t => .forward (f t) := by
  unfold intercept
  cases synthReq pp hasMD md method with
  | none => rfl
  | some r =>
    simp only
    cases lookup r.host r.path <;> rfl

theorem forward_is_lookup_answer {T} {pp : Str → Option Str} {lookup : Str → Str → Option T} {hasMD : Bool}
    {md : MD} {method : Str} {t : T} (hf : intercept pp lookup hasMD md method = .forward t) :
    ∃ h p, lookup h p = some t := by
  unfold intercept at hf
  cases hs : synthReq pp hasMD md method with
  | none => simp [hs] at hf
  | some r =>
    simp only [hs] at hf
    cases hl : lookup r.host r.path with
    | none => simp [hl] at hf
    | some t' =>
      simp only [hl] at hf
      cases hf
      exact ⟨_, _, hl⟩

theorem call_eq (pp : Str → Option Str) (lookup : Table → Str → Str → Option Str) (w : World) (hasMD : Bool)
    (md : MD) (method : Str) (d : Bool) :
    w.call pp lookup hasMD md method d =
      match intercept pp (lookup w.table) hasMD md method with
      | .internal => (w, .status codeInternal)
      | .notFound => (w, .status codeNotFound)
      | .forward k => ((w.get k d).1, .proxied k (w.get k d).2) := by
  unfold World.call; cases intercept pp (lookup w.table) hasMD md method <;> rfl

theorem step_call (pp : Str → Option Str) (lookup : Table → Str → Str → Option Str) (w : World) (hasMD : Bool)
    (md : MD) (method : Str) (d : Bool) :
    w.step pp lookup (.call hasMD md method d) =
      ((w.call pp lookup hasMD md method d).1, .call (w.call pp lookup hasMD md method d).2) := rfl

/-- what `keeps` asks of one event: a cleanup finds `k` in the table of that moment, nobody closes `k`'s connection -/
def spares (k : Str) (w : World) : Event → Prop
  | .cleanup => (tableURLs w.table).contains k = true
  | .shut k' => k' ≠ k
  | _ => True

theorem keeps_cons (pp : Str → Option Str) (lookup : Table → Str → Str → Option Str) (k : Str) (w : World)
    (e : Event) (es : List Event) :
    keeps pp lookup k w (e :: es) ↔ spares k w e ∧ keeps pp lookup k (w.step pp lookup e).1 es :=
  Iff.rfl

theorem find_mem {p : Pool} {k : Str} {c : Conn} (h : p.find k = some c) : (k, c) ∈ p := by
  induction p with
  | nil => cases h
  | cons kc r ih =>
    obtain ⟨k0, c0⟩ := kc
    by_cases h0 : k0 = k
    · simp only [Pool.find, h0, if_true, Option.some.injEq] at h
      rw [h0, h]; exact List.mem_cons_self
    · simp only [Pool.find, h0, if_false] at h
      exact List.mem_cons_of_mem _ (ih h)

theorem find_none_of_not_mem_keys {p : Pool} {k : Str} (h : k ∉ p.keys) : p.find k = none := by
  cases hf : p.find k with
  | none => rfl
  | some c => exact absurd (List.mem_map.mpr ⟨(k, c), find_mem hf, rfl⟩) h

theorem live_or_none (p : Pool) (k : Str) :
    (∃ c, p.find k = some c ∧ c.shut = false) ∨ ∀ c, p.find k = some c → c.shut = true := by
  cases hf : p.find k with
  | none => exact .inr nofun
  | some c =>
    cases hs : c.shut with
    | false => exact .inl ⟨c, rfl, hs⟩
    | true => exact .inr fun c' hc' => by cases hc'; exact hs

theorem find_put (p : Pool) (k k' : Str) (c : Conn) :
    (p.put k c).find k' = if k = k' then some c else p.find k' := by
  induction p with
  | nil => rfl
  | cons kc r ih =>
    obtain ⟨k0, c0⟩ := kc
    by_cases h0 : k0 = k
    · subst h0; by_cases h1 : k0 = k' <;> simp [Pool.put, Pool.find, h1]
    · simp only [Pool.put, h0, if_false, Pool.find, ih]
      by_cases h1 : k0 = k'
      · subst h1; simp [Ne.symm h0]
      · simp [h1]

theorem find_put_same (p : Pool) (k : Str) (c : Conn) : (p.put k c).find k = some c := by
  rw [find_put, if_pos rfl]

theorem find_put_other (p : Pool) (k k' : Str) (c : Conn) (h : k' ≠ k) : (p.put k c).find k' = p.find k' := by
  rw [find_put, if_neg (Ne.symm h)]

theorem mem_put {p : Pool} {k : Str} {c : Conn} {kc : Str × Conn} (h : kc ∈ p.put k c) :
    kc = (k, c) ∨ kc ∈ p := by
  induction p with
  | nil => exact .inl (List.mem_singleton.mp h)
  | cons x r ih =>
    unfold Pool.put at h
    split at h
    · exact (List.mem_cons.mp h).imp_right (List.mem_cons_of_mem _)
    · rcases List.mem_cons.mp h with h | h
      · exact .inr (h ▸ List.mem_cons_self)
      · exact (ih h).imp_right (List.mem_cons_of_mem _)

theorem ids_put {p : Pool} {n : Nat} (h : ∀ kc ∈ p, kc.2.id < n) (k : Str) :
    ∀ kc ∈ p.put k { id := n }, kc.2.id < n + 1 := by
  intro kc hm
  rcases mem_put hm with rfl | hm
  · exact Nat.lt_succ_self _
  · exact Nat.lt_succ_of_lt (h kc hm)

theorem nodup_keys_put (p : Pool) (k : Str) (c : Conn) (h : p.keys.Nodup) : (p.put k c).keys.Nodup := by
  induction p with
  | nil => simp [Pool.put, Pool.keys]
  | cons kc r ih =>
    obtain ⟨k0, c0⟩ := kc
    simp only [Pool.keys, List.map_cons, List.nodup_cons] at h
    by_cases h0 : k0 = k
    · subst h0
      simpa only [Pool.put, if_true, Pool.keys, List.map_cons, List.nodup_cons] using h
    · simp only [Pool.put, h0, if_false, Pool.keys, List.map_cons, List.nodup_cons]
      refine ⟨fun hm => ?_, ih h.2⟩
      obtain ⟨kc, hkc, e⟩ := List.mem_map.mp hm
      rcases mem_put hkc with rfl | hkc
      · exact h0 e.symm
      · exact h.1 (List.mem_map.mpr ⟨kc, hkc, e⟩)

theorem mem_shutKey {p : Pool} {k : Str} {kc : Str × Conn} (h : kc ∈ p.shutKey k) :
    ∃ kc0 ∈ p, kc.1 = kc0.1 ∧ kc.2.id = kc0.2.id := by
  obtain ⟨kc0, hm, e⟩ := List.mem_map.mp h
  refine ⟨kc0, hm, ?_⟩
  split at e <;> rw [← e] <;> exact ⟨rfl, rfl⟩

theorem keys_shutKey (p : Pool) (k : Str) : (p.shutKey k).keys = p.keys := by
  induction p with
  | nil => rfl
  | cons kc r ih =>
    simp only [Pool.shutKey, Pool.keys, List.map_cons] at ih ⊢
    rw [ih]
    split <;> rfl

theorem find_shutKey_other (p : Pool) (k k' : Str) (h : k' ≠ k) : (p.shutKey k').find k = p.find k := by
  induction p with
  | nil => rfl
  | cons kc r ih =>
    obtain ⟨k0, c0⟩ := kc
    have ih' : Pool.find (Pool.shutKey r k') k = Pool.find r k := ih
    show Pool.find ((if k0 = k' then (k0, { c0 with shut := true }) else (k0, c0)) :: Pool.shutKey r k') k = _
    by_cases h0 : k0 = k'
    · have hk : ¬ k0 = k := fun e => h (h0.symm.trans e)
      simp only [if_pos h0, Pool.find, if_neg hk, ih']
    · rw [if_neg h0]
      by_cases h1 : k0 = k <;> simp [Pool.find, h1, ih']

theorem mem_cleanup {p : Pool} {urls : List Str} {kc : Str × Conn} :
    kc ∈ p.cleanup urls ↔ kc ∈ p ∧ kc.2.shut = false ∧ kc.1 ∈ urls := by
  simp [Pool.cleanup, List.mem_filter]

theorem mem_toClose {p : Pool} {urls : List Str} {c : Conn} :
    c ∈ p.toClose urls ↔ ∃ k, (k, c) ∈ p ∧ c.shut = false ∧ k ∉ urls := by
  simp only [Pool.toClose, List.mem_map, List.mem_filter, Bool.and_eq_true, Bool.not_eq_true',
    List.contains_eq_mem, decide_eq_false_iff_not]
  constructor
  · rintro ⟨⟨k, c'⟩, h, rfl⟩; exact ⟨k, h⟩
  · rintro ⟨k, h⟩; exact ⟨(k, c), h, rfl⟩

theorem nodup_keys_cleanup (p : Pool) (urls : List Str) (h : p.keys.Nodup) : (p.cleanup urls).keys.Nodup :=
  ((List.filter_sublist (l := p)).map _).nodup h

theorem find_cleanup (p : Pool) (urls : List Str) (k : Str) (c : Conn)
    (hf : p.find k = some c) (hl : c.shut = false) (hu : urls.contains k = true) :
    (p.cleanup urls).find k = some c := by
  induction p with
  | nil => cases hf
  | cons kc r ih =>
    obtain ⟨k0, c0⟩ := kc
    simp only [Pool.cleanup, List.filter_cons]
    by_cases h0 : k0 = k
    · subst h0
      simp only [Pool.find, if_true, Option.some.injEq] at hf
      subst hf
      have hm : k0 ∈ urls := by simpa using hu
      simp [hl, hm, Pool.find]
    · simp only [Pool.find, h0, if_false] at hf
      split
      · simp only [Pool.find, h0, if_false]; exact ih hf
      · exact ih hf

theorem get_hit (w : World) (k : Str) (d : Bool) (c : Conn) (hf : w.pool.find k = some c) (hl : c.shut = false) :
    w.get k d = (w, .reused c.id) := by
  simp [World.get, hf, hl]

theorem get_miss_ok (w : World) (k : Str) (hm : ∀ c, w.pool.find k = some c → c.shut = true) :
    w.get k true = ({ w with pool := w.pool.put k { id := w.next }, next := w.next + 1, dialLog := k :: w.dialLog }, .dialled w.next) := by
  unfold World.get
  cases hf : w.pool.find k with
  | none => simp
  | some c => simp [hm c hf]

theorem get_miss_err (w : World) (k : Str) (hm : ∀ c, w.pool.find k = some c → c.shut = true) :
    w.get k false = ({ w with dialLog := k :: w.dialLog }, .error) := by
  unfold World.get
  cases hf : w.pool.find k with
  | none => simp
  | some c => simp [hm c hf]

theorem get_cases (w : World) (k : Str) (d : Bool) :
    (∃ c, w.pool.find k = some c ∧ c.shut = false ∧ w.get k d = (w, .reused c.id)) ∨
    ((∀ c, w.pool.find k = some c → c.shut = true) ∧ d = true ∧
      w.get k d = ({ w with pool := w.pool.put k { id := w.next }, next := w.next + 1, dialLog := k :: w.dialLog }, .dialled w.next)) ∨
    ((∀ c, w.pool.find k = some c → c.shut = true) ∧ d = false ∧
      w.get k d = ({ w with dialLog := k :: w.dialLog }, .error)) := by
  rcases live_or_none w.pool k with ⟨c, hf, hs⟩ | hm
  · exact .inl ⟨c, hf, hs, get_hit w k d c hf hs⟩
  · cases d
    · exact .inr (.inr ⟨hm, rfl, get_miss_err w k hm⟩)
    · exact .inr (.inl ⟨hm, rfl, get_miss_ok w k hm⟩)

theorem get_keeps (w : World) (k k' : Str) (c : Nat) (d : Bool)
    (hf : w.pool.find k = some { id := c, shut := false }) :
    (w.get k' d).1.pool.find k = some { id := c, shut := false } ∧
    (k' = k → (w.get k' d).2 = .reused c) ∧
    (∃ l, (w.get k' d).1.dialLog = l ++ w.dialLog ∧ k ∉ l) := by
  by_cases hkk : k' = k
  · subst hkk
    rw [get_hit w k' d _ hf rfl]
    exact ⟨hf, fun _ => rfl, [], rfl, List.not_mem_nil⟩
  · have hne : k ∉ [k'] := by simpa using fun e => hkk e.symm
    rcases get_cases w k' d with ⟨c', _, _, e⟩ | ⟨_, _, e⟩ | ⟨_, _, e⟩
    · rw [e]; exact ⟨hf, fun e => absurd e hkk, [], rfl, List.not_mem_nil⟩
    · rw [e]; exact ⟨(find_put_other w.pool k' k _ (fun e => hkk e.symm)).trans hf, fun e => absurd e hkk, [k'], rfl, hne⟩
    · rw [e]; exact ⟨hf, fun e => absurd e hkk, [k'], rfl, hne⟩

end Fabio.Lemmas.C16
