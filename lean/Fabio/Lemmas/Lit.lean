/-!
String literals and `String` predicates in closed evaluations. The models write Go strings as `"…".toList`. Evaluating
`String.toList` on a literal decodes UTF-8 out of a byte array, and both the kernel and `whnf` pay for that faster than
linearly in the length of the literal; `String.decEq`, `startsWith` and `endsWith` on `String` decode in the same way,
at every comparison. Unfolding the literal to `String.ofList [...]`, which both do in one step, and cancelling with
`String.toList_ofList` costs next to nothing, so each lemma below moves a literal or a predicate on `String`s to
`List Char`: `simp only [contains_toList, <the lists>, List.map, toList_lit rfl]`, then evaluation.
-/
namespace Fabio

/-- Used as `simp only [toList_lit rfl]`. Given as a term, `simp` indexes it under `String.toList _` alone, so it fires
on every literal and `rfl` then unfolds that literal; `String.toList_ofList` itself is indexed under `String.ofList`
and never meets a literal. -/
theorem toList_lit {s : String} {l : List Char} (h : s = String.ofList l) : s.toList = l :=
  h ▸ String.toList_ofList

/-- The characters of a string literal behind a name. Decoding a long literal inside a kernel evaluation is slow, and so
is carrying the spelt-out list through the evaluated function as a term; this is neither. -/
def litChars (s : String) {l : List Char} (h : s = String.ofList l) : {l : List Char // s.toList = l} :=
  ⟨l, toList_lit h⟩

/-- Used as `simp only [toList_chars rfl]`, like `toList_lit`: every `"…".toList` becomes `(litChars "…" rfl).val`. -/
theorem toList_chars {s : String} {l : List Char} (h : s = String.ofList l) : s.toList = (litChars s h).val :=
  toList_lit h

theorem beq_toList (a b : String) : (a == b) = (a.toList == b.toList) := by
  rw [Bool.eq_iff_iff, beq_iff_eq, beq_iff_eq, String.toList_inj]

theorem contains_toList (l : List String) (x : String) :
    l.contains x = (l.map String.toList).contains x.toList := by
  induction l with
  | nil => rfl
  | cons a l ih => rw [List.map_cons, List.contains_cons, List.contains_cons, ih, beq_toList]

/-- Under `all` and `filter` the argument of `contains` is a bound variable; these move the outer list as well, so that
no `String` is left to decode. -/
theorem all_contains_toList (l m : List String) :
    l.all (m.contains ·) = (l.map String.toList).all ((m.map String.toList).contains ·) := by
  rw [List.all_map]; exact congrArg l.all (funext (contains_toList m))

theorem filter_not_contains_toList (l m r : List String) :
    l.filter (!m.contains ·) = r ↔
      (l.map String.toList).filter (!(m.map String.toList).contains ·) = r.map String.toList := by
  rw [← List.map_inj_right (f := String.toList) fun _ _ => String.toList_injective, List.filter_map]
  exact iff_of_eq (congrArg (fun p => (l.filter p).map _ = _) (funext fun x => congrArg not (contains_toList m x)))

theorem startsWith_chars (s pat : String) : s.startsWith pat = pat.toList.isPrefixOf s.toList := by
  rw [Bool.eq_iff_iff, String.startsWith_string_iff, List.isPrefixOf_iff_prefix]

theorem endsWith_chars (s pat : String) : s.endsWith pat = pat.toList.isSuffixOf s.toList := by
  rw [Bool.eq_iff_iff, List.isSuffixOf_iff_suffix]
  simpa using String.Slice.endsWith_string_iff (pat := pat) (s := s.toSlice)

theorem occurrences_chars (s : String) (evs : List String) :
    (evs.filter (· == s)).length = ((evs.map String.toList).filter (· == s.toList)).length := by
  rw [List.filter_map, List.length_map]
  exact congrArg (fun p => (evs.filter p).length) (funext fun e => beq_toList e s)

end Fabio
