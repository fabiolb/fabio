import Fabio.Model.C07
import Fabio.Model.C07Spec
/-! The `net/url` fragment round-trips (`unescape_escape`) and `dropEscaped` is the only cut whose front decodes to
the strip prefix, so the specification's search over all cut points finds it (`escapedRemainder_eq`). The pair
(decoded path, escaped path) keeps `Inv` through strip and prepend: that ties `EscapedPath()` of the outgoing URL to
the specification's `expectedPath`. `expectedQuery` and `expectedHost` are the model's `mergeQuery` and `hostOverride`
case by case. -/
namespace Fabio.Lemmas.C07
open Fabio.Model.C07 Fabio.Model.C07Spec

def hexRoundTrip (c : UInt8) : Bool :=
  isHex (upperhex (c >>> 4)) && isHex (upperhex (c &&& 15)) &&
  ((unhex (upperhex (c >>> 4)) <<< 4 ||| unhex (upperhex (c &&& 15))) == c)

theorem hexRoundTrip_all (c : UInt8) : hexRoundTrip c = true := by
  have h : ∀ n : Fin 256, hexRoundTrip (UInt8.ofNat n.val) = true := by decide +kernel
  simpa using h ⟨c.toNat, c.toNat_lt⟩

theorem unescape_nil : unescape [] = some [] := rfl

theorem unescape_cons_ne (c : UInt8) (s : Bytes) (h : c ≠ PCT) :
    unescape (c :: s) = (unescape s).map (c :: ·) := by
  conv => lhs; unfold unescape
  simp [h]

theorem unescape_pct (a b : UInt8) (s : Bytes) :
    unescape (PCT :: a :: b :: s) =
      if isHex a && isHex b then (unescape s).map ((unhex a <<< 4 ||| unhex b) :: ·) else none := by
  conv => lhs; unfold unescape
  simp

theorem unescape_pct_short (s : Bytes) (h : ∀ a b r, s = a :: b :: r → False) : unescape (PCT :: s) = none := by
  match s, h with
  | [], _ | [_], _ => rfl
  | a :: b :: r, h => exact (h a b r rfl).elim

/-- `unescape w = some d` as a relation (`unescape_of_decodes`, `decodes_of_unescape`), without the failing
branches: facts about a string that decodes go by induction on this. -/
inductive Decodes : Bytes → Bytes → Prop
  | nil : Decodes [] []
  | lit {c : UInt8} {w d : Bytes} : c ≠ PCT → Decodes w d → Decodes (c :: w) (c :: d)
  | esc {a b : UInt8} {w d : Bytes} : (isHex a && isHex b) = true → Decodes w d →
      Decodes (PCT :: a :: b :: w) ((unhex a <<< 4 ||| unhex b) :: d)

theorem unescape_of_decodes {w d : Bytes} (h : Decodes w d) : unescape w = some d := by
  induction h with
  | nil => rfl
  | lit hc _ ih => rw [unescape_cons_ne _ _ hc, ih]; rfl
  | esc hh _ ih => rw [unescape_pct, if_pos hh, ih]; rfl

theorem decodes_of_unescape {w d : Bytes} (h : unescape w = some d) : Decodes w d := by
  induction w using unescape.induct generalizing d with
  | case1 => cases h; exact .nil
  | case2 a b rest hh ih =>
    rw [unescape_pct, if_pos hh] at h
    obtain ⟨y, hy, rfl⟩ := Option.map_eq_some_iff.mp h
    exact .esc hh (ih hy)
  | case3 a b rest hh => rw [unescape_pct, if_neg hh] at h; cases h
  | case4 rest hne => rw [unescape_pct_short rest hne] at h; cases h
  | case5 c rest hc ih =>
    rw [unescape_cons_ne c rest hc] at h
    obtain ⟨y, hy, rfl⟩ := Option.map_eq_some_iff.mp h
    exact .lit hc (ih hy)

theorem unescape_append (a b : Bytes) (x : Bytes) (h : unescape a = some x) :
    unescape (a ++ b) = (unescape b).map (x ++ ·) := by
  have hd := decodes_of_unescape h
  clear h
  induction hd with
  | nil => simp
  | lit hc _ ih => rw [List.cons_append, unescape_cons_ne _ _ hc, ih, Option.map_map]; rfl
  | esc hh _ ih => simp only [List.cons_append]; rw [unescape_pct, if_pos hh, ih, Option.map_map]; rfl

theorem validEncoded_append (a b : Bytes) : validEncoded (a ++ b) = (validEncoded a && validEncoded b) := by
  simp [validEncoded, List.all_append]

theorem validEncoded_cons (c : UInt8) (s : Bytes) : validEncoded (c :: s) = (validByte c && validEncoded s) := by
  simp [validEncoded]

theorem validByte_of_isHex {c : UInt8} (h : isHex c = true) : validByte c = true := by
  have : isAlnum c = true := by
    simp only [isHex, Bool.or_eq_true, Bool.and_eq_true, decide_eq_true_eq] at h
    simp only [isAlnum, Bool.or_eq_true, Bool.and_eq_true, decide_eq_true_eq]
    rcases h with (⟨h1, h2⟩ | ⟨h1, h2⟩) | ⟨h1, h2⟩
    · exact Or.inr ⟨h1, h2⟩
    · exact Or.inl (Or.inl ⟨h1, UInt8.le_trans h2 (by decide)⟩)
    · exact Or.inl (Or.inr ⟨h1, UInt8.le_trans h2 (by decide)⟩)
  simp [validByte, shouldEscape, this]

theorem escByte_spec (c : UInt8) : validEncoded (escByte c) = true ∧ unescape (escByte c) = some [c] := by
  unfold escByte
  split
  · have h := hexRoundTrip_all c
    simp only [hexRoundTrip, Bool.and_eq_true, beq_iff_eq] at h
    obtain ⟨⟨h1, h2⟩, h3⟩ := h
    constructor
    · simp only [validEncoded_cons, validByte_of_isHex h1, validByte_of_isHex h2]; rfl
    · rw [unescape_pct, h1, h2, unescape_nil, h3]; rfl
  · next hs =>
    have hc : c ≠ PCT := fun e => hs (e ▸ by decide)
    constructor
    · simp [validEncoded, validByte, hs]
    · rw [unescape_cons_ne c [] hc]; rfl

theorem unescape_escape (p : Bytes) : unescape (escape p) = some p := by
  induction p with
  | nil => rfl
  | cons c s ih => rw [escape, unescape_append _ _ _ (escByte_spec c).2, ih]; rfl

theorem validEncoded_escape (p : Bytes) : validEncoded (escape p) = true := by
  induction p with
  | nil => rfl
  | cons c s ih => rw [escape, validEncoded_append, (escByte_spec c).1, ih]; rfl

theorem dropEscaped_nil (n : Nat) : dropEscaped n [] = [] := by cases n <;> rfl

theorem dropEscaped_lit (n : Nat) {c : UInt8} (s : Bytes) (hc : c ≠ PCT) :
    dropEscaped (n + 1) (c :: s) = dropEscaped n s := by
  simp [dropEscaped, hc]

theorem dropEscaped_esc (n : Nat) (s : Bytes) : dropEscaped (n + 1) (PCT :: s) = dropEscaped n (s.drop 2) := by
  simp [dropEscaped]

/-- how many bytes of an escaped path stand for one decoded byte: an escape, or the byte itself -/
def width (c : UInt8) : Nat := if c = PCT then 3 else 1

theorem width_pos (c : UInt8) : 0 < width c := by unfold width; split <;> decide

/-- the two cases in one: a step of the model drops `width c` bytes, and the loop of `escapedLen` moves its index by as much -/
theorem dropEscaped_width (n : Nat) (c : UInt8) (s : Bytes) :
    dropEscaped (n + 1) (c :: s) = dropEscaped n ((c :: s).drop (width c)) := by
  unfold width
  split
  · next h => rw [h, dropEscaped_esc]; rfl
  · next h => rw [dropEscaped_lit n s h]; rfl

theorem dropEscaped_decodes (n : Nat) {w d : Bytes} (h : Decodes w d) :
    ∃ a, w = a ++ dropEscaped n w ∧ Decodes a (d.take n) ∧ Decodes (dropEscaped n w) (d.drop n) := by
  induction n generalizing w d with
  | zero => exact ⟨[], rfl, .nil, h⟩
  | succ n ih =>
    cases h with
    | nil => exact ⟨[], rfl, .nil, .nil⟩
    | @lit c w d hc hd =>
      obtain ⟨a, h1, h2, h3⟩ := ih hd
      rw [dropEscaped_lit n w hc]
      exact ⟨c :: a, congrArg (c :: ·) h1, .lit hc h2, h3⟩
    | @esc x y w d hh hd =>
      obtain ⟨a, h1, h2, h3⟩ := ih hd
      rw [dropEscaped_esc]
      exact ⟨PCT :: x :: y :: a, congrArg (PCT :: x :: y :: ·) h1, .esc hh h2, h3⟩

theorem dropEscaped_spec (n : Nat) (w d : Bytes) (h : unescape w = some d) :
    ∃ a, w = a ++ dropEscaped n w ∧ unescape a = some (d.take n) ∧ unescape (dropEscaped n w) = some (d.drop n) := by
  obtain ⟨a, h1, h2, h3⟩ := dropEscaped_decodes n (decodes_of_unescape h)
  exact ⟨a, h1, unescape_of_decodes h2, unescape_of_decodes h3⟩

theorem dropEscaped_valid (n : Nat) (w d : Bytes) (h : unescape w = some d) (hv : validEncoded w = true) :
    validEncoded (dropEscaped n w) = true := by
  obtain ⟨a, h1, _, _⟩ := dropEscaped_spec n w d h
  rw [h1, validEncoded_append, Bool.and_eq_true] at hv
  exact hv.2

theorem dropEscaped_unique (a : Bytes) : ∀ (b x : Bytes), unescape a = some x → dropEscaped x.length (a ++ b) = b := by
  intro b x h
  have hd := decodes_of_unescape h
  clear h
  induction hd with
  | nil => rfl
  | lit hc _ ih => rw [List.cons_append, List.length_cons, dropEscaped_lit _ _ hc]; exact ih
  | esc _ _ ih => exact ih

theorem decodedCount_nil : decodedCount [] = 0 := by rw [decodedCount]

theorem decodedCount_cons (c : UInt8) (s : Bytes) :
    decodedCount (c :: s) = if c = PCT then 1 + decodedCount (s.drop 2) else 1 + decodedCount s := by
  rw [decodedCount]

theorem dropEscaped_count (n : Nat) (s : Bytes) :
    ∃ a, s = a ++ dropEscaped n s ∧ decodedCount a = min n (decodedCount s) := by
  fun_induction dropEscaped n s with
  | case1 s => exact ⟨[], rfl, by rw [decodedCount_nil, Nat.zero_min]⟩
  | case2 n => exact ⟨[], rfl, by rw [decodedCount_nil, Nat.min_zero]⟩
  | case3 n s ih =>
    -- the front is `%`, the (up to) two bytes behind it, and the front of what follows them
    obtain ⟨a, h1, h2⟩ := ih
    have hd : (s.take 2 ++ a).drop 2 = a := by
      match s, h1 with
      | [], h1 | [_], h1 => rw [List.eq_nil_of_append_eq_nil h1.symm |>.1]; rfl
      | _ :: _ :: _, _ => rfl
    refine ⟨PCT :: (s.take 2 ++ a), ?_, ?_⟩
    · rw [List.cons_append, List.append_assoc, ← h1, List.take_append_drop]
    · rw [decodedCount_cons, if_pos rfl, hd, h2, decodedCount_cons, if_pos rfl, Nat.succ_eq_add_one, Nat.add_comm n 1, Nat.add_min_add_left]
  | case4 n c s hc ih =>
    obtain ⟨a, h1, h2⟩ := ih
    refine ⟨c :: a, by rw [List.cons_append, ← h1], ?_⟩
    rw [decodedCount_cons, if_neg hc, h2, decodedCount_cons, if_neg hc, Nat.succ_eq_add_one, Nat.add_comm n 1, Nat.add_min_add_left]

theorem mem_splits {w a b : Bytes} : (a, b) ∈ splits w ↔ w = a ++ b := by
  simp only [splits, List.mem_map, List.mem_range, Prod.mk.injEq]
  constructor
  · rintro ⟨k, _, rfl, rfl⟩
    exact (List.take_append_drop k w).symm
  · rintro rfl
    exact ⟨a.length, by simp; omega, by simp, by simp⟩

/-- the search over all cut points finds the cut of `dropEscaped`: that cut is among them (`dropEscaped_spec`), and
whichever the search returns has the same remainder (`dropEscaped_unique`) -/
theorem escapedRemainder_eq (strip client p : Bytes) (h : unescape client = some p)
    (hp : strip.isPrefixOf p = true) :
    escapedRemainder strip client = some (dropEscaped strip.length client) := by
  obtain ⟨a, h1, h2, _⟩ := dropEscaped_spec strip.length client p h
  rw [← List.prefix_iff_eq_take.mp (List.isPrefixOf_iff_prefix.mp hp)] at h2
  have hfound : ((splits client).find? fun ab => unescape ab.1 = some strip).isSome = true :=
    List.find?_isSome.mpr ⟨_, mem_splits.mpr h1, by simpa using h2⟩
  obtain ⟨⟨a', b'⟩, hf⟩ := Option.isSome_iff_exists.mp hfound
  have hcut := dropEscaped_unique a' b' strip (by simpa using List.find?_some hf)
  rw [← mem_splits.mp (List.mem_of_find?_eq_some hf)] at hcut
  rw [escapedRemainder, hf, ← hcut]; rfl

theorem escapedPath_raw (u : URL) (h0 : u.rawPath ≠ []) (hv : validEncoded u.rawPath = true)
    (hu : unescape u.rawPath = some u.path) : u.escapedPath = u.rawPath := by
  simp [URL.escapedPath, h0, hv, hu]

theorem startsWithSlash_ne_nil {s : Bytes} (h : startsWithSlash s = true) : s ≠ [] := by
  rintro rfl; cases h

theorem escapedPath_parsed (client p rp : Bytes) (hparse : setPath client = some (p, rp))
    (hs : startsWithSlash client = true) (hv : validEncoded client = true) (u : URL)
    (hu : u.path = p ∧ u.rawPath = rp) : u.escapedPath = client ∧ unescape client = some p := by
  obtain ⟨d, hd, hpr⟩ := Option.map_eq_some_iff.mp hparse
  obtain ⟨rfl, hrp⟩ := Prod.mk.inj hpr
  refine ⟨?_, hd⟩
  by_cases he : escape d = client
  · -- Go's canonical encoding: no `RawPath` is kept, `EscapedPath` encodes `Path` again
    have hstar : d ≠ [STAR] := by
      rintro rfl
      rw [← he] at hs; revert hs; decide
    rw [if_pos he] at hrp
    simp [URL.escapedPath, hu.1, hu.2, ← hrp, hstar, he]
  · rw [if_neg he] at hrp
    have hraw : u.rawPath = client := hu.2.trans hrp.symm
    rw [← hraw]
    exact escapedPath_raw u (hraw ▸ startsWithSlash_ne_nil hs) (hraw ▸ hv) (by rw [hraw, hu.1]; exact hd)

/-- `(&url.URL{Path: p}).EscapedPath()`: what `ServeHTTP` puts in front of the escaped path for a prepend option `p` -/
theorem optEscaped (p : Bytes) :
    validEncoded (({ path := p } : URL).escapedPath) = true ∧ unescape (({ path := p } : URL).escapedPath) = some p := by
  by_cases hs : p = [STAR]
  · subst hs; decide
  · simp [URL.escapedPath, hs, validEncoded_escape, unescape_escape]

def Inv (pr : Bytes × Bytes) : Prop := validEncoded pr.2 = true ∧ unescape pr.2 = some pr.1

theorem inv_absolutise (pr : Bytes × Bytes) (h : Inv pr) : Inv (absolutise pr) := by
  unfold absolutise
  split
  · exact h
  · exact ⟨by rw [validEncoded_cons, h.1]; rfl, by rw [unescape_cons_ne SLASH _ (by decide), h.2]; rfl⟩

theorem inv_strip (strip reqPath : Bytes) (pr : Bytes × Bytes) (h : Inv pr) : Inv (stripStep strip reqPath pr) := by
  unfold stripStep
  split
  · obtain ⟨_, _, _, h3⟩ := dropEscaped_spec strip.length pr.2 pr.1 h.2
    exact inv_absolutise _ ⟨dropEscaped_valid _ _ _ h.2 h.1, h3⟩
  · exact h

theorem inv_prepend (prepend : Bytes) (pr : Bytes × Bytes) (h : Inv pr) : Inv (prependStep prepend pr) := by
  unfold prependStep
  split
  · have ho := optEscaped prepend
    exact inv_absolutise _
      ⟨by rw [validEncoded_append, ho.1, h.1]; rfl, by rw [unescape_append _ _ _ ho.2, h.2]; rfl⟩
  · exact h

theorem inv_rewrite (t : Target) (u : URL) (h : Inv (u.path, u.escapedPath)) : Inv (rewritePath t u) :=
  inv_prepend _ _ (inv_strip _ _ _ h)

theorem escapedPath_target (t : Target) (u : URL) (h : Inv (u.path, u.escapedPath)) :
    (targetURL t u).escapedPath =
      if startsWithSlash (rewritePath t u).2 = true then (rewritePath t u).2
      else if (rewritePath t u).1 = [STAR] then [STAR] else escape (rewritePath t u).1 := by
  have hi := inv_rewrite t u h
  split
  · next hs =>
    have hraw : (targetURL t u).rawPath = (rewritePath t u).2 := if_pos hs
    rw [← hraw]
    exact escapedPath_raw _ (hraw ▸ startsWithSlash_ne_nil hs) (hraw ▸ hi.1) (hraw ▸ hi.2)
  · next hs => simp [URL.escapedPath, targetURL, hs]

theorem slashed_eq_absolutise (d w : Bytes) : slashed d w = absolutise (d, w) := by
  unfold slashed absolutise
  split
  · rfl
  · next hne =>
    have : startsWithSlash d = false := by
      cases d with
      | nil => rfl
      | cons c s => exact decide_eq_false fun hc => hne s (hc ▸ rfl)
    simp [this, SLASH]

theorem expectedPath_eq (t : Target) (u : URL) (client : Bytes) (hc : u.escapedPath = client)
    (hd : unescape client = some u.path) :
    expectedPath t.strip t.prepend client = some (rewritePath t u) := by
  unfold expectedPath rewritePath stripStep prependStep hasPrefix
  simp only [hd, hc, bind, pure, Option.bind_some]
  split
  · next hs =>
    rw [escapedRemainder_eq t.strip client u.path hd hs.2, Option.bind_some]
    split <;> simp only [slashed_eq_absolutise]
  · split <;> simp only [slashed_eq_absolutise]

theorem mergeQuery_eq_expected (tq rq : Bytes) : mergeQuery tq rq = expectedQuery tq rq := by
  unfold mergeQuery expectedQuery
  by_cases h1 : tq = [] <;> by_cases h2 : rq = [] <;> simp [h1, h2]

theorem hostOverride_eq_expected (t : Target) (h : String) :
    hostOverride t h = expectedHost t.hostOpt t.host h := by
  unfold hostOverride expectedHost
  by_cases h0 : t.hostOpt = "" <;> by_cases h1 : t.hostOpt = "dst" <;> simp [h0, h1]

theorem expectedPath_no_options {client p : Bytes} (h : unescape client = some p) :
    expectedPath [] [] client = some (p, client) := by
  simp [expectedPath, h]

theorem absolutise_fst (pr : Bytes × Bytes) : (absolutise pr).1 = ensureAbs pr.1 := by
  unfold absolutise ensureAbs
  split <;> rfl

theorem ensureAbs_abs (p : Bytes) : startsWithSlash (ensureAbs p) = true := by
  unfold ensureAbs
  split
  · assumption
  · rfl

theorem stripStep_fst (strip reqPath : Bytes) (pr : Bytes × Bytes) :
    (stripStep strip reqPath pr).1 =
      if strip ≠ [] ∧ strip <+: reqPath then ensureAbs (pr.1.drop strip.length) else pr.1 := by
  simp only [stripStep, hasPrefix, List.isPrefixOf_iff_prefix]
  split
  · exact absolutise_fst _
  · rfl

theorem prependStep_fst (prepend : Bytes) (pr : Bytes × Bytes) :
    (prependStep prepend pr).1 = if prepend ≠ [] then ensureAbs (prepend ++ pr.1) else pr.1 := by
  unfold prependStep
  split
  · exact absolutise_fst _
  · rfl

theorem noRouteStatus_eq (c : Int) : noRouteStatus c = if 100 ≤ c ∧ c ≤ 999 then c else 404 := by
  unfold noRouteStatus noRouteLo noRouteHi statusNotFound
  split
  · next h => rw [if_neg (by omega)]
  · next h => rw [if_pos (by omega)]

theorem run_append (cs : List Int) (c : Int) : RW.run (cs ++ [c]) = (RW.run cs).writeHeader c := by
  simp [RW.run, List.foldl_append]

theorem foldl_sent (cs : List Int) : ∀ rw : RW, (cs.foldl RW.writeHeader rw).sentHeaders = rw.sentHeaders ++ cs := by
  induction cs with
  | nil => intro rw; simp
  | cons c cs ih => intro rw; simp [List.foldl_cons, ih, RW.writeHeader]

theorem run_sent (cs : List Int) : (RW.run cs).sentHeaders = cs := by
  simp [RW.run, foldl_sent]

theorem clientView_informational (pre : List Int) (final : Int) (hpre : ∀ c ∈ pre, informational c = true)
    (hfinal : informational final = false) : clientView (pre ++ [final]) = (pre, final) := by
  induction pre with
  | nil => simp [clientView, hfinal]
  | cons c cs ih =>
    have hc := hpre c (by simp)
    have := ih (fun x hx => hpre x (by simp [hx]))
    simp [clientView, hc, this]

end Fabio.Lemmas.C07
