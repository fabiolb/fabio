import Fabio.Lemmas.Route
import Fabio.Lemmas.Order
/-!
C05 — `route weight`, the final per-host sort, and independence of the Go map iteration order.
-/
namespace Fabio.Lemmas.C05Weight
open Fabio Fabio.Model.Route Fabio.Model.Parse Fabio.Model.C05Spec Fabio.Lemmas.Route

/-- `sortBy` for a comparison read as "below": the larger element goes first -/
abbrev isort {α : Type} (lt : α → α → Bool) (l : List α) : List α := sortBy (fun a b => lt b a) l

def Desc {α : Type} (lt : α → α → Bool) (l : List α) : Prop := l.Pairwise (fun a b => lt b a = true)

theorem isort_desc {α : Type} (lt : α → α → Bool) (htr : ∀ a b c, lt a b = true → lt b c = true → lt a c = true)
    (l : List α) (hc : l.Pairwise (fun a b => lt a b = true ∨ lt b a = true)) : Desc lt (isort lt l) :=
  sortBy_sorted _ (fun a b c h1 h2 => htr c b a h2 h1) l (hc.imp Or.symm)

theorem weigh_nil : weigh [] = [] := rfl

def tgs (rs : List Route) (p : Str) : List Target :=
  match findRoute rs p with
  | some r => r.targets
  | none => []

theorem tgs_nil (p : Str) : tgs [] p = [] := rfl

theorem tgs_of_not_mem (rs : List Route) (p : Str) (h : p ∉ rs.map (·.path)) : tgs rs p = [] :=
  Route.tgs_of_not_mem rs p h

/-- the target list `setWeight` installs (count of matches `n` inlined) -/
def newTargets (ts : List Target) (d : RouteDef) : List Target :=
  weigh (ts.map (fun t => if matchesWeight d.service d.tags t then
    { t with fixedWeight := d.weight / (((ts.filter (matchesWeight d.service d.tags)).length : Nat) : Rat) } else t))

/-- `weighRoute` is the spec machine's `specWeigh` with `put` in the place of `upd`: a missing route is a route none of
whose targets match -/
theorem weighRoute_eq (t : Table) (d : RouteDef) : weighRoute t d =
    if d.src.isEmpty then .error .invalidPrefix else
    if ((abs t (key d.src).1 (key d.src).2).filter (matchesWeight d.service d.tags)).length = 0 then .error .noMatch
    else .ok (put t (key d.src).1 (key d.src).2 (newTargets (abs t (key d.src).1 (key d.src).2) d)) := by
  unfold weighRoute key
  generalize hostpath d.src = hp
  obtain ⟨a, b⟩ := hp
  dsimp only
  split
  · rfl
  · cases hr : t.route (lowerL a) b with
    | none => rw [abs_of_find_none hr]; rfl
    | some r =>
      rw [abs_of_find_some hr, put_of_find_some _ hr]
      unfold Route.setWeight newTargets
      dsimp only
      split <;> simp [*]

theorem specWeigh_eq (S : Spec) (d : RouteDef) : specWeigh S d =
    if d.src.isEmpty then .error .invalidPrefix else
    if ((S (key d.src).1 (key d.src).2).filter (matchesWeight d.service d.tags)).length = 0 then .error .noMatch
    else .ok (upd S (key d.src).1 (key d.src).2 (newTargets (S (key d.src).1 (key d.src).2) d)) := rfl

section weighRoute
variable {t t1 : Table} {d : RouteDef}

theorem weighRoute_ok (h : weighRoute t d = .ok t1) :
    ((abs t (key d.src).1 (key d.src).2).filter (matchesWeight d.service d.tags)).length ≠ 0 ∧
      t1 = put t (key d.src).1 (key d.src).2 (newTargets (abs t (key d.src).1 (key d.src).2) d) := by
  rw [weighRoute_eq] at h
  split at h
  · cases h
  · split at h
    · cases h
    · rename_i hn
      exact ⟨hn, (Except.ok.inj h).symm⟩

theorem inv_weigh (hi : Inv t) (h : weighRoute t d = .ok t1) : Inv t1 := by
  obtain ⟨hn, rfl⟩ := weighRoute_ok h
  exact inv_put hi _ _ (Route.weigh_ne_nil (by simpa using fun e => hn (by rw [e]; rfl))) (weigh_weigh _)

/-- unlike `add_refines` and `del_refines` this holds for every table, not only under the invariant -/
theorem weigh_refines : (weighRoute t d).map abs = specWeigh (abs t) d := by
  rw [weighRoute_eq, specWeigh_eq]
  split
  · rfl
  · split
    · rfl
    · exact congrArg Except.ok (abs_put ..)

theorem host_case_weight (s' : Str) (hk : key d.src = key s') (he : d.src.isEmpty = s'.isEmpty) :
    weighRoute t d = weighRoute t { d with src := s' } := by
  rw [weighRoute_eq, weighRoute_eq]
  simp only [hk, he]
  rfl

end weighRoute

/-- `Routes.Less` (arguments swapped): compare two routes by path -/
def rlt (a b : Route) : Bool := pathLt a.path b.path

def SortedDesc (rs : List Route) : Prop := rs.Pairwise (fun a b => pathLt b.path a.path = true)

theorem sortedDesc_iff (rs : List Route) : SortedDesc rs ↔ Desc rlt rs := Iff.rfl

theorem sortRoutes_sorted (rs : List Route) (hu : (rs.map (·.path)).Nodup) : SortedDesc (sortRoutes rs) := by
  rw [Route.sortRoutes_eq]
  exact isort_desc rlt (fun _ _ _ => pathLt_strict.trans) rs (comparable_of_nodup pathLt_tri (fun r : Route => r.path) rs hu)

theorem sort_unique (rs l : List Route) (hu : (rs.map (·.path)).Nodup) (hp : l.Perm rs) (hs : SortedDesc l) :
    l = sortRoutes rs :=
  List.Perm.eq_of_pairwise (fun _ _ _ _ h1 h2 => nomatch (pathLt_strict.asymm h1).symm.trans h2) hs (sortRoutes_sorted rs hu)
    (hp.trans (sortRoutes_perm rs).symm)

def sortTable (t : Table) : Table := t.map (fun kv => (kv.1, sortRoutes kv.2))
theorem get_sortTable (t : Table) (h : Str) : (sortTable t).get h = sortRoutes (t.get h) :=
  get_map_snd sortRoutes rfl t h

section finalSort
variable {t : Table}

theorem inv_sort (hi : Inv t) : Inv (sortTable t) :=
  inv_map_perm sortRoutes sortRoutes_perm hi

theorem abs_sort (hw : WF t) : abs (sortTable t) = abs t := by
  funext h p
  rw [abs_eq, abs_eq, get_sortTable]
  rcases get_mem_or_nil t h with he | hm
  · rw [he]; rfl
  · exact (tgs_perm (sortRoutes_perm _).symm (hw.paths _ hm) p).symm

end finalSort

/-! The Go table is a map, the model's table an association list: its order stands for Go's map iteration order.
Invariant, abstraction, host order and rendering do not depend on it. -/
section mapOrder
variable {t t' : Table}

theorem get_perm (hw : WF t) (hp : t.Perm t') : t'.get = t.get := by
  funext h
  unfold Table.get
  rw [lookup_perm hp hw.hosts]

theorem inv_perm (hi : Inv t) (hp : t.Perm t') : Inv t' := by
  refine ⟨⟨?_, ?_, ?_⟩, ?_, ?_⟩
  · exact (hp.map _).nodup hi.wf.hosts
  · intro kv hkv; exact hi.wf.paths kv (hp.mem_iff.mpr hkv)
  · intro kv hkv; exact hi.wf.hostOf kv (hp.mem_iff.mpr hkv)
  · intro kv hkv; exact hi.noEmpty kv (hp.mem_iff.mpr hkv)
  · intro kv hkv; exact hi.weighed kv (hp.mem_iff.mpr hkv)

theorem abs_perm (hw : WF t) (hp : t.Perm t') : abs t' = abs t := by
  funext h p
  rw [abs_eq, abs_eq, get_perm hw hp]

theorem hostOrder_congr {a b : Table} (ha : (a.map (·.1)).Nodup) (hb : (b.map (·.1)).Nodup)
    (h : ∀ x, x ∈ a.map (·.1) ↔ x ∈ b.map (·.1)) : hostOrder a = hostOrder b := by
  rw [hostOrder_eq, hostOrder_eq]
  congr 1
  have hn : ((a.map (·.1)).filter (fun h => !h.isEmpty)).Nodup := List.Nodup.sublist List.filter_sublist ha
  have hn' : ((b.map (·.1)).filter (fun h => !h.isEmpty)).Nodup := List.Nodup.sublist List.filter_sublist hb
  have hs : ∀ l : List Str, l.Nodup → Desc strLt (isort strLt l) := fun l hl =>
    isort_desc strLt (fun _ _ _ => strLt_strict.trans) l (comparable_of_nodup strLt_tri id l (by rwa [List.map_id]))
  exact eq_of_sorted_of_mem_iff (fun _ _ _ _ h1 h2 => nomatch (strLt_strict.asymm h1).symm.trans h2)
    ((sortBy_perm _ _).nodup_iff.2 hn) ((sortBy_perm _ _).nodup_iff.2 hn')
    (fun x => by simp only [mem_sortBy, List.mem_filter, h x]) (hs _ hn) (hs _ hn')

theorem hostOrder_perm (hw : WF t) (hp : t.Perm t') : hostOrder t' = hostOrder t :=
  hostOrder_congr ((hp.map _).nodup hw.hosts) hw.hosts fun _ => (hp.map _).symm.mem_iff

theorem render_perm (hw : WF t) (hp : t.Perm t') : render t' = render t := by
  unfold render config
  rw [hostOrder_perm hw hp, get_perm hw hp]

end mapOrder

section examples

def tA (fw w : Rat) : Target :=
  { service := ['a'], tags := [['x']], opts := [], url := ['u', 'a'], fixedWeight := fw, weight := w }
def tB (fw w : Rat) : Target :=
  { service := ['b'], tags := [['y']], opts := [], url := ['u', 'b'], fixedWeight := fw, weight := w }

/-- host `h`: `/` ↦ a (1/2), b (1/2), both dynamic; host `g`: `/` ↦ b -/
def tab0 : Table :=
  [(['h'], [⟨['h'], ['/'], [tA 0 (1/2), tB 0 (1/2)]⟩]), (['g'], [⟨['g'], ['/'], [tB 0 1]⟩])]

/-- after `route weight a H/ weight 0.25`: exactly target a gets the fixed share 1/4, b takes the rest -/
def tabW : Table :=
  [(['h'], [⟨['h'], ['/'], [tA (1/4) (1/4), tB 0 (3/4)]⟩]), (['g'], [⟨['g'], ['/'], [tB 0 1]⟩])]

def dW : RouteDef := { cmd := .weight, service := ['a'], src := ['H', '/'], weight := 1/4 }
/-- no target of `h/` has service `c` -/
def dNone : RouteDef := { cmd := .weight, service := ['c'], src := ['h', '/'], weight := 1/4 }

theorem inv_tab0 : Inv tab0 :=
  ⟨⟨by decide, by decide, by decide⟩, by unfold NoEmpty; decide, by unfold Weighed; decide +kernel⟩

theorem weigh_tab0 : weighRoute tab0 dW = .ok tabW := by decide +kernel

-- `inv_weigh`: hypotheses hold, the result is a different table, and exactly one target's fixed weight changed
example : Inv tabW ∧ tabW ≠ tab0 := ⟨inv_weigh inv_tab0 weigh_tab0, by decide +kernel⟩
example : (abs tab0 ['h'] ['/']).map (·.fixedWeight) = [0, 0] ∧
    (abs tabW ['h'] ['/']).map (·.fixedWeight) = [1/4, 0] ∧
    (abs tabW ['h'] ['/']).map (·.weight) = [1/4, 3/4] ∧
    abs tabW ['g'] ['/'] = abs tab0 ['g'] ['/'] := by decide +kernel
-- `weigh_refines`: both sides `.ok`, common value differs from `abs tab0`
example : specWeigh (abs tab0) dW = .ok (abs tabW) := by
  rw [← weigh_refines, weigh_tab0]; rfl
-- the error branch (no target matches) is refined too
theorem weigh_none : weighRoute tab0 dNone = .error .noMatch := by decide +kernel
example : specWeigh (abs tab0) dNone = .error .noMatch := by
  rw [← weigh_refines, weigh_none]; rfl
-- `host_case_weight`: `H/` and `h/` address the same route
example : weighRoute tab0 dW = weighRoute tab0 { dW with src := ['h', '/'] } :=
  host_case_weight ['h', '/'] (by decide +kernel) (by decide +kernel)
example : dW.src ≠ ['h', '/'] := by decide +kernel
example : tabW.map (·.1) = [['h'], ['g']] := by decide +kernel

/-- three routes; `/B` and `/b` differ only in letter case -/
def rs0 : List Route := [⟨['h'], ['/', 'a'], []⟩, ⟨['h'], ['/', 'B'], []⟩, ⟨['h'], ['/', 'b'], []⟩]
def rs1 : List Route := [⟨['h'], ['/', 'b'], []⟩, ⟨['h'], ['/', 'B'], []⟩, ⟨['h'], ['/', 'a'], []⟩]

example : sortRoutes rs0 = rs1 ∧ rs1 ≠ rs0 := by decide +kernel
instance (rs : List Route) : Decidable (SortedDesc rs) := by unfold SortedDesc; infer_instance
example : ¬ SortedDesc rs0 ∧ SortedDesc rs1 ∧ (rs0.map (·.path)).Nodup := by decide +kernel
-- `sort_unique`: another permutation that is sorted must be the result of `sortRoutes`
example : rs1 = sortRoutes [rs0[2], rs0[0], rs0[1]] :=
  sort_unique _ rs1 (by decide +kernel) (by decide +kernel) (by decide +kernel)
-- with a duplicate path the descending order does not exist (the hypothesis `Nodup` is needed)
example : ¬ SortedDesc (sortRoutes [⟨['h'], ['/'], []⟩, ⟨['h'], ['/'], []⟩]) := by decide +kernel

-- `sortTable` / `abs_sort` / the permutation theorems on a table that really changes
def tab2 : Table := [(['h'], rs0), (['g'], [⟨['g'], ['/'], [tB 0 1]⟩])]
example : sortTable tab2 = [(['h'], rs1), (['g'], [⟨['g'], ['/'], [tB 0 1]⟩])] ∧ sortTable tab2 ≠ tab2 := by
  decide +kernel
theorem wf_tab2 : WF tab2 := ⟨by decide +kernel, by decide +kernel, by decide +kernel⟩
example : abs (sortTable tab2) = abs tab2 := abs_sort wf_tab2
example : Inv (sortTable tab0) := inv_sort inv_tab0
example : tab0.reverse ≠ tab0 ∧ Inv tab0.reverse ∧ abs tab0.reverse = abs tab0 ∧ render tab0.reverse = render tab0 :=
  ⟨by decide +kernel, inv_perm inv_tab0 (List.reverse_perm _).symm, abs_perm inv_tab0.wf (List.reverse_perm _).symm,
   render_perm inv_tab0.wf (List.reverse_perm _).symm⟩
-- hosts come out in descending order whatever the order of the association list
example : hostOrder tab0 = [['h'], ['g'], []] ∧ hostOrder tab0.reverse = [['h'], ['g'], []] := by decide +kernel

end examples

end Fabio.Lemmas.C05Weight
