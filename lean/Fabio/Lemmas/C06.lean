import Fabio.Lemmas.C06Sched
import Fabio.Lemmas.C06Share
/-!
The core model of C06 under every schedule (core Lean only): `sys_inv`, the cache invariant and every goroutine's local
invariant, micro-step by micro-step; `lookup_run` and `rr_run`, the cursor against the indices handed out, counted over
all goroutines; `rr_label_share`, what that makes of the share of a slot or of a target.
-/
namespace Fabio.Lemmas.C06
open Fabio.Model.C06

theorem mLoad_none_iff (p : Nat) (m : List (Nat × Nat)) : mLoad p m = none ↔ p ∉ keys m := by
  unfold mLoad keys
  rw [List.lookup_eq_none_iff]
  simp only [List.mem_map, not_exists, not_and, bne_iff_ne, ne_eq]
  exact ⟨fun h e he heq => h e he heq.symm, fun h e he heq => h e he heq.symm⟩

theorem mLoad_some_mem (p g : Nat) (m : List (Nat × Nat)) (h : mLoad p m = some g) : (p, g) ∈ m := by
  obtain ⟨l1, l2, rfl, _⟩ := List.lookup_eq_some_iff.mp h
  simp

theorem keys_mDelete (p : Nat) (m : List (Nat × Nat)) : keys (mDelete p m) = (keys m).filter (fun k => k != p) := by
  unfold keys mDelete
  rw [List.filter_map]
  rfl

theorem mem_mDelete {p : Nat} {m : List (Nat × Nat)} {e : Nat × Nat} (h : e ∈ mDelete p m) : e ∈ m :=
  (List.mem_filter.mp h).1

theorem filter_ne_of_not_mem (p : Nat) (ks : List Nat) (h : p ∉ ks) : ks.filter (fun k => k != p) = ks := by
  rw [List.filter_eq_self]
  intro a ha
  rw [bne_iff_ne]
  exact fun e => h (e ▸ ha)

theorem keys_mStore_fresh (p g : Nat) (m : List (Nat × Nat)) (h : p ∉ keys m) : keys (mStore p g m) = p :: keys m := by
  show p :: keys (mDelete p m) = p :: keys m
  rw [keys_mDelete, filter_ne_of_not_mem p _ h]

theorem filter_ne_middle (A B : List Nat) (x : Nat) (hnd : (A ++ x :: B).Nodup) :
    (A ++ x :: B).filter (fun k => k != x) = A ++ B := by
  obtain ⟨_, h2, h3⟩ := List.nodup_append.mp hnd
  rw [List.filter_append, List.filter_cons_of_neg (by simp), filter_ne_of_not_mem x B (List.nodup_cons.mp h2).1,
    filter_ne_of_not_mem x A fun hx => h3 x hx x List.mem_cons_self rfl]

/-- the map conjuncts of `CacheInv`, with any list `ks` in the place of `c.l.take c.n` -/
def MapOK (compile : Nat → Option Nat) (m : List (Nat × Nat)) (ks : List Nat) : Prop :=
  (keys m).Perm ks ∧ (keys m).Nodup ∧ ∀ e ∈ m, compile e.1 = some e.2

section mapOK
variable {compile : Nat → Option Nat} {m : List (Nat × Nat)} {ks ks' A B : List Nat} {p g x : Nat}

theorem MapOK.load (h : MapOK compile m ks) (hm : mLoad p m = some g) : compile p = some g :=
  h.2.2 (p, g) (mLoad_some_mem p g m hm)

theorem MapOK.perm (h : MapOK compile m ks) (hp : ks.Perm ks') : MapOK compile m ks' :=
  ⟨h.1.trans hp, h.2⟩

theorem MapOK.store (h : MapOK compile m ks) (hp : mLoad p m = none) (hg : compile p = some g) :
    MapOK compile (mStore p g m) (p :: ks) := by
  have hp' := (mLoad_none_iff p m).mp hp
  rw [MapOK, keys_mStore_fresh p g m hp', List.nodup_cons]
  refine ⟨h.1.cons p, ⟨hp', h.2.1⟩, fun e he => ?_⟩
  rcases List.mem_cons.mp he with rfl | h1
  · exact hg
  · exact h.2.2 e (mem_mDelete h1)

theorem MapOK.delete (h : MapOK compile m (A ++ x :: B)) : MapOK compile (mDelete x m) (A ++ B) := by
  rw [MapOK, keys_mDelete]
  refine ⟨?_, h.2.1.sublist List.filter_sublist, fun e he => h.2.2 e (mem_mDelete he)⟩
  rw [← filter_ne_middle A B x (h.1.nodup h.2.1)]
  exact h.1.filter _

theorem mLoad_mDelete_none (h : mLoad p m = none) : mLoad p (mDelete x m) = none := by
  rw [mLoad_none_iff, keys_mDelete] at *
  exact fun hx => h (List.mem_filter.mp hx).1

end mapOK

section readings
variable {compile : Nat → Option Nat} {build : Nat → Nat} {size : Nat} {c : Cache} {l : Local}

/-- The last three conjuncts of `CacheInv` are `MapOK` of the used ring slots. -/
theorem cacheInv_iff : CacheInv compile size c ↔
    c.l.length = size ∧ c.n ≤ size ∧ (c.n < size → c.h = 0) ∧ c.h < max c.n 1 ∧ MapOK compile c.m (c.l.take c.n) :=
  Iff.rfl

theorem _root_.Fabio.Model.C06.CacheInv.mapOK (h : CacheInv compile size c) : MapOK compile c.m (c.l.take c.n) :=
  (cacheInv_iff.mp h).2.2.2.2

theorem _root_.Fabio.Model.C06.CacheInv.n_le (h : CacheInv compile size c) : c.n ≤ size := h.2.1

theorem _root_.Fabio.Model.C06.CacheInv.map_length_le (h : CacheInv compile size c) : c.m.length ≤ size := by
  -- `|m| = |keys m| = |l[0..n)| ≤ n ≤ size`
  have e := h.mapOK.1.length_eq
  simp only [keys, List.length_map, List.length_take] at e
  have := h.n_le
  omega

theorem _root_.Fabio.Model.C06.LocalInv.alive (h : LocalInv compile build l) : l.dead = false := h.1

theorem _root_.Fabio.Model.C06.LocalInv.gets (h : LocalInv compile build l) :
    ∀ e ∈ l.gets, e.2 = getSpec compile e.1 := h.2.2.2.2.1

theorem _root_.Fabio.Model.C06.LocalInv.locs (h : LocalInv compile build l) :
    ∀ e ∈ l.locs, e.2 = some (build e.1) := h.2.2.2.2.2.1

theorem _root_.Fabio.Model.C06.LocalInv.rpicks (h : LocalInv compile build l) : ∀ e ∈ l.rpicks, e.2 < e.1 :=
  h.2.2.2.2.2.2

end readings

theorem cacheInv_new (compile : Nat → Option Nat) (size : Nat) : CacheInv compile size (Cache.new size) := by
  refine ⟨by simp [Cache.new], by simp [Cache.new], fun _ => rfl, by simp [Cache.new], ?_, ?_, ?_⟩
  · simp [Cache.new, keys]
  · simp [Cache.new, keys]
  · intro e he; simp [Cache.new] at he

theorem cacheInv_append (compile : Nat → Option Nat) (size : Nat) (c : Cache) (p g : Nat)
    (hI : CacheInv compile size c) (hm : mLoad p c.m = none) (hn : c.n < c.l.length) (hg : compile p = some g) :
    CacheInv compile size { m := mStore p g c.m, l := c.l.set c.n p, h := c.h, n := c.n + 1 } := by
  obtain ⟨hl, hns, hh0, hh, hmap⟩ := cacheInv_iff.mp hI
  have h0 : c.h = 0 := hh0 (by omega)
  refine cacheInv_iff.mpr
    ⟨(List.length_set ..).trans hl, by show c.n + 1 ≤ size; omega, fun _ => h0, by show c.h < max (c.n + 1) 1; omega, ?_⟩
  refine MapOK.perm (MapOK.store hmap hm hg) ?_
  show (p :: c.l.take c.n).Perm ((c.l.set c.n p).take (c.n + 1))
  rw [List.take_add_one, List.take_set_of_le (Nat.le_refl _), List.getElem?_set_self hn]
  exact (List.perm_append_singleton _ _).symm

theorem cacheInv_evict (compile : Nat → Option Nat) (size : Nat) (c : Cache) (p g : Nat)
    (hI : CacheInv compile size c) (hm : mLoad p c.m = none) (hn : ¬ c.n < c.l.length)
    (hh' : c.h < c.l.length) (hg : compile p = some g) :
    CacheInv compile size { m := mStore p g (mDelete c.l[c.h] c.m), l := c.l.set c.h p,
                            h := (c.h + 1) % c.n, n := c.n } := by
  obtain ⟨hl, hns, hh0, hh, hmap⟩ := cacheInv_iff.mp hI
  have hneq : c.l.length = c.n := by omega
  have hpos : 0 < c.n := by omega
  have hlen : (c.l.set c.h p).length ≤ c.n := by rw [List.length_set, hneq]; exact Nat.le_refl _
  refine cacheInv_iff.mpr ⟨(List.length_set ..).trans hl, hns,
    fun (hlt : c.n < size) => absurd (hl ▸ hneq ▸ hlt) (Nat.lt_irrefl _),
    Nat.lt_of_lt_of_le (Nat.mod_lt _ hpos) (Nat.le_max_left _ _), ?_⟩
  · show MapOK compile _ ((c.l.set c.h p).take c.n)
    -- the ring is full: `take n` is the whole ring, `A ++ old :: B` before and `A ++ p :: B` after
    obtain ⟨A, B, e, e'⟩ := set_decomp (List.getElem?_eq_getElem hh') p
    have hfull : c.l.take c.n = A ++ c.l[c.h] :: B := (List.take_of_length_le (Nat.le_of_eq hneq)).trans e
    rw [(List.take_of_length_le hlen).trans e']
    exact (MapOK.store (MapOK.delete (MapOK.perm hmap (.of_eq hfull))) (mLoad_mDelete_none hm) hg).perm
      List.perm_middle.symm

theorem alive_eq (f : St) (s : State) (l : Local) (hd : l.dead = false) : alive f s l = f s l := by
  simp [alive, hd]

theorem slow_noop (s : State) (l : Local) (hp : l.phase ≠ .compiled) (ha : l.phase ≠ .append)
    (he : l.phase ≠ .evict) : gSlowLocked s l = (s, l) := by
  refine atomicSeq_fix _ s l ?_
  obtain ⟨idx, phase, cur, glb, tbl, picks, gets, locs, tbls, rpicks, dead⟩ := l
  simp only [slowPath, List.forall_mem_cons, List.not_mem_nil, false_imp_iff, implies_true, and_true]
  cases dead <;> cases phase <;> first | contradiction | exact ⟨rfl, rfl, rfl, rfl, rfl, rfl⟩

/- The three equations below are computed on the local state written out field by field (`dead` and `phase` are then
constructors and the tests of the six statements reduce). -/

theorem slow_hit (s : State) (l : Local) (g : Nat) (hd : l.dead = false) (hp : l.phase = .compiled)
    (hm : mLoad l.cur s.cache.m = some g) :
    gSlowLocked s l = (s, finishGet l (.ok g)) := by
  obtain ⟨idx, phase, cur, glb, tbl, picks, gets, locs, tbls, rpicks, dead⟩ := l
  simp only at hd hp hm
  subst hd hp
  simp only [gSlowLocked, atomicSeq, slowPath, List.foldl, gRecheck, gTest, gS4, gS5, gS6, gS7, alive, hm, finishGet,
    Res.isPanic, Bool.false_eq_true, ↓reduceIte, Bool.or_false, reduceCtorEq]

theorem slow_append (s : State) (l : Local) (hd : l.dead = false) (hp : l.phase = .compiled)
    (hm : mLoad l.cur s.cache.m = none) (hn : s.cache.n < s.cache.l.length) :
    gSlowLocked s l =
      ({ s with cache := { m := mStore l.cur l.glb s.cache.m, l := s.cache.l.set s.cache.n l.cur,
                           h := s.cache.h, n := s.cache.n + 1 } },
       finishGet l (.ok l.glb)) := by
  obtain ⟨idx, phase, cur, glb, tbl, picks, gets, locs, tbls, rpicks, dead⟩ := l
  simp only at hd hp hm
  subst hd hp
  simp only [gSlowLocked, atomicSeq, slowPath, List.foldl, gRecheck, gTest, gS4, gS5, gS6, gS7, alive, hm, hn,
    finishGet, Res.isPanic, Bool.false_eq_true, ↓reduceIte, Bool.or_false]

theorem slow_evict (s : State) (l : Local) (hd : l.dead = false) (hp : l.phase = .compiled)
    (hm : mLoad l.cur s.cache.m = none) (hn : ¬ s.cache.n < s.cache.l.length)
    (hh : s.cache.h < s.cache.l.length) (hn0 : s.cache.n ≠ 0) :
    gSlowLocked s l =
      ({ s with cache := { m := mStore l.cur l.glb (mDelete s.cache.l[s.cache.h] s.cache.m),
                           l := s.cache.l.set s.cache.h l.cur,
                           h := (s.cache.h + 1) % s.cache.n, n := s.cache.n } },
       finishGet l (.ok l.glb)) := by
  obtain ⟨idx, phase, cur, glb, tbl, picks, gets, locs, tbls, rpicks, dead⟩ := l
  simp only at hd hp hm
  subst hd hp
  simp only [gSlowLocked, atomicSeq, slowPath, List.foldl, gRecheck, gTest, gS4, gS5, gS6, gS7, alive, hm, hn, hh, hn0,
    finishGet, Res.isPanic, Bool.false_eq_true, ↓reduceIte, Bool.or_false, List.getElem?_eq_getElem hh]

theorem localInv_init (compile : Nat → Option Nat) (build : Nat → Nat) : LocalInv compile build {} := by
  refine ⟨rfl, by decide, by decide, ?_, ?_, ?_, ?_⟩
  · intro h; cases h
  · intro e he; cases he
  · intro e he; cases he
  · intro e he; cases he

theorem rrFetchAdd_eq (N : Nat) (hN : 0 < N) (s : State) (l : Local) (hd : l.dead = false) :
    rrFetchAdd N s l = ({ s with total := s.total + 1 }, { l with picks := l.picks ++ [s.total % N] }) := by
  simp [rrFetchAdd, alive, hd, Nat.ne_of_gt hN]

theorem localInv_finishGet {compile : Nat → Option Nat} {build : Nat → Nat} (l : Local) (r : Res)
    (hd : l.dead = false) (hg : ∀ e ∈ l.gets, e.2 = getSpec compile e.1) (hl : ∀ e ∈ l.locs, e.2 = some (build e.1))
    (hr : ∀ e ∈ l.rpicks, e.2 < e.1) (h : r = getSpec compile l.cur) :
    LocalInv compile build (finishGet l r) := by
  have hp : r.isPanic = false := by rw [h, getSpec]; cases compile l.cur <;> rfl
  exact ⟨by simp [finishGet, hd, hp], by simp [finishGet], by simp [finishGet], by simp [finishGet],
    forall_mem_concat hg h, hl, hr⟩

theorem gSlowLocked_inv (compile : Nat → Option Nat) (build : Nat → Nat) (size : Nat) (hsize : 0 < size)
    (s : State) (l : Local) (hI : CacheInv compile size s.cache) (hJ : LocalInv compile build l) :
    CacheInv compile size (gSlowLocked s l).1.cache ∧ LocalInv compile build (gSlowLocked s l).2 := by
  obtain ⟨hd, ha, he, hc, hg, hl, hr⟩ := hJ
  by_cases hp : l.phase = .compiled
  · have hcg := hc hp
    have hfin : ∀ g, compile l.cur = some g → LocalInv compile build (finishGet l (.ok g)) :=
      fun g h => localInv_finishGet l _ hd hg hl hr (by rw [getSpec, h])
    cases hm : mLoad l.cur s.cache.m with
    | some g => rw [slow_hit s l g hd hp hm]; exact ⟨hI, hfin g (hI.mapOK.load hm)⟩
    | none =>
      by_cases hn : s.cache.n < s.cache.l.length
      · rw [slow_append s l hd hp hm hn]
        exact ⟨cacheInv_append compile size s.cache l.cur l.glb hI hm hn hcg, hfin _ hcg⟩
      · -- the ring is full and `size ≥ 1`: head and count are in range, neither bounds check fires
        have ⟨hlen, hns, _, hh, _⟩ := hI
        have hh' : s.cache.h < s.cache.l.length := by omega
        have hn0 : s.cache.n ≠ 0 := by omega
        rw [slow_evict s l hd hp hm hn hh' hn0]
        exact ⟨cacheInv_evict compile size s.cache l.cur l.glb hI hm hn hh' hcg, hfin _ hcg⟩
  · rw [slow_noop s l hp ha he]; exact ⟨hI, hd, ha, he, hc, hg, hl, hr⟩

theorem sys_step_inv (compile : Nat → Option Nat) (build : Nat → Nat) (size : Nat) (hsize : 0 < size)
    (f : St) (hf : SysStep compile build f) (s : State) (l : Local)
    (hI : CacheInv compile size s.cache) (hJ : LocalInv compile build l) :
    CacheInv compile size (f s l).1.cache ∧ LocalInv compile build (f s l).2 := by
  have ⟨hd, ha, he, hc, hg, hl, hr⟩ := hJ
  cases hf with
  | setTable v => rw [tblSet, alive_eq _ _ _ hd]; exact ⟨hI, hJ⟩
  | lookup h =>
    cases h with
    | snap => rw [tblSnap, alive_eq _ _ _ hd]; exact ⟨hI, hJ⟩
    | pick N hN => rw [rrFetchAdd_eq N hN s l hd]; exact ⟨hI, hJ⟩
    | rnd N hN =>
      rw [rndPick, alive_eq _ _ _ hd]
      simp only [Nat.ne_of_gt hN, ↓reduceIte]
      exact ⟨hI, hd, ha, he, hc, hg, hl, forall_mem_concat hr (Nat.mod_lt _ hN)⟩
    | redirect r =>
      rw [rdPure, alive_eq _ _ _ hd]
      exact ⟨hI, hd, ha, he, hc, hg, forall_mem_concat hl rfl, hr⟩
    | load p =>
      rw [gLoad, alive_eq _ _ _ hd]
      cases hm : mLoad p s.cache.m with
      | none => exact ⟨hI, hd, nofun, nofun, nofun, hg, hl, hr⟩
      | some g =>
        exact ⟨hI, localInv_finishGet { l with cur := p } _ hd hg hl hr (by rw [getSpec, hI.mapOK.load hm])⟩
    | comp =>
      rw [gCompile, alive_eq _ _ _ hd]
      by_cases hp : l.phase = .missed
      · rw [if_pos hp]
        cases hcm : compile l.cur with
        | none => exact ⟨hI, localInv_finishGet l _ hd hg hl hr (by rw [getSpec, hcm])⟩
        | some g => exact ⟨hI, hd, nofun, nofun, fun _ => hcm, hg, hl, hr⟩
      · rw [if_neg hp]; exact ⟨hI, hJ⟩
    | slow => exact gSlowLocked_inv compile build size hsize s l hI hJ

theorem sys_inv (compile : Nat → Option Nat) (build : Nat → Nat) (size : Nat) (hsize : 0 < size)
    (sch : List Nat) (ts : List Th) (s : State)
    (hsteps : ∀ t ∈ ts, ∀ f ∈ t.steps, SysStep compile build f)
    (hI : CacheInv compile size s.cache) (hJ : ∀ t ∈ ts, LocalInv compile build t.loc) :
    CacheInv compile size (run sch ts s).1.cache ∧ (∀ t ∈ (run sch ts s).2, LocalInv compile build t.loc) := by
  have := run_inv (fun s : State => CacheInv compile size s.cache) (LocalInv compile build) (SysStep compile build)
    (fun f hf s l hI hJ => sys_step_inv compile build size hsize f hf s l hI hJ) sch ts s hsteps hI hJ
  exact ⟨this.1, this.2.1⟩

theorem lookupRepaired_steps (compile : Nat → Option Nat) (build : Nat → Nat) (q : Req) (hq : q.ring ≠ some 0) :
    ∀ f ∈ lookupRepaired compile build q, LookupStep compile build f := by
  intro f hf
  simp only [lookupRepaired, List.mem_append, List.mem_flatMap, List.mem_cons, List.mem_nil_iff, or_false] at hf
  rcases hf with ((rfl | ⟨p, _, hf⟩) | hf) | hf
  · exact .snap
  · simp only [getRepaired, List.mem_cons, List.mem_nil_iff, or_false] at hf
    rcases hf with rfl | rfl | rfl
    · exact .load p
    · exact .comp
    · exact .slow
  · cases hr : q.ring with
    | none => simp [hr] at hf
    | some N =>
      have hN : 0 < N := Nat.pos_of_ne_zero fun h => hq (h ▸ hr)
      cases hrn : q.rnd <;> simp [hr, hrn, pickRepaired] at hf <;> subst hf
      · exact .pick N hN
      · exact .rnd N hN
  · cases hrd : q.redirect <;> simp [hrd, redirectRepaired] at hf
    subst hf
    exact .redirect q.id

theorem lookupThread_steps (compile : Nat → Option Nat) (build : Nat → Nat) (qs : List Req)
    (hq : ∀ q ∈ qs, q.ring ≠ some 0) :
    ∀ f ∈ (lookupThread compile build qs).steps, LookupStep compile build f := by
  intro f hf
  simp only [lookupThread, mkThread, List.mem_flatMap] at hf
  obtain ⟨q, hqm, hf⟩ := hf
  exact lookupRepaired_steps compile build q (hq q hqm) f hf

theorem swapThread_steps (compile : Nat → Option Nat) (build : Nat → Nat) (vs : List Nat) :
    ∀ f ∈ (swapThread vs).steps, SysStep compile build f := by
  intro f hf
  simp only [swapThread, mkThread, List.mem_map] at hf
  obtain ⟨v, _, rfl⟩ := hf
  exact .setTable v

theorem frame_alive {k : St} (h : FrameStep k) : FrameStep (alive k) := by
  intro s l
  unfold alive
  split
  · exact ⟨rfl, rfl, rfl, rfl⟩
  · exact h s l

/- `rngNext` multiplies by a ten-digit literal: nothing may try to evaluate it, so this one goes through `simp`. -/
theorem frame_rndPick (N : Nat) : FrameStep (rndPick N) := by
  intro s l
  by_cases hN : N = 0 <;> cases hd : l.dead <;> simp [rndPick, alive, hd, hN, Local.die]

theorem frame_atomicSeq (fs : List St) (h : ∀ f ∈ fs, FrameStep f) : FrameStep (atomicSeq fs) := by
  unfold atomicSeq
  induction fs with
  | nil => intro s l; exact ⟨rfl, rfl, rfl, rfl⟩
  | cons f fs ih =>
    intro s l
    obtain ⟨a1, a2, a3, a4⟩ := h f List.mem_cons_self s l
    obtain ⟨b1, b2, b3, b4⟩ := ih (fun g hg => h g (List.mem_cons_of_mem _ hg)) (f s l).1 (f s l).2
    exact ⟨b1.trans a1, b2.trans a2, b3.trans a3, b4.trans a4⟩

/- Every statement of the lookup other than the two picks is `alive fun s l => …` around a case split; every branch
writes the new state out as an update of the cache and of the registers and outputs of the call in flight, so the four
equations hold by `rfl`. -/

theorem frame_gSlowLocked : FrameStep gSlowLocked := by
  refine frame_atomicSeq _ ?_
  simp only [slowPath, List.forall_mem_cons, List.not_mem_nil, false_imp_iff, implies_true, and_true]
  refine ⟨?_, ?_, ?_, ?_, ?_, ?_⟩ <;>
    exact frame_alive fun s l => by (repeat' split) <;> exact ⟨rfl, rfl, rfl, rfl⟩

theorem lookupStep_frame (compile : Nat → Option Nat) (build : Nat → Nat) (f : St)
    (h : LookupStep compile build f) : FrameStep f ∨ ∃ N, 0 < N ∧ f = rrFetchAdd N := by
  cases h with
  | pick N hN => exact .inr ⟨N, hN, rfl⟩
  | rnd N _ => exact .inl (frame_rndPick N)
  | slow => exact .inl frame_gSlowLocked
  | _ => exact .inl (frame_alive fun s l => by (repeat' split) <;> exact ⟨rfl, rfl, rfl, rfl⟩)

/-- The first alternative includes the fetch-add of a goroutine that has panicked: it does nothing. -/
theorem lookupStep_cursor (compile : Nat → Option Nat) (build : Nat → Nat) (f : St)
    (h : LookupStep compile build f) (s : State) (l : Local) :
    (f s l).1.redirect = s.redirect ∧ (f s l).1.table = s.table ∧
    (((f s l).1.total = s.total ∧ (f s l).2.picks = l.picks) ∨
     ((f s l).1.total = s.total + 1 ∧ ∃ x, (f s l).2.picks = l.picks ++ [x])) := by
  rcases lookupStep_frame compile build f h with hfr | ⟨N, hN, rfl⟩
  · obtain ⟨a1, a2, a3, a4⟩ := hfr s l
    exact ⟨a2, a3, .inl ⟨a1, a4⟩⟩
  · cases hd : l.dead with
    | true => rw [rrFetchAdd, alive, if_pos hd]; exact ⟨rfl, rfl, .inl ⟨rfl, rfl⟩⟩
    | false => rw [rrFetchAdd_eq N hN s l hd]; exact ⟨rfl, rfl, .inr ⟨rfl, _, rfl⟩⟩

section sums
variable {ts : List Th} {i : Nat} {t : Th} {f : St} {rest : List St} {l' : Local} {x : Nat}

theorem allPicks_set_same (hget : ts[i]? = some t) (e : l'.picks = t.loc.picks) : allPicks (ts.set i ⟨rest, l'⟩) = allPicks ts := by
  obtain ⟨A, B, rfl, e'⟩ := set_decomp hget ⟨rest, l'⟩
  simp only [allPicks, e', List.flatMap_append, List.flatMap_cons, e]

theorem allPicks_set_concat (hget : ts[i]? = some t) (e : l'.picks = t.loc.picks ++ [x]) :
    (allPicks (ts.set i ⟨rest, l'⟩)).Perm (x :: allPicks ts) := by
  obtain ⟨A, B, rfl, e'⟩ := set_decomp hget ⟨rest, l'⟩
  simp only [allPicks, e', List.flatMap_append, List.flatMap_cons, e, List.append_assoc, List.singleton_append]
  have p : (t.loc.picks ++ x :: B.flatMap (·.loc.picks)).Perm (x :: (t.loc.picks ++ B.flatMap (·.loc.picks))) :=
    List.perm_middle
  exact (p.append_left _).trans List.perm_middle

theorem remaining_set (l' : Local) (hget : ts[i]? = some t) (hst : t.steps = f :: rest) : remaining ts = remaining (ts.set i ⟨rest, l'⟩) + 1 := by
  have := sum_map_set (·.steps.length) hget ⟨rest, l'⟩
  simp only [hst, List.length_cons] at this
  unfold remaining; omega

end sums

theorem lookup_run (compile : Nat → Option Nat) (build : Nat → Nat) (sch : List Nat) (ts : List Th) (s : State)
    (hsteps : ∀ t ∈ ts, ∀ f ∈ t.steps, LookupStep compile build f) :
    (run sch ts s).1.redirect = s.redirect ∧ (run sch ts s).1.table = s.table ∧
    (run sch ts s).1.total + (allPicks ts).length = s.total + (allPicks (run sch ts s).2).length ∧
    (allPicks ts).length ≤ (allPicks (run sch ts s).2).length := by
  refine (run_ind (LookupStep compile build) (fun _ => True)
    (fun s' ts' => s'.redirect = s.redirect ∧ s'.table = s.table ∧
      s'.total + (allPicks ts).length = s.total + (allPicks ts').length ∧ (allPicks ts).length ≤ (allPicks ts').length)
    ?_ sch ts s hsteps (fun _ _ => trivial) ⟨rfl, rfl, rfl, Nat.le_refl _⟩).2.2
  intro i ts' s' t f rest hget _ hf _ ⟨hr, htb, htot, hmono⟩
  obtain ⟨e3, e4, hc⟩ := lookupStep_cursor compile build f hf s' t.loc
  refine ⟨trivial, e3.trans hr, e4.trans htb, ?_⟩
  rcases hc with ⟨e1, e2⟩ | ⟨e1, x, e2⟩
  · rw [e1, allPicks_set_same hget e2]
    exact ⟨htot, hmono⟩
  · rw [e1, (allPicks_set_concat hget e2).length_eq, List.length_cons]
    omega

theorem rrThreadRepaired_steps (N k : Nat) : (rrThreadRepaired N k).steps = List.replicate k (rrFetchAdd N) := by
  simp [rrThreadRepaired, mkThread, pickRepaired]

theorem remaining_rrThreads (N : Nat) (ks : List Nat) : remaining (ks.map (rrThreadRepaired N)) = ks.sum := by
  unfold remaining
  rw [List.map_map]
  congr 1
  conv => rhs; rw [← List.map_id ks]
  exact List.map_congr_left fun k _ => by simp [rrThreadRepaired_steps]

theorem allPicks_rrThreads (N : Nat) (ks : List Nat) : allPicks (ks.map (rrThreadRepaired N)) = [] := by
  simp [allPicks, rrThreadRepaired, mkThread]

theorem remaining_zero_of_finished (ts : List Th) (h : finished ts = true) : remaining ts = 0 := by
  unfold remaining finished at *
  induction ts with
  | nil => rfl
  | cons t ts ih =>
    simp only [List.all_cons, Bool.and_eq_true, List.isEmpty_iff] at h
    simp [h.1, ih h.2]

theorem rr_run (N : Nat) (hN : 0 < N) (sch : List Nat) (ts : List Th) (s : State)
    (hsteps : ∀ t ∈ ts, ∀ f ∈ t.steps, f = rrFetchAdd N) (hd : ∀ t ∈ ts, t.loc.dead = false) :
    s.total ≤ (run sch ts s).1.total ∧
    (run sch ts s).1.total + remaining (run sch ts s).2 = s.total + remaining ts ∧
    (allPicks (run sch ts s).2).Perm
      (allPicks ts ++ (List.range' s.total ((run sch ts s).1.total - s.total)).map (· % N)) := by
  refine (run_ind (· = rrFetchAdd N) (·.dead = false)
    (fun s' ts' => s.total ≤ s'.total ∧ s'.total + remaining ts' = s.total + remaining ts ∧
      (allPicks ts').Perm (allPicks ts ++ (List.range' s.total (s'.total - s.total)).map (· % N)))
    ?_ sch ts s hsteps hd ⟨Nat.le_refl _, rfl, by simp⟩).2.2
  intro i ts' s' t f rest hget hst hf hd ⟨hc, hsum, hperm⟩
  subst hf
  rw [rrFetchAdd_eq N hN s' t.loc hd]
  refine ⟨hd, Nat.le_succ_of_le hc, ?_, ?_⟩
  · have := remaining_set { t.loc with picks := t.loc.picks ++ [s'.total % N] } hget hst
    dsimp only at this ⊢
    omega
  · show (allPicks _).Perm (allPicks ts ++ (List.range' s.total (s'.total + 1 - s.total)).map (· % N))
    rw [Nat.sub_add_comm hc, List.range'_concat, List.map_append,
      ← List.append_assoc, Nat.one_mul, Nat.add_sub_cancel' hc]
    exact (allPicks_set_concat hget rfl).trans ((hperm.cons _).trans (List.perm_append_singleton _ _).symm)

theorem rr_run_fresh (N : Nat) (hN : 0 < N) (ks : List Nat) (s : State) (sch : List Nat) :
    let r := run sch (ks.map (rrThreadRepaired N)) s
    let K := r.1.total - s.total
    s.total ≤ r.1.total ∧ K ≤ ks.sum ∧ (finished r.2 = true → K = ks.sum) ∧
    (allPicks r.2).Perm ((List.range' s.total K).map (· % N)) := by
  intro r K
  have hthreads : ∀ t ∈ ks.map (rrThreadRepaired N), (∀ f ∈ t.steps, f = rrFetchAdd N) ∧ t.loc.dead = false := by
    intro t ht
    obtain ⟨k, _, rfl⟩ := List.mem_map.mp ht
    exact ⟨fun f hf => (List.mem_replicate.mp (rrThreadRepaired_steps N k ▸ hf)).2, rfl⟩
  obtain ⟨hc, hsum, hperm⟩ := rr_run N hN sch _ s (fun t ht => (hthreads t ht).1) (fun t ht => (hthreads t ht).2)
  rw [remaining_rrThreads] at hsum
  rw [allPicks_rrThreads, List.nil_append] at hperm
  have hsum : r.1.total + remaining r.2 = s.total + ks.sum := hsum
  refine ⟨hc, ?_, fun hf => ?_, hperm⟩
  · show r.1.total - s.total ≤ ks.sum
    omega
  · show r.1.total - s.total = ks.sum
    rw [remaining_zero_of_finished _ hf] at hsum
    omega

/-- The share of a label under every schedule: `g` labels the ring slots (the slot itself, or the target that owns it). -/
theorem rr_label_share {β : Type} [BEq β] (g : Nat → β) (N : Nat) (hN : 0 < N) (ks : List Nat) (s : State)
    (sch : List Nat) (t : β) :
    let r := run sch (ks.map (rrThreadRepaired N)) s
    let K := r.1.total - s.total
    let hits := ((allPicks r.2).map g).count t
    hits = labelShare g N s.total K t ∧ K / N * labelWeight g N t ≤ hits ∧ hits ≤ (K / N + 1) * labelWeight g N t ∧
      (K % N = 0 → hits = K / N * labelWeight g N t) := by
  intro r K hits
  have e : hits = labelShare g N s.total K t := count_of_perm_residues g N t (rr_run_fresh N hN ks s sch).2.2.2
  rw [e]
  exact ⟨rfl, labelShare_bounds g N t hN K s.total⟩

theorem slotShare_eq (N c K j : Nat) : slotShare N c K j = labelShare (fun x => x) N c K j := rfl

theorem targetShare_eq (ring : List Nat) (c K t : Nat) :
    targetShare ring c K t = labelShare (fun x => ring[x]?.getD 0) ring.length c K t := rfl

end Fabio.Lemmas.C06
