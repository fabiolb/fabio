import Fabio.Model.C15
import Fabio.Lemmas.Lit
/-! C15: the environment block as a fold (`envMap_eq`), progress of the kvslice lexer (`lexGo_bounds`), and the
invariants of the kvslice parser (`Inv`) and of the glob cache ring (`GCInv`). -/
namespace Fabio.Lemmas.C15
open Fabio Fabio.Model.C15

-- the examples compare results of the model, which are `Except` values, by `decide`
deriving instance DecidableEq for Except

theorem upperChar_cases (c : Char) : upperChar c = c ∨ ('Z' < c ∧ 'A' ≤ upperChar c ∧ upperChar c ≤ 'Z') := by
  unfold upperChar
  split <;> first | exact .inl rfl | exact .inr (by decide)

theorem upperChar_idem (c : Char) : upperChar (upperChar c) = upperChar c := by
  rcases upperChar_cases c with h | h
  · rw [h, h]
  · exact (upperChar_cases _).resolve_right fun h' => Char.not_le.2 h'.1 h.2.2

theorem upperChar_eq_dot (c : Char) : upperChar c = '.' ↔ c = '.' := by
  constructor
  · intro h
    rcases upperChar_cases c with h' | h'
    · rw [← h', h]
    · rw [h] at h'; exact absurd h'.2.1 (by decide)
  · intro h; subst h; rfl

theorem dotChar_upperChar (c : Char) : dotChar (upperChar c) = upperChar (dotChar c) := by
  unfold dotChar
  by_cases h : c = '.'
  · subst h; rfl
  · have : upperChar c ≠ '.' := fun h' => h ((upperChar_eq_dot c).1 h')
    simp [h, this]

theorem upper_idem (s : Str) : upper (upper s) = upper s := by
  simp [upper, List.map_map, Function.comp_def, upperChar_idem]

theorem dots_upper (s : Str) : dots (upper s) = upper (dots s) := by
  simp [dots, upper, List.map_map, Function.comp_def, dotChar_upperChar]

theorem upper_append (a b : Str) : upper (a ++ b) = upper a ++ upper b := by simp [upper]

theorem envName_eq (pfx name : Str) : envName pfx name = upper pfx ++ dots (upper name) := by
  simp [envName, upper_append, dots_upper]

theorem get_put (m : Map) (k v k' : Str) : (m.put k v).get k' = if k = k' then some v else m.get k' := by
  fun_induction Map.put m k v <;> grind [Map.get, List.lookup]

theorem keys_put (m : Map) (k v : Str) :
    (m.put k v).map (·.1) = if k ∈ m.map (·.1) then m.map (·.1) else m.map (·.1) ++ [k] := by
  fun_induction Map.put m k v <;> grind

theorem nodup_keys_put (m : Map) (k v : Str) (h : (m.map (·.1)).Nodup) : ((m.put k v).map (·.1)).Nodup := by
  rw [keys_put]
  split
  · exact h
  · rename_i hk
    rw [List.nodup_append]
    refine ⟨h, by simp, ?_⟩
    intro a ha b hb
    simp at hb; subst hb
    intro e; subst e; exact hk ha

theorem put_length_pos (m : Map) (k v : Str) : 0 < (m.put k v).length := by
  fun_induction Map.put m k v <;> simp

theorem splitN2_length (e : Str) : (splitN2 e).length = 1 ∨ (splitN2 e).length = 2 := by
  fun_induction splitN2 e <;> simp_all

theorem splitN2_join (k v : Str) (hk : '=' ∉ k) : splitN2 (k ++ '=' :: v) = [k, v] := by
  induction k with
  | nil => simp [splitN2]
  | cons c cs ih =>
    have hc : c ≠ '=' := fun e => hk (by simp [e])
    have hcs : '=' ∉ cs := fun e => hk (by simp [e])
    simp [splitN2, hc, ih hcs]

theorem splitN2_noeq (e : Str) (h : '=' ∉ e) : splitN2 e = [e] := by
  induction e with
  | nil => simp [splitN2]
  | cons c cs ih =>
    have hc : c ≠ '=' := fun e => h (by simp [e])
    have hcs : '=' ∉ cs := fun e => h (by simp [e])
    simp [splitN2, hc, ih hcs]

def envPut (m : Map) (e : Str) : Map :=
  match splitN2 e with
  | [k, v] => m.put (upper k) v
  | _ => m

/-- the checked index expressions of `envStep` are in range: the step never panics -/
theorem envStep_eq (m : Map) (e : Str) : envStep m e = .ok (envPut m e) := by
  unfold envStep envPut
  generalize splitN2 e = p
  match p with
  | [] | [_] | [_, _] | _ :: _ :: _ :: _ => simp

theorem envMap_eq (m : Map) (es : List Str) : envMap m es = .ok (es.foldl envPut m) := by
  induction es generalizing m with
  | nil => rfl
  | cons e es ih => simp only [envMap, envStep_eq, ih, List.foldl_cons]

theorem envStep_kv (m : Map) (k v : Str) (hk : '=' ∉ k) :
    envStep m (k ++ '=' :: v) = .ok (m.put (upper k) v) := by
  rw [envStep_eq, envPut, splitN2_join k v hk]

theorem envStep_noeq (m : Map) (e : Str) (h : '=' ∉ e) : envStep m e = .ok m := by
  rw [envStep_eq, envPut, splitN2_noeq e h]

theorem envFirst_none (env : Map) (name : Str) (i : Nat) (ps : List Str)
    (h : ∀ p ∈ ps, env.get (envName p name) = none) : envFirst env name i ps = none := by
  induction ps generalizing i with
  | nil => rfl
  | cons p ps ih =>
    simp only [envFirst, h p (by simp)]
    exact ih _ (fun q hq => h q (by simp [hq]))

/-- the prefix loop of `ParseFlags`: the first prefix, in list order, whose variable is set -/
theorem envFirst_eq (env : Map) (name : Str) (i : Nat) (ps : List Str) :
    envFirst env name i ps = (ps.zipIdx i).findSome? fun pj => (env.get (envName pj.1 name)).map (pj.2, ·) := by
  induction ps generalizing i with
  | nil => rfl
  | cons p ps ih =>
    rw [envFirst, List.zipIdx_cons, List.findSome?_cons, ← ih]
    cases env.get (envName p name) <;> rfl

theorem cmdLookup_single (name v : Str) : cmdLookup name [(name, v)] = some v := by
  simp [cmdLookup]

/-- Every branch of the lexer either stops — with one rune in state `start`, otherwise at the current index (at
least 1) or at the end of the input — or goes on to the next index in a state other than `start`. -/
theorem lexGo_bounds (unq : Str → Option Str) (s : Str) (st : LexState) (i : Nat) (rest : Str)
    (hlen : i + rest.length = s.length) (h : (st = .start ∧ rest ≠ []) ∨ (st ≠ .start ∧ 1 ≤ i)) :
    1 ≤ (lexGo unq s st i rest).2.2 ∧ (lexGo unq s st i rest).2.2 ≤ s.length := by
  fun_induction lexGo unq s st i rest <;> grind

theorem lex_bounds (unq : Str → Option Str) (s : Str) (hs : s ≠ []) :
    1 ≤ (lex unq s).2.2 ∧ (lex unq s).2.2 ≤ s.length :=
  lexGo_bounds unq s .start 0 s (by simp) (Or.inl ⟨rfl, hs⟩)

theorem ploop_ok (unq : Str → Option Str) (fuel : Nat) (s : Str) (p : P) (hf : s.length < fuel) :
    ∃ r, ploop unq fuel s p = .ok r := by
  induction fuel generalizing s p with
  | zero => omega
  | succ fuel ih =>
    cases s with
    | nil => exact ⟨_, rfl⟩
    | cons c cs =>
      have hb := lex_bounds unq (c :: cs) (by simp)
      simp only [ploop]
      generalize (lex unq (c :: cs)).2.2 = n at hb ⊢
      rw [if_pos hb.2]
      split
      · apply ih
        simp only [List.length_drop]
        simp only [List.length_cons] at hf hb ⊢
        omega
      · exact ⟨_, rfl⟩

def GoodMap (m : Map) : Prop := 0 < m.length ∧ (m.map (·.1)).Nodup

/-- Invariant of the parser loop.  The open map `p.m` may be empty: `newMap` closes it only when it is not. -/
def Inv (p : P) : Prop := (∀ m ∈ p.maps, GoodMap m) ∧ (p.m.map (·.1)).Nodup

theorem inv_init : Inv {} := by simp [Inv]

theorem inv_put (p : P) (k v : Str) (h : Inv p) : Inv { p with m := p.m.put k v } :=
  ⟨h.1, nodup_keys_put _ _ _ h.2⟩

/-- the step `newMap` and the last lines of `parseKVSlice` have in common -/
theorem good_closed (p : P) (h : Inv p) :
    ∀ m ∈ (if p.m.length > 0 then p.maps ++ [p.m] else p.maps), GoodMap m := by
  intro m hm
  split at hm
  · rename_i hl
    rcases List.mem_append.1 hm with hm | hm
    · exact h.1 m hm
    · rw [List.mem_singleton.1 hm]; exact ⟨hl, h.2⟩
  · exact h.1 m hm

theorem inv_newMap (p : P) (h : Inv p) : Inv p.newMap := by
  have hc := good_closed p h
  unfold P.newMap
  split
  · rename_i hl
    rw [if_pos hl] at hc
    exact ⟨hc, List.nodup_nil⟩
  · exact h

theorem inv_putFirst (p : P) (h : Inv p) : Inv p.putFirst := by
  unfold P.putFirst
  split
  · exact inv_put p _ _ h
  · exact h

theorem inv_state (p : P) (st : PState) (h : Inv p) : Inv { p with state := st } := h
theorem inv_k (p : P) (k : Str) (st : PState) (h : Inv p) : Inv { p with k := k, state := st } := h

theorem inv_pstep (p p' : P) (typ : Item) (val : Str) (h : Inv p) (hs : pstep p typ val = .ok p') : Inv p' := by
  -- `Inv` reads only `maps` and `m`, so a transition that sets `state`, `k` or `v` keeps it by `h` itself
  have hput : Inv { p with m := p.m.put p.k p.v, v := [] } := inv_put p _ _ h
  unfold pstep at hs
  split at hs <;> split at hs <;> first
    | (cases hs; done)                              -- the item does not fit the state: `.error`
    | (injection hs with hs; subst hs
       first
        | exact h                                   -- only `state`, `k`, `v` change
        | exact inv_putFirst _ h                    -- `afterFirstKey`, `;`
        | exact inv_newMap _ (inv_putFirst _ h)     -- `afterFirstKey`, `,`
        | exact inv_newMap _ hput                   -- `val`, `,`
        | exact hput)                               -- `val`, `;`

theorem inv_ploop (unq : Str → Option Str) (fuel : Nat) (s : Str) (p p' : P) (h : Inv p)
    (hr : ploop unq fuel s p = .ok (.ok p')) : Inv p' := by
  fun_induction ploop unq fuel s p
  case case1 => cases hr; exact h
  case case3 ih => exact ih (inv_pstep _ _ _ _ h ‹_›) hr
  all_goals cases hr

theorem good_pfinish (p : P) (h : Inv p) : ∀ m ∈ pfinish p, GoodMap m := by
  unfold pfinish
  simp only
  split
  · exact good_closed _ (inv_put p _ _ h)
  · exact good_closed _ (inv_putFirst _ h)
  · exact good_closed _ h

theorem parseKVSlice_ok (unq : Str → Option Str) (s : Str) : ∃ r, parseKVSlice unq s = .ok r := by
  obtain ⟨r, hr⟩ := ploop_ok unq (s.length + 1) s {} (by omega)
  unfold parseKVSlice
  rw [hr]
  cases r <;> exact ⟨_, rfl⟩

theorem kvCheck_ne_panic (unq : Str → Option Str) (flag raw : Str) (w : String) :
    kvCheck unq flag raw ≠ .panic w := by
  obtain ⟨r, hr⟩ := parseKVSlice_ok unq raw
  unfold kvCheck
  rw [hr]
  cases r <;> exact fun h => nomatch h

/-- `validate` never panics — a panic would be one of a kvslice parse, or of index 0 of a list of length 1 — and what it
accepts passed `extra` and the enumeration checks. -/
theorem validate_spec (unq : Str → Option Str) (atoi : Str → Int) (extra : List Resolved → Option Err)
    (vals : List Resolved) : ∃ r, validate unq atoi extra vals = .ok r ∧
      ∀ cfg, r = .ok cfg → extra vals = none ∧ enumChecks atoi vals = .ok cfg.globCacheSize ∧ cfg.values = vals := by
  unfold validate
  repeat' split
  all_goals first
    -- `.ok r` is returned: an error, or in the last branch a configuration, every check having passed
    | exact ⟨_, rfl, fun _ h => by cases h <;> exact ⟨‹_›, ‹_›, rfl⟩⟩
    | (rename_i h; exact absurd h (kvCheck_ne_panic _ _ _ _))               -- `proxy.cs`, `proxy.auth`, `proxy.addr`, `bgp.peers`
    | (rename_i h; split at h                                               -- `ui.addr`, parsed only when not empty
       · exact absurd h (kvCheck_ne_panic _ _ _ _)
       · cases h)
    | (rename_i hl _ h; rw [List.getElem?_eq_none_iff] at h; omega)         -- `ui[0]?` after `ui.length = 1`

theorem loadModel_ok (unq : Str → Option Str) (atoi : Str → Int) (extra : List Resolved → Option Err)
    (flags : List (Str × Str)) (s : Sources) : ∃ r, loadModel unq atoi extra flags s = .ok r := by
  unfold loadModel
  rw [envMap_eq]
  exact (validate_spec _ _ _ _).imp fun _ h => h.1

/-- the last of the enumeration checks rejects a cache size `≤ 0` (D21 repair) -/
theorem enumChecks_pos (atoi : Str → Int) (vals : List Resolved) (g : Int) (h : enumChecks atoi vals = .ok g) :
    1 ≤ g := by
  unfold enumChecks at h
  repeat' (split at h)
  all_goals first
    | (cases h; done)
    | (injection h with h; subst h; omega)

theorem loadModel_accepted (unq : Str → Option Str) (atoi : Str → Int) (extra : List Resolved → Option Err)
    (flags : List (Str × Str)) (s : Sources) (cfg : Cfg) (h : loadModel unq atoi extra flags s = .ok (.ok cfg)) :
    extra cfg.values = none ∧ enumChecks atoi cfg.values = .ok cfg.globCacheSize := by
  simp only [loadModel, envMap_eq] at h
  generalize flags.map _ = vals at h
  obtain ⟨r, hr, hc⟩ := validate_spec unq atoi extra vals
  obtain ⟨h1, h2, h3⟩ := hc cfg (Outcome.ok.inj (hr.symm.trans h))
  rw [h3]
  exact ⟨h1, h2⟩

/-- Invariant of the ring of `GlobCache`: at most `size` cells are in use and the write position `h` is inside the
ring.  So `c.l[c.h]` is in range, and once the ring is full `c.n = size > h`, so `% c.n` does not divide by zero. -/
def GCInv (c : GC) : Prop := c.n ≤ c.size ∧ c.h < c.size

theorem gcMiss_ok (c : GC) (h : GCInv c) : ∃ c', gcMiss c = .ok c' ∧ GCInv c' := by
  obtain ⟨h1, h2⟩ := h
  unfold gcMiss
  by_cases hn : c.n < c.size
  · rw [if_pos hn]
    exact ⟨_, rfl, hn, h2⟩
  · have hn' : c.n = c.size := by omega
    have : c.n ≠ 0 := by omega
    rw [if_neg hn, if_pos h2, if_neg this]
    refine ⟨_, rfl, h1, ?_⟩
    simp only
    rw [hn']
    exact Nat.mod_lt _ (by omega)

theorem gcRun_ok (c : GC) (k : Nat) (h : GCInv c) : ∃ c', gcRun c k = .ok c' := by
  induction k generalizing c with
  | zero => exact ⟨c, rfl⟩
  | succ k ih =>
    obtain ⟨c1, e, h1⟩ := gcMiss_ok c h
    simp only [gcRun, e]
    exact ih c1 h1

theorem runGlob_ok (size : Int) (k : Nat) (h : 1 ≤ size) : ∃ c, runGlob size k = .ok c := by
  unfold runGlob newGlobCache
  rw [if_neg (by omega)]
  exact gcRun_ok _ k ⟨by simp, by simp only; omega⟩

end Fabio.Lemmas.C15
