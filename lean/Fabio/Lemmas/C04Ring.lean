import Fabio.Model.C04
import Fabio.Model.C04Spec
import Fabio.Lemmas.Basic
/-!
The ring fill of C04 (core Lean only): the free-slot scan finds a free slot whenever one exists; a store into a free
slot exchanges one nil for one target, and carried through `placeK` and `fill` this makes the ring a permutation of
the copies its entries ask for (`fillRing_perm`), from which `ring_spec` reads off length, slot contents and counts;
and the equality of the array implementation used by the driver with the list model.
-/
namespace Fabio.Lemmas.C04
open Fabio Fabio.Model.C04

/-- `d` is the cyclic distance from `next` to some free slot: a step either ends the scan or shortens it. -/
theorem findFree_spec (ring : Ring) (fuel next d : Nat) (hn : next < ring.length)
    (hfree : ring[(next + d) % ring.length]? = some none) (hd : d < fuel) :
    ∃ k, findFree ring next fuel = some k ∧ ring[k]? = some none := by
  induction fuel generalizing next d with
  | zero => omega
  | succ f ih =>
    unfold findFree
    rw [List.getElem?_eq_getElem hn]
    cases hv : ring[next] with
    | none => exact ⟨next, rfl, by rw [List.getElem?_eq_getElem hn, hv]⟩
    | some v =>
      cases d with
      | zero =>
        rw [Nat.add_zero, Nat.mod_eq_of_lt hn, List.getElem?_eq_getElem hn, hv] at hfree
        cases hfree
      | succ d =>
        apply ih ((next + 1) % ring.length) d (Nat.mod_lt _ (by omega)) _ (by omega)
        rw [Nat.mod_add_mod, Nat.add_assoc, Nat.add_comm 1 d]
        exact hfree

theorem findFree_of_free (ring : Ring) (next : Nat) (hn : next < ring.length) (hfree : 0 < ring.count none) :
    ∃ k, findFree ring next ring.length = some k ∧ k < ring.length ∧ ring[k]? = some none := by
  obtain ⟨j, hj, e⟩ := List.getElem_of_mem (List.count_pos_iff.mp hfree)
  have hjn : (next + (j + ring.length - next) % ring.length) % ring.length = j := by
    rw [Nat.add_mod_mod, show next + (j + ring.length - next) = j + ring.length by omega, Nat.add_mod_right,
      Nat.mod_eq_of_lt hj]
  obtain ⟨k, hk, hk2⟩ := findFree_spec ring ring.length next _ hn
    (by rw [hjn, List.getElem?_eq_getElem hj, e]) (Nat.mod_lt _ (by omega))
  refine ⟨k, hk, ?_, hk2⟩
  by_cases hkl : k < ring.length
  · exact hkl
  · rw [List.getElem?_eq_none (by omega)] at hk2; cases hk2

theorem set_perm {ring : Ring} {p : Nat} (x : Option Nat) (h : ring[p]? = some none) :
    (none :: ring.set p x).Perm (x :: ring) := by
  obtain ⟨A, B, rfl, e⟩ := set_decomp h x
  rw [e]
  exact ((List.perm_middle.cons none).trans (List.Perm.swap _ _ _)).trans (List.perm_middle.symm.cons x)

theorem placeK_perm (i step : Nat) : ∀ (k : Nat) (ring : Ring) (next : Nat),
    k ≤ ring.count none → (k = 0 ∨ next < ring.length) →
    ∃ ring', placeK i step k ring next = .ok ring' ∧
      (List.replicate k none ++ ring').Perm (List.replicate k (some i) ++ ring) := by
  intro k
  induction k with
  | zero => intro ring next _ _; exact ⟨ring, rfl, .refl _⟩
  | succ k ih =>
    intro ring next hk hn
    have hn : next < ring.length := hn.resolve_left (Nat.succ_ne_zero k)
    obtain ⟨p, hp, hpl, hpf⟩ := findFree_of_free ring next hn (by omega)
    have hs := set_perm (some i) hpf
    have hc := hs.count_eq none
    simp only [List.count_cons, beq_self_eq_true, if_true, show (some i == none) = false from rfl] at hc
    obtain ⟨ring', h1, h2⟩ := ih (ring.set p (some i)) ((p + step) % ring.length) (by omega)
      (Or.inr (by rw [List.length_set]; exact Nat.mod_lt _ (by omega)))
    refine ⟨ring', by simp only [placeK, hp]; exact h1, ?_⟩
    rw [List.replicate_succ, List.replicate_succ, List.cons_append, List.cons_append]
    exact ((h2.cons none).trans List.perm_middle.symm).trans ((hs.append_left _).trans List.perm_middle)

def posSum (pl : List (Int × Nat)) : Nat := (pl.map (fun e => e.1.toNat)).sum

/-- an entry without slots is skipped, which is what `placeK` does with `0` stores: one equation for both cases -/
theorem fill_cons (used : Nat) (n : Int) (i : Nat) (rest : List (Int × Nat)) (ring : Ring) :
    fill used ((n, i) :: rest) ring =
      match placeK i (used / n.toNat) n.toNat ring 0 with
      | .ok ring' => fill used rest ring'
      | .panic w => .panic w := by
  rw [fill]
  split
  · rename_i hn
    rw [Int.toNat_eq_zero.mpr hn]
    rfl
  · rfl

/-- what the entries ask for: `n` copies of `some i` for every entry `(n, i)` -/
def copies (pl : List (Int × Nat)) : Ring := pl.flatMap fun e => List.replicate e.1.toNat (some e.2)

theorem mem_copies {pl : List (Int × Nat)} {s : Option Nat} :
    s ∈ copies pl ↔ ∃ e ∈ pl, 0 < e.1 ∧ s = some e.2 := by
  simp only [copies, List.mem_flatMap, List.mem_replicate, ne_eq, Int.toNat_eq_zero, Int.not_le]

theorem length_copies (pl : List (Int × Nat)) : (copies pl).length = posSum pl := by
  simp only [copies, List.length_flatMap, List.length_replicate, posSum]

theorem count_copies {pl : List (Int × Nat)} (hnd : (pl.map (·.2)).Nodup) {e : Int × Nat} (he : e ∈ pl) :
    (copies pl).count (some e.2) = e.1.toNat := by
  induction pl with
  | nil => cases he
  | cons x rest ih =>
    obtain ⟨hx, hnd'⟩ := List.nodup_cons.mp hnd
    show (List.replicate x.1.toNat (some x.2) ++ copies rest).count (some e.2) = _
    rw [List.count_append, List.count_replicate]
    rcases List.mem_cons.mp he with rfl | he
    · have : (copies rest).count (some e.2) = 0 := List.count_eq_zero.mpr fun hm => by
        obtain ⟨e', he', _, h⟩ := mem_copies.mp hm
        exact hx (List.mem_map.mpr ⟨e', he', (Option.some.inj h).symm⟩)
      simp [this]
    · have hne : x.2 ≠ e.2 := fun h => hx (List.mem_map.mpr ⟨e, he, h.symm⟩)
      simp [hne, ih hnd' he]

/-- The stores of `fill` turn as many nils as the entries ask for into the copies they ask for; nothing else about the
ring changes. Length, free slots and the count of every target are read off this one permutation. -/
theorem fill_perm (used : Nat) : ∀ (pl : List (Int × Nat)) (ring : Ring),
    posSum pl ≤ ring.count none → (posSum pl = 0 ∨ 0 < ring.length) →
    ∃ ring', fill used pl ring = .ok ring' ∧
      (List.replicate (posSum pl) none ++ ring').Perm (copies pl ++ ring) := by
  intro pl
  induction pl with
  | nil => intro ring _ _; exact ⟨ring, rfl, .refl _⟩
  | cons e rest ih =>
    intro ring hsum hlen
    obtain ⟨n, i⟩ := e
    have hps : posSum ((n, i) :: rest) = n.toNat + posSum rest := List.sum_cons
    rw [hps] at hsum hlen
    obtain ⟨r1, p1, p2⟩ := placeK_perm i (used / n.toNat) n.toNat ring 0 (by omega) (by omega)
    -- `r1` has the length of `ring` and `n` free slots less
    have hc := p2.count_eq none
    have hl := p2.length_eq
    simp only [List.count_append, List.count_replicate_self, List.length_append, List.length_replicate] at hc hl
    rw [List.count_replicate, if_neg (by simp), Nat.zero_add] at hc
    obtain ⟨ring', h1, h2⟩ := ih r1 (by omega) (by omega)
    refine ⟨ring', by rw [fill_cons, p1]; exact h1, ?_⟩
    rw [hps, ← List.replicate_append_replicate, List.append_assoc]
    show List.Perm _ (List.replicate n.toNat (some i) ++ copies rest ++ ring)
    rw [List.append_assoc]
    exact ((h2.append_left _).trans (List.perm_append_comm_assoc ..)).trans
      ((p2.append_left _).trans (List.perm_append_comm_assoc ..))

/-- the situation in `weighTargets`: the ring is allocated empty, with as many slots as the entries ask for -/
theorem fill_empty_perm (pl : List (Int × Nat)) :
    ∃ ring, fill (posSum pl) pl (List.replicate (posSum pl) none) = .ok ring ∧ ring.Perm (copies pl) := by
  obtain ⟨ring, h1, h2⟩ := fill_perm (posSum pl) pl (List.replicate (posSum pl) none)
    (by rw [List.count_replicate_self]; exact Nat.le_refl _) (by rw [List.length_replicate]; omega)
  exact ⟨ring, h1, (List.perm_append_left_iff _).mp (h2.trans List.perm_append_comm)⟩

theorem mem_ring_of_count {ring : Ring} {i nf : Nat} {n : Int}
    (hc : ring.count (some i) = if nf = 0 then 1 else n.toNat) :
    (1 ≤ n → some i ∈ ring) ∧ (n = 0 → nf ≠ 0 → some i ∉ ring) := by
  refine ⟨fun hn => List.count_pos_iff.mp ?_, fun hn hnf hm => ?_⟩
  · rw [hc]; split <;> omega
  · have := List.count_pos_iff.mpr hm
    rw [hc, if_neg hnf, hn] at this
    exact absurd this (by decide)

theorem not_none_of_slots {ring : Ring} {n : Nat} (h : ∀ s ∈ ring, ∃ i, i < n ∧ s = some i) : ∀ s ∈ ring, s ≠ none :=
  fun s hs hn => by obtain ⟨_, _, e⟩ := h s hs; rw [hn] at e; cases e

theorem sumInt_eq (ns : List Int) : sumInt ns = ns.sum := List.sum_eq_foldl.symm

theorem toNat_sum (ns : List Int) (h : ∀ n ∈ ns, 0 ≤ n) : (ns.map Int.toNat).sum = ns.sum.toNat ∧ 0 ≤ ns.sum := by
  induction ns with
  | nil => simp
  | cons x xs ih =>
    have hx : 0 ≤ x := h x List.mem_cons_self
    obtain ⟨e, p⟩ := ih (fun n hn => h n (List.mem_cons_of_mem _ hn))
    simp only [List.map_cons, List.sum_cons, e]
    exact ⟨(Int.toNat_add hx p).symm, Int.add_nonneg hx p⟩

theorem entries_snd_nodup (ns : List Int) : ((entries ns).map (·.2)).Nodup := by
  show (List.map Prod.snd (ns.zipIdx 0)).Nodup
  rw [List.zipIdx_map_snd]; exact List.nodup_range'

theorem posSum_entries (ns : List Int) : posSum (entries ns) = (ns.map Int.toNat).sum := by
  show (List.map (Int.toNat ∘ Prod.fst) (ns.zipIdx 0)).sum = _
  rw [← List.map_map, List.zipIdx_map_fst]

theorem posSum_perm {a b : List (Int × Nat)} (h : a.Perm b) : posSum a = posSum b :=
  List.Perm.sum_nat (h.map _)

/-- the ring `fillRing` allocates has as many slots as the entries ask for, in whatever order they come -/
theorem posSum_of_perm (ns : List Int) (hpos : ∀ n ∈ ns, 0 ≤ n) {pl : List (Int × Nat)}
    (hperm : pl.Perm (entries ns)) : posSum pl = (sumInt ns).toNat := by
  rw [posSum_perm hperm, posSum_entries, (toNat_sum ns hpos).1, sumInt_eq]

theorem mem_entries {ns : List Int} {e : Int × Nat} : e ∈ entries ns ↔ ∃ h : e.2 < ns.length, ns[e.2] = e.1 := by
  rw [entries, List.mem_zipIdx_iff_getElem?, List.getElem?_eq_some_iff]

/-- **The ring is a rearrangement of what the entries ask for**, for every order `pl` the unstable sort may leave
them in. -/
theorem fillRing_perm (ns : List Int) (hpos : ∀ n ∈ ns, 0 ≤ n) (pl : List (Int × Nat))
    (hperm : pl.Perm (entries ns)) : ∃ ring, fillRing ns pl = .ok ring ∧ ring.Perm (copies pl) := by
  have hnn := (toNat_sum ns hpos).2
  have hps := posSum_of_perm ns hpos hperm
  obtain ⟨ring, h1, h2⟩ := fill_empty_perm pl
  exact ⟨ring, by simp only [fillRing, show ¬ sumInt ns < 0 by rw [sumInt_eq]; omega, if_false, ← hps]; exact h1, h2⟩

/-- `r.wTargets` as `weighTargets` leaves it: the target list itself when no weight is fixed (`nf = 0`), else the
fill. Every slot holds an index of the target list; target `i` is in one slot, resp. in `nᵢ` slots. -/
theorem ring_spec (ns : List Int) (hpos : ∀ n ∈ ns, 0 ≤ n) (pl : List (Int × Nat))
    (hperm : pl.Perm (entries ns)) (nf : Nat) :
    ∃ ring, (if nf = 0 then .ok ((List.range ns.length).map some) else fillRing ns pl) = Outcome.ok ring ∧
      ring.length = (if nf = 0 then ns.length else (sumInt ns).toNat) ∧
      (∀ s ∈ ring, ∃ i, i < ns.length ∧ s = some i) ∧
      ∀ i (h : i < ns.length), ring.count (some i) = if nf = 0 then 1 else (ns[i]).toNat := by
  by_cases hn : nf = 0
  · simp only [hn, if_true]
    refine ⟨_, rfl, by rw [List.length_map, List.length_range], fun s hs => ?_, fun i hi => ?_⟩
    · obtain ⟨i, hi, rfl⟩ := List.mem_map.mp hs
      exact ⟨i, List.mem_range.mp hi, rfl⟩
    · rw [List.count_eq_countP, List.countP_map]
      have : (List.range ns.length).countP ((fun x => x == some i) ∘ some) = (List.range ns.length).count i := by
        rw [List.count_eq_countP]; congr 1
      rw [this, List.nodup_range.count, if_pos (List.mem_range.mpr hi)]
  · simp only [hn, if_false]
    obtain ⟨ring, h1, h2⟩ := fillRing_perm ns hpos pl hperm
    have hnd : (pl.map (·.2)).Nodup := (hperm.map _).nodup_iff.mpr (entries_snd_nodup ns)
    refine ⟨ring, h1, ?_, fun s hs => ?_, fun i hi => ?_⟩
    · rw [h2.length_eq, length_copies, posSum_of_perm ns hpos hperm]
    · obtain ⟨e, he, _, rfl⟩ := mem_copies.mp (h2.mem_iff.mp hs)
      exact ⟨e.2, (mem_entries.mp (hperm.mem_iff.mp he)).1, rfl⟩
    · rw [h2.count_eq]
      exact count_copies hnd (e := (ns[i], i)) (hperm.mem_iff.mpr (mem_entries.mpr ⟨hi, rfl⟩))

theorem findFreeA_eq (ring : Array (Option Nat)) (next fuel : Nat) :
    findFreeA ring next fuel = findFree ring.toList next fuel := by
  induction fuel generalizing next with
  | zero => rfl
  | succ f ih =>
    simp only [findFreeA, findFree, Array.getElem?_toList, Array.length_toList]
    split <;> simp_all

theorem placeKA_eq (i step : Nat) : ∀ (k : Nat) (ring : Array (Option Nat)) (next : Nat),
    (placeKA i step k ring next).map Array.toList = placeK i step k ring.toList next := by
  intro k
  induction k with
  | zero => intro ring next; rfl
  | succ k ih =>
    intro ring next
    simp only [placeKA, placeK, findFreeA_eq, Array.length_toList]
    cases hf : findFree ring.toList next ring.size with
    | none => rfl
    | some p =>
      simp only
      rw [ih]
      simp

theorem fillA_eq (used : Nat) : ∀ (pl : List (Int × Nat)) (ring : Array (Option Nat)),
    (fillA used pl ring).map Array.toList = fill used pl ring.toList := by
  intro pl
  induction pl with
  | nil => intro ring; rfl
  | cons e rest ih =>
    intro ring
    obtain ⟨n, i⟩ := e
    simp only [fillA, fill]
    split
    · exact ih ring
    · rw [← placeKA_eq]
      cases placeKA i (used / n.toNat) n.toNat ring 0 with
      | ok r => exact ih r
      | panic w => rfl

end Fabio.Lemmas.C04
