import Fabio.Model.C01
import Fabio.Lemmas.Basic
import Fabio.Lemmas.C02
import Fabio.Lemmas.Lit
/-!
Lemmas about the C01 model (core Lean only). The inner loop of `passingServices` is a fold with a sticky flag: an
iteration that is not skipped adds to the two counters and sets the flag iff the check `blocks`, so the flag after the
loop is "some check blocks" and without a blocking check the counters are two `countP`s; `keep_iff` reads the English
rule `HealthyAt` off that. `lastSvc` / `lastMan` are the last elements of the service / manual texts of a history, and
the locals of the table loop hold them. The stages of `Watch` are membership statements; a round in which catalog
lookups fail is a fault-free round over the catalog without the answers of those lookups (`restrict`). The table loop
is the loop `Model/C02.lean` transcribes as `WB` (`toWB_stepOut`), and what `Lemmas/C02.lean` proves of an iteration is
read through it; `textAfter`, the text an iteration tries (the word of the property theorems in `Props/C01.lean`, defined
here in front of the lemmas), is `nextText` there.
-/
namespace Fabio.Lemmas.C01
open Fabio.Model.C01

def same (svc c : Check) : Bool := svc.node == c.node && svc.serviceID == c.serviceID

/-- `c` makes the loop for `svc` take `continue CHECKS` -/
def blocks (svc c : Check) : Bool :=
  svc.node == c.node &&
   ((c.checkID == serf && c.status == critical) || c.checkID == nodeMaint ||
    (c.checkID == svcMaintPfx ++ svc.serviceID && c.status == critical))

theorem same_iff (svc c : Check) : same svc c = true ↔ c.node = svc.node ∧ c.serviceID = svc.serviceID := by
  simp only [same, Bool.and_eq_true, beq_iff_eq]
  exact ⟨fun h => ⟨h.1.symm, h.2.symm⟩, fun h => ⟨h.1.symm, h.2.symm⟩⟩

theorem blocks_false_iff (svc c : Check) :
    blocks svc c = false ↔
      (c.node = svc.node →
        ¬ (c.checkID = serf ∧ c.status = critical) ∧ c.checkID ≠ nodeMaint ∧
        ¬ (c.checkID = svcMaintPfx ++ svc.serviceID ∧ c.status = critical)) := by
  unfold blocks
  rw [Bool.and_eq_false_imp]
  simp only [beq_iff_eq, Bool.or_eq_false_iff, Bool.and_eq_false_imp, beq_eq_false_iff_ne, ne_eq, not_and, and_assoc]
  exact ⟨fun h hn => h hn.symm, fun h hn => h hn.symm⟩

theorem inner_eq (svc : Check) (st : List Str) (a : Acc) (c : Check) (ha : a.skip = false) :
    inner svc st a c =
      { total := a.total + (if same svc c then 1 else 0),
        passing := a.passing + (if same svc c && hasStatus c st then 1 else 0),
        skip := blocks svc c } := by
  obtain ⟨t, p, s⟩ := a
  cases ha
  unfold inner same blocks
  cases svc.node == c.node
  · rfl
  · generalize (svc.serviceID == c.serviceID) = b1
    generalize hasStatus c st = b2
    generalize (c.checkID == serf && c.status == critical) = b3
    generalize (c.checkID == nodeMaint) = b4
    generalize (c.checkID == svcMaintPfx ++ svc.serviceID && c.status == critical) = b5
    cases b1 <;> cases b2 <;> cases b3 <;> cases b4 <;> cases b5 <;> rfl

theorem inner_skip (svc : Check) (st : List Str) (a : Acc) (c : Check) (ha : a.skip = true) :
    inner svc st a c = a := by
  simp [inner, ha]

theorem fold_skip (svc : Check) (st : List Str) (l : List Check) (a : Acc) :
    (l.foldl (inner svc st) a).skip = (a.skip || l.any (blocks svc)) := by
  induction l generalizing a with
  | nil => simp
  | cons c cs ih =>
    rw [List.foldl_cons, ih, List.any_cons]
    cases ha : a.skip
    · rw [inner_eq svc st a c ha]; rfl
    · rw [inner_skip svc st a c ha, ha]; rfl

theorem fold_noblock (svc : Check) (st : List Str) (l : List Check) (a : Acc)
    (ha : a.skip = false) (hb : l.any (blocks svc) = false) :
    l.foldl (inner svc st) a =
      { total := a.total + l.countP (same svc),
        passing := a.passing + l.countP (fun c => same svc c && hasStatus c st),
        skip := false } := by
  induction l generalizing a with
  | nil => obtain ⟨t, p, s⟩ := a; cases ha; rfl
  | cons c cs ih =>
    rw [List.any_cons, Bool.or_eq_false_iff] at hb
    rw [List.foldl_cons, inner_eq svc st a c ha, hb.1, ih _ rfl hb.2, List.countP_cons, List.countP_cons]
    simp only [Nat.add_assoc, Nat.add_comm, Nat.add_left_comm]

theorem keep_eq (cs : List Check) (st : List Str) (strict : Bool) (svc : Check) :
    keep cs st strict svc =
      (isServiceCheck svc && (cs.countP (fun c => same svc c && hasStatus c st) != 0) &&
        (!strict || cs.countP (same svc) == cs.countP (fun c => same svc c && hasStatus c st)) &&
        !cs.any (blocks svc)) := by
  unfold keep
  cases isServiceCheck svc
  · rfl
  · cases hb : cs.any (blocks svc)
    · rw [fold_noblock svc st cs {} rfl hb]
      simp only [Nat.zero_add, bne]
      generalize (cs.countP (fun c => same svc c && hasStatus c st) == 0) = z
      generalize (cs.countP (same svc) == cs.countP (fun c => same svc c && hasStatus c st)) = q
      cases z <;> cases strict <;> cases q <;> rfl
    · have := fold_skip svc st cs {}
      rw [hb] at this
      simp [this]

theorem any_blocks_iff (cs : List Check) (svc : Check) :
    cs.any (blocks svc) = false ↔
      (∀ c ∈ cs, c.node = svc.node → ¬ (c.checkID = serf ∧ c.status = critical)) ∧
      (∀ c ∈ cs, c.node = svc.node → c.checkID ≠ nodeMaint) ∧
      (∀ c ∈ cs, c.node = svc.node → ¬ (c.checkID = svcMaintPfx ++ svc.serviceID ∧ c.status = critical)) := by
  simp only [List.any_eq_false, Bool.not_eq_true, blocks_false_iff, imp_and, forall_and]

/-- The body of the outer loop decides exactly the English rule. -/
theorem keep_iff (cs : List Check) (st : List Str) (strict : Bool) (svc : Check) :
    keep cs st strict svc = true ↔ isServiceCheck svc = true ∧ HealthyAt cs st strict svc.node svc.serviceID := by
  have hex : cs.countP (fun c => same svc c && hasStatus c st) ≠ 0 ↔
      ∃ c ∈ cs, c.node = svc.node ∧ c.serviceID = svc.serviceID ∧ c.status ∈ st := by
    simp only [ne_eq, List.countP_eq_zero, Bool.and_eq_true, same_iff, hasStatus, List.contains_iff_mem,
      Classical.not_forall, Classical.not_not, and_assoc, exists_prop]
  have hall : cs.countP (same svc) = cs.countP (fun c => same svc c && hasStatus c st) ↔
      ∀ c ∈ cs, c.node = svc.node → c.serviceID = svc.serviceID → c.status ∈ st := by
    simp only [countP_and_eq_iff, same_iff, hasStatus, List.contains_iff_mem, and_imp]
  have himp (P : Prop) : (strict = false ∨ P) ↔ (strict = true → P) := by cases strict <;> simp
  rw [keep_eq]
  simp only [Bool.and_eq_true, Bool.or_eq_true, Bool.not_eq_true', bne_iff_ne, beq_iff_eq, any_blocks_iff, hex, hall,
    himp, and_assoc]
  -- the conjuncts of `keep_eq`, read by `hex`, `hall`, `any_blocks_iff`, stand in the order of `HealthyAt`
  rfl

def svcOf : Event → Option Str
  | .svc t => some t
  | .man _ => none

def manOf : Event → Option Str
  | .man t => some t
  | .svc _ => none

theorem lastSvc_eq (es : List Event) : lastSvc es = (es.filterMap svcOf).getLast? :=
  (foldl_last _ id svcOf some (fun acc e => by cases e <;> rfl) es none).trans
    (by cases (es.filterMap svcOf).getLast? <;> rfl)

theorem lastMan_eq (es : List Event) : lastMan es = (es.filterMap manOf).getLast? :=
  (foldl_last _ id manOf some (fun acc e => by cases e <;> rfl) es none).trans
    (by cases (es.filterMap manOf).getLast? <;> rfl)

theorem mem_filterMap_svcOf (es : List Event) (t : Str) : t ∈ es.filterMap svcOf ↔ Event.svc t ∈ es := by
  rw [List.mem_filterMap]
  constructor
  · rintro ⟨e, he, h⟩
    cases e with
    | svc t' => cases h; exact he
    | man _ => cases h
  · exact fun h => ⟨_, h, rfl⟩

theorem lastSvc_after_svc (before later : List Event) (S : Str) :
    ∃ S', lastSvc (before ++ Event.svc S :: later) = some S' ∧ (S' = S ∨ Event.svc S' ∈ later) := by
  rw [lastSvc_eq, List.filterMap_append, List.getLast?_append]
  show ∃ S', ((S :: later.filterMap svcOf).getLast?).or _ = some S' ∧ _
  rw [List.getLast?_cons]
  cases h : (later.filterMap svcOf).getLast? with
  | none => exact ⟨S, rfl, .inl rfl⟩
  | some x => exact ⟨x, rfl, .inr ((mem_filterMap_svcOf _ _).1 (List.mem_of_getLast? h))⟩

theorem sortDesc_eq_sortBy : sortDesc = sortBy (fun a b : Str => strLt b a) := by
  have h : insertDesc = insBy (fun a b : Str => strLt b a) := by
    funext x l
    induction l with
    | nil => rfl
    | cons y ys ih => simp only [insertDesc, insBy, ih]
  funext l; rw [sortDesc, h]; rfl

theorem mem_sortDesc (l : List Str) (y : Str) : y ∈ sortDesc l ↔ y ∈ l := by
  rw [sortDesc_eq_sortBy]; exact mem_sortBy _

theorem mem_addNew (acc : List Str) (x name : Str) :
    name ∈ (if acc.contains x then acc else acc ++ [x]) ↔ name ∈ acc ∨ x = name := by
  split
  · next hc => exact ⟨.inl, fun h => h.elim id (fun e => e ▸ List.contains_iff_mem.1 hc)⟩
  · simp only [List.mem_append, List.mem_singleton, @eq_comm _ name]

theorem mem_serviceNames_aux (l : List Check) (acc : List Str) (name : Str) :
    name ∈ l.foldl (fun acc c => if acc.contains c.serviceName then acc else acc ++ [c.serviceName]) acc ↔
      name ∈ acc ∨ ∃ c ∈ l, c.serviceName = name := by
  induction l generalizing acc with
  | nil => simp
  | cons c cs ih =>
    rw [List.foldl_cons, ih, mem_addNew, or_assoc]
    simp only [List.mem_cons, exists_eq_or_imp]

theorem mem_serviceNames (l : List Check) (name : Str) :
    name ∈ serviceNames l ↔ ∃ c ∈ l, c.serviceName = name := by
  unfold serviceNames
  rw [mem_serviceNames_aux]
  simp

/-- `passing.go` tests the id with the colon, `checksWithTagPrefix` the one without -/
theorem svcMaintPfx_eq : svcMaintPfx = svcMaintNoColon ++ [':'] := by
  unfold svcMaintPfx svcMaintNoColon
  simp only [toList_lit rfl]
  rfl

theorem filter_mem_iff (pfx : Str) (cs : List Check) (c : Check) :
    c ∈ checksWithTagPrefix pfx cs ↔ c ∈ cs ∧ (isNodeOrMaint c = true ∨ hasTagPrefix pfx c = true) := by
  unfold checksWithTagPrefix
  rw [List.mem_filter, Bool.or_eq_true]

theorem mem_passingKeys {κ : Type} (key : Str → Str → κ) (name : Str) (passing : List Check) (k : κ) :
    k ∈ passingKeys key name passing ↔ ∃ c ∈ passing, c.serviceName = name ∧ key c.node c.serviceID = k := by
  simp only [passingKeys, List.mem_map, List.mem_filter, beq_iff_eq, and_assoc]

/-- `makeConfig` asks the catalog only for the names of passing checks, and no other name has a join -/
theorem serviceName_of_joined {κ : Type} [BEq κ] {key : Str → Str → κ} {passing : List Check}
    {catalog : Str → List Instance} {name : Str} {i : Instance} (h : i ∈ joined key passing catalog name) :
    name ∈ serviceNames passing := by
  unfold joined at h
  split at h
  · cases h
  · have hc := (List.mem_filter.1 h).2
    rw [List.contains_eq_any_beq, List.any_eq_true] at hc
    obtain ⟨k, hk, _⟩ := hc
    obtain ⟨c, hc, hn, _⟩ := (mem_passingKeys key name passing k).1 hk
    exact (mem_serviceNames passing name).2 ⟨c, hc, hn⟩

theorem joined_iff {κ : Type} [BEq κ] [LawfulBEq κ] (key : Str → Str → κ)
    (hinj : ∀ n i n' i', key n i = key n' i' → n = n' ∧ i = i')
    (passing : List Check) (catalog : Str → List Instance) (name : Str) (i : Instance) :
    i ∈ joined key passing catalog name ↔
      name ≠ [] ∧ i ∈ catalog name ∧
      ∃ c ∈ passing, c.serviceName = name ∧ c.node = i.node ∧ c.serviceID = i.serviceID := by
  unfold joined
  cases name with
  | nil => simp
  | cons a r =>
    rw [List.isEmpty_cons, if_neg Bool.false_ne_true, List.mem_filter, List.contains_iff_mem, mem_passingKeys]
    refine ⟨fun ⟨hi, c, hc, hn, hk⟩ => ⟨List.cons_ne_nil a r, hi, c, hc, hn, hinj _ _ _ _ hk⟩, ?_⟩
    rintro ⟨_, hi, c, hc, hn, k1, k2⟩
    exact ⟨hi, c, hc, hn, by rw [k1, k2]⟩

/-- the catalog as a round sees it in which the lookups `fails` selects fail: `serviceConfig` returns nil for them, as
it does for a name without catalog entries -/
def restrict (fails : Str → Bool) (catalog : Str → List Instance) : Str → List Instance :=
  fun n => if fails n then [] else catalog n

theorem mem_of_mem_restrict {fails : Str → Bool} {catalog : Str → List Instance} {name : Str} {i : Instance}
    (h : i ∈ restrict fails catalog name) : i ∈ catalog name := by
  unfold restrict at h
  split at h
  · cases h
  · exact h

section faults
variable {κ : Type} [BEq κ] (fails : Str → Bool) (key : Str → Str → κ) (passing : List Check)
  (catalog : Str → List Instance)

theorem joinedF_eq (name : Str) :
    joinedF fails key passing catalog name = joined key passing (restrict fails catalog) name := by
  unfold joinedF joined restrict
  cases fails name
  · rfl
  · cases name.isEmpty <;> rfl

theorem mem_joined_restrict (name : Str) (i : Instance) :
    i ∈ joined key passing (restrict fails catalog) name ↔ fails name = false ∧ i ∈ joined key passing catalog name := by
  rw [← joinedF_eq]
  unfold joinedF
  cases fails name <;> simp

end faults

theorem watchOnceF_eq_restrict {κ : Type} [BEq κ] (fails : Str → Bool) (key : Str → Str → κ)
    (cmds : Instance → List Str) (pfx : Str) (st : List Str) (strict : Bool) (checks : List Check)
    (catalog : Str → List Instance) :
    watchOnceF fails key cmds pfx st strict checks catalog =
      watchOnce key cmds pfx st strict checks (restrict fails catalog) := by
  unfold watchOnceF watchOnce makeConfigLinesF makeConfigLines
  simp only [joinedF_eq]

theorem mem_watchOnce {κ : Type} [BEq κ] (key : Str → Str → κ) (cmds : Instance → List Str) (pfx : Str)
    (st : List Str) (strict : Bool) (checks : List Check) (catalog : Str → List Instance) (l : Str) :
    l ∈ watchOnce key cmds pfx st strict checks catalog ↔
      ∃ name i, i ∈ joined key (passingServices (checksWithTagPrefix pfx checks) st strict) catalog name ∧ l ∈ cmds i := by
  unfold watchOnce makeConfigLines
  simp only [mem_sortDesc, List.mem_flatMap]
  exact ⟨fun ⟨name, _, i, hi, hl⟩ => ⟨name, i, hi, hl⟩,
    fun ⟨name, i, hi, hl⟩ => ⟨name, serviceName_of_joined hi, i, hi, hl⟩⟩

theorem mem_watchOnceF {κ : Type} [BEq κ] (fails : Str → Bool) (key : Str → Str → κ)
    (cmds : Instance → List Str) (pfx : Str) (st : List Str) (strict : Bool) (checks : List Check)
    (catalog : Str → List Instance) (l : Str) :
    l ∈ watchOnceF fails key cmds pfx st strict checks catalog ↔
      ∃ name i, fails name = false ∧
        i ∈ joined key (passingServices (checksWithTagPrefix pfx checks) st strict) catalog name ∧ l ∈ cmds i := by
  rw [watchOnceF_eq_restrict, mem_watchOnce]
  simp only [mem_joined_restrict, and_assoc]

end Fabio.Lemmas.C01

namespace Fabio.Props.C01
open Fabio.Model.C01
variable {T : Type}

/-- the text the iteration that consumes `e` in state `s` tries to build -/
def textAfter (s : State T) (e : Event) : Str := concatCfg (receive s e).svccfg (receive s e).mancfg

end Fabio.Props.C01

namespace Fabio.Lemmas.C01
open Fabio.Model.C01 Fabio.Model.C02
open Fabio.Props.C01 (textAfter)

section machine
variable {T : Type} (build : Str → Option T)

/-- `Model/C02.lean` transcribes the same loop as `WB`; an iteration here is an iteration there (`toWB_stepOut`), and what
`Lemmas/C02.lean` says about one is read through that. -/
def toWB (s : State T) : WB T := ⟨s.svccfg, s.mancfg, s.lastTable, s.active⟩

def toEv : Event → Ev
  | .svc t => .svc t
  | .man t => .man t

theorem toWB_receive (s : State T) (e : Event) : toWB (receive s e) = (toWB s).recv (toEv e) := by cases e <;> rfl

theorem textAfter_eq (s : State T) (e : Event) : textAfter s e = ((toWB s).recv (toEv e)).nextText := by
  rw [← toWB_receive]; exact (List.append_assoc _ ['\n'] _).symm

theorem toWB_stepOut (s : State T) (e : Event) :
    toWB (step build s e) = WB.step build (toWB s) (toEv e) ∧
      (stepOut build s e).2 = WB.installed build (toWB s) (toEv e) := by
  unfold step stepOut WB.step WB.installed
  rw [← toWB_receive]
  simp only [toWB, WB.nextText, concatCfg, beq_iff_eq, List.append_assoc, List.singleton_append]
  split
  · exact ⟨rfl, rfl⟩
  · cases build _ <;> exact ⟨rfl, rfl⟩

theorem run_concat (s : State T) (es : List Event) (e : Event) :
    run build s (es ++ [e]) = step build (run build s es) e := by
  unfold run; rw [List.foldl_append]; rfl

theorem step_cfg (s : State T) (e : Event) :
    (step build s e).svccfg = (receive s e).svccfg ∧ (step build s e).mancfg = (receive s e).mancfg := by
  have h := Lemmas.C02.step_cfg build (toWB s) (toEv e)
  rwa [← (toWB_stepOut build s e).1, ← toWB_receive] at h

theorem run_svccfg (s : State T) (es : List Event) :
    (run build s es).svccfg = (lastSvc es).getD s.svccfg := by
  have h := foldl_last (step build) State.svccfg svcOf id
    (fun s e => by rw [(step_cfg build s e).1]; cases e <;> rfl) es s
  rwa [Option.map_id_fun, ← lastSvc_eq] at h

theorem run_mancfg (s : State T) (es : List Event) :
    (run build s es).mancfg = (lastMan es).getD s.mancfg := by
  have h := foldl_last (step build) State.mancfg manOf id
    (fun s e => by rw [(step_cfg build s e).2]; cases e <;> rfl) es s
  rwa [Option.map_id_fun, ← lastMan_eq] at h

/-- The link between the statements about one iteration and those about a history. -/
theorem textAfter_run (s0 : State T) (es : List Event) (e : Event) :
    textAfter (run build s0 es) e =
      concatCfg ((lastSvc (es ++ [e])).getD s0.svccfg) ((lastMan (es ++ [e])).getD s0.mancfg) := by
  unfold textAfter
  rw [← (step_cfg build _ e).1, ← (step_cfg build _ e).2, ← run_concat, run_svccfg, run_mancfg]

end machine

end Fabio.Lemmas.C01
