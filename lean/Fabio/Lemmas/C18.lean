import Fabio.Model.C18
/-!
Helper lemmas for C18: `Time` (`Option Nat`, `none` = never) as a max/min lattice, and `maxReturn` — the `Wait` of a
WaitGroup — over it; `drain` is the same function, so the fan-out of `proxy.Shutdown` over leaves and servers is
`maxReturn` at every level. Core Lean only.
-/
namespace Fabio.Lemmas.C18
open Fabio.Model.C18

theorem tle_refl (a : Time) : tle a a = true := by
  cases a <;> simp [tle]

theorem tle_none_right (a : Time) : tle a none = true := by
  cases a <;> rfl

theorem eq_none_of_none_tle {b : Time} (h : tle none b = true) : b = none := by
  cases b with
  | none => rfl
  | some _ => cases h

theorem exists_of_tle_some {a : Time} {d : Nat} (h : tle a (some d) = true) : ∃ r, a = some r ∧ r ≤ d := by
  cases a with
  | none => cases h
  | some r => exact ⟨r, rfl, of_decide_eq_true h⟩

theorem tle_trans {a b c : Time} (h1 : tle a b = true) (h2 : tle b c = true) : tle a c = true := by
  cases c with
  | none => exact tle_none_right a
  | some d =>
    obtain ⟨y, rfl, hy⟩ := exists_of_tle_some h2
    obtain ⟨x, rfl, hx⟩ := exists_of_tle_some h1
    exact decide_eq_true (Nat.le_trans hx hy)

theorem tle_antisymm {a b : Time} (h1 : tle a b = true) (h2 : tle b a = true) : a = b := by
  cases b with
  | none => exact eq_none_of_none_tle h2
  | some d =>
    obtain ⟨x, rfl, hx⟩ := exists_of_tle_some h1
    exact congrArg some (Nat.le_antisymm hx (of_decide_eq_true h2))

theorem tle_total (a b : Time) : tle a b = true ∨ tle b a = true := by
  cases b with
  | none => exact .inl (tle_none_right a)
  | some y =>
    cases a with
    | none => exact .inr (tle_none_right _)
    | some x => exact (Nat.le_total x y).imp decide_eq_true decide_eq_true

theorem tmax_le {a b c : Time} (h1 : tle a c = true) (h2 : tle b c = true) : tle (tmax a b) c = true := by
  cases c with
  | none => exact tle_none_right _
  | some d =>
    obtain ⟨x, rfl, hx⟩ := exists_of_tle_some h1
    obtain ⟨y, rfl, hy⟩ := exists_of_tle_some h2
    exact decide_eq_true (Nat.max_le.mpr ⟨hx, hy⟩)

theorem le_tmax_left (a b : Time) : tle a (tmax a b) = true := by
  cases a <;> cases b <;> simp [tle, tmax]
  omega

theorem tmax_comm (a b : Time) : tmax a b = tmax b a := by
  cases a <;> cases b <;> simp [tmax, Nat.max_comm]

theorem le_tmax_right (a b : Time) : tle b (tmax a b) = true :=
  tmax_comm a b ▸ le_tmax_left b a

theorem tmax_eq_left {a b : Time} (h : tle b a = true) : tmax a b = a :=
  tle_antisymm (tmax_le (tle_refl a) h) (le_tmax_left a b)

theorem tmin_le_right (a b : Time) : tle (tmin a b) b = true := by
  cases a <;> cases b <;> simp [tle, tmin]
  omega

theorem le_tmin {a b c : Time} (h1 : tle c a = true) (h2 : tle c b = true) : tle c (tmin a b) = true := by
  cases a with
  | none => exact h2
  | some x =>
    cases b with
    | none => exact h1
    | some y =>
      obtain ⟨z, rfl, hz⟩ := exists_of_tle_some h1
      exact decide_eq_true (Nat.le_min.mpr ⟨hz, of_decide_eq_true h2⟩)

theorem tmax_assoc (a b c : Time) : tmax (tmax a b) c = tmax a (tmax b c) := by
  cases a <;> cases b <;> cases c <;> simp [tmax, Nat.max_assoc]

theorem tmax_none_left (a : Time) : tmax none a = none := by cases a <;> rfl
theorem tmax_none_right (a : Time) : tmax a none = none := by cases a <;> rfl

theorem le_maxReturn {t0 : Nat} {rs : List Time} {r : Time} (h : r ∈ rs) : tle r (maxReturn t0 rs) = true := by
  induction rs with
  | nil => cases h
  | cons x xs ih =>
    cases h with
    | head => exact le_tmax_left _ _
    | tail _ h' => exact tle_trans (ih h') (le_tmax_right _ _)

theorem start_le_maxReturn (t0 : Nat) (rs : List Time) : tle (some t0) (maxReturn t0 rs) = true := by
  induction rs with
  | nil => exact tle_refl _
  | cons x xs ih => exact tle_trans ih (le_tmax_right _ _)

/-- a bound on every goroutine of the WaitGroup is a bound on the `Wait` -/
theorem maxReturn_map_le {α : Type} {f : α → Time} {t0 d : Nat} {xs : List α} (h0 : t0 ≤ d)
    (h : ∀ x ∈ xs, tle (f x) (some d) = true) : tle (maxReturn t0 (xs.map f)) (some d) = true := by
  induction xs with
  | nil => exact decide_eq_true h0
  | cons x xs ih => exact tmax_le (h x (List.mem_cons_self ..)) (ih fun y hy => h y (List.mem_cons_of_mem _ hy))

theorem maxReturn_attained (t0 : Nat) (rs : List Time) :
    maxReturn t0 rs = some t0 ∨ maxReturn t0 rs ∈ rs := by
  induction rs with
  | nil => left; rfl
  | cons x xs ih =>
    rw [maxReturn]
    cases tle_total (maxReturn t0 xs) x with
    | inl h => right; rw [tmax_eq_left h]; exact List.mem_cons_self ..
    | inr h =>
      rw [tmax_comm, tmax_eq_left h]
      exact ih.imp id (List.mem_cons_of_mem _)

theorem maxReturn_perm {t0 : Nat} {a b : List Time} (h : a.Perm b) : maxReturn t0 a = maxReturn t0 b := by
  induction h with
  | nil => rfl
  | cons x _ ih => simp only [maxReturn, ih]
  | swap x y l => simp only [maxReturn]; rw [← tmax_assoc, ← tmax_assoc, tmax_comm y x]
  | trans _ _ ih1 ih2 => exact ih1.trans ih2

theorem drain_eq_maxReturn (t0 : Nat) (ws : List Time) : drain t0 ws = maxReturn t0 ws := by
  induction ws with
  | nil => rfl
  | cons w ws ih => simp only [drain, maxReturn, ih]

theorem le_drain {t0 : Nat} {ws : List Time} {e : Time} (h : e ∈ ws) : tle e (drain t0 ws) = true :=
  drain_eq_maxReturn t0 ws ▸ le_maxReturn h

theorem start_le_drain (t0 : Nat) (ws : List Time) : tle (some t0) (drain t0 ws) = true :=
  drain_eq_maxReturn t0 ws ▸ start_le_maxReturn t0 ws

theorem drain_none {t0 : Nat} {ws : List Time} (h : none ∈ ws) : drain t0 ws = none :=
  eq_none_of_none_tle (le_drain h)

theorem leafReturn_le_serverReturn (g : GrpcContract) (t0 wait : Nat) {s : Server} {l : Leaf} (hl : l ∈ s.leaves) :
    tle (leafReturn g t0 wait l) (serverReturn g t0 wait s) = true := by
  cases s with
  | single l' =>
    obtain rfl : l = l' := List.mem_singleton.mp hl
    exact tle_refl _
  | multi cs => exact le_maxReturn (List.mem_map_of_mem (f := leafReturn g t0 wait) hl)

theorem serverReturn_le_shutdownReturn (g : GrpcContract) (t0 wait : Nat) {srvs : List Server} {s : Server}
    (hs : s ∈ srvs) : tle (serverReturn g t0 wait s) (shutdownReturn g t0 wait srvs) = true :=
  le_maxReturn (List.mem_map_of_mem (f := serverReturn g t0 wait) hs)

theorem mem_allHijacked {srvs : List Server} {sv : Server} {l : Leaf} {e : Time}
    (hs : sv ∈ srvs) (hl : l ∈ sv.leaves) (he : e ∈ l.hijacked) : e ∈ allHijacked srvs :=
  List.mem_flatMap.mpr ⟨sv, hs, List.mem_flatMap.mpr ⟨l, hl, he⟩⟩

theorem closed_at {g : GrpcContract} {t0 wait : Nat} {reg : Registry} {p : String × Nat}
    (hp : p ∈ (shutdown g t0 wait reg).closed) : p.2 = t0 := by
  obtain ⟨q, _, rfl⟩ := List.mem_map.mp hp
  rfl

theorem accepts_of_le {c t : Nat} (h : c ≤ t) : accepts (some c) t = false :=
  decide_eq_false (Nat.not_lt.mpr h)

theorem startAccepts_registered_by {t0 r : Nat} {s : Start} (hr : s.registersAt = some r) (hle : r ≤ t0) (t : Nat) :
    startAccepts t0 s t = decide (r ≤ t ∧ t < t0) := by
  rw [startAccepts, hr]
  exact if_pos hle

theorem startAccepts_registered_after {t0 r : Nat} {s : Start} (hr : s.registersAt = some r) (hlt : t0 < r) (t : Nat) :
    startAccepts t0 s t = decide (r ≤ t) := by
  rw [startAccepts, hr]
  exact if_neg (Nat.not_le.mpr hlt)

theorem mem_wakeUpStarts {stops : Bool} {flagAt tick : Nat} {ports : List String} {s : Start}
    (h : s ∈ wakeUpStarts stops flagAt tick ports) : s.registersAt = some tick ∧ (stops = true → tick < flagAt) := by
  unfold wakeUpStarts at h
  split at h
  · cases h
  · rename_i hflag
    obtain ⟨p, _, rfl⟩ := List.mem_map.mp h
    exact ⟨rfl, fun hs => Nat.not_le.mp (fun hle => hflag (by simp [hs, hle]))⟩

theorem refresherTicks_shuttingDown (ports : List String) (n : Nat) (q : Proc) (hq : q.shuttingDown = true) :
    refresherTicks true ports n q = q := by
  induction n with
  | zero => rfl
  | succ n ih =>
    have hfix : refresherTick true ports q = q := if_pos (by rw [hq]; rfl)
    rw [refresherTicks, hfix, ih]

end Fabio.Lemmas.C18
