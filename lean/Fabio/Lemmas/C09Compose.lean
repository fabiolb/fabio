import Fabio.Lemmas.C09
import Fabio.Model.C09Compose
/-! What the compositions use of `sniServe` and of its instantiation with C10's functions (`Model/C09Compose.lean`).
Core Lean only. -/
namespace Fabio.Lemmas.C09Compose
open Fabio.Model.C09 Fabio.Model.C09Compose Fabio.Lemmas.C09

/-- `sniProxy` and `sniLookup` without their first runs of `sniServe`. -/
theorem sniProxy_eq (src : CopySrc) (table : Bytes → Bool) (line : Bytes) (s : Script) :
    sniProxy src table line s = sniServe src (routedBy table (frontOf true (streamOf s)).2) line s := by
  unfold sniProxy
  rw [sniServe_hello_eq]

theorem sniLookup_eq (s : Script) :
    sniLookup s =
      if (frontOf true (streamOf s)).1 = .tunnel then lookedUp (frontOf true (streamOf s)).2 else none := by
  unfold sniLookup
  simp only
  rw [sniServe_hello_eq, (sniServe_eq .buffered true [] s).1]

/-- `!ok → return`, `host == "" → return` -/
theorem lookedUp_eq_some_iff {data nm : Bytes} :
    lookedUp data = some nm ↔ Fabio.Model.C10.unmarshal (data.drop 5) = .ok nm ∧ nm ≠ [] := by
  unfold lookedUp Fabio.Model.C10.readServerName
  cases Fabio.Model.C10.unmarshal (data.drop 5) with
  | ok x =>
    by_cases hx : x = []
    · simp [hx]
    · simpa [hx] using fun e => e ▸ hx
  | reject e => simp
  | panic e => simp

theorem routedBy_eq_true_iff (table : Bytes → Bool) (data : Bytes) :
    routedBy table data = true ↔
      ∃ nm, Fabio.Model.C10.unmarshal (data.drop 5) = .ok nm ∧ nm ≠ [] ∧ table nm = true := by
  unfold routedBy
  simp only [← and_assoc, ← lookedUp_eq_some_iff]
  cases lookedUp data <;> simp

end Fabio.Lemmas.C09Compose
