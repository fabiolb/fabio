import Fabio.Model.C13
import Fabio.Lemmas.Basic
/-! Helper lemmas for `Props/C13*.lean` (core Lean only): the `strings` helpers the models share, and what the
property proofs need of the pseudo-variables, of `net/url` escaping on bytes that need none, of `strconv.Atoi` and of the
`Lookup` loop (its step on a target: `lookupLoop_cons_some`). -/
namespace Fabio.Lemmas.C13
open Fabio Fabio.Model.C13

theorem stripPrefix_append (s x : Str) : stripPrefix (s ++ x) s = x := by
  simp [stripPrefix, hasPrefix, isPrefixOf_self_append]

theorem contains_cons (sub : Str) (c : UInt8) (cs : Str) :
    contains sub (c :: cs) = (sub.isPrefixOf (c :: cs) || contains sub cs) := rfl

theorem contains_cons_of (sub : Str) (c : UInt8) (cs : Str) (h : contains sub cs = true) : contains sub (c :: cs) = true := by
  simp [contains, h]

theorem contains_append_self (sub pfx post : Str) : contains sub (pfx ++ (sub ++ post)) = true := by
  induction pfx with
  | nil =>
    cases h : sub ++ post with
    | nil => simp only [List.append_eq_nil_iff] at h; simp [h.1, contains]
    | cons c cs => rw [List.nil_append, contains_cons, ← h, isPrefixOf_self_append]; rfl
  | cons c cs ih => exact contains_cons_of _ _ _ ih

theorem contains_eq_false_of_not_mem (o : UInt8) (os s : Str) (h : o ∉ s) : contains (o :: os) s = false := by
  induction s with
  | nil => rfl
  | cons c cs ih =>
    have hc : (o == c) = false := by simpa using fun e : o = c => h (by simp [e])
    simp [contains, List.isPrefixOf, hc, ih (fun hm => h (List.mem_cons_of_mem _ hm))]

theorem hasSuffix_eq_false_of_not_mem (o : UInt8) (p s : Str) (hp : o ∈ p) (h : o ∉ s) : hasSuffix s p = false := by
  apply Bool.eq_false_iff.2
  intro hs
  obtain ⟨pre, rfl⟩ := List.isSuffixOf_iff_suffix.1 hs
  exact h (List.mem_append_right _ hp)

theorem replace1_append (o : UInt8) (os new pfx post : Str) (h : ∀ c ∈ pfx, c ≠ o) :
    replace1 (o :: os) new (pfx ++ ((o :: os) ++ post)) = pfx ++ (new ++ post) := by
  induction pfx with
  | nil =>
    have := isPrefixOf_self_append (o :: os) post
    simp only [List.cons_append] at this
    simp [replace1, this]
  | cons c cs ih =>
    have hc : (o == c) = false := by simpa using fun e : o = c => h c (by simp) e.symm
    have ih := ih (fun d hd => h d (by simp [hd]))
    simp only [List.cons_append] at ih
    simp [replace1, List.isPrefixOf, hc, ih]

theorem cut_none (sep : UInt8) (s : Str) (h : ∀ c ∈ s, c ≠ sep) : cut sep s = (s, [], false) := by
  induction s with
  | nil => rfl
  | cons c cs ih =>
    have hc : (c == sep) = false := by simpa using h c (by simp)
    simp [cut, hc, ih (fun x hx => h x (by simp [hx]))]

theorem cut_append (sep : UInt8) (a b : Str) (h : ∀ c ∈ a, c ≠ sep) : cut sep (a ++ sep :: b) = (a, b, true) := by
  induction a with
  | nil => simp [cut]
  | cons c cs ih =>
    have hc : (c == sep) = false := by simpa using h c (by simp)
    simp [cut, hc, ih (fun x hx => h x (by simp [hx]))]

theorem cut_spec (sep : UInt8) (s : Str) :
    s = if (cut sep s).2.2 then (cut sep s).1 ++ sep :: (cut sep s).2.1 else (cut sep s).1 := by
  induction s with
  | nil => simp [cut]
  | cons c cs ih =>
    unfold cut
    by_cases h : c == sep
    · simp only [h, if_true]; simp at h; simp [h]
    · simp only [h, Bool.false_eq_true, if_false]
      split
      · rename_i hf; simp only [hf, if_true] at ih; simp only [List.cons_append]; rw [← ih]
      · rename_i hf; simp only [hf, Bool.false_eq_true, if_false] at ih; rw [← ih]

theorem hasPrefix_eq_false_of_head {o p : Str} {a b : UInt8} (ho : o.head? = some a) (hp : p.head? = some b) (hab : a ≠ b) :
    hasPrefix o p = false :=
  isPrefixOf_eq_false_of_head (List.ne_nil_of_mem (List.mem_of_head? hp))
    (by rw [ho, hp]; exact fun e => hab (Option.some.inj e))

theorem head?_of_hasPrefix {o p : Str} {b : UInt8} (h : hasPrefix o p = true) (hp : p.head? = some b) : o.head? = some b :=
  hp ▸ Decidable.by_contra fun hne =>
    Bool.false_ne_true ((isPrefixOf_eq_false_of_head (List.ne_nil_of_mem (List.mem_of_head? hp)) hne).symm.trans h)

theorem lookup_none_of_head {β : Type} (l : List (Str × β)) (o : Str) (b : UInt8)
    (hk : ∀ k ∈ l.map (·.1), k.head? = some b) (h : o.head? ≠ some b) : l.lookup o = none := by
  induction l with
  | nil => rfl
  | cons p ps ih =>
    obtain ⟨k, v⟩ := p
    have hne : (o == k) = false := beq_false_of_ne (fun e => h (e ▸ hk k (by simp)))
    simp only [List.lookup, hne]
    exact ih (fun k hk' => hk k (by simp only [List.map_cons, List.mem_cons]; exact Or.inr hk'))

theorem replace1_vPath_append (pfx x post : Str) (h : ∀ c ∈ pfx, c ≠ 36) :
    replace1 vPath x (pfx ++ (vPath ++ post)) = pfx ++ (x ++ post) :=
  replace1_append 36 _ x pfx post h

theorem contains_vPath_append (pfx : Str) : contains vPath (pfx ++ vPath) = true := by
  simpa using contains_append_self vPath pfx []

theorem vSlashPath_isPrefixOf_eq_false (c d : UInt8) (rest : Str) (hd : d ≠ 36) :
    vSlashPath.isPrefixOf (c :: d :: rest) = false := by
  have hd' : ¬ (36 : UInt8) = d := fun e => hd e.symm
  simp [vSlashPath, vPath, List.isPrefixOf, hd']

theorem replace1_vSlashPath_append (pfx post : Str) (h : ∀ c ∈ pfx, c ≠ 36) :
    replace1 vSlashPath vPath (pfx ++ (vSlashPath ++ post)) = pfx ++ (vPath ++ post) := by
  induction pfx with
  | nil => simp [vSlashPath, vPath, replace1, List.isPrefixOf]
  | cons c cs ih =>
    have ih := ih (fun d hd => h d (by simp [hd]))
    -- "/$path" cannot start at `c`: the byte after `c` is in `cs` or is `/`
    have hnp : vSlashPath.isPrefixOf (c :: (cs ++ (vSlashPath ++ post))) = false := by
      cases cs with
      | nil => exact vSlashPath_isPrefixOf_eq_false c 47 _ (by decide)
      | cons d ds => exact vSlashPath_isPrefixOf_eq_false c d _ (h d (by simp))
    simp only [List.cons_append, replace1, hnp, ih]
    simp

theorem not_contains_vSlashPath (pfx : Str) (h : ∀ c ∈ pfx, c ≠ 36) (hl : pfx.getLast? ≠ some 47) :
    contains vSlashPath (pfx ++ vPath) = false := by
  induction pfx with
  | nil => decide
  | cons c cs ih =>
    have ih' := ih (fun d hd => h d (by simp [hd]))
    cases cs with
    | nil =>
      have hc : c ≠ 47 := by intro e; apply hl; simp [e]
      have hc' : ¬ (47 : UInt8) = c := fun e => hc e.symm
      have e : contains vSlashPath vPath = false := by decide
      simp only [List.cons_append, List.nil_append]
      rw [contains_cons, e, Bool.or_false]
      simp [vSlashPath, List.isPrefixOf, hc']
    | cons d ds =>
      have := ih' (by simpa using hl)
      simp only [List.cons_append] at this ⊢
      rw [contains_cons, this, Bool.or_false]
      exact vSlashPath_isPrefixOf_eq_false c d _ (h d (by simp))

/-- bytes that pass through `net/url` path escaping untouched in both directions -/
def plain (a : Str) : Bool := a.all (fun c => c != 37 && !shouldEscape c .path)

theorem plain_append (a b : Str) : plain (a ++ b) = (plain a && plain b) := by
  simp [plain, List.all_append]

theorem plain_iff (a : Str) : plain a = true ↔ ∀ c ∈ a, c ≠ 37 ∧ shouldEscape c .path = false := by
  simp [plain]

theorem unescape_cons_ne (c : UInt8) (rest : Str) (h : c ≠ 37) :
    unescape (c :: rest) = (unescape rest).map (fun r => c :: r) :=
  unescape.eq_5 c rest (fun _ _ _ e _ => h e) (fun e _ => h e) (fun _ e _ => h e)

theorem unescape_nopct (a : Str) (h : ∀ c ∈ a, c ≠ 37) : unescape a = some a := by
  induction a with
  | nil => rfl
  | cons c cs ih => rw [unescape_cons_ne c cs (h c (by simp)), ih (fun x hx => h x (by simp [hx]))]; rfl

theorem validEncoded_append (a b : Str) : validEncoded (a ++ b) = (validEncoded a && validEncoded b) := by
  simp [validEncoded, List.all_append]

theorem validEncoded_plain (a : Str) (h : plain a = true) : validEncoded a = true := by
  simp only [validEncoded, List.all_eq_true, Bool.or_eq_true]
  intro c hc; exact Or.inr (by simp [((plain_iff a).1 h c hc).2])

theorem validEncoded_drop (a : Str) (n : Nat) (h : validEncoded a = true) : validEncoded (a.drop n) = true := by
  simp only [validEncoded, List.all_eq_true] at *
  intro c hc; exact h c (List.mem_of_mem_drop hc)

theorem escape_noesc (m : Mode) (a : Str) (h : ∀ c ∈ a, shouldEscape c m = false) : escape m a = a := by
  induction a with
  | nil => rfl
  | cons c cs ih => simp [escape, h c (by simp), ih (fun x hx => h x (by simp [hx]))]

theorem escape_plain (a : Str) (h : plain a = true) : escape .path a = a :=
  escape_noesc .path a (fun c hc => ((plain_iff a).1 h c hc).2)

theorem signOf_of_ne_minus (c : UInt8) (r : Str) (h : c ≠ 45) : signOf (c :: r) = (false, dropPlus (c :: r)) := by
  by_cases h43 : c = 43
  · subst h43; rfl
  · -- neither sign: both functions fall through to their last equation
    rw [signOf.eq_3 _ (by simp [h43]) (by simp [h]), dropPlus.eq_2 _ (by simp [h43])]

/-- without a minus sign `Atoi` fails exactly when the text behind an optional `+` is not all digits, and clamps only
above `MaxInt64`, where the range test fails anyway -/
theorem redirectCode_of_unsigned (c : UInt8) (r : Str) (h : c ≠ 45) : redirectCode (c :: r) = configuredCode (c :: r) := by
  simp only [redirectCode, List.isEmpty_cons, atoi, signOf_of_ne_minus c r h, configuredCode, Bool.false_eq_true, if_false]
  generalize dropPlus (c :: r) = ds
  by_cases hb : (ds.isEmpty || !ds.all isDigit) = true
  · simp [hb]
  · simp only [hb, Bool.false_eq_true, if_false]
    generalize digitsVal ds = n
    simp only [maxInt]
    by_cases h1 : (n : Int) > 9223372036854775807
    · have : ¬ (300 ≤ n ∧ n ≤ 399) := by omega
      simp [h1, this]
    · by_cases h2 : 300 ≤ n ∧ n ≤ 399
      · have : ¬ ((n : Int) < 300 ∨ (n : Int) > 399) := by omega
        simp [h1, h2, this]
      · have : ((n : Int) < 300 ∨ (n : Int) > 399) := by omega
        simp [h1, h2, this]

/-- a minus sign never configures a redirect: `Atoi` fails or returns a value ≤ 0 -/
theorem redirectCode_minus (r : Str) : redirectCode (45 :: r) = 0 := by
  have hm : (atoi (45 :: r)).2 = true ∨ (atoi (45 :: r)).1 ≤ 0 := by
    simp only [atoi, signOf]
    by_cases h : (r.isEmpty || !r.all isDigit) = true
    · simp [h]
    · simp only [h, Bool.false_eq_true, if_false, if_true]
      generalize digitsVal r = n
      split
      · left; rfl
      · right; simp only []; omega
  simp only [redirectCode, List.isEmpty_cons, Bool.false_eq_true, if_false]
  rcases hm with h | h
  · simp [h]
  · split
    · rfl
    · have : ((atoi (45 :: r)).1 < 300) := by omega
      simp [this]

/-- `Lookup` passes over this target for this request: it is a redirect target and the URL built for the request has the
request's own scheme, host and path (`Model.C13Table.skipFor` is this on the view of a table target) -/
def skipped (scheme : Str) (req : URL) (t : RTarget) : Bool :=
  decide (t.code ≠ 0) && selfRedirect (buildRedirectURL t req) scheme req

theorem lookupLoop_cons_some (scheme : Str) (req : URL) (t : RTarget) (rest : List (Option RTarget)) :
    lookupLoop scheme req (some t :: rest) =
      if skipped scheme req t then lookupLoop scheme req rest
      else some (t, if t.code ≠ 0 then some (buildRedirectURL t req) else none) := by
  by_cases hc : t.code = 0 <;> simp [lookupLoop, skipped, hc]

end Fabio.Lemmas.C13
