import Fabio.Basic
/-!
General facts that the lemma modules of several properties rest on (core Lean only): about the shared definitions of
`Fabio/Basic.lean` (`lowerChar`, `lowerL`, `indexOf`, `lastIndexOf`, `Outcome`), characters and bytes, lists
(`takeWhile` / `dropWhile`, `set`, folds, counting, prefixes), insertion sort by a Boolean comparison, and `List.lookup`
on association lists.
-/
namespace Fabio

theorem beq_of_inj {α β} [BEq α] [LawfulBEq α] [BEq β] [LawfulBEq β] {f : α → β} {a b : α}
    (hf : f a = f b → a = b) : (f a == f b) = (a == b) := by
  by_cases h : a = b
  · subst h; simp
  · rw [beq_eq_false_iff_ne.2 h, beq_eq_false_iff_ne.2 fun e => h (hf e)]

theorem toNat_ofNat_of_valid (n : Nat) (h : n.isValidChar) : (Char.ofNat n).toNat = n := by
  simp only [Char.ofNat, h, dite_true]
  show (Char.ofNatAux n h).val.toNat = n
  simp [Char.ofNatAux]

/-- a byte is a valid code point: read as a character it keeps its number -/
theorem toNat_ofNat_byte (x : UInt8) : (Char.ofNat x.toNat).toNat = x.toNat :=
  toNat_ofNat_of_valid _ (Or.inl (Nat.lt_trans x.toNat_lt (by decide)))

theorem ofNat_byte_inj {x y : UInt8} (h : Char.ofNat x.toNat = Char.ofNat y.toNat) : x = y :=
  UInt8.toNat_inj.1 (by rw [← toNat_ofNat_byte x, h, toNat_ofNat_byte])

theorem ofNat_byte_beq (x y : UInt8) : (Char.ofNat x.toNat == Char.ofNat y.toNat) = (x == y) :=
  beq_of_inj (f := fun x : UInt8 => Char.ofNat x.toNat) ofNat_byte_inj

theorem map_ofNat_byte_inj {a b : List UInt8}
    (h : a.map (fun x => Char.ofNat x.toNat) = b.map fun x => Char.ofNat x.toNat) : a = b :=
  (List.map_inj_right fun _ _ => ofNat_byte_inj).1 h

theorem char_le_iff (a c : Char) : a ≤ c ↔ a.toNat ≤ c.toNat := by
  rw [Char.le_def, UInt32.le_iff_toNat_le]; rfl

theorem isUpper_iff (c : Char) : ('A' ≤ c ∧ c ≤ 'Z') ↔ 65 ≤ c.toNat ∧ c.toNat ≤ 90 := by
  rw [char_le_iff, char_le_iff]; exact Iff.rfl

/-- Every other fact about `lowerChar` is `omega` on this. -/
theorem lowerChar_toNat (c : Char) :
    (lowerChar c).toNat = if 65 ≤ c.toNat ∧ c.toNat ≤ 90 then c.toNat + 32 else c.toNat := by
  unfold lowerChar
  simp only [isUpper_iff]
  split
  · exact toNat_ofNat_of_valid _ (Or.inl (by omega))
  · rfl

theorem lowerChar_idem (c : Char) : lowerChar (lowerChar c) = lowerChar c := by
  have : ¬ ('A' ≤ lowerChar c ∧ lowerChar c ≤ 'Z') := by
    rw [isUpper_iff, lowerChar_toNat]; split <;> omega
  rw [lowerChar, if_neg this]

/-- `d` below `'A'`: the separators the models look for (`.`, `-`, `*`, `:`, `/`) and the digits. -/
theorem lowerChar_eq_iff {c d : Char} (hd : d.toNat < 65) : lowerChar c = d ↔ c = d := by
  rw [← Char.toNat_inj, ← Char.toNat_inj, lowerChar_toNat]
  split <;> omega

theorem lowerL_idem (s : List Char) : lowerL (lowerL s) = lowerL s := by
  simp [lowerL, lowerChar_idem]

theorem lowerL_append (a b : List Char) : lowerL (a ++ b) = lowerL a ++ lowerL b := List.map_append

theorem lowerL_replicate {d : Char} (hd : d.toNat < 65) (k : Nat) :
    lowerL (List.replicate k d) = List.replicate k d := by
  rw [lowerL, List.map_replicate, (lowerChar_eq_iff hd).mpr rfl]

theorem beq_lowerChar_small (c d : Char) (hd : d.toNat < 65) : (d == lowerChar c) = (d == c) := by
  rw [Bool.eq_iff_iff, beq_iff_eq, beq_iff_eq, eq_comm, lowerChar_eq_iff hd, eq_comm]

theorem isPrefixOf_lowerL (p : List Char) (hp : ∀ d ∈ p, d.toNat < 65) (l : List Char) :
    p.isPrefixOf (lowerL l) = p.isPrefixOf l := by
  induction p generalizing l with
  | nil => simp [List.isPrefixOf]
  | cons d p ih =>
    cases l with
    | nil => simp [lowerL, List.isPrefixOf]
    | cons c l =>
      have := ih (fun x hx => hp x (List.mem_cons_of_mem _ hx)) l
      simp only [lowerL, List.map_cons, List.isPrefixOf] at this ⊢
      rw [beq_lowerChar_small c d (hp d (List.mem_cons_self ..)), this]

theorem isSuffixOf_lowerL (p : List Char) (hp : ∀ d ∈ p, d.toNat < 65) (s : List Char) :
    p.isSuffixOf (lowerL s) = p.isSuffixOf s := by
  unfold List.isSuffixOf
  have : (lowerL s).reverse = lowerL s.reverse := by simp [lowerL]
  rw [this]
  exact isPrefixOf_lowerL p.reverse (fun d hd => hp d (List.mem_reverse.1 hd)) _

theorem indexOf_go_append (c : Char) (a b : List Char) (i : Nat) (h : c ∉ a) :
    indexOf.go c i (a ++ b) = indexOf.go c (i + a.length) b := by
  induction a generalizing i with
  | nil => rfl
  | cons x xs ih =>
    have hx : (x == c) = false := beq_eq_false_iff_ne.mpr (fun e => h (e ▸ List.mem_cons_self))
    simp only [List.cons_append, indexOf.go, hx, Bool.false_eq_true, if_false, List.length_cons]
    rw [ih _ (fun m => h (List.mem_cons_of_mem _ m))]; congr 1; omega

theorem indexOf_append (c : Char) (a b : List Char) (h : c ∉ a) : indexOf c (a ++ c :: b) = some a.length := by
  rw [indexOf, indexOf_go_append c a _ 0 h, indexOf.go, beq_self_eq_true, if_pos rfl, Nat.zero_add]

theorem indexOf_eq_none (c : Char) (s : List Char) (h : c ∉ s) : indexOf c s = none := by
  have := indexOf_go_append c s [] 0 h
  rwa [List.append_nil] at this

theorem indexOf_eq_some {c : Char} {s : List Char} {n : Nat} (h : indexOf c s = some n) :
    s = s.take n ++ c :: s.drop (n+1) ∧ c ∉ s.take n := by
  have hm : c ∈ s := Decidable.by_contra fun hm => by rw [indexOf_eq_none c s hm] at h; cases h
  obtain ⟨a, b, rfl, ha⟩ := List.eq_append_cons_of_mem hm
  rw [indexOf_append c a b ha] at h
  cases h
  simpa using ha

theorem lastIndexOf_go_not_mem (c : Char) (s : List Char) (i : Nat) (b : Option Nat) (h : c ∉ s) :
    lastIndexOf.go c i b s = b := by
  induction s generalizing i b with
  | nil => rfl
  | cons x xs ih =>
    have hx : (x == c) = false := beq_eq_false_iff_ne.mpr (fun e => h (e ▸ List.mem_cons_self))
    simp only [lastIndexOf.go, hx, Bool.false_eq_true, if_false]
    exact ih _ _ (fun m => h (List.mem_cons_of_mem _ m))

theorem lastIndexOf_eq_none (c : Char) (s : List Char) (h : c ∉ s) : lastIndexOf c s = none :=
  lastIndexOf_go_not_mem c s 0 none h

theorem lastIndexOf_go_append (c : Char) (xs ys : List Char) (i : Nat) (b : Option Nat) :
    lastIndexOf.go c i b (xs ++ ys) = lastIndexOf.go c (i + xs.length) (lastIndexOf.go c i b xs) ys := by
  induction xs generalizing i b with
  | nil => rfl
  | cons x xs ih =>
    simp only [List.cons_append, lastIndexOf.go, List.length_cons]
    rw [ih]; congr 1; omega

theorem lastIndexOf_append_cons (c : Char) (h p : List Char) (hp : c ∉ p) :
    lastIndexOf c (h ++ c :: p) = some h.length := by
  unfold lastIndexOf
  rw [lastIndexOf_go_append]
  simp only [lastIndexOf.go, beq_self_eq_true, if_true]
  rw [lastIndexOf_go_not_mem c p _ _ hp]; simp

theorem lastIndexOf_go_of_mem (c : Char) (s : List Char) (i : Nat) (b : Option Nat) (h : c ∈ s) :
    ∃ n, lastIndexOf.go c i b s = some (i + n) ∧ s[n]? = some c ∧ c ∉ s.drop (n+1) := by
  induction s generalizing i b with
  | nil => cases h
  | cons x xs ih =>
    simp only [lastIndexOf.go]
    by_cases hxs : c ∈ xs
    · obtain ⟨n, h1, h2, h3⟩ := ih (i+1) (if x == c then some i else b) hxs
      refine ⟨n+1, ?_, ?_, ?_⟩
      · rw [h1]; congr 1; omega
      · simpa using h2
      · simpa using h3
    · have hx : x = c := by
        rcases List.mem_cons.mp h with h | h
        · exact h.symm
        · exact absurd h hxs
      subst hx
      rw [lastIndexOf_go_not_mem _ xs _ _ hxs]
      exact ⟨0, by simp, by simp, by simpa using hxs⟩

theorem lastIndexOf_of_mem (c : Char) (s : List Char) (h : c ∈ s) :
    ∃ n, lastIndexOf c s = some n ∧ s[n]? = some c ∧ c ∉ s.drop (n+1) := by
  simpa [lastIndexOf] using lastIndexOf_go_of_mem c s 0 none h

theorem flatMap_congr' {α β} {l : List α} {f g : α → List β} (h : ∀ a ∈ l, f a = g a) :
    l.flatMap f = l.flatMap g := by
  rw [List.flatMap_def, List.flatMap_def, List.map_congr_left h]

theorem set_same {α} {l : List α} {i : Nat} {a : α} (h : l[i]? = some a) : l.set i a = l := by
  obtain ⟨hi, rfl⟩ := List.getElem?_eq_some_iff.mp h
  exact List.set_getElem_self hi

theorem set_decomp {α} {l : List α} {i : Nat} {a : α} (h : l[i]? = some a) (b : α) :
    ∃ A B, l = A ++ a :: B ∧ l.set i b = A ++ b :: B := by
  obtain ⟨hi, rfl⟩ := List.getElem?_eq_some_iff.mp h
  refine ⟨l.take i, l.drop (i + 1), ?_, ?_⟩
  · rw [List.getElem_cons_drop hi, List.take_append_drop]
  · rw [List.set_eq_take_append_cons_drop, if_pos hi]

theorem sum_map_set {α} {l : List α} {i : Nat} {a : α} (f : α → Nat) (h : l[i]? = some a) (b : α) :
    ((l.set i b).map f).sum + f a = (l.map f).sum + f b := by
  obtain ⟨A, B, rfl, e⟩ := set_decomp h b
  simp only [e, List.map_append, List.map_cons, List.sum_append, List.sum_cons]
  omega

theorem getElem?_append_some {α} {h : List α} {j : Nat} {x : α} (l : List α) (hx : h[j]? = some x) :
    (h ++ l)[j]? = some x := by
  rw [List.getElem?_append_left (List.getElem?_eq_some_iff.mp hx).1]; exact hx

theorem drop_set_self {α} (l : List α) (k : Nat) (v : α) (h : k < l.length) :
    (l.set k v).drop k = v :: l.drop (k+1) := by
  rw [List.drop_set, if_neg (Nat.lt_irrefl k), Nat.sub_self, List.drop_eq_getElem_cons h, List.set_cons_zero]

theorem eq_map_getD {α} (a : α) (u : List α) : u = (List.range u.length).map (u.getD · a) := by
  apply List.ext_getElem <;> simp
  intro i p
  rw [List.getElem?_eq_getElem p]; rfl

theorem perm_cons_eraseIdx {α} (l : List α) (i : Nat) (h : i < l.length) : (l[i] :: l.eraseIdx i).Perm l := by
  induction l generalizing i with
  | nil => cases h
  | cons a r ih =>
    cases i with
    | zero => exact .refl _
    | succ j => exact (List.Perm.swap _ _ _).trans ((ih j (Nat.lt_of_succ_lt_succ h)).cons a)

theorem not_mem_eraseIdx_of_nodup {α} {l : List α} (h : l.Nodup) {k : Nat} {b : α} (hk : l[k]? = some b) :
    b ∉ l.eraseIdx k := fun hm => by
  obtain ⟨i, hik, hi⟩ := List.mem_eraseIdx_iff_getElem?.mp hm
  exact hik ((List.getElem?_inj (List.getElem?_eq_some_iff.mp hi).1 h).mp (hi.trans hk.symm))

theorem eq_of_map_eq {α β} {f : α → β} {l : List α} (hn : (l.map f).Nodup) {a b : α} (ha : a ∈ l) (hb : b ∈ l)
    (he : f a = f b) : a = b :=
  have hp := List.pairwise_map.1 hn
  List.Pairwise.forall_of_forall_of_flip (R := fun a b => f a = f b → a = b) (fun _ _ _ => rfl)
    (hp.imp fun hne he => absurd he hne) (hp.imp fun hne he => absurd he.symm hne) ha hb he

theorem forall_mem_concat {α} {P : α → Prop} {xs : List α} {a : α} (h : ∀ e ∈ xs, P e) (ha : P a) :
    ∀ e ∈ xs ++ [a], P e := by
  intro e he
  rcases List.mem_append.mp he with h1 | h1
  · exact h e h1
  · rw [List.mem_singleton.mp h1]; exact ha

/-- A fold whose steps either leave a component `proj` of the state alone (`k e = none`) or overwrite it
(`k e = some b`, with `w b`) ends with the last value written. -/
theorem foldl_last {σ α β γ} (f : σ → α → σ) (proj : σ → γ) (k : α → Option β) (w : β → γ)
    (h : ∀ s e, proj (f s e) = ((k e).map w).getD (proj s)) (es : List α) (s : σ) :
    proj (es.foldl f s) = ((es.filterMap k).getLast?.map w).getD (proj s) := by
  induction es generalizing s with
  | nil => rfl
  | cons e es ih =>
    rw [List.foldl_cons, ih, h, List.filterMap_cons]
    cases k e with
    | none => rfl
    | some b => rw [List.getLast?_cons]; cases (es.filterMap k).getLast? <;> rfl

theorem foldl_fixed {σ α} {f : σ → α → σ} {s : σ} {l : List α} (h : ∀ a ∈ l, f s a = s) : l.foldl f s = s :=
  List.foldlRecOn (motive := (· = s)) l f rfl fun _ hb a ha => hb ▸ h a ha

theorem foldl_ne_nil {α β} {f : List β → α → List β} (hf : ∀ r a, f r a ≠ []) (a : α) (as : List α) (r : List β) :
    (a :: as).foldl f r ≠ [] := by
  induction as generalizing a r with
  | nil => exact hf r a
  | cons a' as ih => exact ih a' (f r a)

theorem countP_and_eq_iff {α} (p q : α → Bool) (l : List α) :
    l.countP p = l.countP (fun c => p c && q c) ↔ ∀ c ∈ l, p c = true → q c = true := by
  induction l with
  | nil => simp
  | cons x xs ih =>
    have hle : xs.countP (fun c => p c && q c) ≤ xs.countP p :=
      List.countP_mono_left (fun c _ h => by simp at h; exact h.1)
    simp only [List.countP_cons, List.mem_cons, forall_eq_or_imp, ← ih]
    -- where `p x` holds and `q x` fails the left count gains one that the right, never the larger (`hle`), cannot make up
    cases p x <;> cases q x <;> simp <;> omega

theorem count_eq_countP_range {α} [BEq α] [LawfulBEq α] [DecidableEq α] (l : List α) (a : α) :
    l.count a = (List.range l.length).countP (fun k => decide (l[k]? = some a)) := by
  induction l with
  | nil => rfl
  | cons x xs ih =>
    rw [List.length_cons, List.range_succ_eq_map, List.countP_cons, List.countP_map, List.count_cons, ih]
    have : (List.range xs.length).countP ((fun k => decide ((x :: xs)[k]? = some a)) ∘ Nat.succ)
        = (List.range xs.length).countP (fun k => decide (xs[k]? = some a)) := by
      congr 1
    rw [this]
    congr 1
    simp only [List.getElem?_cons_zero, Option.some.injEq, beq_iff_eq]
    by_cases h : x = a <;> simp [h]

theorem isPrefixOf_self_append {α} [BEq α] [LawfulBEq α] (a b : List α) : a.isPrefixOf (a ++ b) = true :=
  List.isPrefixOf_iff_prefix.2 (List.prefix_append a b)

theorem isPrefixOf_append_cases {α} [BEq α] [LawfulBEq α] (w p s : List α) (h : w.isPrefixOf (p ++ s) = true) :
    w.isPrefixOf p = true ∨ p.isPrefixOf w = true := by
  simp only [List.isPrefixOf_iff_prefix] at h ⊢
  exact List.prefix_or_prefix_of_prefix h (List.prefix_append p s)

theorem isPrefixOf_eq_false_of_head {α} [BEq α] [LawfulBEq α] {p s : List α} (hp : p ≠ []) (h : s.head? ≠ p.head?) :
    p.isPrefixOf s = false := by
  cases p with
  | nil => exact absurd rfl hp
  | cons a p =>
    cases s with
    | nil => rfl
    | cons b s => simp [List.isPrefixOf, show ¬ a = b from fun e => h (congrArg some e.symm)]

theorem exists_mem_cons_and {α} {p : α → Prop} {a : α} {l : List α} :
    (∃ x, x ∈ a :: l ∧ p x) ↔ p a ∨ ∃ x, x ∈ l ∧ p x := by
  simp

theorem findSome?_first {α β} (f : α → Option β) (l : List α) (i : Nat) (hi : i < l.length) (b : β)
    (hlt : ∀ j (hj : j < i), f (l[j]'(Nat.lt_trans hj hi)) = none) (h : f l[i] = some b) :
    l.findSome? f = some b := by
  induction l generalizing i with
  | nil => simp at hi
  | cons a l ih =>
    cases i with
    | zero =>
      have h0 : f a = some b := by simpa using h
      simp only [List.findSome?_cons, h0]
    | succ i =>
      have h0 : f a = none := hlt 0 (Nat.succ_pos _)
      simp only [List.findSome?_cons, h0]
      exact ih i (by simpa using hi) (fun j hj => by simpa using hlt (j+1) (by omega)) (by simpa using h)

theorem takeWhile_stop {α} {p : α → Bool} (a : List α) (c : α) (b : List α) (ha : ∀ x ∈ a, p x = true)
    (hc : p c = false) : (a ++ c :: b).takeWhile p = a := by
  rw [List.takeWhile_append_of_pos ha, List.takeWhile_cons_of_neg (by simp [hc]), List.append_nil]

theorem dropWhile_stop {α} {p : α → Bool} (a : List α) (c : α) (b : List α) (ha : ∀ x ∈ a, p x = true)
    (hc : p c = false) : (a ++ c :: b).dropWhile p = c :: b := by
  rw [List.dropWhile_append_of_pos ha, List.dropWhile_cons_of_neg (by simp [hc])]

theorem takeWhile_ne {α} [BEq α] [LawfulBEq α] (c : α) (a b : List α) (h : c ∉ a) :
    (a ++ c :: b).takeWhile (· != c) = a :=
  takeWhile_stop a c b (fun _ hx => bne_iff_ne.2 fun e => h (e ▸ hx)) (bne_self_eq_false c)

theorem dropWhile_ne {α} [BEq α] [LawfulBEq α] (c : α) (a b : List α) (h : c ∉ a) :
    (a ++ c :: b).dropWhile (· != c) = c :: b :=
  dropWhile_stop a c b (fun _ hx => bne_iff_ne.2 fun e => h (e ▸ hx)) (bne_self_eq_false c)

theorem dropWhile_dropWhile {α} (p : α → Bool) (l : List α) : (l.dropWhile p).dropWhile p = l.dropWhile p := by
  induction l with
  | nil => rfl
  | cons a l ih =>
    cases h : p a
    · simp [h]
    · simpa [List.dropWhile_cons, h] using ih

theorem dropWhile_append_single {α} (p : α → Bool) (s : List α) (c : α) (hc : p c = true) :
    (s ++ [c]).dropWhile p = if s.dropWhile p = [] then [] else s.dropWhile p ++ [c] := by
  induction s with
  | nil => simp [List.dropWhile, hc]
  | cons x xs ih =>
    simp only [List.cons_append, List.dropWhile_cons]
    cases hx : p x with
    | true => simpa using ih
    | false => simp

section InsSort
variable {α : Type} (before : α → α → Bool)

/-- the insertion step the models' sorts share (`insertDesc`, `insHost`, `insPath f`): in front of the first element
`x` goes before -/
def insBy (x : α) : List α → List α
  | [] => [x]
  | y :: ys => if before x y then x :: y :: ys else y :: insBy x ys

def sortBy (xs : List α) : List α := xs.foldr (insBy before) []

theorem insBy_perm (x : α) (ys : List α) : (insBy before x ys).Perm (x :: ys) := by
  induction ys with
  | nil => exact List.Perm.refl _
  | cons y ys ih =>
    simp only [insBy]
    split
    · exact List.Perm.refl _
    · exact ((List.perm_cons y).2 ih).trans (List.Perm.swap x y ys)

theorem sortBy_perm (xs : List α) : (sortBy before xs).Perm xs := by
  induction xs with
  | nil => exact List.Perm.refl _
  | cons x xs ih => exact (insBy_perm before x _).trans ((List.perm_cons x).2 ih)

theorem mem_sortBy {a : α} {xs : List α} : a ∈ sortBy before xs ↔ a ∈ xs := (sortBy_perm before xs).mem_iff

theorem insBy_sorted (htr : ∀ a b c, before a b = true → before b c = true → before a c = true) (x : α) (l : List α)
    (hs : l.Pairwise (fun a b => before a b = true)) (hc : ∀ y ∈ l, before x y = true ∨ before y x = true) :
    (insBy before x l).Pairwise (fun a b => before a b = true) := by
  induction l with
  | nil => simp [insBy]
  | cons y ys ih =>
    rw [List.pairwise_cons] at hs
    simp only [insBy]
    split
    · rename_i hxy
      refine List.pairwise_cons.mpr ⟨fun z hz => ?_, List.pairwise_cons.mpr hs⟩
      rcases List.mem_cons.mp hz with he | hz
      · rw [he]; exact hxy
      · exact htr _ _ _ hxy (hs.1 z hz)
    · rename_i hxy
      have hyx : before y x = true := (hc y List.mem_cons_self).resolve_left hxy
      refine List.pairwise_cons.mpr ⟨fun z hz => ?_, ih hs.2 (fun z hz => hc z (List.mem_cons_of_mem _ hz))⟩
      rcases List.mem_cons.mp ((insBy_perm before x ys).mem_iff.mp hz) with he | hz
      · rw [he]; exact hyx
      · exact hs.1 z hz

theorem sortBy_sorted (htr : ∀ a b c, before a b = true → before b c = true → before a c = true) (l : List α)
    (hc : l.Pairwise (fun a b => before a b = true ∨ before b a = true)) :
    (sortBy before l).Pairwise (fun a b => before a b = true) := by
  induction l with
  | nil => exact List.Pairwise.nil
  | cons x xs ih =>
    rw [List.pairwise_cons] at hc
    exact insBy_sorted before htr x _ (ih hc.2) (fun y hy => hc.1 y ((sortBy_perm before xs).mem_iff.mp hy))

theorem comparable_of_nodup {β : Type} {lt : β → β → Bool} (tri : ∀ a b, lt a b = true ∨ a = b ∨ lt b a = true)
    (f : α → β) (l : List α) (hu : (l.map f).Nodup) :
    l.Pairwise (fun a b => lt (f a) (f b) = true ∨ lt (f b) (f a) = true) :=
  (List.pairwise_map.1 hu).imp fun hne => (tri _ _).imp_right fun h => h.resolve_left hne

end InsSort

theorem eq_of_sorted_of_mem_iff {α} {R : α → α → Prop} {l₁ l₂ : List α}
    (anti : ∀ a b, a ∈ l₁ → b ∈ l₂ → R a b → R b a → a = b) (n₁ : l₁.Nodup) (n₂ : l₂.Nodup)
    (hm : ∀ x, x ∈ l₁ ↔ x ∈ l₂) (s₁ : l₁.Pairwise R) (s₂ : l₂.Pairwise R) : l₁ = l₂ :=
  List.Perm.eq_of_pairwise anti s₁ s₂ ((List.perm_ext_iff_of_nodup n₁ n₂).2 hm)

theorem mem_of_lookup {α β} [BEq α] [LawfulBEq α] {l : List (α × β)} {k : α} {v : β}
    (h : l.lookup k = some v) : (k, v) ∈ l := by
  obtain ⟨l₁, l₂, rfl, _⟩ := List.lookup_eq_some_iff.mp h
  simp

/-- Not core's `List.lookup_isSome_iff`, whose right-hand side is `∃ p ∈ l, k == p.1`: for a lawful `==` the pair
can be named. -/
theorem lookup_isSome_iff {α β} [BEq α] [LawfulBEq α] (l : List (α × β)) (k : α) :
    (l.lookup k).isSome = true ↔ ∃ v, (k, v) ∈ l := by
  rw [Option.isSome_iff_ne_none, ne_eq, List.lookup_eq_none_iff]
  simp [Prod.forall]

theorem lookup_of_contains {α β} [BEq α] [LawfulBEq α] (l : List (α × β)) (k : α)
    (h : (l.map (·.1)).contains k = true) : ∃ b, l.lookup k = some b := by
  obtain ⟨p, hp, rfl⟩ : ∃ p ∈ l, p.1 = k := by simpa using h
  exact Option.isSome_iff_exists.mp ((lookup_isSome_iff l _).mpr ⟨p.2, hp⟩)

theorem lookup_unique {α β} [BEq α] [LawfulBEq α] {l : List (α × β)} {k : α} {v : β}
    (hmem : (k, v) ∈ l) (huniq : ∀ v', (k, v') ∈ l → v' = v) : l.lookup k = some v := by
  obtain ⟨v', hv'⟩ := Option.isSome_iff_exists.mp ((lookup_isSome_iff l k).mpr ⟨v, hmem⟩)
  rw [hv', huniq v' (mem_of_lookup hv')]

theorem lookup_of_mem {α β} [BEq α] [LawfulBEq α] {l : List (α × β)} (hn : (l.map (·.1)).Nodup) {k : α} {v : β}
    (hm : (k, v) ∈ l) : l.lookup k = some v :=
  lookup_unique hm fun _ hm' => congrArg Prod.snd (eq_of_map_eq (f := (·.1)) hn hm' hm rfl)

theorem lookup_perm {α β} [BEq α] [LawfulBEq α] {l l' : List (α × β)} (hp : l.Perm l') (hn : (l.map (·.1)).Nodup)
    (k : α) : l'.lookup k = l.lookup k := by
  cases h : l.lookup k with
  | none =>
    rw [List.lookup_eq_none_iff] at h ⊢
    exact fun p hp' => h p (hp.mem_iff.mpr hp')
  | some v => exact lookup_of_mem ((hp.map _).nodup hn) (hp.mem_iff.mp (mem_of_lookup h))

theorem keys_map_snd {α β γ} (f : β → γ) (l : List (α × β)) :
    (l.map (fun kv => (kv.1, f kv.2))).map (·.1) = l.map (·.1) := by
  simp [List.map_map, Function.comp_def]

theorem lookup_map_snd {α β γ} [BEq α] (f : β → γ) (k : α) (l : List (α × β)) :
    List.lookup k (l.map (fun kv => (kv.1, f kv.2))) = (List.lookup k l).map f := by
  induction l with
  | nil => rfl
  | cons x xs ih =>
    obtain ⟨a, b⟩ := x
    simp only [List.map_cons, List.lookup_cons]
    cases k == a with
    | true => rfl
    | false => exact ih

theorem lookup_filter_key {α β} [BEq α] [LawfulBEq α] (l : List (α × β)) (k k' : α) :
    (l.filter (fun p => !(p.1 == k))).lookup k' = if k' == k then none else l.lookup k' := by
  induction l with
  | nil => simp
  | cons p r ih =>
    by_cases hp : p.1 = k
    · rw [List.filter_cons_of_neg (by simp [hp]), ih, ← hp, List.lookup_cons]
      cases k' == p.1 <;> rfl
    · rw [List.filter_cons_of_pos (by simp [hp]), List.lookup_cons, List.lookup_cons, ih]
      cases hk : k' == p.1
      · rfl
      · simp [eq_of_beq hk, hp]

theorem lookup_filter {α β} [BEq α] [LawfulBEq α] (P : β → Bool) (t : List (α × β)) (k : α)
    (hn : (t.map (·.1)).Nodup) : (t.filter (fun kv => P kv.2)).lookup k = (t.lookup k).filter P := by
  induction t with
  | nil => rfl
  | cons a l ih =>
    obtain ⟨k', v⟩ := a
    simp only [List.map_cons, List.nodup_cons] at hn
    have ih := ih hn.2
    cases hk : (k == k')
    · simp only [List.filter_cons]
      split
      · simp only [List.lookup_cons, hk, ih]
      · simp only [List.lookup_cons, hk, ih]
    · have hkk : k = k' := by simpa using hk
      subst hkk
      simp only [List.filter_cons, List.lookup_cons, hk]
      cases hP : P v
      · simp only [Option.filter, hP, Bool.false_eq_true, if_false]
        rw [List.lookup_eq_none_iff]
        intro p hp
        have hp' : p ∈ l := (List.mem_filter.mp hp).1
        have : p.1 ∈ l.map (·.1) := List.mem_map_of_mem hp'
        simp only [bne_iff_ne, ne_eq]
        intro he; rw [← he] at this; exact hn.1 this
      · simp [Option.filter, hP]

theorem lookup_append_single {α β} [BEq α] (l : List (α × β)) (k k' : α) (v : β) :
    (l ++ [(k, v)]).lookup k' = (l.lookup k').or (if k' == k then some v else none) := by
  rw [List.lookup_append]; congr 1
  simp only [List.lookup_cons, List.lookup_nil]
  cases (k' == k) <;> rfl

theorem lookup_map_key {α β} [BEq α] [LawfulBEq α] (l : List (α × β)) (k k' : α) (f : β → β) :
    (l.map (fun p => if p.1 == k then (p.1, f p.2) else p)).lookup k' =
      if k' == k then (l.lookup k').map f else l.lookup k' := by
  induction l with
  | nil => simp
  | cons p r ih =>
    obtain ⟨a, b⟩ := p
    by_cases ha : a = k
    · simp only [List.map_cons, ha, beq_self_eq_true, if_true, List.lookup_cons, ih]
      cases k' == k <;> rfl
    · simp only [List.map_cons, ha, beq_iff_eq, if_false, List.lookup_cons, ih]
      cases hk : k' == a
      · rfl
      · simp [eq_of_beq hk, ha]

namespace Outcome

theorem isPanic_false_iff {α} (x : Outcome α) : x.isPanic = false ↔ ∃ a, x = .ok a := by
  cases x <;> simp [isPanic]

theorem isPanic_map {α β} (x : Outcome α) (f : α → β) : (x.map f).isPanic = x.isPanic := by
  cases x <;> rfl

theorem bind_assoc {α β γ} (x : Outcome α) (f : α → Outcome β) (g : β → Outcome γ) :
    (x.bind f).bind g = x.bind fun a => (f a).bind g := by cases x <;> rfl

theorem bind_eq_ok {α β} {x : Outcome α} {f : α → Outcome β} {b : β} (h : x.bind f = .ok b) :
    ∃ a, x = .ok a ∧ f a = .ok b := by
  cases x with
  | ok a => exact ⟨a, rfl, h⟩
  | panic w => cases h

theorem map_eq_ok {α β} {x : Outcome α} {f : α → β} {b : β} (h : x.map f = .ok b) : ∃ a, x = .ok a ∧ f a = b := by
  cases x with
  | ok a => exact ⟨a, rfl, Outcome.ok.inj h⟩
  | panic w => cases h

end Outcome

end Fabio
