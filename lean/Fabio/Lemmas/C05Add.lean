import Fabio.Lemmas.Route
/-!
C05 — `route add`: `addRoute` is the spec machine's `specAdd` with `put` (`Lemmas/Route.lean`) in the place of `upd`;
hence it preserves the table invariant, refines `specAdd` under `abs`, is idempotent, and depends on `src` only through
`key src` (so the case of the host part does not matter).
-/
namespace Fabio.Lemmas.C05Add
open Fabio Fabio.Model.Route Fabio.Model.C05Spec Fabio.Lemmas.Route

theorem weigh_ne_nil {ts : List Target} (h : ts ≠ []) : weigh ts ≠ [] :=
  Route.weigh_ne_nil h

theorem isDup_nil (x : Target) : isDup [] x = false := rfl

theorem isDup_append_self (ts : List Target) (x : Target) : isDup (ts ++ [x]) x = true :=
  (isDup_iff _ x).2 ⟨x, List.mem_append_right _ (List.mem_singleton_self x), rfl⟩

/-- what `addTarget` does to the target list -/
def addTs (ts : List Target) (x : Target) : List Target :=
  if isDup ts x then ts else weigh (ts ++ [x])

theorem isDup_addTs (ts : List Target) (x : Target) : isDup (addTs ts x) x = true := by
  unfold addTs
  split
  · assumption
  · rw [isDup_weigh, isDup_append_self]

theorem isDup_addTs_of_isDup {ts : List Target} {y : Target} (x : Target) (h : isDup ts y = true) :
    isDup (addTs ts x) y = true := by
  unfold addTs
  split
  · exact h
  · obtain ⟨z, hz, e⟩ := (isDup_iff ts y).1 h
    rw [isDup_weigh]
    exact (isDup_iff _ y).2 ⟨z, List.mem_append_left _ hz, e⟩

theorem addTs_ne_nil (ts : List Target) (x : Target) : addTs ts x ≠ [] := by
  intro he
  have := isDup_addTs ts x
  rw [he, isDup_nil] at this
  cases this

theorem addTs_weighed {ts : List Target} (x : Target) (h : weigh ts = ts) : weigh (addTs ts x) = addTs ts x := by
  unfold addTs
  split
  · exact h
  · exact weigh_weigh _

theorem mem_addTs {β : Type} (f : Target → β) (hf : ∀ t w, f { t with weight := w } = f t) {ts : List Target}
    {x y : Target} (h : y ∈ addTs ts x) : ∃ z, (z ∈ ts ∨ z = x) ∧ f z = f y := by
  unfold addTs at h
  split at h
  · exact ⟨y, .inl h, rfl⟩
  · obtain ⟨z, hz, hzy⟩ := mem_weigh f hf h
    exact ⟨z, by simpa using hz, hzy⟩

theorem addTarget_eq (r : Route) (d : RouteDef) (url : Str) :
    r.addTarget d.service url d.weight d.tags d.opts = { r with targets := addTs r.targets (newTarget d url) } := by
  unfold Route.addTarget addTs isDup newTarget
  dsimp only
  split <;> split <;> rfl

def tgs (rs : List Route) (p : Str) : List Target :=
  match findRoute rs p with
  | some r => r.targets
  | none => []

theorem tgs_nil (p : Str) : tgs [] p = [] := rfl

section main
variable {env : Env} {t t1 : Table} {d : RouteDef} {host path : Str} {x : Target}

/-- `addRoute` after the checks of its arguments: a host or path is compiled as a glob where it is created; then the
extended target list is put at (`host`, `path`) -/
def addAt (env : Env) (t : Table) (host path : Str) (x : Target) : Except Err Table :=
  if (!t.has host && !env.globOK host) || ((t.route host path).isNone && !env.globOK path) then .error .badGlob
  else .ok (put t host path (addTs (abs t host path) x))

/-- the three branches of `addRoute` (new host, new route on a known host, known route) are one `put`: the first is the
second with no routes under the host -/
theorem addRoute_eq (env : Env) (t : Table) (d : RouteDef) : addRoute env t d =
    if d.src.isEmpty then .error .invalidPrefix else
    if d.dst.isEmpty then .error .invalidTarget else
    match env.normURL d.dst with
    | none => .error .badURL
    | some url => addAt env t (key d.src).1 (key d.src).2 (newTarget d url) := by
  unfold addRoute key
  generalize hostpath d.src = hp
  obtain ⟨a, path⟩ := hp
  dsimp only
  cases d.src.isEmpty
  · cases d.dst.isEmpty
    · cases env.normURL d.dst with
      | none => rfl
      | some url =>
        dsimp only
        unfold addAt
        cases hf : findRoute (t.get (lowerL a)) path with
        | none =>
          have hr : t.route (lowerL a) path = none := hf
          rw [hr, abs_of_find_none hf, put_of_find_none _ hf, addTarget_eq]
          cases hh : t.has (lowerL a)
          · rw [get_of_has_false hh]
            cases env.globOK (lowerL a) <;> cases env.globOK path <;> rfl
          · cases env.globOK path <;> rfl
        | some r =>
          have hr : t.route (lowerL a) path = some r := hf
          dsimp only
          rw [hr, abs_of_find_some hf, put_of_find_some _ hf, addTarget_eq r, has_of_mem_get (find_some hf).1]
          rfl
    · rfl
  · rfl

theorem specAdd_eq (env : Env) (S : Spec) (d : RouteDef) : specAdd env S d =
    if d.src.isEmpty then .error .invalidPrefix else
    if d.dst.isEmpty then .error .invalidTarget else
    match env.normURL d.dst with
    | none => .error .badURL
    | some url =>
      if !env.globOK (key d.src).1 || ((S (key d.src).1 (key d.src).2).isEmpty && !env.globOK (key d.src).2) then
        .error .badGlob
      else .ok (upd S (key d.src).1 (key d.src).2 (addTs (S (key d.src).1 (key d.src).2) (newTarget d url))) := by
  unfold specAdd addTs
  cases d.src.isEmpty
  · cases d.dst.isEmpty
    · cases env.normURL d.dst with
      | none => rfl
      | some url =>
        dsimp only
        cases env.globOK (key d.src).1
        · rfl
        · cases (S (key d.src).1 (key d.src).2).isEmpty && !env.globOK (key d.src).2
          · simp only [Bool.not_true, Bool.or_self, Bool.false_eq_true, if_false]
            split
            · rw [upd_eq_self rfl]
            · rfl
          · rfl
    · rfl
  · rfl

/-- the checks of `src` and `dst` that `addRoute` and `specAdd` make before they look at the table -/
theorem checked_ok_iff {α : Type} (src dst : Str) (o : Option Str) {f : Str → Except Err α} {a : α} :
    (if src.isEmpty then (.error .invalidPrefix : Except Err α) else
      if dst.isEmpty then .error .invalidTarget else
      match o with
      | none => .error .badURL
      | some url => f url) = .ok a ↔ ∃ url, src ≠ [] ∧ dst ≠ [] ∧ o = some url ∧ f url = .ok a := by
  cases src
  · simp
  cases dst
  · simp
  cases o <;> simp

theorem specAdd_ok_iff {S S' : Spec} {h p : Str} (hk : key d.src = (h, p)) : specAdd env S d = .ok S' ↔
    ∃ url, d.src ≠ [] ∧ d.dst ≠ [] ∧ env.normURL d.dst = some url ∧ env.globOK h = true ∧
      (S h p = [] → env.globOK p = true) ∧ S' = upd S h p (addTs (S h p) (newTarget d url)) := by
  rw [specAdd_eq, hk]
  refine (checked_ok_iff ..).trans <| exists_congr fun url => and_congr_right fun _ => and_congr_right fun _ =>
    and_congr_right fun _ => ?_
  dsimp only
  cases env.globOK h
  · simp
  cases env.globOK p <;> cases S h p <;> simp [eq_comm]

/-- a relation between the target lists before and after, reflexive at every key, holds at all keys of an `upd` once it
holds at the updated one -/
theorem upd_rel {R : Str → Str → List Target → List Target → Prop} (hrefl : ∀ h p ts, R h p ts ts) {S : Spec}
    {h0 p0 : Str} {ts : List Target} (hr : R h0 p0 (S h0 p0) ts) (h p : Str) : R h p (S h p) (upd S h0 p0 ts h p) := by
  unfold upd
  split
  · rename_i hk
    obtain ⟨rfl, rfl⟩ := hk
    exact hr
  · exact hrefl ..

theorem addRoute_ok (h : addRoute env t d = .ok t1) :
    ∃ url, d.src ≠ [] ∧ d.dst ≠ [] ∧ env.normURL d.dst = some url ∧
      t1 = put t (key d.src).1 (key d.src).2 (addTs (abs t (key d.src).1 (key d.src).2) (newTarget d url)) := by
  rw [addRoute_eq] at h
  obtain ⟨url, hs, hd, hu, h⟩ := (checked_ok_iff ..).1 h
  unfold addAt at h
  split at h
  · cases h
  · exact ⟨url, hs, hd, hu, (Except.ok.inj h).symm⟩

/-- **add accumulates**: one key is touched, and there the new target is added unless a duplicate is present -/
theorem abs_add (h : addRoute env t d = .ok t1) : ∃ url, env.normURL d.dst = some url ∧
    abs t1 = upd (abs t) (key d.src).1 (key d.src).2 (addTs (abs t (key d.src).1 (key d.src).2) (newTarget d url)) := by
  obtain ⟨url, _, _, hu, rfl⟩ := addRoute_ok h
  exact ⟨url, hu, abs_put ..⟩

theorem inv_nil : Inv ([] : Table) :=
  ⟨⟨List.nodup_nil, fun _ h => (nomatch h), fun _ h => (nomatch h)⟩, fun _ h => (nomatch h), fun _ h => (nomatch h)⟩

theorem inv_add (hi : Inv t) (h : addRoute env t d = .ok t1) : Inv t1 := by
  obtain ⟨url, _, _, _, rfl⟩ := addRoute_ok h
  exact inv_put hi _ _ (addTs_ne_nil _ _) (addTs_weighed _ (weighed_abs hi.weighed _ _))

/-- the code compiles the host when it is new and the path when the route is; the spec machine always and when the
target list is empty: the same under `HostsOK` and `NoEmpty` -/
theorem addAt_refines (hi : Inv t) (hh : HostsOK env t) : (addAt env t host path x).map abs =
    if !env.globOK host || ((abs t host path).isEmpty && !env.globOK path) then .error .badGlob
    else .ok (upd (abs t) host path (addTs (abs t host path) x)) := by
  unfold addAt
  have hg : (!t.has host && !env.globOK host) = !env.globOK host := by
    cases hs : t.has host
    · rfl
    · rw [hh _ (mem_of_lookup (lookup_of_has_true hs))]; rfl
  rw [isNone_route hi.noEmpty, hg]
  split
  · rfl
  · exact congrArg Except.ok (abs_put ..)

theorem add_refines (hi : Inv t) (hh : HostsOK env t) : (addRoute env t d).map abs = specAdd env (abs t) d := by
  rw [addRoute_eq, specAdd_eq]
  cases d.src.isEmpty
  · cases d.dst.isEmpty
    · cases env.normURL d.dst with
      | none => rfl
      | some url => exact addAt_refines hi hh
    · rfl
  · rfl

/-- after the add its target is a duplicate of one at its key, so the second add puts back what is there -/
theorem add_idempotent (hi : Inv t) (h : addRoute env t d = .ok t1) : addRoute env t1 d = .ok t1 := by
  have hi1 := inv_add hi h
  obtain ⟨url, h1, h2, hu, he⟩ := addRoute_ok h
  have hd : isDup (abs t1 (key d.src).1 (key d.src).2) (newTarget d url) = true := by
    rw [he, abs_put, upd_same]; exact isDup_addTs _ _
  have hne : abs t1 (key d.src).1 (key d.src).2 ≠ [] := fun e => by rw [e, isDup_nil] at hd; cases hd
  obtain ⟨r, hr, _, _⟩ := mem_get_of_abs hne
  rw [addRoute_eq]
  refine (checked_ok_iff ..).2 ⟨url, h1, h2, hu, ?_⟩
  unfold addAt addTs
  rw [has_of_mem_get hr, isNone_route hi1.noEmpty, List.isEmpty_eq_false_iff.2 hne, if_pos hd, put_self hi1.wf hne]
  rfl

theorem host_case_add (s' : Str) (hk : key d.src = key s') (he : d.src.isEmpty = s'.isEmpty) :
    addRoute env t d = addRoute env t { d with src := s' } := by
  rw [addRoute_eq, addRoute_eq]
  simp only [hk, he]
  rfl

end main

/-- lower-casing moves neither a leading ':' nor the first '/' -/
theorem key_case (h h' rest : Str) (hl : lowerL h = lowerL h') (hs : '/' ∉ h) (hs' : '/' ∉ h')
    (hr : rest = [] ∨ ∃ r, rest = '/' :: r) : key (h ++ rest) = key (h' ++ rest) := by
  rw [key_eq h rest hs hr, key_eq h' rest hs' hr, ← hasPrefix_lowerL (h ++ rest), ← hasPrefix_lowerL (h' ++ rest),
    lowerL_append, lowerL_append, hl]

section examples

def env0 : Env := { normURL := fun s => some s, globOK := fun _ => true }

def tA (w : Rat) : Target :=
  { service := ['a'], tags := [['x']], opts := [], url := ['u', 'a'], fixedWeight := 0, weight := w }
def tB (w : Rat) : Target :=
  { service := ['b'], tags := [], opts := [], url := ['u', 'b'], fixedWeight := 0, weight := w }

/-- host `h`: `/` ↦ a (1) -/
def tab0 : Table := [(['h'], [⟨['h'], ['/'], [tA 1]⟩])]
/-- after `route add b H/ ub`: `/` ↦ a (1/2), b (1/2) -/
def tab1 : Table := [(['h'], [⟨['h'], ['/'], [tA (1/2), tB (1/2)]⟩])]
/-- after `route add b h/p ub` on `tab0`: a second route on the known host -/
def tab2 : Table := [(['h'], [⟨['h'], ['/'], [tA 1]⟩, ⟨['h'], ['/', 'p'], [tB 1]⟩])]
/-- after `route add b G/ ub` on `tab0`: a new host -/
def tab3 : Table := [(['h'], [⟨['h'], ['/'], [tA 1]⟩]), (['g'], [⟨['g'], ['/'], [tB 1]⟩])]

/-- appends a second target to the existing route `h/` (host given in upper case) -/
def dB : RouteDef := { cmd := .add, service := ['b'], src := ['H', '/'], dst := ['u', 'b'] }
/-- the target of `tab0` again, with different options: de-duplicated (options are not compared) -/
def dA : RouteDef :=
  { cmd := .add, service := ['a'], src := ['h', '/'], dst := ['u', 'a'], tags := [['x']], opts := [(['k'], ['v'])] }
def dP : RouteDef := { cmd := .add, service := ['b'], src := ['h', '/', 'p'], dst := ['u', 'b'] }
def dG : RouteDef := { cmd := .add, service := ['b'], src := ['G'], dst := ['u', 'b'] }

theorem inv_tab0 : Inv tab0 :=
  ⟨⟨by decide, by decide, by decide⟩, by unfold NoEmpty; decide, by unfold Weighed; decide +kernel⟩

theorem hostsOK_tab0 : HostsOK env0 tab0 := fun _ _ => rfl

theorem add_B : addRoute env0 tab0 dB = .ok tab1 := by decide +kernel
theorem add_A : addRoute env0 tab0 dA = .ok tab0 := by decide +kernel
theorem add_P : addRoute env0 tab0 dP = .ok tab2 := by decide +kernel
theorem add_G : addRoute env0 tab0 dG = .ok tab3 := by decide +kernel
theorem add_first : addRoute env0 [] dG = .ok [(['g'], [⟨['g'], ['/'], [tB 1]⟩])] := by decide +kernel

-- `inv_nil` / `inv_add`: the hypotheses hold and the result is a different table
example : Inv [(['g'], [(⟨['g'], ['/'], [tB 1]⟩ : Route)])] := inv_add inv_nil add_first
example : Inv tab1 ∧ tab1 ≠ tab0 := ⟨inv_add inv_tab0 add_B, by decide +kernel⟩
example : Inv tab2 ∧ tab2 ≠ tab0 := ⟨inv_add inv_tab0 add_P, by decide +kernel⟩
example : Inv tab3 ∧ tab3 ≠ tab0 := ⟨inv_add inv_tab0 add_G, by decide +kernel⟩
-- the invariant is not trivially true
example : ¬ NoEmpty [(['g'], [⟨['g'], ['/'], ([] : List Target)⟩])] := by unfold NoEmpty; decide
example : ¬ Weighed [(['h'], [⟨['h'], ['/'], [tA (1/3)]⟩])] := by unfold Weighed; decide +kernel

-- `add_refines`: both sides are `.ok`, and the common value differs from `abs tab0`
example : specAdd env0 (abs tab0) dB = .ok (abs tab1) := by
  rw [← add_refines inv_tab0 hostsOK_tab0, add_B]; rfl
example : specAdd env0 (abs tab0) dP = .ok (abs tab2) := by
  rw [← add_refines inv_tab0 hostsOK_tab0, add_P]; rfl
example : specAdd env0 (abs tab0) dG = .ok (abs tab3) := by
  rw [← add_refines inv_tab0 hostsOK_tab0, add_G]; rfl
-- the de-duplicated add leaves the spec state alone
example : specAdd env0 (abs tab0) dA = .ok (abs tab0) := by
  rw [← add_refines inv_tab0 hostsOK_tab0, add_A]; rfl
example : abs tab0 ['h'] ['/'] = [tA 1] ∧ abs tab1 ['h'] ['/'] = [tA (1/2), tB (1/2)] ∧
    abs tab0 ['h'] ['/', 'p'] = [] ∧ abs tab2 ['h'] ['/', 'p'] = [tB 1] ∧
    abs tab0 ['g'] ['/'] = [] ∧ abs tab3 ['g'] ['/'] = [tB 1] := by decide +kernel
-- the error branches are refined too: a path / a new host that does not compile
example : (addRoute { env0 with globOK := fun s => s != ['/', 'p'] } tab0 dP).map abs = .error .badGlob := by
  rw [add_refines inv_tab0 (by unfold HostsOK; decide)]; rfl
example : (addRoute { env0 with globOK := fun s => s != ['g'] } tab0 dG).map abs = .error .badGlob := by
  rw [add_refines inv_tab0 (by unfold HostsOK; decide)]; rfl

-- `add_idempotent`: the second add of `dB` is de-duplicated although the first one changed the table
example : addRoute env0 tab1 dB = .ok tab1 := add_idempotent inv_tab0 add_B
example : addRoute env0 tab2 dP = .ok tab2 := add_idempotent inv_tab0 add_P
example : addRoute env0 tab3 dG = .ok tab3 := add_idempotent inv_tab0 add_G
example : addRoute env0 tab0 dA = .ok tab0 := add_idempotent inv_tab0 add_A

-- `host_case_add`: `H/` and `h/` add to the same route
example : addRoute env0 tab0 dB = addRoute env0 tab0 { dB with src := ['h', '/'] } :=
  host_case_add ['h', '/'] (by decide +kernel) (by decide +kernel)
example : dB.src ≠ ['h', '/'] := by decide +kernel

-- `key_case`: `FOO.com/x` and `foo.COM/x` name the same (host, path)
example : key ['F', 'O', 'O', '.', 'c', 'o', 'm', '/', 'x'] = key ['f', 'o', 'o', '.', 'C', 'O', 'M', '/', 'x'] :=
  key_case ['F', 'O', 'O', '.', 'c', 'o', 'm'] ['f', 'o', 'o', '.', 'C', 'O', 'M'] ['/', 'x']
    (by decide +kernel) (by decide +kernel) (by decide +kernel) (Or.inr ⟨_, rfl⟩)
example : key ['F', 'O', 'O', '.', 'c', 'o', 'm', '/', 'x'] = (['f', 'o', 'o', '.', 'c', 'o', 'm'], ['/', 'x']) := by
  decide +kernel
-- without a path, and for a `:port` source (no path split)
example : key ['F', 'O', 'O'] = key ['f', 'o', 'O'] :=
  key_case ['F', 'O', 'O'] ['f', 'o', 'O'] [] (by decide +kernel) (by decide +kernel) (by decide +kernel) (Or.inl rfl)
example : key [':', '8', '0', '/', 'X'] = ([':', '8', '0', '/', 'x'], []) := by decide +kernel

end examples

end Fabio.Lemmas.C05Add
