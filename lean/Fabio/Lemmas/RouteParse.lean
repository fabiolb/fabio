import Fabio.Model.Parse
import Fabio.Model.C05Glue
/-!
Facts about the command language (`Model/Parse.lean`), whatever the commands contain: the two notions of white space,
`join` / `splitOn` / `fields` as inverses of each other; a text read line by line, stated once for the loop that
`Parse`, `ParseAliases` and `Parse` with float64 weights share and for `parse` as an instance: texts joined with newlines
are read as the concatenation of what is read from each, a final newline changes nothing; loading is parsing, then
`newTable`.
-/
namespace Fabio.Lemmas.Route
open Fabio Fabio.Model.Route Fabio.Model.Parse Fabio.Model.C05Glue

theorem reSpace_uniSpace (c : Char) (h : isReSpace c = true) : isUniSpace c = true := by
  simp only [isReSpace, Bool.or_eq_true, beq_iff_eq] at h
  rcases h with (((h | h) | h) | h) | h <;> subst h <;> decide

theorem not_reSpace_of_not_uniSpace (c : Char) (h : isUniSpace c = false) : isReSpace c = false := by
  cases h' : isReSpace c with
  | false => rfl
  | true => rw [reSpace_uniSpace c h'] at h; cases h

theorem join_cons_ne (sep x : Str) (l : List Str) (h : l ≠ []) :
    join sep (x :: l) = x ++ sep ++ join sep l := by
  cases l with
  | nil => exact absurd rfl h
  | cons y r => rfl

theorem mem_join (sep : Str) (l : List Str) (c : Char) (h : c ∈ join sep l) :
    c ∈ sep ∨ ∃ x ∈ l, c ∈ x := by
  induction l with
  | nil => simp [join] at h
  | cons x l ih =>
    cases l with
    | nil => exact .inr ⟨x, by simp, by simpa [join] using h⟩
    | cons y r =>
      rw [join_cons_ne sep x (y :: r) (by simp)] at h
      simp only [List.mem_append] at h
      rcases h with (h | h) | h
      · exact .inr ⟨x, by simp, h⟩
      · exact .inl h
      · rcases ih h with h | ⟨z, hz, hc⟩
        · exact .inl h
        · exact .inr ⟨z, List.mem_cons_of_mem _ hz, hc⟩

theorem splitOn_nil (c : Char) : splitOn c [] = [[]] := by simp [splitOn]

theorem splitOn_ne_nil (c : Char) (s : Str) : splitOn c s ≠ [] := by
  cases s with
  | nil => simp [splitOn]
  | cons x xs =>
    unfold splitOn
    split
    · simp
    · split <;> simp

theorem splitOn_cons_sep (c : Char) (s : Str) : splitOn c (c :: s) = [] :: splitOn c s := by
  simp [splitOn]

theorem splitOn_cons_ne (c x : Char) (s : Str) (h : x ≠ c) :
    splitOn c (x :: s) = (x :: (splitOn c s).headD []) :: (splitOn c s).tail := by
  have hb : (x == c) = false := by simpa using h
  show (if (x == c) = true then [] :: splitOn c s else
      match splitOn c s with
      | [] => [[x]]
      | h :: t => (x :: h) :: t) = _
  rw [hb]
  cases hs : splitOn c s with
  | nil => exact absurd hs (splitOn_ne_nil c s)
  | cons h t => simp

theorem splitOn_nomem (c : Char) (a : Str) (h : c ∉ a) : splitOn c a = [a] := by
  induction a with
  | nil => rfl
  | cons x xs ih =>
    rw [splitOn_cons_ne c x xs (fun e => h (by simp [e])), ih (fun h' => h (by simp [h']))]
    rfl

theorem splitOn_append_sep (c : Char) (a s : Str) : splitOn c (a ++ c :: s) = splitOn c a ++ splitOn c s := by
  induction a with
  | nil => rw [List.nil_append, splitOn_cons_sep, splitOn_nil]; rfl
  | cons x xs ih =>
    rw [List.cons_append]
    by_cases hx : x = c
    · subst hx
      rw [splitOn_cons_sep, splitOn_cons_sep, ih]; rfl
    · rw [splitOn_cons_ne c x _ hx, splitOn_cons_ne c x _ hx, ih]
      cases hsp : splitOn c xs with
      | nil => exact absurd hsp (splitOn_ne_nil c xs)
      | cons h t => rfl

theorem splitOn_sep_free (c : Char) (s t : Str) (ht : t ∈ splitOn c s) : c ∉ t := by
  induction s generalizing t with
  | nil => rw [splitOn_nil, List.mem_singleton] at ht; subst ht; exact List.not_mem_nil
  | cons x xs ih =>
    by_cases hx : x = c
    · subst hx
      rw [splitOn_cons_sep] at ht
      rcases List.mem_cons.mp ht with e | e
      · subst e; exact List.not_mem_nil
      · exact ih t e
    · rw [splitOn_cons_ne c x xs hx] at ht
      cases hsp : splitOn c xs with
      | nil => exact absurd hsp (splitOn_ne_nil c xs)
      | cons u us =>
        rw [hsp] at ht ih
        rcases List.mem_cons.mp ht with e | e
        · subst e
          intro m
          rcases List.mem_cons.mp m with m | m
          · exact hx m.symm
          · exact ih u List.mem_cons_self m
        · exact ih t (List.mem_cons_of_mem _ e)

theorem splitOn_join (c : Char) (l : List Str) (hne : l ≠ []) (h : ∀ x ∈ l, c ∉ x) :
    splitOn c (join [c] l) = l := by
  induction l with
  | nil => exact absurd rfl hne
  | cons x l ih =>
    cases l with
    | nil => exact splitOn_nomem c x (h x (by simp))
    | cons y r =>
      rw [join_cons_ne [c] x (y :: r) (by simp), List.append_assoc, List.singleton_append, splitOn_append_sep,
        splitOn_nomem c x (h x (by simp)), ih (by simp) (fun z hz => h z (List.mem_cons_of_mem _ hz))]
      rfl

theorem fieldsAux_word (w s cur : Str) (hw : ∀ c ∈ w, isUniSpace c = false) :
    fieldsAux (w ++ s) cur = fieldsAux s (w.reverse ++ cur) := by
  induction w generalizing cur with
  | nil => rfl
  | cons x xs ih =>
    have hx := hw x (by simp)
    rw [List.cons_append]
    simp only [fieldsAux, hx, Bool.false_eq_true, if_false]
    rw [ih _ (fun c hc => hw c (by simp [hc]))]
    simp

theorem fields_join (ws : List Str) (hne : ∀ w ∈ ws, w ≠ [])
    (hw : ∀ w ∈ ws, ∀ c ∈ w, isUniSpace c = false) : fields (join [' '] ws) = ws := by
  unfold fields
  induction ws with
  | nil => rfl
  | cons w l ih =>
    have hwne : w.reverse ≠ [] := by simpa using hne w (by simp)
    cases l with
    | nil =>
      show fieldsAux w [] = [w]
      have := fieldsAux_word w [] [] (hw w (by simp))
      rw [List.append_nil] at this
      rw [this]
      have hwne' : w ≠ [] := hne w (by simp)
      simp [fieldsAux, hwne']
    | cons y r =>
      rw [join_cons_ne [' '] w (y :: r) (by simp), List.append_assoc, fieldsAux_word w _ [] (hw w (by simp))]
      rw [List.singleton_append, List.append_nil]
      have hsp : isUniSpace ' ' = true := by decide
      simp only [fieldsAux, hsp, if_true, List.isEmpty_iff, hwne, if_false, List.reverse_reverse]
      rw [ih (fun z hz => hne z (List.mem_cons_of_mem _ hz)) (fun z hz => hw z (List.mem_cons_of_mem _ hz))]

theorem dropLast_snoc_of_getLast? {α} (l : List α) (a : α) (h : l.getLast? = some a) : l.dropLast ++ [a] = l := by
  have hne : l ≠ [] := by intro e; simp [e] at h
  have h2 := List.dropLast_concat_getLast hne
  rw [List.getLast?_eq_some_getLast hne] at h
  cases h
  exact h2

/-- `strings.Split(text, "\n")` is the scanner's line list, possibly followed by one empty piece -/
theorem splitOn_rawLines (text : Str) :
    splitOn '\n' text = rawLines text ∨ splitOn '\n' text = rawLines text ++ [[]] := by
  unfold rawLines
  dsimp only
  split
  · next h => exact .inr (dropLast_snoc_of_getLast? _ _ (by simpa using h)).symm
  · left; rfl

/-! ### a text read line by line

`Parse`, `ParseAliases` and `Parse` with float64 weights run the same loop (`Model/C05Glue.scan`) with their own line
reader `f` and with or without the 64 KiB limit; what is said here of `scan lim f` holds of all three, and is stated
for `parse` below (`parse_eq_scan`). -/

section scan
variable {α : Type} (lim : Bool) (f : Str → Except LineErr (Option α))

theorem scan_cons (i : Nat) (raw : Str) (rest : List Str) :
    scan lim f i (raw :: rest) =
      if lim && decide (maxToken ≤ byteLen raw) then .error (.tooLong i) else
      match f raw with
      | .error (.syn e) => .error (.syn i e)
      | .error (.nonFinite v) => .error (.nonFinite i v)
      | .ok none => scan lim f (i+1) rest
      | .ok (some d) =>
        match scan lim f (i+1) rest with
        | .error e => .error e
        | .ok ds => .ok (d :: ds) := by
  rw [scan]; rfl

theorem scan_append (a b : List Str) (i : Nat) :
    scan lim f i (a ++ b) =
      (match scan lim f i a with
       | .error e => .error e
       | .ok da => (scan lim f (i + a.length) b).map (da ++ ·)) := by
  induction a generalizing i with
  | nil => cases h : scan lim f i b <;> simp [scan, h, Except.map]
  | cons x xs ih =>
    rw [List.cons_append, scan_cons, scan_cons, ih, List.length_cons, Nat.add_comm xs.length, ← Nat.add_assoc]
    split
    · rfl
    · cases f x with
      | error e => cases e <;> rfl
      | ok o =>
        cases o with
        | none => rfl
        | some d =>
          cases scan lim f (i + 1) xs with
          | error e => rfl
          | ok da => cases scan lim f (i + 1 + xs.length) b <;> rfl

/-- the line number enters the error values only -/
theorem scan_shift (ls : List Str) (i j : Nat) : (scan lim f i ls).toOption = (scan lim f j ls).toOption := by
  induction ls generalizing i j with
  | nil => rfl
  | cons x xs ih =>
    rw [scan_cons, scan_cons]
    split
    · rfl
    · cases f x with
      | error e => cases e <;> rfl
      | ok o =>
        cases o with
        | none => exact ih _ _
        | some d =>
          have := ih (i + 1) (j + 1)
          cases h1 : scan lim f (i + 1) xs <;> cases h2 : scan lim f (j + 1) xs <;> rw [h1, h2] at this <;>
            first | rfl | (cases this; rfl) | cases this

variable (hf : f [] = .ok none)
include hf

theorem scan_append_blank (i : Nat) (ls : List Str) : scan lim f i (ls ++ [[]]) = scan lim f i ls := by
  have hb : ∀ j, scan lim f j [[]] = .ok [] := fun j => by
    rw [scan_cons, hf]
    cases lim <;> rfl
  rw [scan_append, hb]
  cases scan lim f i ls with
  | error e => rfl
  | ok da => simp [Except.map]

/-- the piece `rawLines` drops is a blank line: `splitOn` may stand for `rawLines` -/
theorem scan_rawLines (c : Str) (i : Nat) : scan lim f i (rawLines c) = scan lim f i (splitOn '\n' c) := by
  rcases splitOn_rawLines c with h | h <;> rw [h]
  rw [scan_append_blank lim f hf]

theorem scan_concat_iff (a b : Str) (ds : List α) :
    scan lim f 1 (rawLines (a ++ '\n' :: b)) = .ok ds ↔
      ∃ da db, scan lim f 1 (rawLines a) = .ok da ∧ scan lim f 1 (rawLines b) = .ok db ∧ ds = da ++ db := by
  rw [scan_rawLines lim f hf, scan_rawLines lim f hf, scan_rawLines lim f hf, splitOn_append_sep, scan_append]
  have hs := scan_shift lim f (splitOn '\n' b) (1 + (splitOn '\n' a).length) 1
  cases scan lim f 1 (splitOn '\n' a) with
  | error e => exact ⟨nofun, fun ⟨_, _, h, _⟩ => nomatch h⟩
  | ok da =>
    cases h1 : scan lim f (1 + (splitOn '\n' a).length) (splitOn '\n' b) <;>
      cases h2 : scan lim f 1 (splitOn '\n' b) <;> rw [h1, h2] at hs <;> first | cases hs | skip
    · exact ⟨nofun, fun ⟨_, _, _, h, _⟩ => nomatch h⟩
    · exact ⟨fun h => ⟨da, _, rfl, rfl, (Except.ok.inj h).symm⟩,
        fun ⟨_, _, h1, h2, e⟩ => by cases h1; cases h2; rw [e]; rfl⟩

theorem scan_blank_lines (k : Nat) {b : Str} {ds : List α} (h : scan lim f 1 (rawLines b) = .ok ds) :
    scan lim f 1 (rawLines (List.replicate k '\n' ++ b)) = .ok ds := by
  induction k with
  | zero => exact h
  | succ k ih => exact (scan_concat_iff lim f hf [] _ _).2 ⟨[], ds, rfl, ih, rfl⟩

/-- **many lines**: whatever the pieces contain, the text that joins them by a newline and `k` empty lines (`k = 1`:
`strings.Join(items, "\n\n")`) is read as the concatenation of what is read from each piece alone -/
theorem scan_join {ι : Type} (k : Nat) (xs : List ι) (line : ι → Str) (ds : ι → List α)
    (h : ∀ x ∈ xs, scan lim f 1 (rawLines (line x)) = .ok (ds x)) :
    scan lim f 1 (rawLines (join ('\n' :: List.replicate k '\n') (xs.map line))) = .ok (xs.flatMap ds) := by
  induction xs with
  | nil => rfl
  | cons c cs ih =>
    cases cs with
    | nil => simpa [join] using h c (by simp)
    | cons y r =>
      rw [List.map_cons, join_cons_ne _ _ _ (by simp), List.append_assoc, List.cons_append, List.flatMap_cons]
      exact (scan_concat_iff lim f hf _ _ _).2
        ⟨_, _, h c (by simp), scan_blank_lines lim f hf k (ih fun x hx => h x (List.mem_cons_of_mem _ hx)), rfl⟩

theorem scan_snoc_nl (a : Str) : scan lim f 1 (rawLines (a ++ ['\n'])) = scan lim f 1 (rawLines a) := by
  rw [scan_rawLines lim f hf, scan_rawLines lim f hf, splitOn_append_sep, splitOn_nil, scan_append_blank lim f hf]

end scan

variable (pf : ParseFloat)

theorem parseLines_eq_scan (i : Nat) (ls : List Str) :
    parseLines pf i ls = scan true (fun raw => parseLine pf (dropCR raw)) i ls := by
  induction ls generalizing i with
  | nil => rfl
  | cons raw rest ih =>
    simp only [parseLines, scan, Bool.true_and, decide_eq_true_eq]
    split
    · rfl
    · rw [ih]
      rcases parseLine pf (dropCR raw) with (e | v) | (_ | d) <;> try rfl
      generalize scan true (fun raw => parseLine pf (dropCR raw)) (i + 1) rest = x
      cases x <;> rfl

theorem parse_eq_scan (text : Str) :
    parse pf text = scan true (fun raw => parseLine pf (dropCR raw)) 1 (rawLines text) :=
  parseLines_eq_scan pf 1 (rawLines text)

theorem parseLine_nil : parseLine pf [] = .ok none := rfl

theorem parse_concat_iff (pf : ParseFloat) (a b : Str) (ds : List RouteDef) :
    parse pf (a ++ '\n' :: b) = .ok ds ↔
      ∃ da db, parse pf a = .ok da ∧ parse pf b = .ok db ∧ ds = da ++ db := by
  simp only [parse_eq_scan]
  exact scan_concat_iff true (fun raw => parseLine pf (dropCR raw)) (parseLine_nil pf) a b ds

theorem parse_concat {pf : ParseFloat} {a b : Str} {da db : List RouteDef} (ha : parse pf a = .ok da)
    (hb : parse pf b = .ok db) : parse pf (a ++ '\n' :: b) = .ok (da ++ db) :=
  (parse_concat_iff pf a b _).2 ⟨da, db, ha, hb, rfl⟩

theorem parse_join {ι : Type} (k : Nat) (xs : List ι) (line : ι → Str) (ds : ι → List RouteDef)
    (h : ∀ x ∈ xs, parse pf (line x) = .ok (ds x)) :
    parse pf (join ('\n' :: List.replicate k '\n') (xs.map line)) = .ok (xs.flatMap ds) := by
  simp only [parse_eq_scan] at h ⊢
  exact scan_join true (fun raw => parseLine pf (dropCR raw)) (parseLine_nil pf) k xs line ds h

/-- `parse_join` without naming what each command is read as -/
theorem parse_join_mem (cmds : List Str) (h : ∀ c ∈ cmds, ∃ l, parse pf c = .ok l) :
    ∃ defs, parse pf (join ['\n'] cmds) = .ok defs ∧ ∀ d, d ∈ defs ↔ ∃ c ∈ cmds, ∃ l, parse pf c = .ok l ∧ d ∈ l := by
  have hj := parse_join pf 0 cmds id (fun c => (parse pf c).toOption.getD []) (fun c hc => by
    obtain ⟨l, hl⟩ := h c hc
    show parse pf c = _
    rw [hl]; rfl)
  rw [List.map_id] at hj
  refine ⟨_, hj, fun d => ?_⟩
  rw [List.mem_flatMap]
  constructor
  · rintro ⟨c, hc, hd⟩
    obtain ⟨l, hl⟩ := h c hc
    rw [hl] at hd
    exact ⟨c, hc, l, hl, hd⟩
  · rintro ⟨c, hc, l, hl, hd⟩
    exact ⟨c, hc, by rw [hl]; exact hd⟩

theorem parse_snoc_nl (a : Str) : parse pf (a ++ ['\n']) = parse pf a := by
  simp only [parse_eq_scan]
  exact scan_snoc_nl true (fun raw => parseLine pf (dropCR raw)) (parseLine_nil pf) a

theorem loadTable_snoc_nl (env : Env) (pf : ParseFloat) (a : Str) :
    loadTable env pf (a ++ ['\n']) = loadTable env pf a := by
  unfold loadTable
  rw [parse_snoc_nl]

theorem loadTable_ok_iff (env : Env) (pf : ParseFloat) (s : Str) (t : Table) :
    loadTable env pf s = .ok t ↔ ∃ ds, parse pf s = .ok ds ∧ newTable env ds = .ok t := by
  unfold loadTable
  cases parse pf s with
  | error e => simp
  | ok ds =>
    simp only
    cases hn : newTable env ds with
    | error e => simp [hn]
    | ok t' => simp [hn]

/-- once the text is read, `NewTable` is `NewTableCustom` on what was read, the error wrapped -/
theorem loadTable_eq_of_parse {env : Env} {pf : ParseFloat} {text : Str} {defs : List RouteDef}
    (h : parse pf text = .ok defs) : loadTable env pf text = (newTable env defs).mapError .table := by
  unfold loadTable; rw [h]; dsimp only
  cases newTable env defs <;> rfl

theorem loadTableW_eq_of_parseW {env : Env} {pf : ParseFloat} {text : Str} {xs : List WDef}
    (h : parseW pf text = .ok xs) : loadTableW env pf text = (newTableW env xs).mapError .cmd := by
  unfold loadTableW; rw [h]; dsimp only
  cases newTableW env xs <;> rfl

theorem loadTable_of_parse {env : Env} {pf : ParseFloat} {text : Str} {defs : List RouteDef} {t : Table}
    (hp : parse pf text = .ok defs) (ht : newTable env defs = .ok t) : loadTable env pf text = .ok t := by
  rw [loadTable_eq_of_parse hp, ht]; rfl

end Fabio.Lemmas.Route

