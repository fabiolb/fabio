import Fabio.Lemmas.C05Add
/-!
C05 — rebuilding a table from its text: running the `route add` definitions the rendering denotes (`defsOfTable`) on
the *spec machine*, from the empty spec, gives back per (host, path) the same target list with the fixed weights
rounded to four decimals and the options sorted (`norm4`), re-weighed — one target (`specAdd_step`), one route
(`block_run`), routes with pairwise distinct (host, path) (`run_blocks`), the table (`rebuild_spec`). `src_of_key`:
the `src` condition of `RebuildOK` holds for every (host, path) that `key` produced, i.e. for tables built by commands.
-/
namespace Fabio.Lemmas.C05Rebuild
open Fabio Fabio.Model.Route Fabio.Model.Parse Fabio.Model.C05Spec Fabio.Lemmas Fabio.Lemmas.Route

theorem not_colon_lowerL_slash (h rest r : Str) (hp : ¬ hasPrefix (h ++ rest) [':'] = true) :
    ¬ hasPrefix (lowerL h ++ '/' :: r) [':'] = true := by
  cases h with
  | nil =>
    rw [show lowerL [] ++ '/' :: r = '/' :: r from rfl, hasPrefix_colon_cons]
    decide
  | cons c h =>
    rw [show lowerL (c :: h) ++ '/' :: r = lowerChar c :: (lowerL h ++ '/' :: r) from rfl, hasPrefix_colon_cons,
      colon_beq_lowerChar]
    rwa [show (c :: h) ++ rest = c :: (h ++ rest) from rfl, hasPrefix_colon_cons] at hp

/-- the key of a source is a source with that key: lower-casing moves neither a leading ':' nor the first '/', so
`hostpath` takes the same branch and cuts at the same place -/
theorem key_of_key (s : Str) : key ((key s).1 ++ (key s).2) = key s := by
  by_cases hp : hasPrefix s [':'] = true
  · -- `:port…` is not split, in either case of letters
    rw [key_colon hp, List.append_nil, key_colon ((hasPrefix_lowerL s).trans hp), lowerL_idem]
  · obtain ⟨h, rest, hs, hr, rfl⟩ := split_slash s
    -- the path `hostpath` returns starts with '/'
    obtain ⟨r, hpath⟩ : ∃ r, (if rest = [] then ['/'] else rest) = '/' :: r := by
      rcases hr with rfl | ⟨r, rfl⟩
      · exact ⟨[], rfl⟩
      · exact ⟨r, rfl⟩
    rw [key_eq h rest hs hr, if_neg hp, hpath, key_eq _ _ (slash_not_mem_lowerL h hs) (Or.inr ⟨r, rfl⟩),
      if_neg (not_colon_lowerL_slash h rest r hp), lowerL_idem]
    rfl

/-- the de-duplication key `addTarget` will see when the rendered target is re-added -/
def dupKey (tg : Target) : Str × Str × Rat × List Str := (tg.service, tg.url, (norm4 tg).fixedWeight, tg.tags)

theorem round4Rat_nonneg (r : Rat) : 0 ≤ round4Rat r := by
  unfold round4Rat
  rw [Rat.div_def]
  exact Rat.mul_nonneg Rat.natCast_nonneg (by decide +kernel)

theorem defWeight_not_neg (w : Rat) : ¬ (if 0 < w then round4Rat w else 0) < 0 := by
  rw [Rat.not_lt]
  split
  · exact round4Rat_nonneg w
  · exact Rat.le_refl

theorem newTarget_def (r : Route) (tg : Target) : newTarget (defOfTarget r tg) tg.url = norm4 tg := by
  unfold newTarget defOfTarget norm4
  simp only [if_neg (defWeight_not_neg tg.fixedWeight)]

theorem isDup_false_of_key (pre : List Target) (tg : Target)
    (hk : ∀ t ∈ pre, dupKey t ≠ dupKey tg) : isDup (pre.map norm4) (norm4 tg) = false := by
  rw [Bool.eq_false_iff, Ne, isDup_iff]
  rintro ⟨_, hy, e⟩
  obtain ⟨t, ht, rfl⟩ := List.mem_map.1 hy
  -- `norm4` keeps service, URL and tags: `dupKey t` is `dupId (norm4 t)`
  exact hk t ht e

/-- what the proof needs of one route (instances of the fields of `RebuildOK`) -/
structure RouteOK (env : Env) (r : Route) : Prop where
  keys : (r.targets.map dupKey).Nodup
  url : ∀ tg ∈ r.targets, tg.url ≠ [] ∧ env.normURL tg.url = some tg.url
  globH : env.globOK r.host = true
  globP : env.globOK r.path = true
  src : r.host ++ r.path ≠ [] ∧ key (r.host ++ r.path) = (r.host, r.path)

theorem specAdd_step (env : Env) (S : Spec) (r : Route) (pre : List Target) (tg : Target)
    (hsrc : r.host ++ r.path ≠ [] ∧ key (r.host ++ r.path) = (r.host, r.path))
    (hurl : tg.url ≠ [] ∧ env.normURL tg.url = some tg.url)
    (hgh : env.globOK r.host = true) (hgp : env.globOK r.path = true)
    (hk : ∀ t ∈ pre, dupKey t ≠ dupKey tg) :
    specApply env (upd S r.host r.path (weigh (pre.map norm4))) (defOfTarget r tg)
      = .ok (upd S r.host r.path (weigh ((pre ++ [tg]).map norm4))) := by
  refine (C05Add.specAdd_ok_iff (d := defOfTarget r tg) hsrc.2).2 ⟨tg.url, hsrc.1, hurl.1, hurl.2, hgh, fun _ => hgp, ?_⟩
  rw [upd_same]
  unfold C05Add.addTs
  rw [newTarget_def, isDup_weigh, isDup_false_of_key pre tg hk, upd_upd, weigh_weigh_append, List.map_append]
  rfl

def blockDefs (r : Route) : List RouteDef :=
  r.targets.map (defOfTarget r)

theorem targets_run (env : Env) (S : Spec) (r : Route)
    (hsrc : r.host ++ r.path ≠ [] ∧ key (r.host ++ r.path) = (r.host, r.path))
    (hgh : env.globOK r.host = true) (hgp : env.globOK r.path = true)
    (post : List Target) : ∀ (pre : List Target),
    (∀ tg ∈ post, tg.url ≠ [] ∧ env.normURL tg.url = some tg.url) →
    ((pre ++ post).map dupKey).Nodup →
    (post.map (defOfTarget r)).foldlM (specApply env) (upd S r.host r.path (weigh (pre.map norm4)))
      = .ok (upd S r.host r.path (weigh ((pre ++ post).map norm4))) := by
  induction post with
  | nil => intro pre _ _; simp only [List.map_nil, List.append_nil]; rfl
  | cons tg post ih =>
    intro pre hurl hk
    have hk' : ∀ t ∈ pre, dupKey t ≠ dupKey tg := by
      intro t ht he
      rw [List.map_append, List.map_cons, List.nodup_append] at hk
      exact hk.2.2 _ (List.mem_map_of_mem ht) _ List.mem_cons_self he
    rw [List.map_cons, List.foldlM_cons, specAdd_step env S r pre tg hsrc (hurl tg List.mem_cons_self) hgh hgp hk']
    refine (ih (pre ++ [tg]) (fun t ht => hurl t (List.mem_cons_of_mem _ ht)) (by rw [List.append_assoc]; exact hk)).trans ?_
    rw [List.append_assoc]; rfl

theorem block_run (env : Env) (S : Spec) (r : Route) (hr : RouteOK env r) (hS : S r.host r.path = []) :
    (blockDefs r).foldlM (specApply env) S = .ok (upd S r.host r.path (weigh (r.targets.map norm4))) := by
  unfold blockDefs
  have := targets_run env S r hr.src hr.globH hr.globP r.targets [] hr.url (by simpa using hr.keys)
  simp only [List.map_nil, weigh_nil, List.nil_append] at this
  rw [upd_eq_self hS] at this
  exact this

def step (S : Spec) (r : Route) : Spec := upd S r.host r.path (weigh (r.targets.map norm4))

def Distinct (rs : List Route) : Prop := rs.Pairwise (fun a b => ¬ (b.host = a.host ∧ b.path = a.path))

theorem run_blocks (env : Env) (rs : List Route) : ∀ (S : Spec), (∀ r ∈ rs, RouteOK env r) → Distinct rs →
    (∀ r ∈ rs, S r.host r.path = []) →
    (rs.flatMap blockDefs).foldlM (specApply env) S = .ok (rs.foldl step S) := by
  induction rs with
  | nil => intro S _ _ _; rfl
  | cons r rs ih =>
    intro S hok hd hS
    unfold Distinct at hd
    rw [List.pairwise_cons] at hd
    rw [List.flatMap_cons, List.foldlM_append, block_run env S r (hok r List.mem_cons_self) (hS r List.mem_cons_self),
      List.foldl_cons]
    apply ih _ (fun x hx => hok x (List.mem_cons_of_mem _ hx)) hd.2
    intro x hx
    rw [upd_other _ _ _ _ _ _ (hd.1 x hx)]
    exact hS x (List.mem_cons_of_mem _ hx)

theorem foldl_step_other (rs : List Route) (h p : Str) : ∀ (S : Spec),
    (∀ r ∈ rs, ¬ (h = r.host ∧ p = r.path)) → rs.foldl step S h p = S h p := by
  induction rs with
  | nil => intro S _; rfl
  | cons r rs ih =>
    intro S hn
    rw [List.foldl_cons, ih _ (fun x hx => hn x (List.mem_cons_of_mem _ hx))]
    unfold step
    exact upd_other _ _ _ _ _ _ (hn r List.mem_cons_self)

theorem foldl_step_mem (rs : List Route) (r : Route) : ∀ (S : Spec), Distinct rs → r ∈ rs →
    rs.foldl step S r.host r.path = weigh (r.targets.map norm4) := by
  induction rs with
  | nil => intro S _ hm; cases hm
  | cons x rs ih =>
    intro S hd hm
    unfold Distinct at hd
    rw [List.pairwise_cons] at hd
    rw [List.foldl_cons]
    rcases List.mem_cons.mp hm with he | hm
    · subst he
      rw [foldl_step_other rs _ _ _ (fun y hy hh => hd.1 y hy ⟨hh.1.symm, hh.2.symm⟩)]
      unfold step
      exact upd_same _ _ _ _
    · exact ih _ hd.2 hm

structure RebuildOK (env : Env) (t : Table) : Prop where
  /-- else re-adding de-duplicates them -/
  keys : ∀ kv ∈ t, ∀ r ∈ kv.2, (r.targets.map dupKey).Nodup
  /-- `url.Parse ∘ String` is idempotent on rendered URLs -/
  url : ∀ kv ∈ t, ∀ r ∈ kv.2, ∀ tg ∈ r.targets, tg.url ≠ [] ∧ env.normURL tg.url = some tg.url
  /-- hosts and paths were accepted by `glob.Compile` when they were added -/
  glob : ∀ kv ∈ t, (env.globOK kv.1 = true ∧ ∀ r ∈ kv.2, env.globOK r.path = true)
  /-- the rendered prefix `host ++ path` is split by `hostpath` into the same host and path -/
  src : ∀ kv ∈ t, ∀ r ∈ kv.2, r.host ++ r.path ≠ [] ∧ key (r.host ++ r.path) = (r.host, r.path)

/-- the routes in the order `Table.String()` writes them -/
def routesOf (t : Table) : List Route := (hostOrder t).flatMap t.get

theorem defsOfTable_eq (t : Table) : defsOfTable t = (routesOf t).flatMap blockDefs := by
  unfold defsOfTable routesOf
  rw [List.flatMap_assoc]
  rfl

theorem mem_routesOf {t : Table} {r : Route} : r ∈ routesOf t ↔ ∃ kv ∈ t, r ∈ kv.2 ∧ kv.2 = t.get kv.1 := by
  unfold routesOf
  rw [List.mem_flatMap]
  constructor
  · rintro ⟨h, _, hr⟩
    exact ⟨(h, t.get h), mem_get hr, hr, rfl⟩
  · rintro ⟨kv, hm, hr, he⟩
    exact ⟨kv.1, key_mem_hostOrder hm, he ▸ hr⟩

theorem distinct_routesOf {t : Table} (hw : WF t) : Distinct (routesOf t) := by
  unfold Distinct routesOf
  rw [List.pairwise_flatMap]
  constructor
  · intro h _
    rcases get_mem_or_nil t h with e | e
    · rw [e]; exact List.Pairwise.nil
    · have := hw.paths _ e
      unfold List.Nodup at this
      rw [List.pairwise_map] at this
      exact this.imp (fun hne hh => hne hh.2.symm)
  · have := hostOrder_nodup hw.hosts
    unfold List.Nodup at this
    apply this.imp
    intro h1 h2 hne x hx y hy hh
    have e1 := hw.hostOf _ (mem_get hx) x hx
    have e2 := hw.hostOf _ (mem_get hy) y hy
    simp only at e1 e2
    exact hne (e1.symm.trans (hh.1.symm.trans e2))

theorem routeOK_of {env : Env} {t : Table} (hw : WF t) (ho : RebuildOK env t) :
    ∀ r ∈ routesOf t, RouteOK env r := by
  intro r hr
  obtain ⟨kv, hm, hr, _⟩ := mem_routesOf.mp hr
  refine ⟨ho.keys kv hm r hr, ho.url kv hm r hr, ?_, (ho.glob kv hm).2 r hr, ho.src kv hm r hr⟩
  rw [hw.hostOf kv hm r hr]
  exact (ho.glob kv hm).1

/-- the spec machine run on the definitions the rendering denotes gives every target list back, `norm4`-ed and
re-weighed -/
theorem rebuild_spec {env : Env} {t : Table} (hw : WF t) (ho : RebuildOK env t) :
    specRun env (defsOfTable t) = .ok (fun h p => weigh ((abs t h p).map norm4)) := by
  unfold specRun
  rw [defsOfTable_eq, run_blocks env _ specEmpty (routeOK_of hw ho) (distinct_routesOf hw) (fun _ _ => rfl)]
  congr 1
  funext h p
  cases hf : findRoute (t.get h) p with
  | some r =>
    rw [abs_of_find_some hf]
    obtain ⟨hm, hp⟩ := find_some hf
    have hkv := mem_get hm
    have hh : r.host = h := hw.hostOf _ hkv r hm
    have hmem : r ∈ routesOf t := mem_routesOf.mpr ⟨(h, t.get h), hkv, hm, rfl⟩
    have := foldl_step_mem (routesOf t) r specEmpty (distinct_routesOf hw) hmem
    rw [hh, hp] at this
    exact this
  | none =>
    rw [abs_of_find_none hf, List.map_nil, weigh_nil, foldl_step_other]
    · rfl
    · intro r hr hh
      obtain ⟨kv, hm, hr', he⟩ := mem_routesOf.mp hr
      have e1 : r.host = kv.1 := hw.hostOf kv hm r hr'
      have : r ∈ t.get h := by rw [hh.1, e1, ← he]; exact hr'
      exact find_none hf (hh.2 ▸ List.mem_map_of_mem this)

theorem src_of_key (s : Str) :
    (key s).1 ++ (key s).2 ≠ [] ∧ key ((key s).1 ++ (key s).2) = ((key s).1, (key s).2) := by
  refine ⟨?_, key_of_key s⟩
  unfold key hostpath
  split
  · rename_i hp
    cases s with
    | nil => revert hp; decide
    | cons c s => simp [lowerL]
  · split <;> simp

section examples

def env0 : Env := { normURL := fun s => some s, globOK := fun _ => true }

def tA : Target :=
  { service := ['a'], tags := [['x'], ['y']], opts := [(['s'], ['2']), (['p'], ['1'])], url := ['u', 'a'],
    fixedWeight := 1/4, weight := 1/4 }
def tB : Target :=
  { service := ['b'], tags := [], opts := [], url := ['u', 'b'], fixedWeight := 3/4, weight := 3/4 }
def tC : Target :=
  { service := ['c'], tags := [['z']], opts := [], url := ['u', 'c'], fixedWeight := 0, weight := 1 }

/-- two hosts; `h/` has two targets with the fixed shares 1/4 and 3/4, options and tags -/
def tab0 : Table :=
  [(['h'], [⟨['h'], ['/'], [tA, tB]⟩]), (['g'], [⟨['g'], ['/', 'p'], [tC]⟩])]

theorem inv_tab0 : Inv tab0 :=
  ⟨⟨by decide, by decide, by decide⟩, by unfold NoEmpty; decide, by unfold Weighed; decide +kernel⟩

/-- (instance search does not find `Decidable` for the nested bounded quantifier over `Nodup`: go through `all`) -/
theorem keys_tab0 : ∀ kv ∈ tab0, ∀ r ∈ kv.2, (r.targets.map dupKey).Nodup := by
  have h : (tab0.all fun kv => kv.2.all fun r => decide (r.targets.map dupKey).Nodup) = true := by decide +kernel
  intro kv hkv r hr
  exact of_decide_eq_true (List.all_eq_true.mp (List.all_eq_true.mp h kv hkv) r hr)

theorem ok_tab0 : RebuildOK env0 tab0 :=
  ⟨keys_tab0, by decide +kernel, by decide +kernel, by decide +kernel⟩

example : specRun env0 (defsOfTable tab0) = .ok (fun h p => weigh ((abs tab0 h p).map norm4)) :=
  rebuild_spec inv_tab0.wf ok_tab0

/-- the rendering of `tab0` denotes three definitions (so the run above is not the empty run) -/
example : (defsOfTable tab0).length = 3 := by decide +kernel

/-- what the rebuilt spec holds at `h/`: the same two targets, options of the first one sorted -/
example : weigh ((abs tab0 ['h'] ['/']).map norm4)
    = [{ tA with opts := [(['p'], ['1']), (['s'], ['2'])] }, tB] := by decide +kernel

end examples

end Fabio.Lemmas.C05Rebuild
