import Fabio.Model.C13
import Fabio.Lemmas.C13
import Fabio.Lemmas.C13Escape
/-!
C13: `BuildRedirectURL` statement by statement (core Lean only): what each stage leaves as it is, the template after the
three stages that do not look at the request (`norm`), and what `URL.EscapedPath()` returns after the other three:
`stage4` puts a valid encoding where `$path` stood in both paths, so the raw path still encodes the path (`Enc`),
`stage5` keeps that when it puts a `/` in front of both, and `EscapedPath()` returns the raw path.
-/
namespace Fabio.Lemmas.C13
open Fabio Fabio.Model.C13

theorem stage4_eq (t : RTarget) (req u : URL) : stage4 t req u =
    if contains vPath u.path then
      { u with path := replace1 vPath (replacement t req).1 u.path, rawPath := replace1 vPath (replacement t req).2 u.rawPath,
               rawQuery := if u.rawQuery.isEmpty && req.rawQuery ≠ [] then req.rawQuery else u.rawQuery }
    else u := by
  unfold stage4
  split
  · simp only []; split <;> rfl
  · rfl

section stages
variable (t : RTarget) (req u : URL)
@[simp] theorem stage2_frame : (stage2 u).scheme = u.scheme ∧ (stage2 u).rawQuery = u.rawQuery := by
  unfold stage2; split <;> exact ⟨rfl, rfl⟩
@[simp] theorem stage3_frame :
    (stage3 u).scheme = u.scheme ∧ (stage3 u).host = u.host ∧ (stage3 u).rawQuery = u.rawQuery := by
  unfold stage3; split <;> exact ⟨rfl, rfl, rfl⟩
@[simp] theorem stage4_frame : (stage4 t req u).scheme = u.scheme ∧ (stage4 t req u).host = u.host := by
  rw [stage4_eq]; split <;> exact ⟨rfl, rfl⟩
@[simp] theorem stage5_frame :
    (stage5 u).scheme = u.scheme ∧ (stage5 u).host = u.host ∧ (stage5 u).rawQuery = u.rawQuery := by
  unfold stage5; split <;> exact ⟨rfl, rfl, rfl⟩
@[simp] theorem stage6_frame : (stage6 req u).scheme = u.scheme ∧ (stage6 req u).rawQuery = u.rawQuery := by
  unfold stage6; split <;> exact ⟨rfl, rfl⟩
theorem escapedPath_stage6 : escapedPath (stage6 req u) = escapedPath u := by
  unfold stage6; split <;> rfl
end stages

theorem stage2_of_not_suffix (t : RTarget) (h : hasSuffix t.url.host vPath = false) : stage2 (stage1 t) = stage1 t := by
  unfold stage2; simp [stage1, h]

theorem stage2_of_suffix (t : RTarget) (h : Str) (hh : t.url.host = h ++ vPath) :
    stage2 (stage1 t) = { stage1 t with host := h, path := vPath, rawPath := vPath } := by
  have hs : hasSuffix (stage1 t).host vPath = true := by simp [stage1, hh, hasSuffix]
  unfold stage2; rw [if_pos hs]
  simp [stage1, hh, vPath]

/-- the template after the three statements of `BuildRedirectURL` that do not look at the request -/
abbrev norm (t : RTarget) : URL := stage3 (stage2 (stage1 t))

theorem norm_hostPath (t : RTarget) (h : Str) (hh : t.url.host = h ++ vPath) :
    (norm t).path = [] ++ vPath ∧ (norm t).rawPath = [] ++ vPath := by
  have e : contains vSlashPath vPath = false := by decide
  rw [norm, stage2_of_suffix t h hh]
  unfold stage3; simp [e]

theorem norm_slashPath (t : RTarget) (pfx epfx : Str) (hh : hasSuffix t.url.host vPath = false)
    (hp : t.url.path = pfx ++ vSlashPath) (he : escapedPath t.url = epfx ++ vSlashPath)
    (hd : ∀ c ∈ pfx, c ≠ 36) (hde : ∀ c ∈ epfx, c ≠ 36) :
    (norm t).path = pfx ++ vPath ∧ (norm t).rawPath = epfx ++ vPath := by
  have hc : contains vSlashPath (stage1 t).path = true := by
    simpa [stage1, hp] using contains_append_self vSlashPath pfx []
  have hr := replace1_vSlashPath_append pfx [] hd
  have hre := replace1_vSlashPath_append epfx [] hde
  simp only [List.append_nil] at hr hre
  rw [norm, stage2_of_not_suffix t hh]; unfold stage3; rw [if_pos hc]
  simp [stage1, hp, he, hr, hre]

theorem norm_barePath (t : RTarget) (pfx epfx : Str) (hh : hasSuffix t.url.host vPath = false)
    (hp : t.url.path = pfx ++ vPath) (he : escapedPath t.url = epfx ++ vPath)
    (hd : ∀ c ∈ pfx, c ≠ 36) (hl : pfx.getLast? ≠ some 47) :
    (norm t).path = pfx ++ vPath ∧ (norm t).rawPath = epfx ++ vPath := by
  have hc : contains vSlashPath (stage1 t).path = false := by
    simpa [stage1, hp] using not_contains_vSlashPath pfx hd hl
  rw [norm, stage2_of_not_suffix t hh]; unfold stage3; rw [if_neg (by simp [hc])]
  simp [stage1, hp, he]

/-- the three spellings of a `$path` template — `host$path`, `…prefix/$path`, `…prefix$path` — read on the escaped
template: `eprefix` is what stands in front of the variable in `URL.EscapedPath()` -/
def SpelledEnc (t : RTarget) (pfx epfx : Str) : Prop :=
  (∃ h, t.url.host = h ++ vPath ∧ pfx = [] ∧ epfx = []) ∨
  (hasSuffix t.url.host vPath = false ∧ t.url.path = pfx ++ vSlashPath ∧ escapedPath t.url = epfx ++ vSlashPath) ∨
  (hasSuffix t.url.host vPath = false ∧ t.url.path = pfx ++ vPath ∧ escapedPath t.url = epfx ++ vPath ∧
    pfx.getLast? ≠ some 47)

/-- the same on a template without a raw-path hint, as `url.Parse` leaves the documented texts -/
def Spelled (t : RTarget) (pfx : Str) : Prop :=
  (∃ h, t.url.host = h ++ vPath ∧ pfx = []) ∨
  (hasSuffix t.url.host vPath = false ∧ t.url.rawPath = [] ∧ t.url.path = pfx ++ vSlashPath) ∨
  (hasSuffix t.url.host vPath = false ∧ t.url.rawPath = [] ∧ t.url.path = pfx ++ vPath ∧ pfx.getLast? ≠ some 47)

theorem norm_of_spelling (t : RTarget) (pfx epfx : Str) (spelling : SpelledEnc t pfx epfx)
    (hd : ∀ c ∈ pfx, c ≠ 36) (hde : ∀ c ∈ epfx, c ≠ 36) :
    (norm t).path = pfx ++ vPath ∧ (norm t).rawPath = epfx ++ vPath := by
  rcases spelling with ⟨h, hh, rfl, rfl⟩ | ⟨hh, hp, he⟩ | ⟨hh, hp, he, hl⟩
  · exact norm_hostPath t h hh
  · exact norm_slashPath t pfx epfx hh hp he hd hde
  · exact norm_barePath t pfx epfx hh hp he hd hl

theorem escapedPath_template (t : RTarget) (pfx v : Str) (hr0 : t.url.rawPath = []) (hp : t.url.path = pfx ++ v)
    (hv : escape .path v = v) (hne : pfx ++ v ≠ [42]) :
    escapedPath t.url = escape .path pfx ++ v := by
  rw [escapedPath_no_hint _ hr0 (hp ▸ hne), hp, escape_append, hv]

theorem spelling_escaped (t : RTarget) (pfx : Str) (spelling : Spelled t pfx) :
    SpelledEnc t pfx (escape .path pfx) := by
  have hne : ∀ v : Str, 2 ≤ v.length → pfx ++ v ≠ [42] := by
    intro v hv h; have := congrArg List.length h; simp at this; omega
  rcases spelling with ⟨h, hh, rfl⟩ | ⟨hh, hr0, hp⟩ | ⟨hh, hr0, hp, hl⟩
  · exact Or.inl ⟨h, hh, rfl, rfl⟩
  · exact Or.inr (Or.inl ⟨hh, hp, escapedPath_template t pfx vSlashPath hr0 hp (by decide) (hne _ (by decide))⟩)
  · exact Or.inr (Or.inr ⟨hh, hp, escapedPath_template t pfx vPath hr0 hp (by decide) (hne _ (by decide)), hl⟩)

theorem replacement_eq (t : RTarget) (req : URL) (r' p' : Str)
    (hraw : escapedPath req = t.strip ++ r') (hpath : req.path = t.strip ++ p') :
    replacement t req = (t.prepend ++ p', escapedPath { path := t.prepend } ++ r') := by
  have e0 : escapedPath ({ path := [] } : URL) = [] := rfl
  unfold replacement
  by_cases hs : t.strip = []
  · simp only [hs, List.nil_append] at hraw hpath
    by_cases hp : t.prepend = []
    · simp [hs, hp, hraw, hpath, e0]
    · simp [hs, hp, hraw, hpath]
  · by_cases hp : t.prepend = []
    · simp [hs, hp, hraw, hpath, stripPrefix_append, e0]
    · simp [hs, hp, hraw, hpath, stripPrefix_append]

/-- `stage5` on a URL whose raw path encodes its path: the `/` goes in front of both or of neither -/
theorem escapedPath_stage5 (u : URL) (h : Enc u.rawPath u.path) :
    escapedPath (stage5 u) = (if hasPrefix u.path slash then [] else slash) ++ u.rawPath := by
  have h0 : u.rawPath = [] → u.path = [] := fun e => by rw [e] at h; exact (Option.some.inj h.2).symm
  unfold stage5
  by_cases hp : hasPrefix u.path slash = true
  · simp only [hp, Bool.not_true, Bool.false_eq_true, if_false, if_true, List.nil_append]
    exact escapedPath_of_hint u (fun e => by rw [h0 e] at hp; exact absurd hp (by decide)) h
  · simp only [hp, Bool.not_false, if_true, Bool.false_eq_true, if_false]
    by_cases hr : u.rawPath = []
    · -- an empty path becomes `/`, without a hint
      rw [hr, h0 hr]; rfl
    · rw [if_pos hr]
      exact escapedPath_of_hint _ (by simp [slash]) (Enc.append (w := slash) (d := slash) ⟨rfl, rfl⟩ h)

theorem escapedPath_core (t : RTarget) (req : URL) (u3 : URL) (pfx epfx r' p' : Str)
    (h3p : u3.path = pfx ++ vPath) (h3r : u3.rawPath = epfx ++ vPath)
    (hd : ∀ c ∈ pfx, c ≠ 36) (hde : ∀ c ∈ epfx, c ≠ 36) (he : Enc epfx pfx)
    (hraw : escapedPath req = t.strip ++ r') (hpath : req.path = t.strip ++ p') (hr : Enc r' p') :
    escapedPath (stage6 req (stage5 (stage4 t req u3))) =
      (if hasPrefix (pfx ++ (t.prepend ++ p')) slash then [] else slash) ++
        (epfx ++ (escapedPath { path := t.prepend } ++ r')) := by
  have hc : contains vPath u3.path = true := h3p ▸ contains_vPath_append pfx
  have e4 : (stage4 t req u3).path = pfx ++ (t.prepend ++ p') ∧
      (stage4 t req u3).rawPath = epfx ++ (escapedPath { path := t.prepend } ++ r') := by
    rw [stage4_eq, if_pos hc, replacement_eq t req r' p' hraw hpath, h3p, h3r]
    exact ⟨by simpa using replace1_vPath_append pfx (t.prepend ++ p') [] hd,
      by simpa using replace1_vPath_append epfx (escapedPath { path := t.prepend } ++ r') [] hde⟩
  have henc : Enc (stage4 t req u3).rawPath (stage4 t req u3).path := by
    rw [e4.1, e4.2]; exact he.append ((enc_escapedPath _).append hr)
  rw [escapedPath_stage6, escapedPath_stage5 _ henc, e4.1, e4.2]

end Fabio.Lemmas.C13
