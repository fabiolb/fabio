import Fabio.Model.C13
import Fabio.Lemmas.Lit
import Fabio.Lemmas.C13
import Fabio.Lemmas.C13Escape
import Fabio.Lemmas.C13Build
/-!
C13 — redirect routes answer from the request alone: property theorems.

The model (`Model/C13.lean`) follows the repaired tree (D08, D17, D17b, D17c, D17e, D18, D18b, D18c, D27). The
one statement the code cannot satisfy in full generality carries its extra hypothesis explicitly (strip
applying literally to both the decoded and the raw path): the excluded input class is the recorded finding
D17d of `checks/C13.findings.json`, replayed from the corpus. Composition with C03: `Props/C13Compose.lean`.
-/
namespace Fabio.Props.C13
open Fabio Fabio.Model.C13 Fabio.Lemmas.C13

/-- **"…receives the configured 3xx status"**: for every option text, what `addTarget` makes of it (`strconv.Atoi`
with its sign handling and its clamping on range errors, then the range test) is the plain decimal reading of
the text: an optional `+` and digits with a value in 300..399 is that status; anything else configures no
redirect. In particular every code 300..399 is honoured, not only the ones with a name in `net/http`. -/
theorem configured_status_is_the_code (opt : Str) : redirectCode opt = configuredCode opt := by
  match opt with
  | [] => rfl
  | c :: r =>
    by_cases c45 : c = 45
    · subst c45
      have : isDigit 45 = false := by decide
      rw [redirectCode_minus]; simp [configuredCode, dropPlus, this]
    · exact redirectCode_of_unsigned c r c45

/-- Whatever the `redirect=` option says, the target's code is 0 or a 3xx code. -/
theorem redirect_code_3xx_only (opt : Str) :
    redirectCode opt = 0 ∨ (300 ≤ redirectCode opt ∧ redirectCode opt ≤ 399) := by
  rw [configured_status_is_the_code]
  simp only [configuredCode]
  split
  · exact Or.inl rfl
  · split
    · rename_i h
      simp only [Bool.and_eq_true, decide_eq_true_eq] at h
      right; omega
    · exact Or.inl rfl

/-- A target with code 0 is not answered with a redirect: it is handed to the proxy as it is. -/
theorem code_zero_is_not_a_redirect (scheme : Str) (req : URL) (t : RTarget) (rest : List (Option RTarget))
    (h : t.code = 0) :
    lookupLoop scheme req (some t :: rest) = some (t, none) := by
  simp [lookupLoop_cons_some, skipped, h]

/-- the decimal digits of a number as bytes, without building a `String` on the way -/
theorem lit_toString (n : Nat) : lit (toString n) = (Nat.toDigits 10 n).map ch := by
  simp [lit, toString, Nat.repr]

/-- every 3xx code is a configured status (the whole range, by evaluation) -/
example : (List.range 100).all (fun k => configuredCode (lit (toString (300 + k))) == ((300 + k : Nat) : Int)) = true := by
  simp only [lit_toString]
  decide +kernel
example : redirectCode (lit "399") = 399 ∧ redirectCode (lit "+308") = 308 ∧ redirectCode (lit "0301") = 301 ∧ redirectCode (lit "-301") = 0 ∧ redirectCode (lit "400") = 0 := by simp only [Model.C13.lit, toList_lit rfl]; decide +kernel
example : redirectCode (lit "301") = 301 := by simp only [Model.C13.lit, toList_lit rfl]; decide +kernel
example : redirectCode (lit "200") = 0 := by simp only [Model.C13.lit, toList_lit rfl]; decide +kernel
example : redirectCode (lit "abc") = 0 := by simp only [Model.C13.lit, toList_lit rfl]; decide +kernel
/-- D27: a value `Atoi` rejects with a range error (it returns MaxInt64 then) yields 0, not MaxInt64. -/
example : redirectCode (lit "99999999999999999999") = 0 := by simp only [Model.C13.lit, toList_lit rfl]; decide +kernel
example : (atoi (lit "99999999999999999999")).1 = maxInt := by simp only [Model.C13.lit, toList_lit rfl]; decide +kernel

/-- The host of the redirect URL is the template's host (without a `$path` suffix) in which the first
`$host` is replaced by the request's `Host`. -/
theorem host_substituted (t : RTarget) (req : URL) :
    (buildRedirectURL t req).host =
      if contains vHost (stage2 (stage1 t)).host then replace1 vHost req.host (stage2 (stage1 t)).host
      else (stage2 (stage1 t)).host := by
  simp only [buildRedirectURL, stage6, apply_ite URL.host, stage5_frame, stage4_frame, stage3_frame]

/-- The query of the redirect URL, for every template: `stage4` is the only statement that touches it. -/
theorem rawQuery_eq (t : RTarget) (req : URL) :
    (buildRedirectURL t req).rawQuery =
      if contains vPath (norm t).path then
        (if t.url.rawQuery.isEmpty && req.rawQuery ≠ [] then req.rawQuery else t.url.rawQuery)
      else t.url.rawQuery := by
  have q0 : (norm t).rawQuery = t.url.rawQuery := by simp [stage1]
  simp only [buildRedirectURL, stage6_frame, stage5_frame, stage4_eq, apply_ite URL.rawQuery, q0]

/-- For a `$path` template (after the normalisation steps the path still holds `$path`): the request's
query is carried when the template has none, the template's own query wins otherwise. -/
theorem query_carried_when_target_has_none (t : RTarget) (req : URL)
    (hp : contains vPath (stage3 (stage2 (stage1 t))).path = true) :
    (buildRedirectURL t req).rawQuery = if t.url.rawQuery = [] then req.rawQuery else t.url.rawQuery := by
  rw [rawQuery_eq, if_pos hp]
  cases t.url.rawQuery <;> cases req.rawQuery <;> simp

/-- A fixed-URL redirect (no `$path`) keeps the template's own query — as coded; the request's query is
not carried there. -/
theorem fixed_template_keeps_its_query (t : RTarget) (req : URL)
    (hp : contains vPath (stage3 (stage2 (stage1 t))).path = false) :
    (buildRedirectURL t req).rawQuery = t.url.rawQuery := by
  rw [rawQuery_eq, if_neg (by simp [hp])]

example : (buildRedirectURL { url := { scheme := lit "https", host := lit "bar.com", path := lit "/$path" }, code := 301 }
    { host := lit "foo.com", path := lit "/abc/", rawQuery := lit "aaa=1" }).rawQuery = lit "aaa=1" := by simp only [Model.C13.lit, toList_lit rfl]; decide +kernel
example : urlString (buildRedirectURL { url := { scheme := lit "http", host := lit "bar.com", path := lit "/a/b/c", rawQuery := lit "foo=bar" }, code := 301 }
    { host := lit "foo.com", path := lit "/", rawQuery := lit "aaa=1" }) = lit "http://bar.com/a/b/c?foo=bar" := by simp only [Model.C13.lit, toList_lit rfl]; decide +kernel
example : (buildRedirectURL { url := { scheme := lit "https", host := lit "$host", path := lit "/$path" }, code := 301 }
    { host := lit "foo.com:8080", path := lit "/" }).host = lit "foo.com:8080" := by simp only [Model.C13.lit, toList_lit rfl]; decide +kernel

def escPrepend (t : RTarget) : Str := escapedPath ({ path := t.prepend } : URL)

/-- `location_path_is_request_path_enc` without its last hypothesis: when `prefix ++ prepend ++ p'` does not start with
`/`, `BuildRedirectURL` puts one in front of the path and of the raw path (`stage5`), and `EscapedPath()` still returns the
raw path. An empty result is sent as `/`; `strip=/` on `https://$host$path` (D18b's configuration) answers `/a` with `/a`. -/
theorem location_path_made_absolute (t : RTarget) (req : URL) (pfx epfx r' p' : Str) (spelling : SpelledEnc t pfx epfx)
    (hd : ∀ c ∈ pfx, c ≠ 36) (hde : ∀ c ∈ epfx, c ≠ 36) (he : Enc epfx pfx)
    (hs : ∀ c ∈ t.strip, c ≠ 37)
    (hraw : escapedPath req = t.strip ++ r') (hpath : req.path = t.strip ++ p') :
    escapedPath (buildRedirectURL t req) =
      (if hasPrefix (pfx ++ (t.prepend ++ p')) slash then [] else slash) ++ (epfx ++ (escPrepend t ++ r')) := by
  obtain ⟨hn1, hn2⟩ := norm_of_spelling t pfx epfx spelling hd hde
  exact escapedPath_core t req _ pfx epfx r' p' hn1 hn2 hd hde he hraw hpath (Enc.cancel_left hs (hraw ▸ hpath ▸ enc_escapedPath req))

/-- **The Location path is the request's path, in the request's own encoding** — templates that carry an
encoding of their own. For each of the three spellings, the template's `URL.EscapedPath()` being
`eprefix ++ "/$path"` resp. `eprefix ++ "$path"` with `eprefix` a valid encoding of the decoded `prefix`, *any*
`prepend`, and a request (with or without raw path) whose escaped path is `strip ++ r'` and whose decoded path is
`strip ++ p'`: the bytes that go into `Location` are `eprefix ++ escaped(prepend) ++ r'` — the template's and the
client's percent-encoding (`%2F`, `%3F`, `%25`, lower-case hex …) are kept byte for byte, the literal `prepend` is
escaped. `spelling` is `SpelledEnc t pfx epfx` written out.

That strip applies literally to both paths is forced: without it the statement is false on the code (finding
D17d). The shape `eprefix ++ "/$path"` of the *escaped* template excludes an encoded slash in front of `$path`
(finding D17f). `habs`: the path so put together starts with `/`; otherwise `BuildRedirectURL` puts a `/` in front
of it (`stage5`; `bar.com$path` with `strip=/foo` answers `/foobar` with the path `/bar`), which
`location_path_made_absolute` states. -/
theorem location_path_is_request_path_enc (t : RTarget) (req : URL) (pfx epfx r' p' : Str)
    (spelling :
      (∃ h, t.url.host = h ++ vPath ∧ pfx = [] ∧ epfx = []) ∨
      (hasSuffix t.url.host vPath = false ∧ t.url.path = pfx ++ vSlashPath ∧ escapedPath t.url = epfx ++ vSlashPath) ∨
      (hasSuffix t.url.host vPath = false ∧ t.url.path = pfx ++ vPath ∧ escapedPath t.url = epfx ++ vPath ∧
        pfx.getLast? ≠ some 47))
    (hd : ∀ c ∈ pfx, c ≠ 36) (hde : ∀ c ∈ epfx, c ≠ 36) (he : Enc epfx pfx)
    (hs : ∀ c ∈ t.strip, c ≠ 37)
    (hraw : escapedPath req = t.strip ++ r') (hpath : req.path = t.strip ++ p')
    (habs : hasPrefix (pfx ++ (t.prepend ++ p')) slash = true) :
    escapedPath (buildRedirectURL t req) = epfx ++ (escPrepend t ++ r') := by
  rw [location_path_made_absolute t req pfx epfx r' p' spelling hd hde he hs hraw hpath, if_pos habs]; rfl

/-- **The Location path is the request's path, in the request's own encoding** — the documented templates
(`url.Parse` left no raw-path hint): for `host$path`, `…prefix/$path`, `…prefix$path` with *any* prefix bytes
(no `$`), *any* `prepend`, and a request (with or without raw path) whose escaped path is `strip ++ r'` and whose
decoded path is `strip ++ p'`, `strip` free of `%`:
`EscapedPath(redirect URL) = escape(prefix) ++ escaped(prepend) ++ r'`.
**Partial**: `strip` must apply literally to both the decoded and the escaped request path, which is forced by
the code (finding D17d, replayed from the corpus; its example below); and `habs` as in
`location_path_is_request_path_enc` (the example "an empty resulting path is sent as `/`" below).
`spelling` is `Spelled t pfx` written out. -/
theorem location_path_is_request_path (t : RTarget) (req : URL) (pfx r' p' : Str)
    (spelling :
      (∃ h, t.url.host = h ++ vPath ∧ pfx = []) ∨
      (hasSuffix t.url.host vPath = false ∧ t.url.rawPath = [] ∧ t.url.path = pfx ++ vSlashPath) ∨
      (hasSuffix t.url.host vPath = false ∧ t.url.rawPath = [] ∧ t.url.path = pfx ++ vPath ∧ pfx.getLast? ≠ some 47))
    (hd : ∀ c ∈ pfx, c ≠ 36) (hs : ∀ c ∈ t.strip, c ≠ 37)
    (hraw : escapedPath req = t.strip ++ r') (hpath : req.path = t.strip ++ p')
    (habs : hasPrefix (pfx ++ (t.prepend ++ p')) slash = true) :
    escapedPath (buildRedirectURL t req) = escape .path pfx ++ (escPrepend t ++ r') :=
  location_path_is_request_path_enc t req pfx (escape .path pfx) r' p' (spelling_escaped t pfx spelling) hd
    (escape_no_dollar pfx hd) (enc_escape pfx) hs hraw hpath habs

/-- non-vacuity of `location_path_is_request_path`: a prefix and a prepend that both need escaping, a request
*without* raw path whose default encoding escapes a space, strip applying to both paths -/
example :
    let t : RTarget := { url := { scheme := lit "https", host := lit "bar.com", path := lit "/a b/$path" }, strip := lit "/s", prepend := lit "/p q", code := 302 }
    let req : URL := { host := lit "x.com", path := lit "/s/x y" }
    escapedPath req = t.strip ++ lit "/x%20y" ∧ req.path = t.strip ++ lit "/x y" ∧
    escapedPath (buildRedirectURL t req) = escape .path (lit "/a b") ++ (escPrepend t ++ lit "/x%20y") ∧
    escapedPath (buildRedirectURL t req) = lit "/a%20b/p%20q/x%20y" := by simp only [Model.C13.lit, toList_lit rfl]; decide +kernel
/-- non-vacuity of the `_enc` form: the template's own `%2F` (D17b) together with the client's -/
example :
    let t : RTarget := { url := { scheme := lit "https", host := lit "bar.com", path := lit "/a/b/$path", rawPath := lit "/a%2Fb/$path" }, code := 301 }
    let req : URL := { host := lit "x.com", path := lit "/x/y", rawPath := lit "/x%2Fy" }
    escapedPath t.url = lit "/a%2Fb" ++ vSlashPath ∧ unescape (lit "/a%2Fb") = some (lit "/a/b") ∧
    escapedPath (buildRedirectURL t req) = lit "/a%2Fb/x%2Fy" := by simp only [Model.C13.lit, toList_lit rfl]; decide +kernel

/-- D17's witness on the repaired code: `https://$host$path`, request `/a%2Fb` keeps `%2F`. -/
example : location { url := { scheme := lit "https", host := lit "$host$path" }, code := 301 }
    { host := lit "x.com", path := lit "/a/b", rawPath := lit "/a%2Fb", rawQuery := lit "q=1" }
    = lit "https://x.com/a%2Fb?q=1" := by simp only [Model.C13.lit, toList_lit rfl]; decide +kernel
/-- `…prefix/$path` with strip and prepend, then `…prefix$path` (the third spelling, `host$path`, is D17's witness above) -/
example : location { url := { scheme := lit "https", host := lit "bar.com", path := lit "/bbb/$path" }, strip := lit "/s", prepend := lit "/p", code := 302 }
    { host := lit "x.com", path := lit "/s/a/b c", rawPath := lit "/s/a%2Fb%20c" } = lit "https://bar.com/bbb/p/a%2Fb%20c" := by simp only [Model.C13.lit, toList_lit rfl]; decide +kernel
example : location { url := { scheme := lit "https", host := lit "bar.com", path := lit "/bbb$path" }, code := 302 }
    { host := lit "x.com", path := lit "/a?b", rawPath := lit "/a%3fb" } = lit "https://bar.com/bbb/a%3fb" := by simp only [Model.C13.lit, toList_lit rfl]; decide +kernel
/-- D17c, repaired: with a prepend that needs escaping the request keeps its `%2F` -/
example : location { url := { scheme := lit "https", host := lit "bar.com", path := lit "/$path" }, prepend := lit "/a b", code := 301 }
    { host := lit "x.com", path := lit "/x/y", rawPath := lit "/x%2Fy" } = lit "https://bar.com/a%20b/x%2Fy" := by simp only [Model.C13.lit, toList_lit rfl]; decide +kernel
/-- D17b, repaired: the template's own `%2F` stays -/
example : location { url := { scheme := lit "https", host := lit "bar.com", path := lit "/a/b/$path", rawPath := lit "/a%2Fb/$path" }, code := 301 }
    { host := lit "x.com", path := lit "/x" } = lit "https://bar.com/a%2Fb/x" := by simp only [Model.C13.lit, toList_lit rfl]; decide +kernel
/-- D17d, recorded: strip matching only the decoded path -/
example : location { url := { scheme := lit "https", host := lit "bar.com", path := lit "/$path" }, strip := lit "/foo", code := 301 }
    { host := lit "x.com", path := lit "/foo/a/b", rawPath := lit "/%66oo/a%2Fb" } = lit "https://bar.com/a/b" := by simp only [Model.C13.lit, toList_lit rfl]; decide +kernel
/-- D18b, repaired: `strip=/` on `host$path` — the built path is absolute, so the comparison sees the loop -/
example : selfRedirect (buildRedirectURL { url := { scheme := lit "https", host := lit "$host$path" }, strip := lit "/", code := 308 }
    { host := lit "example.com:443", path := lit "/]", rawPath := lit "/]" }) (lit "https") { host := lit "example.com:443", path := lit "/]", rawPath := lit "/]" } = true := by simp only [Model.C13.lit, toList_lit rfl]; decide +kernel
/-- an empty resulting path is sent as `/` -/
example : location { url := { scheme := lit "https", host := lit "bar.com$path" }, strip := lit "/foo", code := 301 }
    { host := lit "x.com", path := lit "/foo" } = lit "https://bar.com/" := by simp only [Model.C13.lit, toList_lit rfl]; decide +kernel

theorem scheme_kept (t : RTarget) (req : URL) : (buildRedirectURL t req).scheme = t.url.scheme := by
  simp [buildRedirectURL, stage1]

/-- **The whole Location of a documented redirect template** — the property's first sentence as one equation.
For `scheme://host$path`, `scheme://host/prefix/$path`, `scheme://host/prefix$path` (template without a raw-path
hint, any prefix bytes, any prepend), a request with or without raw path whose escaped path is `strip ++ r'`:

`Location = scheme "://" host' [ "/" ] escape(prefix) escaped(prepend) r' [ "?" query ]`

with `host'` the template host in which `$host` is the request's `Host`, the `/` only when the rest does not
start with one (the client encoded the first slash), and `query` the template's if it has one, else the request's;
non-ASCII bytes `%xx`-escaped by `http.Redirect`. **Partial** in the forced strip hypothesis (D17d) and in `habs` as in
`location_path_is_request_path`; the template has a scheme and the host that results is not empty.
`spelling` is `Spelled t pfx` written out. -/
theorem documented_redirect_location (t : RTarget) (req : URL) (pfx r' p' : Str)
    (spelling :
      (∃ h, t.url.host = h ++ vPath ∧ pfx = []) ∨
      (hasSuffix t.url.host vPath = false ∧ t.url.rawPath = [] ∧ t.url.path = pfx ++ vSlashPath) ∨
      (hasSuffix t.url.host vPath = false ∧ t.url.rawPath = [] ∧ t.url.path = pfx ++ vPath ∧ pfx.getLast? ≠ some 47))
    (hd : ∀ c ∈ pfx, c ≠ 36) (hs : ∀ c ∈ t.strip, c ≠ 37)
    (hraw : escapedPath req = t.strip ++ r') (hpath : req.path = t.strip ++ p')
    (habs : hasPrefix (pfx ++ (t.prepend ++ p')) slash = true)
    (hsch : t.url.scheme ≠ []) (hhost : (buildRedirectURL t req).host ≠ []) :
    let host' := if contains vHost (stage2 (stage1 t)).host then replace1 vHost req.host (stage2 (stage1 t)).host
                 else (stage2 (stage1 t)).host
    let P := escape .path pfx ++ (escPrepend t ++ r')
    let q := if t.url.rawQuery = [] then req.rawQuery else t.url.rawQuery
    location t req = hexEscapeNonASCII (t.url.scheme ++ [58] ++ ([47, 47] ++ escape .host host') ++
      (if P ≠ [] && P.head? != some 47 then [47] else []) ++ P ++ (if q ≠ [] then 63 :: q else [])) := by
  intro host' P q
  have hP := location_path_is_request_path t req pfx r' p' spelling hd hs hraw hpath habs
  have hH := host_substituted t req
  have hn := (norm_of_spelling t pfx _ (spelling_escaped t pfx spelling) hd (escape_no_dollar pfx hd)).1
  have hQ := query_carried_when_target_has_none t req (hn ▸ contains_vPath_append pfx)
  have hS := scheme_kept t req
  unfold location
  rw [urlString_with_scheme_host _ (by rw [hS]; exact hsch) hhost, hS, hP, hH, hQ]

/-- non-vacuity: `https://$host:8443/a b/$path`, strip, a prepend that needs escaping, a request without raw path
and with a query -/
example :
    let t : RTarget := { url := { scheme := lit "https", host := lit "$host:8443", path := lit "/a b/$path" }, strip := lit "/s", prepend := lit "/p q", code := 302 }
    let req : URL := { host := lit "x.com", path := lit "/s/x y", rawQuery := lit "k=v" }
    location t req = lit "https://x.com:8443/a%20b/p%20q/x%20y?k=v" := by simp only [Model.C13.lit, toList_lit rfl]; decide +kernel

/-- A redirect whose URL has the request's own scheme, host and path is skipped: the loop goes on to the
next matching host as if this host had no route (D18c repaired: the skipped target is dropped). -/
theorem self_redirect_skipped (scheme : Str) (req : URL) (t : RTarget) (rest : List (Option RTarget))
    (hc : t.code ≠ 0) (hs : selfRedirect (buildRedirectURL t req) scheme req = true) :
    lookupLoop scheme req (some t :: rest) = lookupLoop scheme req rest := by
  simp [lookupLoop_cons_some, skipped, hc, hs]

theorem lookupLoop_no_route (scheme : Str) (req : URL) (n : Nat) (cands : List (Option RTarget)) :
    lookupLoop scheme req (List.replicate n none ++ cands) = lookupLoop scheme req cands := by
  induction n with
  | zero => rfl
  | succ k ih => simpa only [List.replicate_succ, List.cons_append, lookupLoop] using ih

/-- The next matching host wins: hosts without a matching route are passed over, and the first plain target
found is the one the request is proxied to. -/
theorem self_redirect_next_host_wins (scheme : Str) (req : URL) (t t2 : RTarget) (n : Nat) (rest : List (Option RTarget))
    (hc : t.code ≠ 0) (hs : selfRedirect (buildRedirectURL t req) scheme req = true) (h2 : t2.code = 0) :
    lookup scheme req (some t :: (List.replicate n none ++ some t2 :: rest)) = some (t2, none) := by
  unfold lookup
  rw [self_redirect_skipped scheme req t _ hc hs, lookupLoop_no_route, code_zero_is_not_a_redirect scheme req t2 rest h2]

theorem other_redirect_answered (scheme : Str) (req : URL) (t : RTarget) (rest : List (Option RTarget))
    (hc : t.code ≠ 0) (hs : selfRedirect (buildRedirectURL t req) scheme req = false) :
    lookupLoop scheme req (some t :: rest) = some (t, some (buildRedirectURL t req)) := by
  simp [lookupLoop_cons_some, skipped, hc, hs]

theorem request_scheme (xfp : Str) (tls : Bool) :
    reqScheme xfp tls = if xfp ≠ [] then xfp else if tls then lit "https" else lit "http" := rfl

/-- D18's witness: `route add svc example.com/ https://example.com/ opts "redirect=301"` and a fallback
route; an HTTPS request *without* `X-Forwarded-Proto` is handed to the fallback instead of being
redirected to itself. -/
example :
    let t : RTarget := { url := { scheme := lit "https", host := lit "example.com", path := lit "/" }, code := 301 }
    let up : RTarget := { url := { scheme := lit "http", host := lit "127.0.0.1:3000", path := lit "/" } }
    let req : URL := { host := lit "example.com", path := lit "/" }
    answer (reqScheme [] true) req [some t, some up] = none ∧
    lookup (reqScheme [] true) req [some t, some up] = some (up, none) ∧
    -- over plain HTTP the same route redirects
    answer (reqScheme [] false) req [some t, some up] = some (301, lit "https://example.com/") := by simp only [Model.C13.lit, toList_lit rfl]; decide +kernel

inductive Step where
  | lookup (i : Nat)   -- request i runs `Table.Lookup`
  | serve (i : Nat)    -- request i reaches the redirect branch of `ServeHTTP`
deriving DecidableEq, Repr

/-- The repaired code: `Lookup` builds the URL on a copy of the target that belongs to the request
(`locals`), `ServeHTTP` reads that copy; the shared target `t` is only read. -/
def runPerRequest (t : RTarget) (reqs : Nat → URL) : List Step → List (Nat × URL) → List (Nat × Str) → List (Nat × Str)
  | [], _, out => out
  | .lookup i :: s, locals, out => runPerRequest t reqs s ((i, buildRedirectURL t (reqs i)) :: locals) out
  | .serve i :: s, locals, out =>
      match locals.lookup i with
      | some u => runPerRequest t reqs s locals (out ++ [(i, hexEscapeNonASCII (urlString u))])
      | none => runPerRequest t reqs s locals out

/-- The code before the repair of D08: one cell on the shared target, written by every lookup. -/
def runSharedCell (t : RTarget) (reqs : Nat → URL) : List Step → Option URL → List (Nat × Str) → List (Nat × Str)
  | [], _, out => out
  | .lookup i :: s, _, out => runSharedCell t reqs s (some (buildRedirectURL t (reqs i))) out
  | .serve i :: s, cell, out =>
      match cell with
      | some u => runSharedCell t reqs s cell (out ++ [(i, hexEscapeNonASCII (urlString u))])
      | none => runSharedCell t reqs s cell out

theorem runPerRequest_inv (t : RTarget) (reqs : Nat → URL) (s : List Step) (locals : List (Nat × URL)) (out : List (Nat × Str))
    (hl : ∀ i u, locals.lookup i = some u → u = buildRedirectURL t (reqs i))
    (ho : ∀ p ∈ out, p.2 = location t (reqs p.1)) :
    ∀ p ∈ runPerRequest t reqs s locals out, p.2 = location t (reqs p.1) := by
  induction s generalizing locals out with
  | nil => exact ho
  | cons st s ih =>
    cases st with
    | lookup i =>
      refine ih _ _ (fun j u hj => ?_) ho
      rw [List.lookup_cons] at hj
      split at hj
      · rename_i heq
        -- (`cases hj` would compare the two built URLs by unfolding `buildRedirectURL`)
        rw [← Option.some.inj hj, eq_of_beq heq]
      · exact hl j u hj
    | serve i =>
      rw [runPerRequest]
      split
      · rename_i u hu
        refine ih _ _ hl (fun p hp => ?_)
        rcases List.mem_append.1 hp with hp | hp
        · exact ho p hp
        · rw [List.mem_singleton.1 hp, location, ← hl i u hu]
      · exact ih _ _ hl ho

/-- **Under every interleaving of any number of simultaneous requests on one shared redirect target, each
request is answered with the Location computed from its own request alone.** -/
theorem redirect_depends_only_on_request (t : RTarget) (reqs : Nat → URL) (schedule : List Step) :
    ∀ p ∈ runPerRequest t reqs schedule [] [], p.2 = location t (reqs p.1) :=
  runPerRequest_inv t reqs schedule [] [] (by simp) (by simp)

/-- D08's witness on the pre-repair design: with the shared cell the schedule
lookup₀ lookup₁ serve₀ serve₁ answers request 0 with request 1's path. -/
example :
    let t : RTarget := { url := { scheme := lit "https", host := lit "x.com$path" }, code := 301 }
    let reqs : Nat → URL := fun i => if i = 0 then { host := lit "a.com", path := lit "/zero" } else { host := lit "a.com", path := lit "/one" }
    runSharedCell t reqs [.lookup 0, .lookup 1, .serve 0, .serve 1] none [] = [(0, lit "https://x.com/one"), (1, lit "https://x.com/one")] ∧
    runPerRequest t reqs [.lookup 0, .lookup 1, .serve 0, .serve 1] [] [] = [(0, lit "https://x.com/zero"), (1, lit "https://x.com/one")] := by simp only [Model.C13.lit, toList_lit rfl]; decide +kernel

end Fabio.Props.C13
