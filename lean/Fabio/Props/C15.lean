import Fabio.Lemmas.Basic
import Fabio.Lemmas.C15
/-!
C15 — configuration means the same from every source, with fixed precedence.

`resolveWith env name dflt s` is the body of `ParseFlags`' `VisitAll` callback for one flag, `envMap` its first
loop, `parseKVSlice` the lexer/parser of `kvslice.go`, `loadModel` = `load`, `runGlob` the index arithmetic of
`route.NewGlobCache` + `GlobCache.Get`.
-/
namespace Fabio.Props.C15
open Fabio Fabio.Model.C15 Fabio.Lemmas.C15

/-- The specification of precedence for the prefix list `[p₁, p₂]`: command line, variable with the first prefix,
variable with the second prefix, properties file; the first one present wins, otherwise the default. -/
def expected (c e1 e2 p : Option Str) (dflt : Str) : Src × Str :=
  match c, e1, e2, p with
  | some v, _, _, _ => (.cmdline, v)
  | none, some v, _, _ => (.env 0, v)
  | none, none, some v, _ => (.env 1, v)
  | none, none, none, some v => (.props, v)
  | none, none, none, none => (.dflt, dflt)

def lastEntry (key : Str) : List Str → Option Str
  | [] => none
  | e :: es =>
    match lastEntry key es with
    | some v => some v
    | none =>
      match splitN2 e with
      | [k, v] => if upper k = key then some v else none
      | _ => none

theorem envMap_get (m : Map) (es : List Str) (key : Str) :
    (es.foldl envPut m).get key = (lastEntry key es).or (m.get key) := by
  induction es generalizing m with
  | nil => rfl
  | cons e es ih =>
    rw [List.foldl_cons, ih, lastEntry]
    cases lastEntry key es with
    | some v => rfl
    | none =>
      unfold envPut
      generalize splitN2 e = p
      match p with
      | [] | [_] | _ :: _ :: _ :: _ => rfl
      | [k, v] =>
        by_cases hk : upper k = key <;> simp [get_put, hk]

theorem lastEntry_single (key k v : Str) (hk : '=' ∉ k) :
    lastEntry key [k ++ '=' :: v] = if upper k = key then some v else none := by
  simp [lastEntry, splitN2_join k v hk]

/-- **Precedence, for any list of prefixes**: command line, then the variable of each prefix in list order (the plain
name when the list is empty), then the properties file; the first that sets the option decides, else the default. -/
theorem resolveWith_eq (env : Map) (name dflt : Str) (s : Sources) :
    resolveWith env name dflt s =
      ((cmdLookup name s.cmd).map (Src.cmdline, ·) <|>
        (((effPrefixes s.prefixes).zipIdx.findSome? fun pj => (env.get (envName pj.1 name)).map (pj.2, ·)).map
          fun iv => (Src.env iv.1, iv.2)) <|>
        (s.props.bind (·.get name)).map (Src.props, ·)).getD (.dflt, dflt) := by
  rw [← envFirst_eq, resolveWith]
  cases cmdLookup name s.cmd with
  | some v => rfl
  | none =>
    cases envFirst env name 0 (effPrefixes s.prefixes) with
    | some iv => rfl
    | none =>
      cases s.props with
      | none => rfl
      | some p => simp only [Option.bind_some]; cases p.get name <;> rfl

/-- **Precedence**, for every flag name, every default, every assignment of the sources: the value that
reaches the flag is the one of the highest-priority source that sets it (`expected`). -/
theorem precedence (env : Map) (name dflt : Str) (s : Sources) (p1 p2 : Str) (hp : s.prefixes = [p1, p2]) :
    resolveWith env name dflt s =
      expected (cmdLookup name s.cmd) (env.get (envName p1 name)) (env.get (envName p2 name))
        (s.props.bind (fun p => p.get name)) dflt := by
  rw [resolveWith_eq, hp]
  simp only [effPrefixes, List.isEmpty_cons, Bool.false_eq_true, ↓reduceIte, List.zipIdx_cons, List.zipIdx_nil,
    List.findSome?_cons, List.findSome?_nil]
  cases cmdLookup name s.cmd <;> cases env.get (envName p1 name) <;> cases env.get (envName p2 name) <;>
    cases s.props.bind (·.get name) <;> rfl

/-- Precedence stated on the raw inputs of `Load`: the environment *block* is turned into the map first (never
a panic), a variable's value is that of its last entry, names compared after upper-casing. -/
theorem precedence_load (name dflt : Str) (s : Sources) (p1 p2 : Str) (hp : s.prefixes = [p1, p2]) :
    resolve name dflt s = .ok
      (expected (cmdLookup name s.cmd) (lastEntry (envName p1 name) s.environ)
        (lastEntry (envName p2 name) s.environ) (s.props.bind (fun p => p.get name)) dflt) := by
  have hnil : ∀ key, Map.get [] key = none := fun _ => rfl
  simp only [resolve, envMap_eq, precedence _ name dflt s p1 p2 hp, envMap_get, hnil, Option.or_none]

theorem no_prefix_means_plain (env : Map) (name dflt : Str) (s : Sources) (hp : s.prefixes = []) :
    resolveWith env name dflt s = resolveWith env name dflt { s with prefixes := [[]] } := by
  rw [resolveWith_eq, resolveWith_eq, hp]; rfl

/-- **Letter case of the flag name does not matter for the environment.** -/
theorem env_case_insensitive (pfx pfx' name name' : Str) (hp : upper pfx = upper pfx')
    (hn : upper name = upper name') : envName pfx name = envName pfx' name' := by
  rw [envName_eq, envName_eq, hp, hn]

inductive SameUpToCase : List Str → List Str → Prop
  | nil : SameUpToCase [] []
  | cons (k k' v : Str) (es es' : List Str) (hk : '=' ∉ k) (hk' : '=' ∉ k') (hu : upper k = upper k')
      (t : SameUpToCase es es') : SameUpToCase ((k ++ '=' :: v) :: es) ((k' ++ '=' :: v) :: es')

/-- **Letter case of the variable's name in the environment block does not matter**, for blocks in which every entry is
`name=value` (`SameUpToCase`): the two blocks produce the same map, hence the same resolution. -/
theorem env_block_case_insensitive (m : Map) (es es' : List Str) (h : SameUpToCase es es') :
    envMap m es = envMap m es' := by
  induction h generalizing m with
  | nil => rfl
  | cons k k' v es es' hk hk' hu _ ih =>
    simp only [envMap, envStep_kv _ _ _ hk, envStep_kv _ _ _ hk', hu]
    exact ih _

/-- the variable name as the user may write it: any spelling whose upper-casing is the mangled name -/
theorem env_lookup_any_case (m : Map) (k v pfx name : Str) (hk : '=' ∉ k) (hu : upper k = envName pfx name) :
    ∃ env, envMap m [k ++ '=' :: v] = .ok env ∧ env.get (envName pfx name) = some v := by
  refine ⟨m.put (upper k) v, by simp [envMap, envStep_kv _ _ _ hk], ?_⟩
  rw [hu, get_put, if_pos rfl]

/-- **Source equivalence.**  Give the value `v` to flag `name` through exactly one source — the command
line, an environment variable with the first or with the second prefix written in any letter case (`k₁`,
`k₂`), or the properties file — and the raw string handed to the flag's `Set` is `v` in every case, so the
flag's own parser sees the same input. -/
theorem source_equivalence (name dflt v p1 p2 k1 k2 : Str)
    (hk1 : '=' ∉ k1) (hu1 : upper k1 = envName p1 name)
    (hk2 : '=' ∉ k2) (hu2 : upper k2 = envName p2 name) :
    let viaCmd : Sources := { cmd := [(name, v)], environ := [], prefixes := [p1, p2], props := none }
    let viaEnv1 : Sources := { cmd := [], environ := [k1 ++ '=' :: v], prefixes := [p1, p2], props := none }
    let viaEnv2 : Sources := { cmd := [], environ := [k2 ++ '=' :: v], prefixes := [p1, p2], props := none }
    let viaProps : Sources := { cmd := [], environ := [], prefixes := [p1, p2], props := some [(name, v)] }
    (resolve name dflt viaCmd).map (·.2) = .ok v ∧
    (resolve name dflt viaEnv1).map (·.2) = .ok v ∧
    (resolve name dflt viaEnv2).map (·.2) = .ok v ∧
    (resolve name dflt viaProps).map (·.2) = .ok v := by
  intro viaCmd viaEnv1 viaEnv2 viaProps
  refine ⟨?_, ?_, ?_, ?_⟩
  · rw [precedence_load name dflt viaCmd p1 p2 rfl]
    simp [viaCmd, cmdLookup, expected, Outcome.map]
  · rw [precedence_load name dflt viaEnv1 p1 p2 rfl]
    simp [viaEnv1, lastEntry_single, hk1, hu1, cmdLookup, expected, Outcome.map]
  · rw [precedence_load name dflt viaEnv2 p1 p2 rfl]
    simp only [viaEnv2, lastEntry_single _ _ _ hk2, hu2, cmdLookup, ↓reduceIte]
    split <;> simp [expected, Outcome.map]
  · rw [precedence_load name dflt viaProps p1 p2 rfl]
    simp [viaProps, lastEntry, cmdLookup, expected, Outcome.map, Map.get, List.lookup]

def allDistinct {β} [DecidableEq β] : List β → Bool
  | [] => true
  | x :: xs => !xs.contains x && allDistinct xs

theorem allDistinct_iff_nodup {β} [DecidableEq β] (l : List β) : allDistinct l = true ↔ l.Nodup := by
  induction l with
  | nil => simp [allDistinct]
  | cons x xs ih => simp [allDistinct, ih]

/-- One pass that decides distinctness of numbers: bit `y % m` of the result is set for every member `y`, and
`none` is returned as soon as a member occurs twice.  Membership is read off the bits; the list is searched only
when the bit is already taken, so any modulus is sound and one that spreads the members keeps the pass linear.
(Evaluating `allDistinct` itself in the kernel, on the few hundred packed names of the flag table, is slow.) -/
def residueMask (m : Nat) : List Nat → Option Nat
  | [] => some 0
  | x :: xs =>
    match residueMask m xs with
    | none => none
    | some mask => if mask.testBit (x % m) && xs.contains x then none else some (mask ||| 2 ^ (x % m))

theorem residueMask_spec (m : Nat) (l : List Nat) (mask : Nat) (h : residueMask m l = some mask) :
    allDistinct l = true ∧ ∀ y ∈ l, mask.testBit (y % m) = true := by
  induction l generalizing mask with
  | nil => exact ⟨rfl, fun y hy => absurd hy List.not_mem_nil⟩
  | cons x xs ih =>
    simp only [residueMask] at h
    cases hr : residueMask m xs with
    | none => simp [hr] at h
    | some mask' =>
      obtain ⟨hd, hb⟩ := ih mask' hr
      simp only [hr] at h
      split at h
      · cases h
      · rename_i hc
        cases h
        -- a member of `xs` has its bit set in `mask'`, so `x ∈ xs` would have made the test above succeed
        have hx : x ∉ xs := fun hx => hc (by simp [hb x hx, hx])
        refine ⟨by simp [allDistinct, hx, hd], fun y hy => ?_⟩
        rcases List.mem_cons.1 hy with rfl | hy
        · simp [Nat.testBit_or, Nat.testBit_two_pow_self]
        · simp [Nat.testBit_or, hb y hy]

theorem allDistinct_of_residueMask (m : Nat) (l : List Nat) (h : (residueMask m l).isSome = true) :
    allDistinct l = true :=
  match hm : residueMask m l, h with
  | some mask, _ => (residueMask_spec m l mask hm).1

def envNames (prefixes names : List Str) : List ((Str × Str) × Str) :=
  prefixes.flatMap (fun p => names.map (fun n => ((p, n), envName p n)))

/-- a name packed into one number (base 2²¹, digit = code point + 1); only used as a fingerprint: distinct
fingerprints imply distinct names by congruence, no injectivity is needed -/
def enc (s : Str) : Nat := s.foldl (fun a c => a * 2097152 + c.toNat + 1) 0

/-- the decidable no-collision check, evaluated on the regenerated flag table in `C15Facts` -/
def noCollision (prefixes names : List Str) : Bool :=
  allDistinct ((envNames prefixes names).map (fun x => enc x.2))

/-- **Environment names are injective**, for any prefix list and flag list that pass the check: no variable can
feed two different options, under either prefix (this also excludes `FABIO_` + `x` colliding with a flag
literally called `fabio.x` read through the empty prefix). -/
theorem env_names_injective_generic (prefixes names : List Str) (h : noCollision prefixes names = true) :
    ∀ p ∈ prefixes, ∀ q ∈ prefixes, ∀ f ∈ names, ∀ g ∈ names,
      envName p f = envName q g → p = q ∧ f = g := by
  intro p hp q hq f hf g hg e
  have hmem : ∀ p ∈ prefixes, ∀ f ∈ names, ((p, f), envName p f) ∈ envNames prefixes names := by
    intro p hp f hf
    simp only [envNames, List.mem_flatMap, List.mem_map]
    exact ⟨p, hp, f, hf, rfl⟩
  have := eq_of_map_eq (f := fun x : (Str × Str) × Str => enc x.2) ((allDistinct_iff_nodup _).mp h)
    (hmem p hp f hf) (hmem q hq g hg) (by simp only [e])
  exact Prod.mk.inj (Prod.mk.inj this).1

/-- **`parseKVSlice` is total**: for every rune string and whatever `strconv.Unquote` answers, the loop
terminates (each `lex` call consumes between 1 and `len(s)` runes), no slice expression is out of range, and
the result is a list of maps or an error — never a panic. -/
theorem kvslice_total (unq : Str → Option Str) (s : Str) : (parseKVSlice unq s).isPanic = false :=
  (Outcome.isPanic_false_iff _).2 (parseKVSlice_ok unq s)

/-- **Shape of a successful parse**: every map returned is non-empty and has pairwise distinct keys (so "no
maps" is the only way to get an empty result, Go's `nil, nil`). -/
theorem kvslice_shape (unq : Str → Option Str) (s : Str) (ms : List Map)
    (h : parseKVSlice unq s = .ok (.ok ms)) : ∀ m ∈ ms, 0 < m.length ∧ (m.map (·.1)).Nodup := by
  unfold parseKVSlice at h
  split at h
  · rename_i p hp
    cases h
    exact good_pfinish p (inv_ploop unq _ s {} p inv_init hp)
  · cases h
  · cases h

/-- **Loading is total**: for every flag table, every command line, every environment block (entries
without `=`, empty names, duplicates, any letter case), every prefix list and every properties map, `load`
returns a configuration or an error — never a panic.  (False before the repair of D20: `["FOO"]`.) -/
theorem load_total (unq : Str → Option Str) (atoi : Str → Int) (extra : List Resolved → Option Err)
    (flags : List (Str × Str)) (s : Sources) : (loadModel unq atoi extra flags s).isPanic = false :=
  (Outcome.isPanic_false_iff _).2 (loadModel_ok unq atoi extra flags s)

/-- **An accepted configuration can be run** as far as the glob cache is concerned: the accepted
`glob.cache.size` is at least 1 (D21 repair), `NewGlobCache` does not panic on it and no number of cache
misses ever indexes outside the ring or divides by zero. -/
theorem accepted_config_runnable (unq : Str → Option Str) (atoi : Str → Int)
    (extra : List Resolved → Option Err) (flags : List (Str × Str)) (s : Sources) (cfg : Cfg)
    (h : loadModel unq atoi extra flags s = .ok (.ok cfg)) :
    1 ≤ cfg.globCacheSize ∧ ∀ k, (runGlob cfg.globCacheSize k).isPanic = false := by
  have h1 : 1 ≤ cfg.globCacheSize := enumChecks_pos atoi _ _ (loadModel_accepted unq atoi extra flags s cfg h).2
  exact ⟨h1, fun k => (Outcome.isPanic_false_iff _).2 (runGlob_ok cfg.globCacheSize k h1)⟩

/-- the validation is needed: a cache of size 0 panics on the first miss, a negative size in `make` -/
theorem glob_size_zero_panics : (runGlob 0 1).isPanic = true ∧ (runGlob (-1) 0).isPanic = true := by
  constructor <;> decide

section Examples
-- `simp only [toList_lit rfl]` unfolds the string literals of a test vector to rune lists (decoding a literal is slow
-- to evaluate), `decide +kernel` then evaluates once
def pfx : List Str := ["FABIO_".toList, []]
def nm : Str := "proxy.maxconn".toList

example : envName "FABIO_".toList nm = "FABIO_PROXY_MAXCONN".toList := by
  unfold nm; simp only [toList_lit rfl]; decide +kernel
example : envName [] "registry.consul.register.checkInterval".toList =
    "REGISTRY_CONSUL_REGISTER_CHECKINTERVAL".toList := by
  simp only [toList_lit rfl]; decide +kernel

example : resolve nm "10000".toList
    { cmd := [(nm, "1".toList)], environ := ["FABIO_PROXY_MAXCONN=2".toList, "proxy_maxconn=3".toList],
      prefixes := pfx, props := some [(nm, "4".toList)] } = .ok (.cmdline, "1".toList) := by
  unfold nm pfx; simp only [toList_lit rfl]; decide +kernel
/-- mixed case, a duplicate (the later entry counts), an entry without `=` and one with an empty name -/
example : resolve nm "10000".toList
    { cmd := [], environ := ["junk".toList, "=x".toList, "proxy_maxconn=3".toList, "Fabio_Proxy_MaxConn=2".toList,
        "FABIO_PROXY_MAXCONN=5".toList],
      prefixes := pfx, props := some [(nm, "4".toList)] } = .ok (.env 0, "5".toList) := by
  unfold nm pfx; simp only [toList_lit rfl]; decide +kernel
example : resolve nm "10000".toList
    { cmd := [], environ := ["proxy_maxconn=3=x".toList], prefixes := pfx, props := some [(nm, "4".toList)] }
    = .ok (.env 1, "3=x".toList) := by
  unfold nm pfx; simp only [toList_lit rfl]; decide +kernel
example : resolve nm "10000".toList
    { cmd := [], environ := ["other=3".toList], prefixes := pfx, props := some [(nm, "4".toList)] }
    = .ok (.props, "4".toList) := by
  unfold nm pfx; simp only [toList_lit rfl]; decide +kernel
example : resolve nm "10000".toList { cmd := [], environ := [], prefixes := pfx, props := none }
    = .ok (.dflt, "10000".toList) := by
  unfold nm pfx; simp only [toList_lit rfl]; decide +kernel
/-- the dotless i and the long s upper-case to ASCII letters, as in Go -/
example : upper "proxy_maxconn".toList = upper "proxy_maxconn".toList ∧ upperChar 'ı' = 'I' ∧ upperChar 'ſ' = 'S' :=
  ⟨rfl, by decide +kernel, by decide +kernel⟩

example : noCollision pfx ["proxy.addr".toList, "proxy.cs".toList, "ui.addr".toList] = true := by
  unfold pfx; simp only [toList_lit rfl]; decide +kernel
/-- the check does reject colliding tables: `a.b` / `a_b`, and `fabio.x` (plain) against `x` (prefixed) -/
example : noCollision pfx ["a.b".toList, "a_b".toList] = false := by
  unfold pfx; simp only [toList_lit rfl]; decide +kernel
example : noCollision pfx ["fabio.x".toList, "x".toList] = false := by
  unfold pfx; simp only [toList_lit rfl]; decide +kernel

example : parseKVSlice unquote "a=b;c=d,e=f".toList =
    .ok (.ok [[("a".toList, "b".toList), ("c".toList, "d".toList)], [("e".toList, "f".toList)]]) := by
  simp only [toList_lit rfl]; decide +kernel
example : parseKVSlice unquote ":9999;cs=x;a=\"b;c\"".toList =
    .ok (.ok [[([], ":9999".toList), ("cs".toList, "x".toList), ("a".toList, "b;c".toList)]]) := by
  simp only [toList_lit rfl]; decide +kernel
example : parseKVSlice unquote "a=\"b".toList = .ok (.error "unbalanced quotes".toList) := by
  simp only [toList_lit rfl]; decide +kernel
example : parseKVSlice unquote "a;=".toList = .ok (.error "=".toList) := by
  simp only [toList_lit rfl]; decide +kernel
example : parseKVSlice unquote ",;,".toList = .ok (.ok []) := by
  simp only [toList_lit rfl]; decide +kernel

def tinyFlags : List (Str × Str) :=
  [("proxy.strategy".toList, "rnd".toList), ("proxy.matcher".toList, "prefix".toList),
   ("ui.access".toList, "rw".toList), ("ui.addr".toList, ":9998".toList), ("proxy.addr".toList, ":9999".toList),
   ("glob.cache.size".toList, "1000".toList)]
def atoiD (s : Str) : Int := (atoiDec s).getD 0

/-- One evaluation for the three examples below, which are its projections: an evaluation decodes the string constants
of the model once per declaration. -/
theorem load_vectors :
    (loadModel unquote atoiD (fun _ => none) tinyFlags
      { cmd := [], environ := ["FOO".toList], prefixes := pfx, props := none }).map (·.map (·.globCacheSize))
      = .ok (.ok 1000) ∧
    (loadModel unquote atoiD (fun _ => none) tinyFlags
      { cmd := [], environ := ["fabio_glob_cache_size=0".toList], prefixes := pfx, props := none }).map (·.map (·.globCacheSize))
      = .ok (.error .globCacheSize) ∧
    (loadModel unquote atoiD (fun _ => none) tinyFlags
      { cmd := [("ui.addr".toList, ",;".toList)], environ := [], prefixes := pfx, props := none }).map (·.map (·.globCacheSize))
      = .ok (.error .uiAddrCount) := by
  unfold tinyFlags pfx; simp only [toList_lit rfl]; decide +kernel

example : (loadModel unquote atoiD (fun _ => none) tinyFlags
    { cmd := [], environ := ["FOO".toList], prefixes := pfx, props := none }).map (·.map (·.globCacheSize))
    = .ok (.ok 1000) := load_vectors.1
example : (loadModel unquote atoiD (fun _ => none) tinyFlags
    { cmd := [], environ := ["fabio_glob_cache_size=0".toList], prefixes := pfx, props := none }).map (·.map (·.globCacheSize))
    = .ok (.error .globCacheSize) := load_vectors.2.1
/-- a `ui.addr` made only of separators parses to zero maps and is rejected by the count check (it must not
reach `kvs[0]`) -/
example : (loadModel unquote atoiD (fun _ => none) tinyFlags
    { cmd := [("ui.addr".toList, ",;".toList)], environ := [], prefixes := pfx, props := none }).map (·.map (·.globCacheSize))
    = .ok (.error .uiAddrCount) := load_vectors.2.2
example : (runGlob 3 10).isPanic = false := by decide +kernel
end Examples

end Fabio.Props.C15
