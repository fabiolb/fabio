import Fabio.Props.C13TableSpec
/-!
C13 — the driver's translation of a dumped table (`toTable`, `viewOf`: positional labels for the
targets) satisfies `Represents` for every dump whose keys are distinct, so `model_meets_table_spec` speaks
about exactly the functions `c13.http` executes (`selectRoute`, `serveTable`).
-/
namespace Fabio.Props.C13TableRep
open Fabio Fabio.Model Fabio.Model.C13Table Fabio.Lemmas.C13Table Fabio.Props.C13Table Fabio.Props.C13TableSpec

/-- `enumFrom` is core's `List.zipIdx` with the pairs turned round -/
theorem enumFrom_eq {α : Type} (l : List α) (i : Nat) : enumFrom i l = (l.zipIdx i).map (fun p => (p.2, p.1)) := by
  induction l generalizing i with
  | nil => rfl
  | cons x xs ih => simp [enumFrom, ih]

theorem mem_enum {α : Type} {l : List α} {n : Nat} {x : α} : (n, x) ∈ enum l ↔ l[n]? = some x := by
  rw [enum, enumFrom_eq, ← List.mem_zipIdx_iff_getElem? (x := (x, n)), List.mem_map]
  exact ⟨fun ⟨_, h, e⟩ => by cases e; exact h, fun h => ⟨_, h, rfl⟩⟩

theorem map_snd_enum {α : Type} (l : List α) : (enum l).map (·.2) = l := by
  simp [enum, enumFrom_eq, Function.comp_def]

theorem label_inj {i j i' j' : Nat} (h : label i j = label i' j') : i = i' ∧ j = j' := by
  have hk := congrArg (List.count 'k') h
  have hr := congrArg (List.count 'r') h
  simp [label, List.count_append, List.count_replicate] at hk hr
  exact ⟨hk, hr⟩

theorem mem_labelled {d : DTable} {lab : Route.Str} {dr : DRoute} :
    (lab, dr) ∈ labelled d ↔ ∃ i j k rs, d[i]? = some (k, rs) ∧ rs[j]? = some dr ∧ lab = label i j := by
  unfold labelled
  simp only [List.mem_flatMap, List.mem_map]
  constructor
  · rintro ⟨⟨i, k, rs⟩, hi, ⟨j, r⟩, hj, e⟩
    simp only [Prod.mk.injEq] at e
    obtain ⟨rfl, rfl⟩ := e
    exact ⟨i, j, k, rs, mem_enum.1 hi, mem_enum.1 hj, rfl⟩
  · rintro ⟨i, j, k, rs, hi, hj, rfl⟩
    exact ⟨(i, k, rs), mem_enum.2 hi, (j, dr), mem_enum.2 hj, rfl⟩

theorem routeOf_label {d : DTable} {i j : Nat} {kv : C13.Str × List DRoute} {dr : DRoute}
    (hi : d[i]? = some kv) (hj : kv.2[j]? = some dr) (tg : Route.Target) (hs : tg.service = label i j) :
    routeOf d tg = some dr := by
  unfold routeOf
  rw [hs]
  obtain ⟨k, rs⟩ := kv
  apply lookup_unique (mem_labelled.2 ⟨i, j, k, rs, hi, hj, rfl⟩)
  intro v' hv'
  obtain ⟨i', j', k', rs', hi', hj', e⟩ := mem_labelled.1 hv'
  obtain ⟨rfl, rfl⟩ := label_inj e
  rw [hi] at hi'; cases hi'
  simp only at hj
  rw [hj] at hj'; cases hj'; rfl

/-- the routes `toTable` makes of the routes `rs` under key number `i`, the labels counted from `off` -/
def routesFrom (i : Nat) (k : C13.Str) (off : Nat) (rs : List DRoute) : List Route.Route :=
  (enumFrom off rs).map (fun (j, r) =>
    ({ host := chars k, path := chars r.path,
       targets := [{ service := label i j, tags := [], opts := [], url := [], fixedWeight := 0 }] } : Route.Route))

theorem toTable_eq (d : DTable) : toTable d = (enum d).map (fun (i, k, rs) => (chars k, routesFrom i k 0 rs)) := rfl

theorem routesRep_from {d : DTable} {i : Nat} {kv : C13.Str × List DRoute} (hi : d[i]? = some kv)
    (rs : List DRoute) (off : Nat) (hoff : ∀ j dr, rs[j]? = some dr → kv.2[off + j]? = some dr) :
    RoutesRep (viewOf d) rs (routesFrom i kv.1 off rs) := by
  induction rs generalizing off with
  | nil => exact .nil
  | cons r rs ih =>
    simp only [routesFrom, enumFrom, List.map_cons]
    refine .cons ⟨rfl, _, rfl, ?_⟩ (ih (off + 1) ?_)
    · have h0 := hoff 0 r rfl
      unfold viewOf
      rw [routeOf_label hi (by simpa using h0) _ rfl]
    · intro j dr hj
      have := hoff (j + 1) dr (by simpa using hj)
      have e : off + 1 + j = off + (j + 1) := by omega
      rw [e]; exact this

theorem keys_toTable (d : DTable) : C03.keys (toTable d) = d.map (fun kv => chars kv.1) := by
  unfold C03.keys
  rw [toTable_eq, List.map_map]
  have : ((fun kv : Route.Str × List Route.Route => kv.1) ∘ fun (x : Nat × C13.Str × List DRoute) => (chars x.2.1, routesFrom x.1 x.2.1 0 x.2.2)) =
      (fun kv : C13.Str × List DRoute => chars kv.1) ∘ (fun x : Nat × C13.Str × List DRoute => x.2) := rfl
  rw [this, ← List.map_map, map_snd_enum]

theorem get_toTable {d : DTable} (hnd : (d.map (fun kv => kv.1)).Nodup) {i : Nat} {kv : C13.Str × List DRoute}
    (hi : d[i]? = some kv) : (toTable d).get (chars kv.1) = routesFrom i kv.1 0 kv.2 := by
  refine Lemmas.Route.get_of_mem ?_ ?_
  · have := keys_toTable d
    unfold C03.keys at this
    rw [this, show (fun kv : C13.Str × List DRoute => chars kv.1) = chars ∘ (fun kv => kv.1) from rfl, ← List.map_map]
    exact List.Pairwise.map chars (fun _ _ hne e => hne (chars_inj e)) hnd
  · rw [toTable_eq]
    exact List.mem_map.2 ⟨(i, kv), mem_enum.2 hi, rfl⟩

theorem toTable_represents (d : DTable) (hnd : (d.map (fun kv => kv.1)).Nodup) :
    Represents d (toTable d) (viewOf d) := by
  refine ⟨keys_toTable d, ?_⟩
  intro kv hkv
  obtain ⟨i, hi⟩ := List.getElem?_of_mem hkv
  rw [get_toTable hnd hi]
  exact routesRep_from hi kv.2 0 (fun j dr hj => by simpa using hj)

/-- **`model_meets_table_spec` for the functions the driver runs.** For every well-formed dump (lower-case distinct
keys, longest path first), every request `mkReq` builds with a non-empty normalised host, globs on or off: the
answer of `Lookup` on `toTable d` with the view `viewOf d` — what `selectRoute` / `serveTable` compute — is judged
`ok` by `specAnswered`. -/
theorem driver_model_meets_table_spec (d : DTable) (hwf : WellFormed d) (noglob : Bool)
    {host target xfp : C13.Str} {tls : Bool} {q : CReq} (hq : mkReq host target xfp tls = some q)
    (hne : specNorm host tls ≠ []) :
    specAnswered d noglob q host (observed (viewOf d) (Lookup (cfgOf noglob) (viewOf d) (toTable d) q)) = .ok :=
  model_meets_table_spec (toTable_represents d hwf.nodup) hwf (mkReq_reqOf hq) hne

theorem nodup_of_nodupB {l : List C13.Str} (h : nodupB l = true) : l.Nodup := by
  induction l with
  | nil => exact List.nodup_nil
  | cons x xs ih =>
    simp only [nodupB, Bool.and_eq_true, Bool.not_eq_true'] at h
    refine List.nodup_cons.2 ⟨?_, ih h.2⟩
    intro hm
    have : xs.contains x = true := by simpa using hm
    rw [h.1] at this; cases this

theorem sorted_of_sortedB {l : List DRoute} (h : sortedB l = true) : LongestFirst l := by
  induction l with
  | nil => exact List.Pairwise.nil
  | cons r rs ih =>
    simp only [sortedB, Bool.and_eq_true, List.all_eq_true, decide_eq_true_eq] at h
    exact List.pairwise_cons.2 ⟨fun b hb => h.1 b hb, ih h.2⟩

theorem wellFormed_of_test {d : DTable} (h : wellFormedB d = true) : WellFormed d := by
  simp only [wellFormedB, Bool.and_eq_true, List.all_eq_true, beq_iff_eq] at h
  exact ⟨fun kv hkv => h.1.1 kv hkv, nodup_of_nodupB h.1.2, fun kv hkv => sorted_of_sortedB (h.2 kv hkv)⟩

/-- **What `c13.http` relies on, case by case:** the dump passes the driver's test `wellFormedB` (else the case is
reported as a broken tie, class `dump-not-wellformed`), the request is the one `mkReq` builds — then the model's answer
meets the table specification. -/
theorem checked_dump_meets_table_spec (d : DTable) (h : wellFormedB d = true) (noglob : Bool)
    {host target xfp : C13.Str} {tls : Bool} {q : CReq} (hq : mkReq host target xfp tls = some q)
    (hne : specNorm host tls ≠ []) :
    specAnswered d noglob q host (observed (viewOf d) (Lookup (cfgOf noglob) (viewOf d) (toTable d) q)) = .ok :=
  driver_model_meets_table_spec d (wellFormed_of_test h) noglob hq hne

end Fabio.Props.C13TableRep

/-! ### non-vacuity of `model_meets_table_spec`: the dump of the documented table (seeded m11's input)

It stands in this file because `Ex.rep` is `toTable_represents` applied to the dump. -/

namespace Fabio.Props.C13TableSpec.Ex
open Fabio Fabio.Model Fabio.Model.C13Table Fabio.Props.C13TableRep

def redirectT : C13.RTarget := { url := { scheme := C13.lit "https", host := C13.lit "example.com$path" }, code := 301 }
def appT (n : String) : C13.RTarget := { url := { scheme := C13.lit "http", host := C13.lit n, path := C13.lit "/" } }

/-- `example.com:80/ → https://example.com$path (301)`, `example.com/ → app`, `/ → other` -/
def D : DTable :=
  [(C13.lit "example.com", [{ path := C13.lit "/", tgt := appT "10.0.0.1:8080", up := some 1 }]),
   (C13.lit "example.com:80", [{ path := C13.lit "/", tgt := redirectT }]),
   ([], [{ path := C13.lit "/", tgt := appT "10.0.0.2:9090", up := some 2 }])]

/-- `GET /app?x=1`, `Host: example.com`, plain connection, `X-Forwarded-Proto: https` -/
def Q : CReq := (mkReq (C13.lit "example.com") (C13.lit "/app?x=1") (C13.lit "https") false).get (by decide)

theorem D_passes_test : wellFormedB D = true := by
  unfold D appT redirectT
  simp only [Model.C13.lit, toList_lit rfl]; decide +kernel

example : wellFormedB C13TableSpec.Ex.D = true := D_passes_test

theorem wf : WellFormed D := wellFormed_of_test D_passes_test

theorem rep : Represents D (toTable D) (viewOf D) := toTable_represents D wf.nodup

theorem reqOf : ReqOf Q (C13.lit "example.com") false := mkReq_reqOf (xfp := C13.lit "https") (target := C13.lit "/app?x=1") (Option.some_get _).symm

/-- the hypotheses of `model_meets_table_spec` hold on the example, with host globs off and on -/
example (noglob : Bool) : specAnswered D noglob Q (C13.lit "example.com") (observed (viewOf D) (Lookup (cfgOf noglob) (viewOf D) (toTable D) Q)) = .ok :=
  model_meets_table_spec rep wf reqOf (by simp only [Model.C13.lit, toList_lit rfl]; decide +kernel)

/-- the redirect under `example.com:80` is skipped and `example.com` answers (upstream 1), not the host-less route -/
example : (selectRoute D true Q).map (·.up) = some (some 1) ∧ (selectRoute D false Q).map (·.up) = some (some 1) := by
  unfold D Q appT redirectT
  simp only [Model.C13.lit, toList_lit rfl]; decide +kernel

/-- the observation seeded m11 produced (the host-less route's upstream answered) is rejected by the specification -/
example : specAnswered D true Q (C13.lit "example.com")
    { noRoute := false, explains := fun r => r.up == some 2 } = .nextHostNotTried := by
  unfold D Q appT redirectT
  simp only [Model.C13.lit, toList_lit rfl]; decide +kernel

end Fabio.Props.C13TableSpec.Ex
