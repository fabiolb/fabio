import Fabio.Generated.C04
import Fabio.Model.Route
/-!
C04 — the tie by translation for `contains` (`route/route.go`), the tag matcher behind `route weight … tags`
and `route del … tags`. `Fabio.Generated.C04.XContains` is produced on every run from the current Go source by
`tools/factgen/xlate.go`; below it is proved equal, for all inputs, to the function the model uses
(`Model.Route.containsAll`: every element of `dst` occurs in `src` — a list read as a set, repeated elements
and the lengths of the lists are irrelevant). Go strings are byte lists in the translation and character lists
in the model: `containsAll` is the instance at `List Char` of the polymorphic `fun src dst => dst.all
(src.contains ·)`, the theorem is about the instance at `List UInt8`.

Part of the change detectors (imported by `Props/C04Pins.lean`, the `pins_module`): when `contains` is rewritten so that this proof no longer goes
through, the check widens the streams (which compare `route weight`/`route del` over tag lists with repeated,
missing and surplus tags against the model) instead of claiming a violation.
-/
namespace Fabio.Props.C04Pins.Xlate
open Fabio.Xlate Fabio.Generated.C04 Fabio.Generated.C04.XContains

/-- the model's function at the translation's string type -/
def containsAllB (src dst : List Bytes) : Bool := dst.all (fun d => src.contains d)

theorem model_containsAll (src dst : List Fabio.Model.Route.Str) :
    Fabio.Model.Route.containsAll src dst = dst.all (fun d => src.contains d) := rfl

/-- the inner loop `for _, s := range src { if s == d { found = true; break } }` -/
theorem inner (xs : List Bytes) : ∀ (k : Nat) (s : St),
    ∃ s', forEachL (fun _ x s => { s with l2 := x }) loop1Body xs k s = .next s' ∧
      s'.p0 = s.p0 ∧ s'.p1 = s.p1 ∧ s'.l0 = s.l0 ∧ s'.l1 = (s.l1 || xs.contains s.l0) := by
  induction xs with
  | nil => intro k s; exact ⟨s, rfl, rfl, rfl, rfl, by simp⟩
  | cons x xs ih =>
    intro k s
    by_cases h : x == s.l0
    · refine ⟨{ s with l2 := x, l1 := true }, ?_, rfl, rfl, rfl, ?_⟩
      · simp [forEachL, loop1Body, ifS, seq, assign, brk, h]
      · have e : s.l0 = x := (beq_iff_eq.mp h).symm
        simp [e]
    · obtain ⟨s', h1, h2, h3, h4, h5⟩ := ih (k+1) { s with l2 := x }
      refine ⟨s', ?_, h2, h3, h4, ?_⟩
      · simp only [forEachL, loop1Body, ifS, skip, h]
        exact h1
      · rw [h5]
        have ne : ¬ s.l0 = x := fun e => h (by rw [e]; exact beq_self_eq_true _)
        simp [ne]

/-- one round of the outer loop: on to the next element if `src` contains `d`, else `return false` -/
theorem outerBody (s : St) :
    ∃ s', loop0Body s = (if s.p0.contains s.l0 then .next s' else .ret false s') ∧ s'.p0 = s.p0 ∧ s'.p1 = s.p1 := by
  obtain ⟨s', h1, h2, h3, _, h5⟩ := inner s.p0 0 { s with l1 := false }
  simp only [Bool.false_or] at h5
  refine ⟨s', ?_, h2, h3⟩
  simp only [loop0Body, seq, assign, forEach, loop1List, h1, ifS, ret, skip]
  rw [h5]
  cases s.p0.contains s.l0 <;> rfl

/-- the outer loop `for _, d := range dst { …; if !found { return false } }` -/
theorem outer (ds : List Bytes) : ∀ (k : Nat) (s : St),
    ∃ s', forEachL (fun _ x s => { s with l0 := x }) loop0Body ds k s =
      (if ds.all (fun d => s.p0.contains d) then .next s' else .ret false s') := by
  induction ds with
  | nil => intro k s; exact ⟨s, rfl⟩
  | cons d ds ih =>
    intro k s
    obtain ⟨s1, e1, e2, _⟩ := outerBody { s with l0 := d }
    simp only at e1 e2
    cases hc : s.p0.contains d with
    | false =>
      rw [hc] at e1
      exact ⟨s1, by simp only [forEachL, e1, List.all_cons, hc, Bool.false_and]; rfl⟩
    | true =>
      rw [hc] at e1
      obtain ⟨s', hs'⟩ := ih (k+1) s1
      rw [e2] at hs'
      exact ⟨s', by simp only [forEachL, e1, List.all_cons, hc, Bool.true_and]; exact hs'⟩

/-- The `contains` translated from the current source is the model's `containsAll`, for every input, and it never
panics. -/
theorem xcontains_eq (src dst : List Bytes) :
    ∃ s, XContains.run { p0 := src, p1 := dst } = .ok (containsAllB src dst, s) := by
  unfold XContains.run Fabio.Xlate.run body containsAllB
  obtain ⟨s', hs'⟩ := outer dst 0 ({ p0 := src, p1 := dst } : St)
  simp only at hs'
  cases hall : dst.all (fun d => src.contains d) with
  | true =>
    rw [hall] at hs'
    exact ⟨s', by simp only [seq, forEach, loop0List, hs', ret]; rfl⟩
  | false =>
    rw [hall] at hs'
    exact ⟨s', by simp only [seq, forEach, loop0List, hs']; rfl⟩

/-- repeated tags and a list longer than the target's own do not matter -/
example : ∃ s, XContains.run { p0 := [[98], [99]], p1 := [[98], [98], [98]] } = .ok (true, s) := ⟨_, rfl⟩
example : ∃ s, XContains.run { p0 := [[98], [99]], p1 := [[98], [97]] } = .ok (false, s) := ⟨_, rfl⟩
example : XContains.translated = true := rfl

/-- nothing of `contains` was left untranslated (a construct outside the translator's subset would be listed) -/
theorem xlate_everything_translated : Fabio.Generated.C04.xlateNotes = [] := by decide

end Fabio.Props.C04Pins.Xlate
