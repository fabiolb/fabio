import Fabio.Generated.C12
/-!
CHANGE DETECTORS for C12 (`"pins_module"` in checks/C12.json): the shape of sequential, deterministic code whose
input/output behaviour a correspondence stream compares with the model on every run. When one of these stops
building nothing is claimed broken — the streams run at the widened budget with a second seed and decide. Each
line names the stream that carries the tie.
-/
namespace Fabio.Props.C12Pins
open Fabio Fabio.Generated.C12

/-- the literal event lists of the five entry points — `c12.gate`, `c12.multi` (HTTP, TCP, SNI, dynamic TCP) and
`c12.grpc` compare reply and upstream counters with `runGate` / `serveHTTP` / `serveTCP` on these very orders -/
theorem orders_pinned :
    httpOrder = ["lookup", "access", "auth", "redirect", "upstream"] ∧
    tcpOrder = ["lookup", "access", "upstream"] ∧ sniOrder = ["lookup", "access", "upstream"] ∧
    dynOrder = ["lookup", "access", "upstream"] ∧ grpcOrder = ["lookup", "access", "auth", "upstream"] :=
  ⟨rfl, rfl, rfl, rfl, rfl⟩

/-- 403 / 401 / PermissionDenied — `c12.gate`, `c12.multi` (status seen by the client), `c12.grpc` (status code) -/
theorem statuses_pinned :
    httpDeniedStatus = "403" ∧ httpUnauthorizedStatus = "401" ∧ grpcDeniedCode = "PermissionDenied" :=
  ⟨rfl, rfl, rfl⟩

/-- `defer <conn>.Close()` ahead of every return of the three `ServeTCP` — `c12.gate` / `c12.multi` wait for the
end of the connection (outcome `closed`; a connection left open runs into the client's deadline) -/
theorem tcp_defer_close : (tcpDeferClose && sniDeferClose && dynDeferClose) = true := rfl

/-- `AccessDeniedTCP` decides by calling `AccessDeniedAddr`, the function the gRPC interceptor uses — `c12.tcp`
and `c12.grpc` compare both with the same model function `accessDeniedTCP` -/
theorem tcp_and_grpc_share_decision : tcpDelegatesToAddr = true := rfl

/-- the auth scheme type: a string and the htpasswd file handle; `Authorized` calls `BasicAuth`, `Header`, `Set`,
`Match`, and — since the repair of D32 — `recover` and `log.Printf` in a deferred guard around `Match` — `c12.auth`, `c12.authseq` (histories on one long-lived instance), `c12.gate`, `c12.grpc` -/
theorem auth_scheme_shape_pinned :
    authSchemeTypes = 1 ∧ authSchemeFieldTypes = ["*htpasswd.File", "string"] ∧
    authorizedCallees = ["BasicAuth", "Header", "Match", "Printf", "Set", "recover"] :=
  ⟨rfl, rfl, rfl⟩

/-- the keys of the rule map — `c12.decide` compares the dumped map (the hook reads the same constants) -/
theorem tags_pinned : ipAllowTag = "allow:ip" ∧ ipDenyTag = "deny:ip" := ⟨rfl, rfl⟩

/-- `addTarget` processes the options of every target, and the functions storing into the rule map are the item
parser and the fail-closed helper — `c12.decide`, `c12.tcp`, `c12.race` build every target through `addTarget`
and compare the rule map it leaves -/
theorem add_target_processes_rules :
    addTargetProcessesRules = true ∧ ruleMapWriters = ["denyAll", "parseAccessRule"] := ⟨rfl, rfl⟩

/-- every error return of `ProcessAccessRules` is directly preceded by the installation of an allow list without
blocks (D16) — `c12.decide` / `c12.tcp` / `c12.gate` / `c12.grpc` / `c12.multi`: malformed options of every error
class at every position of the list, judged by "denies everybody" -/
theorem process_fails_closed :
    processErrorReturns = processErrorReturnsFailClosed ∧ 0 < processErrorReturns ∧
    denyAllInstallsEmptyAllowList = true := ⟨rfl, by decide, rfl⟩

end Fabio.Props.C12Pins
