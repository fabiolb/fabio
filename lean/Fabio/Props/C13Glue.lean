import Fabio.Model.C13Glue
import Fabio.Lemmas.Lit
import Fabio.Lemmas.C13
import Fabio.Props.C13
/-!
C13 — the glue around the redirect core: property theorems (core Lean only). `ServeHTTP` as a decision
(`Model.C13.serve`/`handle`): a redirect target that passes the two gates is answered *whatever* the `Upgrade` /
`Accept` headers say, and an upstream is contacted only for a target without a redirect code. The `urlprefix-` tag
option loop of `registry/consul/routecmd.go` (`Model.C13.tagCmd`): every option of the tag is passed on to the route
command wherever it stands relative to `redirect=<code>,<url>`, and `parseOpts` reads it back.
-/
namespace Fabio.Props.C13Glue
open Fabio Fabio.Model.C13

/-- **A redirect target that passes the gates is answered by the redirect — the request headers that choose
between the websocket, the SSE and the plain upstream handler are not consulted.** -/
theorem redirect_answered_whatever_the_headers (t : RTarget) (u : URL) (upgrade accept : Str) (hc : t.code ≠ 0) :
    serve (some (t, some u)) false true upgrade accept = .redirect t.code (hexEscapeNonASCII (urlString u)) := by
  simp [serve, hc]

/-- **No upstream is contacted for a redirect target**, admitted or not, whatever the headers. -/
theorem redirect_target_contacts_no_upstream (t : RTarget) (u : URL) (denied authorized : Bool) (upgrade accept : Str)
    (hc : t.code ≠ 0) :
    (serve (some (t, some u)) denied authorized upgrade accept).contactsUpstream = false := by
  cases denied <;> cases authorized <;> simp [serve, hc, Served.contactsUpstream]

theorem lookupLoop_shape (scheme : Str) (req : URL) (cands : List (Option RTarget)) (t : RTarget) (ru : Option URL)
    (h : lookupLoop scheme req cands = some (t, ru)) :
    (t.code = 0 ∧ ru = none) ∨ (t.code ≠ 0 ∧ ru = some (buildRedirectURL t req) ∧ selfRedirect (buildRedirectURL t req) scheme req = false) := by
  induction cands with
  | nil => simp [lookupLoop] at h
  | cons c rest ih =>
    cases c with
    | none => simp only [lookupLoop] at h; exact ih h
    | some t' =>
      rw [Lemmas.C13.lookupLoop_cons_some] at h
      split at h
      · exact ih h
      · next hs =>
        cases h
        by_cases hc : t.code = 0
        · exact Or.inl ⟨hc, if_neg (fun h => h hc)⟩
        · exact Or.inr ⟨hc, if_pos hc, by simpa [Lemmas.C13.skipped, hc] using hs⟩

/-- **An upstream is contacted only on behalf of a target without a redirect code** — `Lookup` and `ServeHTTP`
composed, for every candidate list, every verdict of the gates and every header combination. -/
theorem upstream_only_for_plain_targets (scheme : Str) (req : URL) (cands : List (Option RTarget))
    (gate : RTarget → Bool × Bool) (upgrade accept : Str) (v : Via)
    (h : handle scheme req cands gate upgrade accept = .upstream v) :
    ∃ t, lookup scheme req cands = some (t, none) ∧ t.code = 0 := by
  unfold handle at h
  cases hl : lookup scheme req cands with
  | none => simp [hl, serve] at h
  | some p =>
    obtain ⟨t, ru⟩ := p
    rcases lookupLoop_shape scheme req cands t ru hl with ⟨h0, rfl⟩ | ⟨hc, rfl, _⟩
    · exact ⟨t, rfl, h0⟩
    · have hn := redirect_target_contacts_no_upstream t (buildRedirectURL t req) (gate t).1 (gate t).2 upgrade accept hc
      simp only [hl] at h
      rw [h] at hn
      cases hn

/-- **The answer of a redirect route**: when `Lookup` selects a redirect target and the gates admit the request,
the client receives the target's code and the Location `Model.C13.answer` states — for every `Upgrade`/`Accept`. -/
theorem handle_redirect_is_answer (scheme : Str) (req : URL) (cands : List (Option RTarget))
    (gate : RTarget → Bool × Bool) (upgrade accept : Str) (t : RTarget) (u : URL)
    (hl : lookup scheme req cands = some (t, some u)) (hg : gate t = (false, true)) :
    some (handle scheme req cands gate upgrade accept) =
      (answer scheme req cands).map (fun a => Served.redirect a.1 a.2) := by
  have hc : t.code ≠ 0 := by
    rcases lookupLoop_shape scheme req cands t (some u) hl with ⟨_, h⟩ | ⟨hc, _, _⟩
    · cases h
    · exact hc
  simp [handle, answer, hl, hg, serve, hc]

/-- the gates come first: a denied request gets 403, an unauthorised one 401, redirect route or not (as coded) -/
theorem gates_precede_redirect (sel : RTarget × Option URL) (upgrade accept : Str) :
    serve (some sel) true true upgrade accept = .forbidden ∧ serve (some sel) false false upgrade accept = .unauthorized := by
  obtain ⟨t, ru⟩ := sel
  simp [serve]

/-- non-vacuity: the seeded change m8's input on the model — a websocket upgrade request to a redirect route -/
example :
    let t : RTarget := { url := { scheme := lit "https", host := lit "$host$path" }, code := 301 }
    let req : URL := { host := lit "a.com", path := lit "/ws" }
    handle (lit "http") req [some t] (fun _ => (false, true)) (lit "WebSocket") [] = .redirect 301 (lit "https://a.com/ws") ∧
    handle (lit "http") req [some t] (fun _ => (false, true)) [] (lit "text/event-stream") = .redirect 301 (lit "https://a.com/ws") ∧
    -- a plain target with the same headers is proxied through the websocket / SSE handler
    handle (lit "http") req [some { t with code := 0 }] (fun _ => (false, true)) (lit "WebSocket") [] = .upstream .websocket ∧
    handle (lit "http") req [some { t with code := 0 }] (fun _ => (false, true)) [] (lit "text/event-stream") = .upstream .sse := by simp only [Model.C13.lit, toList_lit rfl]; decide +kernel

theorem tagStep_eq (addr : Str) (a : TagCmd) (o : Str) :
    (tagStep addr a o).ropts = a.ropts ++ (passedOn o).toList ∧ (tagStep addr a o).dst = (selectsDst addr o).getD a.dst := by
  unfold tagStep passedOn selectsDst
  split
  · simp
  · split
    · simp
    · split
      · split <;> simp
      · simp

theorem foldl_tagStep_ropts (addr : Str) (fs : List Str) (a : TagCmd) :
    (fs.foldl (tagStep addr) a).ropts = a.ropts ++ fs.filterMap passedOn := by
  induction fs generalizing a with
  | nil => simp
  | cons o os ih =>
    simp only [List.foldl_cons, ih, (tagStep_eq addr a o).1, List.filterMap_cons]
    cases passedOn o <;> simp

/-- **Every option of the tag is passed on, in order, wherever it stands relative to `redirect=`**: the option
text of the route command is the tag's fields, minus the `proto=`/`weight=` fields the loop consumes and the
malformed `redirect=` fields it skips, with `redirect=<code>,<url>` shortened to `redirect=<code>`. -/
theorem tag_options_passed_on (addr opts : Str) :
    (tagCmd addr opts).ropts = (fields opts).filterMap passedOn := by
  simp [tagCmd, foldl_tagStep_ropts]

theorem foldl_tagStep_dst (addr : Str) (fs : List Str) (a : TagCmd) :
    (fs.foldl (tagStep addr) a).dst = ((fs.filterMap (selectsDst addr)).getLast?).getD a.dst := by
  induction fs generalizing a with
  | nil => simp
  | cons o os ih =>
    simp only [List.foldl_cons, ih, (tagStep_eq addr a o).2, List.filterMap_cons]
    cases selectsDst addr o with
    | none => simp
    | some d => simp [List.getLast?_cons]

/-- **The destination of the route command is the one the last destination-selecting field names** (a
`redirect=<code>,<url>` field selects `<url>`, a `proto=` field the service address with that scheme); without
such a field it is `http://addr/`. -/
theorem tag_destination (addr opts : Str) :
    (tagCmd addr opts).dst = (((fields opts).filterMap (selectsDst addr)).getLast?).getD (lit "http://" ++ addr ++ lit "/") := by
  simp [tagCmd, foldl_tagStep_dst]

def ovStep (key : Str) (cur f : Str) : Str := if (keyVal f).1 == key then (keyVal f).2 else cur

theorem optValue_eq_foldl (key : Str) (L : List Str) : optValue key L = L.foldl (ovStep key) [] := rfl

theorem optValue_foldl (key v : Str) (L : List Str) (cur : Str)
    (h : ∀ o ∈ L, (keyVal o).1 = key → (keyVal o).2 = v) :
    L.foldl (ovStep key) cur = if L.any (fun o => (keyVal o).1 == key) then v else cur := by
  induction L generalizing cur with
  | nil => simp
  | cons o os ih =>
    simp only [List.foldl_cons, ih _ (fun o' ho' => h o' (by simp [ho'])), List.any_cons, ovStep]
    by_cases hk : (keyVal o).1 = key
    · simp [hk, h o (by simp) hk]
    · simp [hk]

/-- **An option of the tag reaches the target whatever its position**: a field `key=v` that the loop passes on
unchanged, the only passed-on field with that key, is read back by `parseOpts` as `v` — before or after
`redirect=`, first or last (`strip=`, `prepend=` in particular). -/
theorem tag_option_reaches_target (addr opts o key v : Str)
    (ho : o ∈ fields opts) (hp : passedOn o = some o) (hk : keyVal o = (key, v))
    (huniq : ∀ o' ∈ (fields opts).filterMap passedOn, (keyVal o').1 = key → o' = o) :
    optValue key (tagCmd addr opts).ropts = v := by
  rw [tag_options_passed_on, optValue_eq_foldl, optValue_foldl key v _ []]
  · have : ((fields opts).filterMap passedOn).any (fun o => (keyVal o).1 == key) = true := by
      simp only [List.any_eq_true, beq_iff_eq]
      exact ⟨o, by simp only [List.mem_filterMap]; exact ⟨o, ho, hp⟩, by rw [hk]⟩
    simp [this]
  · intro o' ho' hk'
    rw [huniq o' ho' hk', hk]

/-- non-vacuity (the tags of the documentation and of the seeded change m4): `strip=` written *before*
`redirect=` reaches the target, the code and the URL are the redirect field's -/
example :
    let addr := lit "10.0.0.1:8080"
    tagTarget addr (lit "redirect=301,https://www.example.com$path") =
      { dst := lit "https://www.example.com$path", strip := [], prepend := [], code := 301 } ∧
    tagTarget addr (lit "strip=/old redirect=301,https://new.example.com$path") =
      { dst := lit "https://new.example.com$path", strip := lit "/old", prepend := [], code := 301 } ∧
    tagTarget addr (lit "redirect=302,https://new.example.com$path  prepend=/p strip=/old") =
      { dst := lit "https://new.example.com$path", strip := lit "/old", prepend := lit "/p", code := 302 } ∧
    -- a malformed redirect field is skipped: an ordinary proxied route
    tagTarget addr (lit "strip=/old redirect=301") = { dst := lit "http://10.0.0.1:8080/", strip := lit "/old", prepend := [], code := 0 } ∧
    tagSpec (lit "strip=/old redirect=301,https://new.example.com$path") (lit "/old") [] 301 = true ∧
    -- the seeded change m4 (options before `redirect=` dropped) fails the specification
    tagSpec (lit "strip=/old redirect=301,https://new.example.com$path") [] [] 301 = false := by simp only [Model.C13.lit, toList_lit rfl]; decide +kernel

example : fields (lit "  a=1 \t b  c=2\n") = [lit "a=1", lit "b", lit "c=2"] := by simp only [Model.C13.lit, toList_lit rfl]; decide +kernel
example :
    let o := lit "strip=/old"
    o ∈ fields (lit "strip=/old redirect=301,https://x$path") ∧ passedOn o = some o ∧ keyVal o = (lit "strip", lit "/old") := by simp only [Model.C13.lit, toList_lit rfl]; decide +kernel

/-! The keys the loop tests for, as byte lists: the case analyses below compare bytes and never decode a string literal. -/

theorem kRedirect_eq : kRedirect = [114, 101, 100, 105, 114, 101, 99, 116, 61] := by
  unfold kRedirect; simp only [Model.C13.lit, toList_lit rfl]; decide +kernel
theorem litRedirect_eq : lit "redirect" = [114, 101, 100, 105, 114, 101, 99, 116] := by simp only [Model.C13.lit, toList_lit rfl]; decide +kernel

theorem keyVal_redirect (code : Str) : keyVal (kRedirect ++ code) = (lit "redirect", code) := by
  rw [kRedirect_eq, litRedirect_eq]
  simp [keyVal, cut]

theorem key_redirect_cases (o : Str) (h : (keyVal o).1 = lit "redirect") :
    o = lit "redirect" ∨ hasPrefix o kRedirect = true := by
  have hs := Lemmas.C13.cut_spec 61 o
  have hk : (cut 61 o).1 = lit "redirect" := by simpa [keyVal] using h
  by_cases hf : (cut 61 o).2.2 = true
  · right
    simp only [hf, if_true, hk] at hs
    rw [hs, kRedirect_eq, litRedirect_eq]
    simp [hasPrefix, List.isPrefixOf]
  · left
    simp only [hf, Bool.false_eq_true, if_false, hk] at hs
    exact hs

/-! No field is two of the three consumed kinds: a redirect field starts with `r`, `weight=` with `w`, every `proto=` key with `p`. -/

theorem head_of_redirect (o : Str) (h : hasPrefix o kRedirect = true) : o.head? = some 114 :=
  Lemmas.C13.head?_of_hasPrefix h (by rw [kRedirect_eq]; rfl)

theorem not_weight_of_redirect (o : Str) (h : hasPrefix o kRedirect = true) : hasPrefix o kWeight = false :=
  Lemmas.C13.hasPrefix_eq_false_of_head (b := 119) (head_of_redirect o h)
    (by simp only [kWeight, Model.C13.lit, toList_lit rfl]; decide +kernel) (by decide)

theorem lookup_none_of_redirect (o : Str) (h : hasPrefix o kRedirect = true) : protoSchemes.lookup o = none :=
  Lemmas.C13.lookup_none_of_head protoSchemes o 112
    (by simp only [protoSchemes, Model.C13.lit, toList_lit rfl]; decide +kernel) (by rw [head_of_redirect o h]; decide)

/-- The four kinds of field: an ordinary option, passed on as it is; a `proto=…`/`weight=` field, consumed; a
well-formed `redirect=<code>,<url>`, passed on as `redirect=<code>`; any other `redirect=…` field, skipped. -/
theorem passedOn_cases (o : Str) :
    (plainP o = true ∧ passedOn o = some o ∧ hasPrefix o kRedirect = false) ∨
    (plainP o = false ∧ passedOn o = none ∧ hasPrefix o kRedirect = false) ∨
    (plainP o = false ∧ hasPrefix o kRedirect = true ∧
      ∃ code url, splitComma (o.drop kRedirect.length) = [code, url] ∧ passedOn o = some (kRedirect ++ code)) ∨
    (plainP o = false ∧ hasPrefix o kRedirect = true ∧ passedOn o = none ∧
      ∀ code url, splitComma (o.drop kRedirect.length) ≠ [code, url]) := by
  by_cases hr : hasPrefix o kRedirect = true
  · have hl := lookup_none_of_redirect o hr
    have hw := not_weight_of_redirect o hr
    have hp : plainP o = false := by simp [plainP, hr]
    right; right
    unfold passedOn
    simp only [hl, hw, hr, Bool.false_eq_true, if_false, if_true]
    split
    · rename_i code url hsp; exact Or.inl ⟨hp, trivial, code, url, hsp, rfl⟩
    · rename_i hsp; exact Or.inr ⟨hp, trivial, rfl, hsp⟩
  · have hr' : hasPrefix o kRedirect = false := by simpa using hr
    cases hl : protoSchemes.lookup o with
    | some v => right; left; exact ⟨by simp [plainP, hl], by simp [passedOn, hl], hr'⟩
    | none =>
      by_cases hw : hasPrefix o kWeight = true
      · right; left; exact ⟨by simp [plainP, hw], by simp [passedOn, hl, hw], hr'⟩
      · have hw' : hasPrefix o kWeight = false := by simpa using hw
        left; exact ⟨by simp [plainP, hl, hw', hr'], by simp [passedOn, hl, hw', hr'], hr'⟩

/-- the `redirect=<code>` entries the loop inserts have another key -/
theorem foldl_passedOn_plain (key : Str) (hk : key ≠ lit "redirect") (fs : List Str) (cur : Str) :
    (fs.filterMap passedOn).foldl (ovStep key) cur = (fs.filter plainP).foldl (ovStep key) cur := by
  induction fs generalizing cur with
  | nil => rfl
  | cons o os ih =>
    rcases passedOn_cases o with ⟨hp, hpo, _⟩ | ⟨hp, hpo, _⟩ | ⟨hp, _, code, url, _, hpo⟩ | ⟨hp, _, hpo, _⟩
    · simp only [List.filterMap_cons, hpo, List.filter_cons, hp, if_true, List.foldl_cons, ih]
    · simp only [List.filterMap_cons, hpo, List.filter_cons, hp, Bool.false_eq_true, if_false, ih]
    · have : ovStep key cur (kRedirect ++ code) = cur := by
        have hne : (lit "redirect" == key) = false := beq_false_of_ne (fun e => hk e.symm)
        simp [ovStep, keyVal_redirect, hne]
      simp only [List.filterMap_cons, hpo, List.filter_cons, hp, Bool.false_eq_true, if_false, List.foldl_cons, this, ih]
    · simp only [List.filterMap_cons, hpo, List.filter_cons, hp, Bool.false_eq_true, if_false, ih]

def codeOf : Option (Str × Str) → Str
  | none => []
  | some (c, _) => c

/-- the step of `lastRedirectField` (its anonymous function, named so that statements can speak of one step) -/
def lrStep (cur : Option (Str × Str)) (o : Str) : Option (Str × Str) :=
  if hasPrefix o kRedirect then
    match splitComma (o.drop kRedirect.length) with
    | [code, url] => some (code, url)
    | _ => cur
  else cur

theorem lastRedirectField_eq_foldl (fs : List Str) : lastRedirectField fs = fs.foldl lrStep none := rfl

/-- `hb`: a bare field `redirect` would be an option of that name with an empty value -/
theorem foldl_passedOn_redirect (fs : List Str) (hb : lit "redirect" ∉ fs) (cur : Option (Str × Str)) :
    (fs.filterMap passedOn).foldl (ovStep (lit "redirect")) (codeOf cur) = codeOf (fs.foldl lrStep cur) := by
  induction fs generalizing cur with
  | nil => rfl
  | cons o os ih =>
    have hb' : lit "redirect" ∉ os := fun h => hb (by simp [h])
    have ho : o ≠ lit "redirect" := fun h => hb (by simp [h])
    rcases passedOn_cases o with ⟨hp, hpo, hr⟩ | ⟨hp, hpo, hr⟩ | ⟨hp, hr, code, url, hsp, hpo⟩ | ⟨hp, hr, hpo, hsp⟩
    · -- a plain field: its key is not `redirect`
      have hkey : ((keyVal o).1 == lit "redirect") = false := by
        apply beq_false_of_ne
        intro e
        rcases key_redirect_cases o e with h | h
        · exact ho h
        · rw [hr] at h; cases h
      have h1 : ovStep (lit "redirect") (codeOf cur) o = codeOf cur := by simp [ovStep, hkey]
      have h2 : lrStep cur o = cur := by simp [lrStep, hr]
      simp only [List.filterMap_cons, hpo, List.foldl_cons, h1, h2, ih hb' cur]
    · have h2 : lrStep cur o = cur := by simp [lrStep, hr]
      simp only [List.filterMap_cons, hpo, List.foldl_cons, h2, ih hb' cur]
    · have h1 : ovStep (lit "redirect") (codeOf cur) (kRedirect ++ code) = codeOf (some (code, url)) := by
        simp [ovStep, keyVal_redirect, codeOf]
      have h2 : lrStep cur o = some (code, url) := by simp [lrStep, hr, hsp]
      simp only [List.filterMap_cons, hpo, List.foldl_cons, h1, h2, ih hb' (some (code, url))]
    · have h2 : lrStep cur o = cur := by
        unfold lrStep
        rw [if_pos hr]
        split
        · rename_i c u heq; exact absurd heq (hsp c u)
        · rfl
      simp only [List.filterMap_cons, hpo, List.foldl_cons, h2, ih hb' cur]

theorem optValue_ropts_plain (addr opts key : Str) (hk : key ≠ lit "redirect") :
    optValue key (tagCmd addr opts).ropts = lastPlainValue key (fields opts) := by
  simp only [lastPlainValue, tag_options_passed_on, optValue_eq_foldl, foldl_passedOn_plain _ hk]

theorem optValue_ropts_redirect (addr opts : Str) (hb : lit "redirect" ∉ fields opts) :
    optValue (lit "redirect") (tagCmd addr opts).ropts = codeOf (lastRedirectField (fields opts)) := by
  rw [tag_options_passed_on, optValue_eq_foldl, lastRedirectField_eq_foldl]
  exact foldl_passedOn_redirect (fields opts) hb none

/-- **The model of the tag loop meets the tag specification**: for every service address and every option text
without a bare `redirect` field, the target `routecmd.build` + `parseOpts` + `addTarget` configure carries the
tag's last plain `strip=` and `prepend=` values wherever they stand relative to `redirect=<code>,<url>`, and its
status is the configured code of the last well-formed redirect field.
**Partial**: nothing is claimed for a tag with a bare `redirect` field. `tagSpec` is `true` on such a tag whatever the
target, so `hb` only names the tags on which the conclusion says something. There the code misbehaves: the tag
`urlprefix-` + `/ redirect=301,https://x$path redirect` yields the options `redirect=301 redirect`, `parseOpts` lets the bare
word win with an empty value and the route is proxied to `https://x$path` (example below; replayed on the real code
from the corpus of `c13.tag`, class `proxied-bare-redirect-option`). -/
theorem tag_target_meets_spec_partial (addr opts : Str) (hb : lit "redirect" ∉ fields opts) :
    tagSpec opts (tagTarget addr opts).strip (tagTarget addr opts).prepend (tagTarget addr opts).code = true := by
  have hs : (lit "strip") ≠ lit "redirect" := by simp only [Model.C13.lit, toList_lit rfl]; decide +kernel
  have hp : (lit "prepend") ≠ lit "redirect" := by simp only [Model.C13.lit, toList_lit rfl]; decide +kernel
  have hc : (fields opts).contains (lit "redirect") = false := by
    simpa using hb
  unfold tagSpec
  simp only [hc, Bool.false_eq_true, if_false]
  have hr := optValue_ropts_redirect addr opts hb
  cases hl : lastRedirectField (fields opts) with
  | none => rfl
  | some p =>
    obtain ⟨c, u⟩ := p
    have e1 : (tagTarget addr opts).strip = lastPlainValue (lit "strip") (fields opts) := optValue_ropts_plain addr opts _ hs
    have e2 : (tagTarget addr opts).prepend = lastPlainValue (lit "prepend") (fields opts) := optValue_ropts_plain addr opts _ hp
    have e3 : (tagTarget addr opts).code = configuredCode c := by
      rw [hl] at hr
      show redirectCode (optValue (lit "redirect") (tagCmd addr opts).ropts) = _
      rw [hr]; exact Fabio.Props.C13.configured_status_is_the_code c
    simp [e1, e2, e3]

/-- the excluded point: a bare `redirect` after the redirect field switches the redirect off (as coded) -/
example :
    (tagTarget (lit "10.0.0.1:80") (lit "redirect=301,https://x$path redirect")).code = 0 ∧
    (tagCmd (lit "10.0.0.1:80") (lit "redirect=301,https://x$path redirect")).ropts = [lit "redirect=301", lit "redirect"] := by simp only [Model.C13.lit, toList_lit rfl]; decide +kernel

end Fabio.Props.C13Glue
