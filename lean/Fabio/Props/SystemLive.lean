import Fabio.Props.System
/-!
System-level composition, the "if" half: a healthy instance that advertises a prefix is *reachable*.

`System.forwarded_only_to_eligible_instance` is the "only if" direction (traffic reaches nobody else). Here the converse,
from C01Compose `table_complete` (every expressible routing tag of an eligible instance has its target in the service
table — whatever else is registered) and `Props.ServeHTTP.noroute_iff_no_candidate_of_table_noskip` (the completeness of C03's
`Lookup` on the unified model):

* `abs_nonempty_route`             — a member of an abstraction entry is a target of a stored route: `y ∈ abs t h p` gives a
                                     route with path `p` among `t.get h` that has `y` among its targets;
* `reachable_of_table_noskip`      — registry state R, an instance eligible in R, one of its routing tags that is expressible,
                                     with source (h, p): a request on which C13's self-redirect skip rejects no target
                                     stored in the table, whose host matches key `h` (as C03 defines it) and whose path
                                     matches `p` under the configured matcher, is NOT answered with the no-route page —
                                     it is routed (and then gated, redirected or forwarded by `serveHTTP`);
* `eligible_instance_is_reachable` — the same when the skip rejects no target at all (`skipFor pcfg r = fun _ => false`).
-/
namespace Fabio.Props.SystemLive
open Fabio Fabio.Model Fabio.Model.ServeHTTP
open Fabio.Model.Route (Env RouteDef Table Target Route findRoute)
open Fabio.Model.C05Spec (abs key newTarget targetsAt Inv)
open Fabio.Model.C01 Fabio.Model.C01Compose Fabio.Props.C01Compose
open Fabio.Model.C14 (Intent intents wantDef expressibleB)
open Fabio.Model.Parse (loadTable ParseFloat)

theorem abs_nonempty_route {t : Table} {h p : List Char} {y : Target} (hy : y ∈ abs t h p) :
    ∃ ro ∈ t.get h, ro.path = p ∧ y ∈ ro.targets :=
  Lemmas.Route.mem_targets_of_abs hy

section
variable (env : Env) (pf : ParseFloat) (ccfg : Fabio.Model.C14.Cfg) (st : List (List Char)) (strict : Bool)
variable (checks : List Check) (catalog : List Char → List Instance)

theorem reachable_of_table_noskip (wf : WellFormed ccfg checks catalog) (t : Table)
    (hload : loadTable env pf (svcText env pf ccfg st strict checks catalog) = .ok t)
    (i : Instance) (he : Eligible st strict checks catalog i)
    (it : Intent) (hit : it ∈ intents ccfg (regOf i)) (hx : expressibleB env pf it = true)
    (pcfg : ServeHTTP.Cfg) (hpick : Props.C03.PickOK pcfg.lookup.pick) (r : Request)
    (hskip : ∀ k, ∀ ro ∈ t.get k, ∀ tg ∈ ro.targets, skipFor pcfg r tg = false) :
    ∃ d, wantDef pf it = some d ∧
      (Props.C03.HostMatches { pcfg.lookup with skip := skipFor pcfg r } t (req03 r) (key d.src).1 ∨ (key d.src).1 = [] →
       pcfg.lookup.pathMatch (req03 r).path (key d.src).2 = true →
       serveHTTP pcfg t r ≠ .noRoute (C07.noRouteStatus pcfg.noRouteStatus) pcfg.noRouteHTML) := by
  obtain ⟨d, u, hw, _, y, hy, _⟩ :=
    table_complete env pf ccfg st strict checks catalog wf t hload i he it hit hx
  refine ⟨d, hw, fun hhost hpath hno => ?_⟩
  obtain ⟨ro, hro, hp, _⟩ := abs_nonempty_route hy
  exact (Props.ServeHTTP.noroute_iff_no_candidate_of_table_noskip pcfg t r hskip
      (Fabio.Props.C03Compose.built_loadTable (env := env) hload).noEmpty hpick).1 hno
    ⟨_, ro, hhost.symm, by rw [Fabio.Props.C03Compose.key_lower d.src]; exact hro, by rw [hp]; exact hpath⟩

theorem eligible_instance_is_reachable (wf : WellFormed ccfg checks catalog) (t : Table)
    (hload : loadTable env pf (svcText env pf ccfg st strict checks catalog) = .ok t)
    (i : Instance) (he : Eligible st strict checks catalog i)
    (it : Intent) (hit : it ∈ intents ccfg (regOf i)) (hx : expressibleB env pf it = true)
    (pcfg : ServeHTTP.Cfg) (hpick : Props.C03.PickOK pcfg.lookup.pick) (r : Request)
    (hskip : skipFor pcfg r = fun _ => false) :
    ∃ d, wantDef pf it = some d ∧
      (Props.C03.HostMatches { pcfg.lookup with skip := skipFor pcfg r } t (req03 r) (key d.src).1 ∨ (key d.src).1 = [] →
       pcfg.lookup.pathMatch (req03 r).path (key d.src).2 = true →
       serveHTTP pcfg t r ≠ .noRoute (C07.noRouteStatus pcfg.noRouteStatus) pcfg.noRouteHTML) :=
  reachable_of_table_noskip env pf ccfg st strict checks catalog wf t hload i he it hit hx pcfg hpick r
    fun _ _ _ tg _ => congrFun hskip tg

end

/-! ### non-vacuity: the two-node registry; a request for foo.com/x is routed -/
namespace Demo
open Fabio.Props.System.Demo (pcfgW reqW tableW)

example : serveHTTP pcfgW tableW reqW ≠ .noRoute (C07.noRouteStatus pcfgW.noRouteStatus) pcfgW.noRouteHTML := by
  intro h
  have := Props.System.Demo.forwardsW
  rw [h] at this
  cases this

end Demo

end Fabio.Props.SystemLive
