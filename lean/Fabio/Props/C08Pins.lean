import Fabio.Generated.C08
import Fabio.Model.C08
import Fabio.Lemmas.Lit
/-!
CHANGE DETECTORS for C08 (`"pins_module"` in checks/C08.json): the shape of the sequential, deterministic header
code whose input/output behaviour the correspondence streams compare with the model on every run. When one of
these stops building nothing is claimed broken — the streams run at the widened budget with a second seed and
decide. Each line names the stream that carries the tie.
-/
namespace Fabio.Props.C08Pins
open Fabio Fabio.Model.C08

def names (l : List Str) : List String := l.map String.ofList

/-- header names `addHeaders` (helpers inlined) reads and writes — `c08.unit` compares the whole header map -/
theorem addHeaders_names_pinned :
    Generated.C08.addHeadersNames =
      names [connection, forwarded, upgrade, xForwardedFor, xForwardedHost, xForwardedPort, xForwardedPrefix,
             xForwardedProto, xRealIp] := by
  unfold names connection forwarded upgrade xForwardedFor xForwardedHost xForwardedPort xForwardedPrefix xForwardedProto
    xRealIp
  simp only [List.map, String.ofList_toList]
  rfl

/-- the writes of `addHeaders` come in the order of the model's steps, the Connection protection (D12d) after
every header it protects — `c08.unit` (whole map, class `conn-names-managed`), `c08.serve`, `c08.hopbyhop` -/
theorem addHeaders_write_order :
    Generated.C08.addHeadersWrites =
      ["set:field:ClientIPHeader", "set:X-Real-Ip", "set:X-Forwarded-For", "set:X-Forwarded-Proto",
       "set:X-Forwarded-Port", "set:X-Forwarded-Host", "set:X-Forwarded-Prefix", "set:Forwarded",
       "set:field:TLSHeader", "del:field:TLSHeader", "del:Connection", "assign:Connection"] ∧
    Generated.C08.schemeWrites = [] ∧
    Generated.C08.responseWrites = ["set:Strict-Transport-Security"] := ⟨rfl, rfl, rfl⟩

/-- `c08.unit` (`scheme0` on every case) -/
theorem scheme_names_pinned : Generated.C08.schemeNames = names [forwarded, upgrade, xForwardedProto] := by
  unfold names forwarded upgrade xForwardedProto
  simp only [List.map, String.ofList_toList]
  rfl

/-- `c08.unit` (response header map), `c08.serve`, `c08.proxy` (what the client reads) -/
theorem response_names_pinned : Generated.C08.responseNames = names [stsName] := by
  unfold names stsName
  simp only [List.map, String.ofList_toList]
  rfl

/-- every literal header name is canonical, so map indexing and `Get/Set` hit the same entry — `c08.unit`
sends every name in several casings and compares the map -/
theorem header_literals_canonical :
    (Generated.C08.addHeadersNames ++ Generated.C08.schemeNames ++ Generated.C08.responseNames ++
      Generated.C08.managedHeaders).all
      (fun n => canonicalKey n.toList == n.toList) = true := by
  unfold Generated.C08.addHeadersNames Generated.C08.schemeNames Generated.C08.responseNames Generated.C08.managedHeaders
  simp only [List.all, List.cons_append, List.nil_append, toList_lit rfl]
  decide +kernel

/-- `c08.unit` / `c08.serve` configure `X-Forwarded-For`, `X-Real-Ip` (and lower-case spellings) as client-IP header -/
theorem clientip_excluded_pinned : Generated.C08.clientIPExcluded = names [xForwardedFor, xRealIp] := by
  unfold names xForwardedFor xRealIp
  simp only [List.map, String.ofList_toList]
  rfl

/-- `c08.unit`: Forwarded value compared literally (local IP, every r.Proto, TLS versions and ciphers) -/
theorem forwarded_pieces_pinned :
    Generated.C08.forwardedPieces = ["for=", "; proto=", "; by=", "; httpproto=", "; tlsver=", "; tlscipher="] := rfl

/-- `c08.unit`: max-age up to and beyond MaxInt32 (capped), both flags -/
theorem sts_pieces_pinned : Generated.C08.stsPieces = ["max-age=", "; includeSubdomains", "; preload"] := rfl

/-- `c08.unit` (`scheme0`) -/
theorem scheme_literals_pinned :
    Generated.C08.schemeLiterals = ["proto=", "websocket", "wss", "ws", "https", "http"] := rfl

/-- `c08.unit` / `c08.serve` draw the TLS version from 0x0300 … 0x0304, 0 and 0xffff: every row and both sides
of the table's edge on every run -/
theorem tlsver_pinned :
    Generated.C08.tlsverKeys = ["tls.VersionSSL30", "tls.VersionTLS10", "tls.VersionTLS11", "tls.VersionTLS12"] ∧
    Generated.C08.tlsverValues = names [tlsverName 0x0300, tlsverName 0x0301, tlsverName 0x0302, tlsverName 0x0303] := by
  refine ⟨rfl, ?_⟩
  unfold names tlsverName
  simp only [List.map, Nat.reduceBEq, if_true, Bool.false_eq_true, if_false, String.ofList_toList]
  rfl

/-- D12b and the handler choice: the three places that decide "this is a websocket upgrade" (`ServeHTTP`
choosing the tunnel, `addHeaders` adding X-Forwarded-For, `scheme` reporting ws/wss) apply the same
case-insensitive comparison to the same reading of the request (`Header.Get("Upgrade")`, the model's
`isWebsocket`) — `c08.serve` and `c08.proxy` send the token in every casing, inside lists, with blanks and on
second lines and compare handler and headers; `c08.unit` does the same for `addHeaders` / `scheme` -/
theorem websocket_test_same_at_all_sites :
    Generated.C08.wsCompareAddHeaders = ["fold:websocket"] ∧
    Generated.C08.wsCompareScheme = Generated.C08.wsCompareAddHeaders ∧
    Generated.C08.wsCompareServeHTTP = Generated.C08.wsCompareAddHeaders ∧
    Generated.C08.wsOperandAddHeaders = ["hdr.Get(Upgrade)"] ∧
    Generated.C08.wsOperandScheme = Generated.C08.wsOperandAddHeaders ∧
    Generated.C08.wsOperandServeHTTP = Generated.C08.wsOperandAddHeaders := ⟨rfl, rfl, rfl, rfl, rfl, rfl⟩

/-- D12d: the protected names and the token reading — `c08.unit` clause `connection`, `c08.serve` /
`c08.hopbyhop` class `conn-names-managed` (tokens drawn from all managed and configured names, any casing) -/
theorem protect_managed_headers_pinned :
    Generated.C08.managedHeaders = names (managedKeys {}) ∧
    Generated.C08.protectConfigFields = ["ClientIPHeader", "TLSHeader", "RequestID"] ∧
    Generated.C08.protectTokenKey = ["http.CanonicalHeaderKey(textproto.TrimString(_))"] := by
  refine ⟨?_, rfl, rfl⟩
  unfold names managedKeys forwarded xForwardedFor xForwardedHost xForwardedPort xForwardedPrefix xForwardedProto xRealIp
  simp only [List.filter, List.isEmpty, Bool.not_true, List.map, List.append_nil, String.ofList_toList]
  rfl

/-- D12: no assignment to the request's Host before `addHeaders(<request>, <receiver>.Config, <target>.StripPath)`
— `c08.serve` and `c08.proxy` run every `host=` option and compare X-Forwarded-Host / -Port and the upstream Host -/
theorem addHeaders_before_host_override :
    Generated.C08.hostAssignmentsBeforeAddHeaders = 0 ∧
    Generated.C08.addHeadersArgs = ["param1", "recv.Config", "local.StripPath"] := ⟨rfl, rfl⟩

/-- the request-id header is set before `addHeaders` runs — `c08.serve` / `c08.proxy` (request id configured in a
third of the cases, also under colliding names, class `config-collision`) -/
theorem requestid_before_addHeaders :
    Generated.C08.requestIDSets = 1 ∧ Generated.C08.requestIDSetsBeforeAddHeaders = 1 := ⟨rfl, rfl⟩

/-- every header field of `config.Proxy` is bound to its documented option, of the right kind, defaulting to the
default configuration, which sets none of them except `LocalIP` (`config/load.go`) — `c08.main` starts the real
executable with the options on the command line, in the environment and in a properties file (classes `/arg`,
`/env`, `/file`, `/defaults`) and compares what the upstream receives with `Model.C08.loadCfg` composed with
`serveHTTP` -/
theorem header_options_bound :
    Generated.C08.headerOptionBindings =
      ["proxy.header.clientip -> ClientIPHeader : String : default",
       "proxy.header.requestid -> RequestID : String : default",
       "proxy.header.sts.maxage -> STSHeader.MaxAge : Int : default",
       "proxy.header.sts.preload -> STSHeader.Preload : Bool : default",
       "proxy.header.sts.subdomains -> STSHeader.Subdomains : Bool : default",
       "proxy.header.tls -> TLSHeader : String : default",
       "proxy.header.tls.value -> TLSHeaderValue : String : default",
       "proxy.localip -> LocalIP : String : default"] ∧
    Generated.C08.headerDefaultsSet = ["LocalIP"] := ⟨rfl, rfl⟩

end Fabio.Props.C08Pins
