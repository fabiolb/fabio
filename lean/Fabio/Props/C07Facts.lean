import Fabio.Generated.C07
import Fabio.Model.C07
import Fabio.Lemmas.Lit
/-! OBLIGATIONS over the facts regenerated from `/repo` on every run: what the C07 proof chain relies on and no
correspondence stream could establish by running the code — the absence of effects (a stream watches its own
upstream; it cannot see a connection opened elsewhere, a header outside its universe deleted, a body consumed under
a configuration it does not sample), gates ahead of the handler, atomic operations, constants, and the wiring in
`main.go` that no harness executes. Each statement names the breaking change it stands against. Statements that
merely pin the shape of sequential code whose behaviour a stream compares with the model on every run are CHANGE
DETECTORS and live in `C07Pins.lean`. The facts are role-named events on the normalised AST (header of
tools/factgen/c07.go): renaming, extracting or inlining helpers, if/else ↔ switch and named constants do not change
them. -/
namespace Fabio.Props.C07Facts
open Fabio Fabio.Generated.C07

def idx (k : String) : Option Nat := (serveOrder.zipIdx.find? (·.1 = k)).map (·.2)

def before (a b : String) : Bool :=
  serveOrder.count a = 1 && serveOrder.count b = 1 &&
  match idx a, idx b with
  | some i, some j => i < j
  | _, _ => false

/-- Gates ahead of the handler: lookup → no-route return → access check → authorization → redirect answer, and
only then a handler is chosen and served (the only place where an upstream is dialled). Against: serving first
and judging the answer afterwards, or a gate moved behind the handler — the client-side answer of a stream would
be the same 403/401 while the upstream had already been contacted through a connection the stream's recorder
does not see (another target of the table, a mirror). The model's `Target` is "a target that passed the gates". -/
theorem gates_before_the_handler :
    before "lookup" "noroute-return" ∧ before "noroute-return" "access" ∧ before "access" "auth" ∧
    before "auth" "redirect" ∧ before "redirect" "handler-choice" ∧ before "handler-choice" "serve" := by decide +kernel

def noRouteAllowed : List String :=
  ["store status = recv.Config.NoRouteStatus", "store status = http.StatusNotFound", "call w.WriteHeader(status)",
   "store html = noroute.GetHTML()", "call io.WriteString(w, html)", "return"]

/-- "… without any upstream being contacted": the `target == nil` branch consists of nothing but reading the
configured status, the 404 fallback, `WriteHeader`, fetching the page, writing it, and `return` — no handler, no
transport, no dial, no other call (membership, not order: the order is compared by `c07.noroute`). The bounds and
the fallback are the model's constants. Against: a fallback upstream / mirror call added to the branch (a stream
sees only that *its* upstream was not hit), a bound edited to a value between two sampled statuses. -/
theorem noroute_contacts_nothing :
    noRouteLo = Model.C07.noRouteLo ∧ noRouteHi = Model.C07.noRouteHi ∧ noRouteDefault = Model.C07.statusNotFound ∧
    noRouteActions.all (noRouteAllowed.contains ·) = true ∧ noRouteActions.getLast? = some "return" ∧
    noRouteActions.contains "call w.WriteHeader(status)" = true ∧
    noRouteActions.contains "store html = noroute.GetHTML()" = true := by
  simp only [contains_toList, noRouteActions, noRouteAllowed, List.all, List.map, toList_lit rfl]
  decide +kernel

def directorAllowed : List String :=
  ["store out.URL.Scheme = turl.Scheme", "store out.URL.Host = turl.Host", "store out.URL.Path = turl.Path",
   "store out.URL.RawPath = turl.RawPath", "store out.URL.RawQuery = turl.RawQuery",
   "call out.Header.Set(\"User-Agent\", \"\")"]

/-- Frame of the director (`Model.C07.director`, theorem `director_frame`): every store to and every method call on
the outgoing request is one of the five URL fields copied from the target URL or the User-Agent suppression; the
five are all there. Against: `out.Header.Del("X-…")` / `out.Close = true` / `out.Body = …` for a header, field or
request class outside the generators' universe. -/
theorem director_touches_only_the_url :
    directorEffects.all (directorAllowed.contains ·) = true ∧
    (directorAllowed.take 5).all (directorEffects.contains ·) = true := by
  simp only [contains_toList, directorEffects, directorAllowed, List.take, List.all, List.map, toList_lit rfl]
  decide +kernel

/-- `responseWriter` (the wrapper `Model.C07.RW` transcribes): `WriteHeader` passes every call on to the wrapped
writer — the call is a top-level statement with nothing in front of it that could skip it — and records the
code; `Write` hands the bytes on and returns the wrapped writer's count; the handler is served with the wrapper.
Against: a skip for one particular code (`if code == 425 { return }`) that no sampled status hits. -/
theorem response_writer_forwards :
    rwWriteHeaderForwards = true ∧ rwWriteHeaderRecords = true ∧ rwWriteForwards = true ∧
    serveUsesResponseWriter = true := by decide +kernel

/-- methods of `*http.Request` that consume the body or parse it into `Form` (after which `httputil.ReverseProxy`
rewrites the query) -/
def consuming : List String :=
  ["ParseForm", "ParseMultipartForm", "FormValue", "PostFormValue", "FormFile", "MultipartReader", "Write", "WriteProxy",
   "Clone", "Body.Read", "Body.Close", "GetBody", "Header.Write", "Header.WriteSubset"]

/-- Before the handler gets the request, `ServeHTTP`, its helpers in package proxy and the tracing code it calls
(`trace.CreateSpan`, `spanName`, `trace.InjectHeaders`) only *read* the request, apart from header lines
(`addHeaders`, the request-id: C08), `Host` (the `host=` option) and `URL` (websocket branch) — the three the models
transcribe: no call that consumes or parses the body, no mention of `Body`/`Form`/`PostForm`/`MultipartForm`/
`GetBody`/`Trailer`, no other field assigned. Against: a `r.ParseForm()` / `r.FormValue(…)` behind a configuration
value or template the streams do not sample (the body then never reaches the upstream and the reverse proxy
re-encodes the query), `r.Method = …`, `r.ContentLength = …`. -/
theorem request_only_read_before_the_handler :
    requestTouchCoversCreateSpan = true ∧ requestBodyMentions = [] ∧
    requestCalls.all (fun c => !consuming.contains c) = true ∧
    requestStores.all (["Header[]", "Host", "URL"].contains ·) = true := by
  simp only [contains_toList, requestCalls, requestStores, consuming, List.all, List.map, toList_lit rfl]
  decide +kernel

def readOnly : List String :=
  ["BasicAuth", "Header.Get", "Header.Values", "Context", "Cookie", "Cookies", "Referer", "UserAgent", "ProtoAtLeast",
   "URL.String", "URL.EscapedPath", "URL.Query", "URL.Hostname", "URL.Port", "URL.RequestURI", "URL.IsAbs"]

/-- The stages between the client's request and the handler that live outside package proxy — the lookup
(`route.Table.Lookup`), the access gate (`Target.AccessDeniedHTTP`), the authorization gate (`Target.Authorized` and
every `Authorized` method of package auth, the implementations of `auth.AuthScheme`) — *judge* the request and hand
it on as it came: the unified model (`Model.ServeHTTP.serveTarget`) passes the very same `Request` to the gates, to
the header stage and to the URL construction. Every method they call on the request is a reading one, none of
`Body`/`Form`/… is mentioned, and the only field stored is `URL.Host` (the lookup, while it tests a redirect target
for pointing back at the request; the director and the websocket branch overwrite it: pin `director_stores`,
`url_construction`). Against: `request.Header.Del("Authorization")` once the credentials matched ("do not hand them on
to the upstream") in a scheme, or for a header no generator sends (`X-Api-Key` of a future scheme), a lookup that
normalises `req.Host` in place. The streams run the real basic scheme (`c07.serve`), but a scheme added later has no
stream until someone writes one; this obligation covers it the day it is added. -/
theorem gates_only_judge_the_request :
    gateWalked.contains "route.Table.Lookup" = true ∧ gateWalked.contains "route.Target.AccessDeniedHTTP" = true ∧
    gateWalked.contains "route.Target.Authorized" = true ∧ gateSchemes ≠ [] ∧
    gateBodyMentions = [] ∧ gateCalls.all (readOnly.contains ·) = true ∧
    gateStores.all (["URL.Host"].contains ·) = true := by
  simp only [contains_toList, gateWalked, gateCalls, gateStores, readOnly, List.all, List.map, toList_lit rfl]
  decide +kernel

/-- `main.newHTTPProxy` (no harness runs `main`): the proxy gets the `proxy.*` section of the configuration and
the tracing section, its transport comes from `transport.NewTransport` (what the harness installs as well), and
the `Lookup` closure returns what `route.GetTable().Lookup` gave for this very request without storing into the
request or the target. -/
theorem main_wiring :
    mainProxyFields.contains "Config: cfg.Proxy" = true ∧ mainProxyFields.contains "TracerCfg: cfg.Tracing" = true ∧
    mainProxyFields.contains "Transport: transport.NewTransport(nil)" = true ∧
    mainLookupIsTableLookup = true ∧ mainLookupStores = [] := by
  simp only [contains_toList, mainProxyFields, List.map, toList_lit rfl]
  decide +kernel

/-- The no-route page (`Model.C07Chain.watch`, theorem `page_is_last_delivered`): `main` starts the watcher, every
round takes the next delivery from the registry's channel and hands it to `noroute.SetHTML` (with or without the
"unchanged" shortcut in front); the page lives in an `atomic.Value`, `SetHTML` is one unconditional `Store` of its
argument and `GetHTML` one `Load` (requests read it while the watcher writes). -/
theorem noroute_page_wiring :
    mainStartsWatcher = true ∧ watcherEvents.contains "loop ⊢ store next = <-pages" = true ∧
    (watcherEvents.contains "loop, past:!(next == noroute.GetHTML()) ⊢ call noroute.SetHTML(next)" ||
     watcherEvents.contains "loop ⊢ call noroute.SetHTML(next)") = true ∧
    norouteVarType = "atomic.Value" ∧ norouteSetEvents = ["call pagevar.Store(page)"] ∧
    norouteGetEvents = ["return pagevar.Load().(string)"] := by
  simp only [contains_toList, watcherEvents, List.map, toList_lit rfl]
  decide +kernel

end Fabio.Props.C07Facts
