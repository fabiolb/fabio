import Fabio.Model.C10
import Fabio.Lemmas.C10Std
/-!
C10 — SNI routing uses the server name the TLS stack itself would see: property theorems.

Model: `Fabio/Model/C10.lean` (`clientHelloBufferSize`, `readServerName`/`unmarshal`, the start of
`SNIProxy.ServeTCP` as `sniRoute`, the abstract `Hello` with its RFC 5246/6066/8446 `encode`/`record`).
Every statement is for all byte strings resp. all well-formed hellos with extension lists of any length and any sizes;
nothing is bounded.
-/
namespace Fabio.Props.C10
open Fabio Fabio.Model.C10

/-! ### No input makes the extraction panic or read out of bounds -/

/-- `clientHelloBufferSize` never reaches a panic point: every index is guarded by the length check. -/
theorem bufsize_no_panic (data : Bytes) : (clientHelloBufferSize data).isPanic = false := by
  by_cases h9 : data.length < 9
  · rw [Lemmas.C10.bufsize_short data h9]; rfl
  · obtain ⟨t, v1, v2, r1, r0, ht, b2, b1, b0, rest, rfl⟩ := Lemmas.C10.nine_of_le data (by omega)
    rw [Lemmas.C10.bufsize_cons]; exact Lemmas.C10.headerSize_no_panic ..

/-- `clientHelloMsg.unmarshal` never reaches a panic point on any byte string — every index and slice
expression is in range, and both loops terminate within their fuel (they consume ≥ 4 resp. ≥ 3 bytes per
iteration). -/
theorem unmarshal_no_panic (data : Bytes) : (unmarshal data).isPanic = false :=
  (Lemmas.C10.unmarshal_factors data).no_panic Lemmas.C10.fabioView_no_panic

/-- `readServerName` returns `(name, ok)` for every input; malformed input is `("", false)` or a name, never
a panic. -/
theorem readServerName_no_panic (data : Bytes) : (readServerName data).isPanic = false := by
  have h := unmarshal_no_panic data
  unfold readServerName
  cases hu : unmarshal data with
  | ok nm => rfl
  | reject s => rfl
  | panic w => rw [hu] at h; cases h

/-- The start of `ServeTCP` (peek 9, size the buffer, read exactly that many, parse `data[5:]`) never
panics, whatever the client sends and wherever the stream ends. -/
theorem sniRoute_no_panic (stream : Bytes) : (sniRoute stream).isPanic = false := by
  rw [Lemmas.C10.sniRoute_eq]
  split
  · rfl
  · refine Lemmas.C10.isPanic_bind _ _ (bufsize_no_panic _) (fun n => ?_)
    split
    · rfl
    · exact unmarshal_no_panic _

/-! ### The amount buffered never exceeds the first TLS record -/

/-- When `clientHelloBufferSize` accepts, the size is the announced handshake length + 9, it is at most the
first record (`recordLength + 5 ≤ 16384 + 5`) and at least 10, so `data[5:]` is in range and non-empty. -/
theorem bufsize_le_record (data : Bytes) (n : Nat) (h : clientHelloBufferSize data = .ok n) :
    ∃ h9 : 9 ≤ data.length,
      n = be24 data[6] data[7] data[8] + 9 ∧ 10 ≤ n ∧
      n ≤ be16 data[3] data[4] + 5 ∧ be16 data[3] data[4] ≤ 16384 ∧ n ≤ 16389 ∧
      data[0] = 0x16 ∧ data[5] = 0x01 := by
  obtain ⟨t, v1, v2, r1, r0, ht, b2, b1, b0, rest, rfl, hs⟩ := Lemmas.C10.bufsize_ok data n h
  obtain ⟨h0, h5, hn, hp, hle, hr⟩ := Lemmas.C10.headerSize_ok hs
  have h10 : 10 ≤ n := by omega
  have hrec : n ≤ be16 r1 r0 + 5 := by omega
  have hmax : n ≤ 16389 := by omega
  exact ⟨by simp only [List.length_cons]; omega, hn, h10, hrec, hr, hmax, h0, h5⟩

/-- If the proxy gets as far as a server name it has consumed exactly `n` bytes of the
stream, `n` being the size computed from the first 9 bytes (so at most the first record), and the name is
`unmarshal` of exactly those bytes minus the 5-byte record header (`n - 5 = handshakeLength + 4` bytes: the
complete handshake message and nothing else). -/
theorem sni_reads_exact (stream name : Bytes) (h : sniRoute stream = .ok name) :
    ∃ n, clientHelloBufferSize (stream.take 9) = .ok n ∧ 10 ≤ n ∧ n ≤ stream.length ∧
      ((stream.take n).drop 5).length = n - 5 ∧ unmarshal ((stream.take n).drop 5) = .ok name := by
  obtain ⟨n, hb, hle, hu⟩ := (Lemmas.C10.sniRoute_ok_iff stream name).mp h
  have h10 := Lemmas.C10.bufsize_ge _ _ hb
  refine ⟨n, hb, h10, hle, ?_, hu⟩
  rw [List.length_drop, List.length_take]; omega

/-! ### Well-formed hellos: the extracted name is the hello's server name -/

/-- For every well-formed hello — any version bytes, session id, cipher suites, compression methods, and any
list of pairwise distinct extensions of any sizes before and after `server_name` (ALPN, key shares, tickets,
padding, …; skipped by length: `Lemmas.C10.lenientFold_raw`) —
`readServerName` of its encoding is `(sniOf h, true)`. -/
theorem parse_encode (h : Hello) (hw : WellFormed h) : readServerName (encode h) = .ok (sniOf h, true) :=
  Lemmas.C10.readServerName_of_ok (Lemmas.C10.unmarshal_encode h hw)

/-- "Empty when the extension is absent": no extension block. -/
theorem sniOf_no_extensions (h : Hello) (he : h.extensions = none) : sniOf h = [] := by
  unfold sniOf; rw [he]

/-- "Empty when the extension is absent": an extension block without `server_name`. -/
theorem sniOf_no_server_name (h : Hello) (es : List Ext) (he : h.extensions = some es)
    (hn : ∀ e ∈ es, e.typ ≠ 0) : sniOf h = [] := by
  unfold sniOf; rw [he]
  have : es.find? (fun e => e.typ == 0) = none := by
    rw [List.find?_eq_none]; intro e hm; simpa using hn e hm
  simp only [this]

/-- With a `server_name` extension carrying host name `nm` anywhere in the list, `sniOf` is `nm`. -/
theorem sniOf_server_name (h : Hello) (hw : WellFormed h) (pre post : List Ext) (ns : List (UInt8 × Bytes))
    (nm : Bytes) (he : h.extensions = some (pre ++ .serverName ns :: post)) (hh : hostName ns = some nm) :
    sniOf h = nm := by
  have hx := hw.exts
  rw [he] at hx
  have hnd := hx.2.1
  unfold sniOf; rw [he]
  have hpre : ∀ e ∈ pre, (e.typ == 0) = false := by
    intro e hm
    rw [List.map_append, List.map_cons] at hnd
    have := (List.nodup_append.mp hnd).2.2 e.typ (List.mem_map_of_mem hm) 0 (List.mem_cons_self ..)
    simpa using this
  have : (pre ++ Ext.serverName ns :: post).find? (fun e => e.typ == 0) = some (.serverName ns) := by
    rw [List.find?_append, List.find?_eq_none.mpr (by intro e hm; simpa using hpre e hm)]
    simp [Ext.typ]
  simp only [this, hh, Option.getD_some]

/-- For a hello that fits one record the buffer size computed from the first 9 bytes is exactly the length of
that record: nothing beyond the first record is buffered, and `data[5:]` is exactly the handshake message. -/
theorem bufsize_exact (vMaj vMin : UInt8) (h : Hello) (hf : FitsRecord h) (rest : Bytes) :
    clientHelloBufferSize ((record vMaj vMin h ++ rest).take 9) = .ok (record vMaj vMin h).length := by
  have hfit : (encode h).length ≤ 16384 := hf
  have hel := Lemmas.C10.encode_length h
  have hpos := Lemmas.C10.encBody_pos h
  rw [Lemmas.C10.record_length, Lemmas.C10.record_shape]
  simp only [List.cons_append, List.take_succ_cons, List.take_zero]
  rw [Lemmas.C10.bufsize_cons, Lemmas.C10.be16_enc16 _ (by omega), Lemmas.C10.be24_enc24 _ (by omega),
    Lemmas.C10.headerSize_of (by omega) (by omega)]
  congr 1; omega

/-- At the proxy: the first flight of a client (one record carrying a well-formed hello that fits it,
followed by anything) is routed by exactly the hello's server name. -/
theorem route_encode (vMaj vMin : UInt8) (h : Hello) (hw : WellFormed h) (hf : FitsRecord h) (rest : Bytes) :
    sniRoute (record vMaj vMin h ++ rest) = .ok (sniOf h) := by
  rw [Lemmas.C10.sniRoute_of_size _ _ (bufsize_exact vMaj vMin h hf rest) (by rw [List.length_append]; omega),
    List.take_left' rfl, Lemmas.C10.record_drop5, Lemmas.C10.unmarshal_encode h hw]

/-! ### Truncated input is rejected -/

/-
The full statement "every strict prefix of `encode h` is rejected by `readServerName`" is FALSE for the code
(see `truncation_exception`): fabio's `unmarshal`, like the Go 1.7 original, never compares the 3-byte
handshake length with the data it was given, and a hello cut exactly behind its compression methods is a
complete extension-less hello.

theorem truncation_rejected_full (h : Hello) (hw : WellFormed h) (k : Nat) (hk : k < (encode h).length) :
    readServerName ((encode h).take k) = .ok ([], false)
-/

/-- A strict prefix of the encoding of a well-formed hello is rejected (`("", false)`), for every cut
position except the single one named in the hypothesis: exactly behind the compression methods. -/
theorem truncation_rejected_partial (h : Hello) (hw : WellFormed h) (k : Nat) (hk : k < (encode h).length)
    (hne : k ≠ cutAfterCompression h) : readServerName ((encode h).take k) = .ok ([], false) :=
  Lemmas.C10.readServerName_of_reject (Lemmas.C10.unmarshal_trunc h hw k hk hne)

/-- The exception is real (negation of the full statement, for every hello that has an extension block):
the prefix ending behind the compression methods is strict, and it is *accepted* with an empty name. -/
theorem truncation_exception (h : Hello) (hw : WellFormed h) (es : List Ext) (he : h.extensions = some es) :
    cutAfterCompression h < (encode h).length ∧
    readServerName ((encode h).take (cutAfterCompression h)) = .ok ([], true) :=
  have hk := Lemmas.C10.cut_lt h es he
  ⟨hk, Lemmas.C10.readServerName_of_ok (Lemmas.C10.unmarshal_cut h hw hk)⟩

/-- At the proxy the exception cannot arise: of a record carrying a hello, *every* strict prefix is dropped
without routing (fewer than 9 bytes: `Peek` fails; otherwise `io.ReadFull` of the announced size fails). -/
theorem truncation_rejected (vMaj vMin : UInt8) (h : Hello) (hf : FitsRecord h) (k : Nat)
    (hk : k < (record vMaj vMin h).length) : (sniRoute ((record vMaj vMin h).take k)).isReject = true := by
  have hb := bufsize_exact vMaj vMin h hf []
  rw [List.append_nil] at hb
  exact Lemmas.C10.sniRoute_short _ _ k hb hk (Nat.le_of_lt hk)

def exName : Bytes := [0x65, 0x78, 0x61, 0x6d, 0x70, 0x6c, 0x65, 0x2e, 0x63, 0x6f, 0x6d]   -- "example.com"

def exHello : Hello :=
  { versHi := 3, versLo := 3, random := List.replicate 32 7, sessionId := List.replicate 32 1,
    cipherSuites := [(0x13, 0x01), (0xc0, 0x2f)], compressionMethods := [0],
    extensions := some [.other 10 [0, 2, 0, 29], .other 51 ([0, 36, 0, 29, 0, 32] ++ List.replicate 32 9),
                        .serverName [(7, [1, 2]), (0, exName)],
                        .other 16 [0, 3, 2, 0x68, 0x32], .other 21 (List.replicate 10 0)] }

theorem exHello_wf : WellFormed exHello := by decide +kernel
theorem exHello_fits : FitsRecord exHello := by decide +kernel

example : WellFormed exHello := exHello_wf
example : FitsRecord exHello := exHello_fits
example : sniOf exHello = exName := by decide +kernel
example : readServerName (encode exHello) = .ok (exName, true) := parse_encode exHello exHello_wf
/-- the model itself computes it (kernel evaluation of the executable model, fuel included) -/
example : readServerName (encode exHello) = .ok (exName, true) := by decide +kernel
example : sniRoute (record 3 1 exHello ++ [0x14, 3, 3, 0, 1, 1]) = .ok exName :=
  route_encode 3 1 exHello exHello_wf exHello_fits _
example : clientHelloBufferSize ((record 3 1 exHello).take 9) = .ok (record 3 1 exHello).length := by decide +kernel
example : cutAfterCompression exHello = 79 ∧ (encode exHello).length = 179 := by decide +kernel
example : readServerName ((encode exHello).take 100) = .ok ([], false) :=
  truncation_rejected_partial exHello exHello_wf 100 (by decide +kernel) (by decide +kernel)
example : readServerName ((encode exHello).take (cutAfterCompression exHello)) = .ok ([], true) :=
  (truncation_exception exHello exHello_wf _ rfl).2
/-- the model computes the exception, too -/
example : readServerName ((encode exHello).take 79) = .ok ([], true) := by decide +kernel
example : (sniRoute ((record 3 1 exHello).take 83)).isReject = true :=
  truncation_rejected 3 1 exHello exHello_fits 83 (by decide +kernel)
example : (clientHelloBufferSize [0x16, 3, 1, 0, 5, 1, 0, 0, 2]).isReject = true := by decide +kernel
example : (clientHelloBufferSize [0x16, 3, 1, 0, 6, 1, 0, 0, 2]) = .ok 11 := by decide +kernel
example : sniOf { exHello with extensions := none } = [] := sniOf_no_extensions _ rfl
example : readServerName [] = .ok ([], false) := by decide +kernel

end Fabio.Props.C10
