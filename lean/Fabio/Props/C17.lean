import Fabio.Lemmas.C17
import Fabio.Lemmas.Lit
/-!
C17 — response compression never changes the content: property theorems over the model of
`proxy/gzip/gzip_handler.go` (`Fabio.Model.C17`). The compressor is abstract; its round-trip law
`Comp.RoundTrip` is a hypothesis of `when_compressed`, never an axiom. Every theorem is for every script of
the wrapped handler (any header calls, any number of `WriteHeader`/`Write` calls in any order, any chunking)
and every regexp, sniffer, compressor and pool content.
-/
namespace Fabio.Props.C17
open Fabio.Model.C17 Fabio.Lemmas.C17

variable {Z : Type}

/-- `compress_iff` against the executable predicate the correspondence uses. -/
theorem compress_iff_shouldCompress (C : Cfg Z) (head dfl : Bool) (req h0 : Hdr) (pool : List Z) (ops : List Op) :
    (serve C head dfl req h0 pool ops).compressed = shouldCompress C head req h0 ops := by
  cases h : shouldCompress C head req h0 ops with
  | true => obtain ⟨_, _, _, e⟩ := (serve_cases C head dfl req h0 pool ops).1 h; rw [e]; rfl
  | false => rw [(serve_cases C head dfl req h0 pool ops).2 h]

/-- The response is compressed exactly when (as coded) the request passes `acceptsGzip`,
is not a HEAD request, the wrapped handler writes a status or a body at all, the status at that first call
allows a body, and at that moment the header map has no Content-Encoding and a Content-Type (possibly the
sniffed one of an implicit write) that the configured expression matches. -/
theorem compress_iff (C : Cfg Z) (head dfl : Bool) (req h0 : Hdr) (pool : List Z) (ops : List Op) :
    (serve C head dfl req h0 pool ops).compressed = true ↔
      acceptsGzip req = true ∧ head = false ∧
      ∃ h c, decision C false (hadd h0 hVary hAcceptEncoding) ops = some (h, c) ∧ bodyAllowedForStatus c = true ∧
        hget h hContentEncoding = "" ∧ C.typeOk (hget h hContentType) = true := by
  rw [compress_iff_shouldCompress, shouldCompress]
  cases decision C false (hadd h0 hVary hAcceptEncoding) ops with
  | none => simp
  | some hc =>
    obtain ⟨h, c⟩ := hc
    simp [and_assoc]

/-- If the response is compressed then, with `(h, c)` the header map and status at the
handler's first `WriteHeader`/`Write` (explicit or implicit — every chunking, every later call): the status is
`c`; the outgoing header says `Content-Encoding: gzip`, has no Content-Length, and every other header line is
the upstream's; and — given the compressor's round-trip law — the bytes on the wire decode to exactly the
concatenation of all chunks the handler wrote. (That the writer goes back to the pool is in `engaged_cases`.) -/
theorem when_compressed (C : Cfg Z) (hrt : C.comp.RoundTrip) (head dfl : Bool) (req h0 : Hdr) (pool : List Z)
    (ops : List Op) (hc : (serve C head dfl req h0 pool ops).compressed = true) :
    ∃ h c, decision C false (hadd h0 hVary hAcceptEncoding) ops = some (h, c) ∧
      (serve C head dfl req h0 pool ops).obs.status = c ∧
      hget (serve C head dfl req h0 pool ops).obs.hdr hContentEncoding = encGzip ∧
      hhasRaw (serve C head dfl req h0 pool ops).obs.hdr hContentLength = false ∧
      (∀ k, k ≠ hContentLength → k ≠ hContentEncoding →
        hraw (serve C head dfl req h0 pool ops).obs.hdr k = hraw h k) ∧
      C.comp.decode (serve C head dfl req h0 pool ops).obs.body = some (writesOf ops).flatten := by
  obtain ⟨h, c, hd, e⟩ :=
    (serve_cases C head dfl req h0 pool ops).1 (compress_iff_shouldCompress C head dfl req h0 pool ops ▸ hc)
  refine ⟨h, c, hd, ?_⟩
  rw [e]
  simp only [gzipServed, gzipDown_obs, hget, hhasRaw, hset, hdel, canon_ContentEncoding, canon_ContentLength,
    hraw_hsetRaw, hraw_hdelRaw]
  refine ⟨trivial, rfl, ?_, ?_, gzipDown_decode C hrt pool h c _⟩
  · simp [show hContentLength ≠ hContentEncoding by decide]
  · intro k hk1 hk2
    simp [hk1, hk2]

/-- If the response is not compressed — whatever the reason — the client sees exactly
what the bare handler would have produced on a header map that carries the `Vary: Accept-Encoding` line, when
offered the same `Flusher` capability (none behind the gzip writer): same status, same header map, same bytes. -/
theorem otherwise_identical (C : Cfg Z) (head dfl : Bool) (req h0 : Hdr) (pool : List Z) (ops : List Op)
    (hc : (serve C head dfl req h0 pool ops).compressed = false) :
    (serve C head dfl req h0 pool ops).obs = serveBare C (flusherOffered head dfl req) h0 ops := by
  rw [(serve_cases C head dfl req h0 pool ops).2 (compress_iff_shouldCompress C head dfl req h0 pool ops ▸ hc)]

/-- In all cases the status the client sees is the one the bare handler would have
produced: the code of the first non-informational `WriteHeader`, or 200. -/
theorem status_preserved (C : Cfg Z) (head dfl : Bool) (req h0 : Hdr) (pool : List Z) (ops : List Op) :
    (serve C head dfl req h0 pool ops).obs.status = (serveBare C (flusherOffered head dfl req) h0 ops).status := by
  cases h : shouldCompress C head req h0 ops with
  | false => rw [(serve_cases C head dfl req h0 pool ops).2 h]
  | true =>
    obtain ⟨_, c, hd, e⟩ := (serve_cases C head dfl req h0 pool ops).1 h
    have hacc : (acceptsGzip req && !head) = true := by
      simp only [shouldCompress, Bool.and_eq_true] at h; simpa using h.1
    rw [e, flusherOffered_engaged dfl hacc, serveBare_eq, hd]
    rfl

/-- Once the writer has decided (gzip or plain) no later call — a second `WriteHeader`, a
header change, a flush, more writes — flips the decision, and status line and outgoing header map stay as they
were sent. -/
theorem decided_once (C : Cfg Z) (s : GW Z) (c : Nat) (hdec : s.dec.isUndecided = false)
    (hs : s.down.status = some c) (ops : List Op) :
    (GW.run C s ops).dec.isGzip = s.dec.isGzip ∧ (GW.run C s ops).dec.isUndecided = false ∧
    (GW.run C s ops).down.status = some c ∧ (GW.run C s ops).down.sent = s.down.sent := by
  refine ⟨(run_dec C ops s hdec).2, (run_dec C ops s hdec).1, ?_, ?_⟩ <;> rw [run_decided C ops s c hdec hs]
  exact hs

/- the first final (non-1xx) `WriteHeader`, and the first `Write`, always decide; an informational
`WriteHeader` never does. -/
theorem writeHeader_decides (C : Cfg Z) (s : GW Z) (code : Nat) (hfin : informational code = false) :
    (GW.writeHeader C s code).dec.isUndecided = false :=
  writeHeader_decided C s code hfin

theorem informational_does_not_decide (C : Cfg Z) (s : GW Z) (code : Nat) (hinfo : informational code = true) :
    GW.writeHeader C s code = s :=
  writeHeader_info C s hinfo

theorem write_decides (C : Cfg Z) (s : GW Z) (b : Bytes) : (GW.write C s b).dec.isUndecided = false :=
  (write_decided C s b).1

/-- A `Flush` by the wrapped handler — before the first write, between chunks, after
the last one — is a no-op on the gzip writer (it offers no `Flusher`): the whole run, hence the decision, the
headers, the status and every byte, is that of the script without its flush calls. -/
theorem flush_changes_nothing (C : Cfg Z) (s : GW Z) (ops : List Op) :
    GW.step C s .fl = s ∧ GW.run C s ops = GW.run C s (dropFlush ops) :=
  ⟨rfl, run_without_flush C ops s⟩

/-- `acceptsGzip` is sound for the client's wish: it holds only if the first Accept-Encoding line has an
element whose coding is exactly `gzip` and whose parameters do not carry a zero weight. -/
theorem acceptsGzip_sound (req : Hdr) (h : acceptsGzip req = true) :
    ∃ e ∈ splitOn ',' (hget req hAcceptEncoding).toList,
      trim (cut ';' e).1 = encGzip.toList ∧ zeroWeight (cut ';' e).2 = false := by
  unfold acceptsGzip at h
  split at h
  · cases h
  · exact acceptsL_sound _ h

/-- For every interleaving of `Get`, `Put` and pool-eviction events of any
number of handlers (threads), starting from the empty pool: a writer is never held by two live responses,
and a writer that some response holds is not in the pool (so no `Get` can hand it out). -/
theorem writer_exclusively_owned (evs : List PEv) :
    let s := prun {} evs
    (∀ t₁ t₂ z, (t₁, z) ∈ s.held → (t₂, z) ∈ s.held → t₁ = t₂) ∧
    (∀ t z, (t, z) ∈ s.held → z ∉ s.pool) ∧ s.pool.Nodup := by
  obtain ⟨hpool, hheld, hdis⟩ := List.nodup_append.mp (prun_inv {} evs pinv_init).nodup
  exact ⟨fun t₁ t₂ z h1 h2 => snd_unique hheld h1 h2,
    fun t z hm hp => hdis z hp z (List.mem_map.mpr ⟨(t, z), hm, rfl⟩) rfl, hpool⟩

/-- a toy compressor with a non-trivial state (it counts the chunks since `Reset`) that satisfies the law. -/
def toyComp : Comp Nat where
  reset := fun _ => 0
  write := fun n b => (n + 1, b)
  close := fun n => (n, [])
  decode := some

theorem toy_roundtrip : toyComp.RoundTrip := by
  intro z cs
  show some ((toyComp.feed _ cs).2 ++ []) = some cs.flatten
  rw [feed_passthrough _ (fun _ _ => rfl), List.append_nil]

def toyCfg : Cfg Nat :=
  { typeOk := fun ct => ct == "text/html", sniff := fun _ => "text/html", comp := toyComp, fresh := 7 }

def reqGzip : Hdr := [("Accept-Encoding", ["gzip, deflate"])]
def script1 : List Op :=
  [.set "content-type" "text/html", .set "Content-Length" "6", .wh 201, .w [1, 2], .w [], .wh 500,
   .set "Content-Type" "image/png", .w [3]]

structure ToyVectors : Prop where
  script1_compressed :
    (serve toyCfg false true reqGzip [] [] script1).compressed = true
  script1_obs :
    (serve toyCfg false true reqGzip [] [] script1).obs =
      { status := 201, body := [1, 2, 3],
        hdr := [("Vary", ["Accept-Encoding"]), ("Content-Type", ["text/html"]), ("Content-Encoding", ["gzip"])] }
  implicit_write_sniffed :
    (serve toyCfg false true reqGzip [] [] [.w [60], .w [62]]).compressed = true
  zero_weight_refused :
    (serve toyCfg false true [("Accept-Encoding", ["gzip;q=0"])] [] [] script1).compressed = false
  head_request :
    (serve toyCfg true true reqGzip [] [] script1).compressed = false
  status_304 :
    (serve toyCfg false true reqGzip [] [] [.set "Content-Type" "text/html", .wh 304]).compressed = false
  already_encoded :
    (serve toyCfg false true reqGzip [] [] (.set "content-encoding" "br" :: script1)).compressed = false
  other_type :
    (serve toyCfg false true reqGzip [] [] [.set "Content-Type" "image/png", .w [1]]).compressed = false
  nothing_written :
    (serve toyCfg false true reqGzip [] [] [.set "Content-Type" "text/html"]).compressed = false
  uncompressed_same_as_bare :
    (serve toyCfg false true reqGzip [] [] [.set "Content-Type" "image/png", .wh 404, .w [1], .w [2]]).obs =
      serveBare toyCfg false [] [.set "Content-Type" "image/png", .wh 404, .w [1], .w [2]]
  flushes_invisible :
    (serve toyCfg false true reqGzip [] [] [.set "Content-Type" "text/html", .fl, .w [1], .fl, .w [2], .fl]).obs =
      (serve toyCfg false true reqGzip [] [] [.set "Content-Type" "text/html", .w [1], .w [2]]).obs
  informational_first :
    (serve toyCfg false true reqGzip [] [] [.wh 103, .set "Content-Type" "text/html", .wh 404, .w [1]]).compressed = true ∧
    (serve toyCfg false true reqGzip [] [] [.wh 103, .set "Content-Type" "text/html", .wh 404, .w [1]]).obs.status = 404
  bare_flush_commits :
    (serve toyCfg false true [] [] [] [.fl, .wh 404]).obs.status = 200 ∧
    (serve toyCfg false false [] [] [] [.fl, .wh 404]).obs.status = 404
  pool_interleaved :
    (prun {} [.get 1 0, .get 2 0, .put 1, .get 3 0, .put 2]).held = [(3, 0)] ∧
    (prun {} [.get 1 0, .get 2 0, .put 1, .get 3 0, .put 2]).pool = [1]
  weight_spellings :
    acceptsGzip [("Accept-Encoding", ["gzip;q=0e0"])] = false ∧ acceptsGzip [("Accept-Encoding", ["gzip;q=0.0.0"])] = true ∧
    acceptsGzip [("Accept-Encoding", ["gzip;q"])] = true
  decided_once_inhabited :
    (GW.writeHeader toyCfg { dec := .undecided, hdr := [("Content-Type", ["text/html"])], down := {}, pool := [] } 200).down.status = some 200

instance : Decidable ToyVectors :=
  decidable_of_iff (_ ∧ _ ∧ _ ∧ _ ∧ _ ∧ _ ∧ _ ∧ _ ∧ _ ∧ _ ∧ _ ∧ _ ∧ _ ∧ _ ∧ _ ∧ _)
    ⟨fun ⟨h1, h2, h3, h4, h5, h6, h7, h8, h9, h10, h11, h12, h13, h14, h15, h16⟩ => ⟨h1, h2, h3, h4, h5, h6, h7, h8, h9, h10, h11, h12, h13, h14, h15, h16⟩,
     fun h => ⟨h.1, h.2, h.3, h.4, h.5, h.6, h.7, h.8, h.9, h.10, h.11, h.12, h.13, h.14, h.15, h.16⟩⟩

/-- Every vector canonicalises and compares the same few header names, and evaluating strings is slow; checked in one go
the kernel computes each such value once. -/
theorem toy_vectors : ToyVectors := by
  decide +kernel

-- compressed; status of the first WriteHeader; Content-Length gone; three chunks decode to their concatenation
example : (serve toyCfg false true reqGzip [] [] script1).compressed = true := toy_vectors.script1_compressed
example : (serve toyCfg false true reqGzip [] [] script1).obs =
    { status := 201, body := [1, 2, 3],
      hdr := [("Vary", ["Accept-Encoding"]), ("Content-Type", ["text/html"]), ("Content-Encoding", ["gzip"])] } := toy_vectors.script1_obs
example : ∃ h c, decision toyCfg false (hadd [] hVary hAcceptEncoding) script1 = some (h, c) ∧
    toyCfg.comp.decode (serve toyCfg false true reqGzip [] [] script1).obs.body = some (writesOf script1).flatten :=
  let ⟨h, c, hd, _, _, _, _, hdec⟩ := when_compressed toyCfg toy_roundtrip false true reqGzip [] [] script1 toy_vectors.script1_compressed
  ⟨h, c, hd, hdec⟩
example : (serve toyCfg false true reqGzip [] [] [.w [60], .w [62]]).compressed = true := toy_vectors.implicit_write_sniffed
example : (serve toyCfg false true [("Accept-Encoding", ["gzip;q=0"])] [] [] script1).compressed = false := toy_vectors.zero_weight_refused
example : (serve toyCfg true true reqGzip [] [] script1).compressed = false := toy_vectors.head_request
example : (serve toyCfg false true reqGzip [] [] [.set "Content-Type" "text/html", .wh 304]).compressed = false := toy_vectors.status_304
example : (serve toyCfg false true reqGzip [] [] (.set "content-encoding" "br" :: script1)).compressed = false := toy_vectors.already_encoded
example : (serve toyCfg false true reqGzip [] [] [.set "Content-Type" "image/png", .w [1]]).compressed = false := toy_vectors.other_type
example : (serve toyCfg false true reqGzip [] [] [.set "Content-Type" "text/html"]).compressed = false := toy_vectors.nothing_written
example : (serve toyCfg false true reqGzip [] [] [.set "Content-Type" "image/png", .wh 404, .w [1], .w [2]]).obs =
    serveBare toyCfg false [] [.set "Content-Type" "image/png", .wh 404, .w [1], .w [2]] := toy_vectors.uncompressed_same_as_bare
example : (serve toyCfg false true reqGzip [] [] [.set "Content-Type" "text/html", .fl, .w [1], .fl, .w [2], .fl]).obs =
    (serve toyCfg false true reqGzip [] [] [.set "Content-Type" "text/html", .w [1], .w [2]]).obs := toy_vectors.flushes_invisible
example : (serve toyCfg false true reqGzip [] [] [.wh 103, .set "Content-Type" "text/html", .wh 404, .w [1]]).compressed = true ∧
    (serve toyCfg false true reqGzip [] [] [.wh 103, .set "Content-Type" "text/html", .wh 404, .w [1]]).obs.status = 404 := toy_vectors.informational_first
-- without the gzip writer in between the flush is real: it commits status 200 before the handler's 404
example : (serve toyCfg false true [] [] [] [.fl, .wh 404]).obs.status = 200 ∧
          (serve toyCfg false false [] [] [] [.fl, .wh 404]).obs.status = 404 := toy_vectors.bare_flush_commits
-- the pool: the third handler's Get reuses the writer the first handler put back
example : (prun {} [.get 1 0, .get 2 0, .put 1, .get 3 0, .put 2]).held = [(3, 0)] ∧
          (prun {} [.get 1 0, .get 2 0, .put 1, .get 3 0, .put 2]).pool = [1] := toy_vectors.pool_interleaved
-- weights as strconv.ParseFloat reads them: zero mantissas in every spelling, underflow to zero at 2^-1075 (ties to
-- even), hexadecimal forms, underscores; malformed text, inf/nan and overflows are not "zero"
set_option exponentiation.threshold 4000 in
set_option maxRecDepth 100000 in
example : ["0", "0.000", ".0", "-0", "0e5", "0E-0", "1e-400", "2e-324", "24703282292062327208e-343", "0x0p0",
           "0x1p-1075", "0x1.0p-1075", "0_0", "0x_0p0"].all (fun q => zeroLit q.toList) = true := by
  simp only [List.all_cons, List.all_nil, toList_lit rfl]
  decide +kernel
set_option exponentiation.threshold 4000 in
set_option maxRecDepth 100000 in
example : ["1", "0.001", "3e-324", "24703282292062327209e-343", "0x1p-1074", "0x1.8p-1075", "", "q", "0.0.0", "0e",
           "0x0", "inf", "nan", "1e400", "0_", "_0", "0_x0p0"].all (fun q => !zeroLit q.toList) = true := by
  simp only [List.all_cons, List.all_nil, toList_lit rfl]
  decide +kernel
example : acceptsGzip [("Accept-Encoding", ["gzip;q=0e0"])] = false ∧ acceptsGzip [("Accept-Encoding", ["gzip;q=0.0.0"])] = true ∧
          acceptsGzip [("Accept-Encoding", ["gzip;q"])] = true := toy_vectors.weight_spellings
example : (GW.writeHeader toyCfg { dec := .undecided, hdr := [("Content-Type", ["text/html"])], down := {}, pool := [] } 200).down.status = some 200 := toy_vectors.decided_once_inhabited

end Fabio.Props.C17
