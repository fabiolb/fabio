import Fabio.Model.C18
import Fabio.Lemmas.C18
import Fabio.Lemmas.Basic
/-!
# C18 — Shutdown drains in-flight work and completes within the configured wait

Statement (properties.jsonl): after shutdown begins no listener accepts new connections, every request or
call already in flight that finishes within the configured wait completes normally, and shutdown itself
returns no later than that wait (plus scheduling slack) whatever work is still open, including a gRPC stream
or TCP tunnel that never ends.

The theorems are about the bookkeeping of `Fabio.Model.C18` (who gets which deadline, who waits for what,
maximum over the servers); that the real servers follow the per-type contracts is measured by the streams
`c18.shutdown` / `c18.process`, and the code shapes the contracts were read from are checked in `C18Facts`.
-/
namespace Fabio.Props.C18
open Fabio.Model.C18 Fabio.Lemmas.C18

/-- `proxy.Shutdown` at `t0` leaves an empty registry, and every server that was
registered stops accepting at `t0` itself (each type closes its listening sockets before it waits for
anything). Only the snapshot: a listener started after the swap is the subject of `no_listener_reappears` and of
`no_accept_after_shutdown_begins_partial`. -/
theorem listeners_closed_first (g : GrpcContract) (t0 wait : Nat) (reg : Registry) :
    (shutdown g t0 wait reg).registry = [] ∧
    (shutdown g t0 wait reg).closed.map (·.1) = reg.map (·.1) ∧
    ∀ p ∈ (shutdown g t0 wait reg).closed, ∀ t, t0 ≤ t → accepts (some p.2) t = false := by
  refine ⟨rfl, ?_, ?_⟩
  · simp [shutdown, List.map_map, Function.comp_def]
  · intro p hp t ht
    rw [closed_at hp]
    exact accepts_of_le ht

/-- With the repaired refresher (it returns once `shuttingDown` is set) nothing re-registers after the exit
handler ran: the registry stays empty for any number of refresher wake-ups and any set of ports. -/
theorem no_listener_reappears (g : GrpcContract) (t0 wait : Nat) (p : Proc) (ports : List String) (n : Nat) :
    (refresherTicks true ports n (exitHandler g t0 wait p).1).registry = [] := by
  rw [refresherTicks_shuttingDown ports n _ rfl]
  rfl

/-- **D30 witness.** A refresher that does not look at `shuttingDown` (main.go as shipped) re-opens a listener
on its first wake-up after `proxy.Shutdown` emptied the registry: with at least one port in the table the registry
is not empty afterwards. -/
theorem refresher_reopens_as_shipped (g : GrpcContract) (t0 wait : Nat) (p : Proc) (port : String) (ports : List String) :
    (refresherTick false (port :: ports) (exitHandler g t0 wait p).1).registry ≠ [] := by
  -- each step of the loop over the ports returns a registry with an entry for its port, old or fresh
  refine foldl_ne_nil (fun reg port => ?_) port ports _
  split
  · rename_i h
    rintro rfl
    cases h
  · exact List.append_ne_nil_of_right_ne_nil _ (List.cons_ne_nil _ _)

def DeadlineBounded (g : GrpcContract) : Prop :=
  ∀ (t0 wait : Nat) (l : Leaf), tle (leafReturn g t0 wait l) (some (t0 + wait)) = true

/-- The repaired `gRPCServer.Shutdown` (GracefulStop raced against the context, then Stop) is deadline-bounded, as
net/http's and `tcp.Server`'s are. -/
theorem repaired_contract_bounded : DeadlineBounded .stopsAtDeadline := by
  intro t0 wait l
  unfold leafReturn
  cases l.kind with
  | http => exact tmin_le_right _ _
  | tcp => exact tle_refl _
  | grpc => exact tmin_le_right _ _

theorem serverReturn_bounded {g : GrpcContract} (h : DeadlineBounded g) (t0 wait : Nat) (s : Server) :
    tle (serverReturn g t0 wait s) (some (t0 + wait)) = true := by
  cases s with
  | single l => exact h t0 wait l
  | multi cs => exact maxReturn_map_le (Nat.le_add_right _ _) fun l _ => h t0 wait l

/-- If every server type is deadline-bounded, `proxy.Shutdown(wait)` called at `t0`
returns no later than `t0 + wait`, for every set of servers (single listeners and `https+tcp+sni`
composites), every amount of open work, endless work included. -/
theorem shutdown_bounded {g : GrpcContract} (h : DeadlineBounded g) (t0 wait : Nat) (srvs : List Server) :
    tle (shutdownReturn g t0 wait srvs) (some (t0 + wait)) = true :=
  maxReturn_map_le (Nat.le_add_right _ _) fun s _ => serverReturn_bounded h t0 wait s

theorem shutdown_bounded_repaired (t0 wait : Nat) (srvs : List Server) :
    ∃ r, shutdownReturn .stopsAtDeadline t0 wait srvs = some r ∧ r ≤ t0 + wait :=
  exists_of_tle_some (shutdown_bounded repaired_contract_bounded t0 wait srvs)

/-- **D22, general form.** With the shipped gRPC contract (`GracefulStop()` only), one endless stream on one
gRPC listener anywhere in the registry makes `proxy.Shutdown` never return, whatever the wait and whatever
else is registered. -/
theorem shipped_grpc_endless_stream_blocks (t0 wait : Nat) (srvs : List Server) (work : List Time)
    (hs : Server.single { kind := .grpc, work := work } ∈ srvs) (hw : none ∈ work) :
    shutdownReturn .ignoresDeadline t0 wait srvs = none := by
  have h := serverReturn_le_shutdownReturn .ignoresDeadline t0 wait hs
  -- the listener itself returns when its work has drained: never
  rw [show serverReturn .ignoresDeadline t0 wait (.single { kind := .grpc, work := work }) = drain t0 work from rfl,
    drain_none hw] at h
  exact eq_none_of_none_tle h

/-- **D22, negation of the bounded statement for the shipped contract**, with the concrete witness replayed by
the corpus of `c18.shutdown` (`{"wait":300,"servers":[{"kind":"grpc","work":[null]}]}`). -/
theorem shipped_shutdown_unbounded :
    ¬ ∀ (t0 wait : Nat) (srvs : List Server),
        tle (shutdownReturn .ignoresDeadline t0 wait srvs) (some (t0 + wait)) = true := by
  intro h
  have := h 0 300 [Server.single { kind := .grpc, work := [none] }]
  rw [shipped_grpc_endless_stream_blocks 0 300 _ [none] (List.mem_singleton.mpr rfl) (List.mem_singleton.mpr rfl)] at this
  cases this

theorem shipped_contract_not_bounded : ¬ DeadlineBounded .ignoresDeadline :=
  fun h => shipped_shutdown_unbounded (shutdown_bounded h)

/-- A request, tunnel or stream whose natural end is no later than
`t0 + wait` is `completed`, on every listener type and under either gRPC contract: shutdown itself never
cuts it. -/
theorem inflight_completes_if_within_wait (g : GrpcContract) (t0 wait : Nat) (k : Kind) (e : Time)
    (h : tle e (some (t0 + wait)) = true) : fate g t0 wait k e = .completed := by
  simp [fate, h]

theorem cut_only_after_deadline (g : GrpcContract) (t0 wait : Nat) (k : Kind) (e : Time)
    (h : fate g t0 wait k e = .cut) : tle e (some (t0 + wait)) = false := by
  cases hle : tle e (some (t0 + wait)) with
  | false => rfl
  | true => simp [fate, hle] at h

theorem leaf_waits_for_work_within_wait (g : GrpcContract) (t0 wait : Nat) (l : Leaf) (e : Time)
    (he : e ∈ l.work) (h : tle e (some (t0 + wait)) = true) : tle e (leafReturn g t0 wait l) = true := by
  unfold leafReturn
  cases l.kind with
  | http => exact le_tmin (le_drain he) h
  | tcp => exact h
  | grpc =>
    cases g with
    | ignoresDeadline => exact le_drain he
    | stopsAtDeadline => exact le_tmin (le_drain he) h

/-- `proxy.Shutdown` as a whole does not return before any in-flight work that ends
within the wait has ended — on any registered server, single or composite. -/
theorem shutdown_drains (g : GrpcContract) (t0 wait : Nat) (srvs : List Server) (s : Server) (l : Leaf) (e : Time)
    (hs : s ∈ srvs) (hl : l ∈ s.leaves) (he : e ∈ l.work) (h : tle e (some (t0 + wait)) = true) :
    tle e (shutdownReturn g t0 wait srvs) = true :=
  tle_trans (leaf_waits_for_work_within_wait g t0 wait l e he h)
    (tle_trans (leafReturn_le_serverReturn g t0 wait hl) (serverReturn_le_shutdownReturn g t0 wait hs))

/-- `proxy.Shutdown` returns (a) no earlier than any server, (b) exactly when one of them
returns (or at `t0` when nothing later), and (c) at the same tick for every order in which the registry map
is iterated. -/
theorem fanout_max (g : GrpcContract) (t0 wait : Nat) (srvs : List Server) :
    (∀ s ∈ srvs, tle (serverReturn g t0 wait s) (shutdownReturn g t0 wait srvs) = true) ∧
    (shutdownReturn g t0 wait srvs = some t0 ∨
      ∃ s ∈ srvs, shutdownReturn g t0 wait srvs = serverReturn g t0 wait s) ∧
    (∀ srvs', srvs.Perm srvs' → shutdownReturn g t0 wait srvs' = shutdownReturn g t0 wait srvs) := by
  refine ⟨?_, ?_, ?_⟩
  · intro s hs
    exact serverReturn_le_shutdownReturn g t0 wait hs
  · refine (maxReturn_attained t0 (srvs.map (serverReturn g t0 wait))).imp id (fun h => ?_)
    obtain ⟨s, hs, he⟩ := List.mem_map.mp h
    exact ⟨s, hs, he.symm⟩
  · intro srvs' hp
    exact (maxReturn_perm (hp.map _)).symm

/-- `tcp.Server.Shutdown` waits for its context even with no connection open: a registry that contains any
tcp listener makes `proxy.Shutdown` take exactly the whole wait (bounded contract). -/
theorem tcp_listener_takes_the_whole_wait {g : GrpcContract} (hb : DeadlineBounded g) (t0 wait : Nat)
    (srvs : List Server) (work : List Time) (hs : Server.single { kind := .tcp, work := work } ∈ srvs) :
    shutdownReturn g t0 wait srvs = some (t0 + wait) :=
  tle_antisymm (shutdown_bounded hb t0 wait srvs) (serverReturn_le_shutdownReturn g t0 wait hs)

/-! `shutdown_bounded` counts from the tick at which `Shutdown` has the registry lock. Counted from the *call*, the
bound needs the stated assumption that nobody holds `mu` beyond O(1) bookkeeping (`heldUntil ≤ called`). -/

/-- Lock held for bookkeeping only ⇒ `proxy.Shutdown(wait)` returns no later
than `wait` after it was *called*, and the listeners are closed at the call tick. -/
theorem shutdown_bounded_from_call {g : GrpcContract} (h : DeadlineBounded g) (called heldUntil wait : Nat)
    (hlock : heldUntil ≤ called) (srvs : List Server) :
    tle (shutdownCalled g called heldUntil wait srvs) (some (called + wait)) = true ∧
    lockAcquired called heldUntil = called := by
  have hl : lockAcquired called heldUntil = called := Nat.max_eq_left hlock
  refine ⟨?_, hl⟩
  rw [shutdownCalled, hl]
  exact shutdown_bounded h called wait srvs

/-- Without the assumption the statement is false: somebody who keeps the lock for `d` more ticks (say a
`CloseProxy` that drains a listener for 10 s under `mu`) delays everything by `d` — with any tcp listener
registered `Shutdown` returns exactly `d` ticks late, and until then no listener has been closed. -/
theorem lock_held_delays_shutdown {g : GrpcContract} (h : DeadlineBounded g) (called d wait : Nat) (hd : 0 < d)
    (srvs : List Server) (work : List Time) (hs : Server.single { kind := .tcp, work := work } ∈ srvs) :
    shutdownCalled g called (called + d) wait srvs = some (called + d + wait) ∧
    tle (shutdownCalled g called (called + d) wait srvs) (some (called + wait)) = false ∧
    (∀ p ∈ (shutdown g (lockAcquired called (called + d)) wait (srvs.map (fun s => ("", s)))).closed,
        ∀ t, t < called + d → accepts (some p.2) t = true) := by
  have hl : lockAcquired called (called + d) = called + d := Nat.max_eq_right (Nat.le_add_right _ _)
  rw [shutdownCalled, hl, tcp_listener_takes_the_whole_wait h (called + d) wait srvs work hs]
  refine ⟨rfl, decide_eq_false (by omega), ?_⟩
  intro p hp t ht
  rw [closed_at hp]
  exact decide_eq_true ht

/-- A server removed by `CloseProxy` before the shutdown no longer takes part in it. -/
theorem closed_proxy_not_waited_for (g : GrpcContract) (t0 wait : Nat) (addr : String) (reg : Registry) :
    ∀ p ∈ (shutdown g t0 wait (closeProxy addr reg)).returns, p.1 ≠ addr := by
  intro p hp
  simp only [shutdown, closeProxy, List.mem_map, List.mem_filter] at hp
  obtain ⟨q, ⟨_, hq⟩, rfl⟩ := hp
  simpa using hq

/-! Sentence 1 of the property ("after shutdown begins no listener accepts new connections") is about every listener
the process has or gets, not only about the ones in the snapshot. `listeners_closed_first` covers the snapshot. A
`ListenAndServe*` call registers either before the snapshot (then it is in it), or never (its address was busy: the one
bind failed), or afterwards — and then nothing closes it. -/

theorem busy_address_never_registers (addr : String) (srv : Server) (reg : Registry) :
    listenAndServe true addr srv reg = (reg, .bindError) := rfl

theorem free_address_registers (addr : String) (srv : Server) (reg : Registry) :
    listenAndServe false addr srv reg = (reg ++ [(addr, srv)], .registered) := rfl

theorem snapshot_covers_registered (t0 : Nat) (starts : List Start) (s : Start) (r : Nat)
    (hs : s ∈ starts) (hr : s.registersAt = some r) (hle : r ≤ t0) : (s.addr, s.srv) ∈ snapshot t0 starts := by
  simp only [snapshot, List.mem_filterMap]
  exact ⟨s, hs, by simp [hr, hle]⟩

/-- Full statement (false — `late_registration_keeps_accepting`):
for every list of starts, no start accepts at any tick `t ≥ t0`. Forced hypothesis `h`: no start registers after
`t0`. It is tied to the source by `C18Facts.listen_path_does_not_wait` (one bind, no wait, no retry between the call
and the registration), `refresher_stops_on_shutdown` / `no_listener_reappears` (the only caller that starts
listeners at run time stops once shutdown has begun), and measured by the stream class `listener-start-pending`. -/
theorem no_accept_after_shutdown_begins_partial (t0 : Nat) (starts : List Start)
    (h : ∀ s ∈ starts, ∀ r, s.registersAt = some r → r ≤ t0) :
    ∀ s ∈ starts, ∀ t, t0 ≤ t → startAccepts t0 s t = false := by
  intro s hs t ht
  cases hr : s.registersAt with
  | none => rw [startAccepts, hr]
  | some r =>
    rw [startAccepts_registered_by hr (h s hs r hr)]
    exact decide_eq_false (fun hacc => Nat.not_lt.mpr ht hacc.2)

/-- **Negation of the full statement, with witness.** A start that registers after the snapshot is not in it and
accepts from then on, for ever: it sits in the fresh registry, which nothing shuts down. Concrete witness (replayed
by `corpus/c18.shutdown.jsonl`, class `listener-started-after-shutdown-began`): shutdown at tick 1, registration at
tick 81. -/
theorem late_registration_keeps_accepting (t0 r : Nat) (hr : t0 < r) (s : Start) (hs : s.registersAt = some r) :
    snapshot t0 [s] = [] ∧ ∀ t, r ≤ t → startAccepts t0 s t = true := by
  refine ⟨by simp [snapshot, hs, Nat.not_le.mpr hr], ?_⟩
  intro t ht
  rw [startAccepts_registered_after hs hr]
  exact decide_eq_true ht

theorem no_accept_full_statement_fails :
    ¬ ∀ (t0 : Nat) (starts : List Start), ∀ s ∈ starts, ∀ t, t0 ≤ t → startAccepts t0 s t = false := by
  intro h
  let s : Start := { addr := ":80", srv := .single { kind := .http, work := [] }, registersAt := some 81 }
  have hf := h 1 [s] s (List.mem_singleton.mpr rfl) 100 (by decide)
  rw [(late_registration_keeps_accepting 1 81 (by decide) s rfl).2 100 (by decide)] at hf
  cases hf

theorem refresher_starts_before_flag (flagAt : Nat) (wakeUps : List (Nat × List String)) :
    ∀ s ∈ refresherStarts true flagAt wakeUps, ∀ r, s.registersAt = some r → r < flagAt := by
  intro s hs r hr
  obtain ⟨w, _, hw⟩ := List.mem_flatMap.mp hs
  obtain ⟨hreg, hlt⟩ := mem_wakeUpStarts hw
  obtain rfl : w.1 = r := Option.some.inj (hreg.symm.trans hr)
  exact hlt rfl

/-- Sentence 1 for the process as main.go wires it — the hypothesis of
`no_accept_after_shutdown_begins_partial` discharged for main's own starters: the listeners of `startServers` that
came up did so before the signal (`hup`: registered by `flagAt`; the others never exist), the repaired refresher
wakes up at arbitrary ticks with arbitrary free ports, the exit handler sets the flag at `flagAt` and `proxy.Shutdown`
takes its snapshot at `t0 ≥ flagAt`. Then at no tick `t ≥ t0` does any listener the process ever started accept. -/
theorem main_no_listener_accepts_after_shutdown (flagAt t0 : Nat) (hft : flagAt ≤ t0)
    (cfg : List (String × Server × Option Nat)) (hup : ∀ c ∈ cfg, ∀ r, c.2.2 = some r → r ≤ flagAt)
    (wakeUps : List (Nat × List String)) :
    ∀ s ∈ startupStarts cfg ++ refresherStarts true flagAt wakeUps, ∀ t, t0 ≤ t → startAccepts t0 s t = false := by
  apply no_accept_after_shutdown_begins_partial
  intro s hs r hr
  simp only [List.mem_append] at hs
  cases hs with
  | inl h =>
    simp only [startupStarts, List.mem_map] at h
    obtain ⟨c, hc, rfl⟩ := h
    exact Nat.le_trans (hup c hc r hr) hft
  | inr h => exact Nat.le_trans (Nat.le_of_lt (refresher_starts_before_flag flagAt wakeUps s h r hr)) hft

/-- **D30 at the level of starts**: the refresher as shipped (it never looks at the flag) makes a start after the
snapshot on its first wake-up past `t0` with a free port, and that listener accepts from then on. -/
theorem shipped_refresher_start_accepts (flagAt t0 tick : Nat) (htk : t0 < tick) (port : String)
    (ports : List String) :
    ∃ s ∈ refresherStarts false flagAt [(tick, port :: ports)], ∀ t, tick ≤ t → startAccepts t0 s t = true := by
  refine ⟨{ addr := port, srv := .single { kind := .tcp, work := [] }, registersAt := some tick }, ?_, ?_⟩
  · simp [refresherStarts, wakeUpStarts]
  · exact (late_registration_keeps_accepting t0 tick htk _ rfl).2

/-! `http.Server.Shutdown` does not know hijacked connections: it neither waits for them nor closes them, so the
servers' fan-out (`shutdownReturn`) is blind to them (`hijacked_not_in_fanout`). In-process nobody cuts such a
session — but the process ends when the exit handler returns, and that cuts whatever is open. `proxy.Shutdown` as a
whole is `shutdownAll`: the fan-out joined with the wait for the websocket sessions (`WsContract`). -/

theorem hijacked_not_in_fanout (g : GrpcContract) (t0 wait : Nat) (k : Kind) (work hj : List Time) :
    leafReturn g t0 wait { kind := k, work := work, hijacked := hj } =
    leafReturn g t0 wait { kind := k, work := work } := by
  unfold leafReturn; rfl

theorem wsReturn_bounded (w : WsContract) (t0 wait : Nat) (hj : List Time) :
    tle (wsReturn w t0 wait hj) (some (t0 + wait)) = true := by
  cases w with
  | notWaitedFor => simp [wsReturn, tle]
  | waitedFor => exact tmin_le_right _ _

/-- `proxy.Shutdown` as a whole — servers and websocket sessions — returns no later than
`t0 + wait`, under either websocket contract, whatever is open (endless sessions included). -/
theorem shutdown_all_bounded (w : WsContract) {g : GrpcContract} (h : DeadlineBounded g) (t0 wait : Nat)
    (srvs : List Server) : tle (shutdownAll w g t0 wait srvs) (some (t0 + wait)) = true :=
  tmax_le (shutdown_bounded h t0 wait srvs) (wsReturn_bounded w t0 wait _)

/-- With the repaired contract `proxy.Shutdown` does not return before *any* in-flight
work that ends within the wait has ended: requests, tunnels and streams known to their server (`l.work`) and
websocket sessions (`l.hijacked`) alike — `l.allWork`, on any registered server, single or composite. -/
theorem shutdown_all_drains (g : GrpcContract) (t0 wait : Nat) (srvs : List Server) (sv : Server) (l : Leaf) (e : Time)
    (hs : sv ∈ srvs) (hl : l ∈ sv.leaves) (he : e ∈ l.allWork) (h : tle e (some (t0 + wait)) = true) :
    tle e (shutdownAll .waitedFor g t0 wait srvs) = true := by
  simp only [Leaf.allWork, List.mem_append] at he
  cases he with
  | inl hw => exact tle_trans (shutdown_drains g t0 wait srvs sv l e hs hl hw h) (le_tmax_left _ _)
  | inr hh =>
    have h1 : tle e (wsReturn .waitedFor t0 wait (allHijacked srvs)) = true :=
      le_tmin (le_drain (mem_allHijacked hs hl hh)) h
    exact tle_trans h1 (le_tmax_right _ _)

/-- The process is gone no later than grace + wait after the handler started, whatever is
open (bounded contracts). -/
theorem process_exit_bounded (w : WsContract) {g : GrpcContract} (h : DeadlineBounded g) (s grace wait : Nat)
    (srvs : List Server) : tle (processExit w g s grace wait srvs) (some (s + grace + wait)) = true :=
  shutdown_all_bounded w h (s + grace) wait srvs

/-- The property's second sentence at the level of the process: every piece of
work in flight through any listener — websocket sessions included — whose natural end is within the wait completes
before the process ends. -/
theorem process_completes_inflight_work (g : GrpcContract) (s grace wait : Nat) (srvs : List Server)
    (sv : Server) (l : Leaf) (e : Time) (hs : sv ∈ srvs) (hl : l ∈ sv.leaves) (he : e ∈ l.allWork)
    (h : tle e (some (s + grace + wait)) = true) :
    processFate (processExit .waitedFor g s grace wait srvs) e = .completed :=
  if_pos (shutdown_all_drains g (s + grace) wait srvs sv l e hs hl he h)

/-- **D31, negation for the shipped contract, with witness** (replayed on the real binary by line 5 of
`corpus/c18.process.jsonl`, class `static+websocket+no-tcp-listener`): only http listeners, one websocket session that
would end 100 ticks into a wait of 600 — `proxy.Shutdown` returns at once, the process ends, the session is cut. -/
theorem shipped_ws_session_lost_at_exit :
    let srvs := [Server.single { kind := .http, work := [], hijacked := [some 400] }]
    processExit .notWaitedFor .stopsAtDeadline 0 300 600 srvs = some 300 ∧
    tle (some 400) (some (0 + 300 + 600)) = true ∧
    processFate (processExit .notWaitedFor .stopsAtDeadline 0 300 600 srvs) (some 400) = .cut := by decide +kernel

theorem shipped_process_loses_inflight_work :
    ¬ ∀ (g : GrpcContract) (s grace wait : Nat) (srvs : List Server) (sv : Server) (l : Leaf) (e : Time),
        sv ∈ srvs → l ∈ sv.leaves → e ∈ l.allWork → tle e (some (s + grace + wait)) = true →
        processFate (processExit .notWaitedFor g s grace wait srvs) e = .completed := by
  intro h
  have hcut := shipped_ws_session_lost_at_exit.2.2
  rw [h .stopsAtDeadline 0 300 600 _ _ { kind := .http, work := [], hijacked := [some 400] } (some 400)
    (List.mem_singleton.mpr rfl) (List.mem_singleton.mpr rfl) (List.mem_singleton.mpr rfl)
    shipped_ws_session_lost_at_exit.2.1] at hcut
  cases hcut

/-- why the defect stayed invisible next to a tcp listener: `tcp.Server.Shutdown` takes the whole wait, so the
process outlives every session that ends within it, under either contract -/
theorem ws_completes_next_to_tcp (w : WsContract) {g : GrpcContract} (hb : DeadlineBounded g) (s grace wait : Nat)
    (srvs : List Server) (work : List Time) (hs : Server.single { kind := .tcp, work := work } ∈ srvs)
    (e : Time) (h : tle e (some (s + grace + wait)) = true) :
    processFate (processExit w g s grace wait srvs) e = .completed := by
  have h2 : tle (some (s + grace + wait)) (processExit w g s grace wait srvs) = true :=
    tcp_listener_takes_the_whole_wait hb (s + grace) wait srvs work hs ▸ le_tmax_left _ _
  exact if_pos (tle_trans h h2)

theorem shutdown_all_without_ws (w : WsContract) (g : GrpcContract) (t0 wait : Nat) (srvs : List Server)
    (h : allHijacked srvs = []) : shutdownAll w g t0 wait srvs = shutdownReturn g t0 wait srvs := by
  have hw : wsReturn w t0 wait [] = some t0 := by
    cases w
    · rfl
    · exact congrArg some (Nat.min_eq_left (Nat.le_add_right _ _))
  rw [shutdownAll, h, hw]
  exact tmax_eq_left (start_le_maxReturn t0 _)

def exampleServers : List Server :=
  [ .single { kind := .http, work := [some 120, none] },
    .single { kind := .tcp, work := [none] },
    .single { kind := .grpc, work := [none, some 130] },
    .multi [{ kind := .tcp, work := [some 110] }, { kind := .http, work := [some 5000] }] ]

example : shutdownReturn .stopsAtDeadline 100 600 exampleServers = some 700 := by decide +kernel
example : shutdownReturn .ignoresDeadline 100 600 exampleServers = none := by decide +kernel
example : shutdownReturn .stopsAtDeadline 100 600 exampleServers.reverse = some 700 := by decide +kernel
example : shutdownReturn .stopsAtDeadline 100 600
    [.single { kind := .http, work := [some 120] }, .single { kind := .grpc, work := [some 130] }] = some 130 := by decide +kernel
example : tle (some 130) (shutdownReturn .stopsAtDeadline 100 600 exampleServers) = true := by decide +kernel
example : fate .stopsAtDeadline 100 600 .grpc (some 130) = .completed ∧ fate .stopsAtDeadline 100 600 .grpc none = .cut ∧
          fate .ignoresDeadline 100 600 .grpc none = .stillOpen ∧ fate .stopsAtDeadline 100 600 .tcp none = .cut ∧
          fate .stopsAtDeadline 100 600 .http (some 5000) = .stillOpen := by decide +kernel
example : (shutdown .stopsAtDeadline 100 600 [(":80", .single { kind := .http, work := [none] })]).closed = [(":80", 100)] := by decide +kernel
example : (refresherTick false [":7000"] (exitHandler .stopsAtDeadline 100 600
    { registry := [(":7000", .single { kind := .tcp, work := [none] })], shuttingDown := false }).1).registry.length = 1 := by decide +kernel
example : (refresherTicks true [":7000"] 3 (exitHandler .stopsAtDeadline 100 600
    { registry := [(":7000", .single { kind := .tcp, work := [none] })], shuttingDown := false }).1).registry = [] := by decide +kernel
example : DeadlineBounded .stopsAtDeadline := repaired_contract_bounded
example : shutdownCalled .stopsAtDeadline 100 100 600 exampleServers = some 700 := by decide +kernel
example : shutdownCalled .stopsAtDeadline 100 10100 600 exampleServers = some 10700 := by decide +kernel
example : (closeProxy ":7000" [(":7000", .single { kind := .tcp, work := [none] }), (":80", .single { kind := .http, work := [] })]).length = 1 := by decide +kernel

def exampleStarts : List Start :=
  [ { addr := ":80", srv := .single { kind := .http, work := [some 120] }, registersAt := some 0 },
    { addr := ":81", srv := .single { kind := .tcp, work := [] }, registersAt := none },
    { addr := ":82", srv := .single { kind := .grpc, work := [] }, registersAt := some 150 } ]
example : (snapshot 100 exampleStarts).map (·.1) = [":80"] := by decide +kernel
example : exampleStarts.map (fun s => startAccepts 100 s 50) = [true, false, false] ∧
          exampleStarts.map (fun s => startAccepts 100 s 100) = [false, false, false] ∧
          exampleStarts.map (fun s => startAccepts 100 s 200) = [false, false, true] := by decide +kernel
example : ∀ s ∈ exampleStarts.take 2, ∀ r, s.registersAt = some r → r ≤ 100 := by decide +kernel
example : processExit .waitedFor .stopsAtDeadline 0 300 600 exampleServers = some 900 := by decide +kernel
example : processFate (processExit .waitedFor .stopsAtDeadline 0 300 600 exampleServers) (some 420) = .completed ∧
          processFate (processExit .waitedFor .stopsAtDeadline 0 300 600 exampleServers) none = .cut := by decide +kernel
def wsOnly : List Server := [.single { kind := .http, work := [], hijacked := [some 400, none] }]
example : processExit .waitedFor .stopsAtDeadline 0 300 600 wsOnly = some 900 ∧
          processExit .notWaitedFor .stopsAtDeadline 0 300 600 wsOnly = some 300 ∧
          processFate (processExit .waitedFor .stopsAtDeadline 0 300 600 wsOnly) (some 400) = .completed := by decide +kernel
example : shutdownAll .waitedFor .stopsAtDeadline 0 600 [.single { kind := .http, work := [some 50], hijacked := [some 100] }] = some 100 := by decide +kernel

example : (startupStarts [(":80", .single { kind := .http, work := [] }, some 0), (":81", .single { kind := .tcp, work := [] }, none)] ++
    refresherStarts true 100 [(50, [":7000"]), (150, [":7000", ":7001"]), (450, [":7000"])]).map (·.registersAt) =
    [some 0, none, some 50] := by decide +kernel
example : (refresherStarts false 100 [(50, [":7000"]), (450, [":7000"])]).map (fun s => startAccepts 400 s 500) = [false, true] := by decide +kernel

end Fabio.Props.C18
