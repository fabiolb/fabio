import Fabio.Generated.C03
import Fabio.Model.C03
import Fabio.Props.C03Xlate
/-! C03 — change detectors (HOWTO "Obligations versus change detectors"): the *shape* of sequential, deterministic,
pure functions whose input/output behaviour a stream compares with the model on every run — `Routes.Less`
(c03.lookup table skeleton, c03.ipath table order), `sortHostsReverseHostPort` with `reverseHostPort` and
`lessSpecificHost` (c03.reverse, host lists of c03.lookup / c03.grpc; `lessSpecificHost` also by translation,
`Props/C03Xlate.lean`, imported here), the per-host scan `Table.lookup` (c03.lookup, c03.lookuphost, c03.ipath).
When this module stops building the check claims nothing broken: it runs every stream at five times the budget
with a second seed. A behaviour-preserving rewrite (range loop ↔ index loop, hoisted operands, a flipped final
`if`, a loop bound `i < len(r)/2` ↔ `i < j`) therefore ends with exit 0; a change of behaviour is for the streams
to expose. -/
namespace Fabio.Props.C03Pins
open Fabio Fabio.Model.C03 Fabio.Generated.C03

/-- `Routes.Less(i,j)` = `pathLt rt[j].Path rt[i].Path`: lower-cased paths first, then the paths -/
theorem routes_less : lessEvents =
    ["return strings.ToLower(recv[p1].Path) < strings.ToLower(recv[p0].Path) | strings.ToLower(recv[p0].Path) != strings.ToLower(recv[p1].Path)",
      "return recv[p1].Path < recv[p0].Path | strings.ToLower(recv[p0].Path) == strings.ToLower(recv[p1].Path)"] := rfl

/-- the host order: nothing to do below two hosts; `var0` maps every host to the two results of the unexported
`reverseHostPort` (its rune-swapping loop is the first two events; `revParts`); first sort: the reversed host
parts differ ⇒ `lessSpecificHost(other, this)`, else the ports differ ⇒ greater port first, else ties by the key
(`hostBefore`); second, stable: host names before patterns, where "pattern" is
`host == "" || ContainsAny(host, metacharacters)` (`isGlobPat`, `sortHosts`) -/
theorem host_order : sortHostsEvents =
    ["return p0 | len(p0) < 2",
      "store var2[var3] = var2[var4] | 1 < len(p0) & var3 < len(var2) / 2",
      "store var2[var4] = var2[var3] | 1 < len(p0) & var3 < len(var2) / 2",
      "store var0[val(p0)] = hostPort{reverseHostPort.0, reverseHostPort.1} | 1 < len(p0)",
      "freturn lessSpecificHost(var0[p0[a1]].host, var0[p0[a0]].host) | 1 < len(p0) & var0[p0[a0]].host != var0[p0[a1]].host",
      "freturn var0[p0[a1]].port < var0[p0[a0]].port | 1 < len(p0) & var0[p0[a0]].host == var0[p0[a1]].host & var0[p0[a0]].port != var0[p0[a1]].port",
      "freturn p0[a1] < p0[a0] | 1 < len(p0) & var0[p0[a0]].host == var0[p0[a1]].host & var0[p0[a0]].port == var0[p0[a1]].port",
      "call sort.Slice(p0, func) | 1 < len(p0)",
      "freturn !(\"\" == p0[a0] || strings.ContainsAny(p0[a0], \"*?[{\\\\\")) && (\"\" == p0[a1] || strings.ContainsAny(p0[a1], \"*?[{\\\\\")) | 1 < len(p0)",
      "call sort.SliceStable(p0, func) | 1 < len(p0)",
      "return p0 | 1 < len(p0)"] := rfl

/-- the per-host scan (`Table.lookup`): routes of the lower-cased host in table order; at the first route the
matcher accepts: no target ⇒ nil, one target ⇒ it, else the picker's choice; nil when no route matches
(`lookupRoutes`, `lookup`) -/
theorem scan_host : scanHostEvents =
    ["range recv[strings.ToLower(p0)]",
      "return nil | 0 == len(val(recv[strings.ToLower(p0)]).Targets) & p4(p1, val(recv[strings.ToLower(p0)]))",
      "assign var0 = val(recv[strings.ToLower(p0)]).Targets[0] | 0 != len(val(recv[strings.ToLower(p0)]).Targets) & 1 == len(val(recv[strings.ToLower(p0)]).Targets) & p4(p1, val(recv[strings.ToLower(p0)]))",
      "assign var0 = p3(val(recv[strings.ToLower(p0)])) | 0 != len(val(recv[strings.ToLower(p0)]).Targets) & 1 != len(val(recv[strings.ToLower(p0)]).Targets) & p4(p1, val(recv[strings.ToLower(p0)]))",
      "return var0 | 0 != len(val(recv[strings.ToLower(p0)]).Targets) & p4(p1, val(recv[strings.ToLower(p0)]))",
      "return nil"] := rfl

end Fabio.Props.C03Pins
