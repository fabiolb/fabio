import Fabio.Generated.C16
import Fabio.Model.C16
/-!
OBLIGATIONS over the facts regenerated from `/repo` on every run (`tools/factgen/c16.go`): statements the proof
chain of C16 needs and that no correspondence stream establishes by running the code. Each names the breaking
change it is there to exclude and is stated over the weakest observation that still excludes it — an order
relation, a count, a membership — not over a spelled-out event list. Pins of sequential code whose behaviour
the streams compare with the model on every run live in `C16Pins.lean` (change detectors). Core only, `decide`.
-/
namespace Fabio.Props.C16Facts
open Fabio Fabio.Generated.C16

/-- **Lock discipline of the pool.** Every function that touches the pool's connection map does so inside a
lock: no read without a lock, no store or delete without the *write* lock (walked in source order over every
function of the package that mentions the map; goroutine bodies start without a lock). The pool model reads
and writes the map in single steps; the race theorem's micro-steps `read` and `set` and the cleanup step are
atomic because of this.
Excludes: dropping the `RLock` around `Get`'s read, downgrading `cleanup`'s `Lock` to `RLock`, a store outside
`Set`'s critical section: data races on a Go map that show only under an unlucky interleaving (`c16.race` runs
without the race detector and would see them by luck at best). -/
theorem pool_map_only_touched_under_its_lock :
    poolUnlockedAccesses = [] ∧ poolWritesUnderReadLock = [] := ⟨rfl, rfl⟩

/-- Every function that touches the map has exactly **one** critical section (one lock acquisition), at least the
three the model knows (`Get`, `Set`, the cleanup loop): `Set`'s check-and-store is one atomic step (the repaired race,
`race_outcomes`), one iteration of the cleanup loop is atomic with respect to `Get` and `Set` (`Pool.cleanup` is
one step of `World.step`; `c16.pool` sequences the real loop through the mutex on that assumption).
Excludes: releasing and re-taking the lock between `Set`'s check and its store, or between cleanup's scan and
its deletes — every access still under a lock, atomicity gone. -/
theorem pool_critical_sections_are_single :
    poolLockScopeKinds.all (fun k => k.length == 1) = true ∧ 3 ≤ poolAccessorCount := by decide +kernel

/-- **Gates before the handler.** In `GrpcProxyInterceptor.Stream` (helpers followed) the table is consulted
exactly once and first, the handler — which alone leads to director, pool and dialler — is called exactly once,
in the function's own flow (not in a goroutine, a deferred call or a closure), and it is the *last* of these
events: every status the interceptor answers by itself (`Internal`, `NotFound`, `PermissionDenied`,
`Unauthenticated`) is returned before the handler can run. This is why the models answer these statuses without
touching pool or dialler (`noroute_notfound_no_backend`, `Props.C16Serve.gate_rejects_no_backend`: "rejected ⇒ state
unchanged").
Excludes: starting the handler (or the dial) before the access/auth decision is known. C16's streams exercise
`NotFound`, `Internal` and the access gate; the auth gate's order is exercised by C12's `c12.grpc` only. -/
theorem stream_gates_precede_the_handler :
    streamOrder.head? = some "lookup" ∧ streamOrder.count "lookup" = 1 ∧
    streamOrder.getLast? = some "handler" ∧ streamOrder.count "handler" = 1 ∧
    ["go-handler", "defer-handler", "handler-in-closure"].all (fun e => !streamOrder.contains e) = true ∧
    ["status:NotFound", "status:PermissionDenied", "status:Unauthenticated"].all (streamOrder.contains ·) = true := by
  decide +kernel

/-- **Link to C03.** The synthetic request the interceptor hands to `Table.Lookup` sets no `TLS` field — not in
the composite literal, not by a later store — so the routing model is applied with `tls := false`
(`Props/C16Compose.lean: grpcReq`), and it does set `Host` and `URL`.
Excludes: filling `TLS` for calls that arrive on a `grpcs` listener (C03 then strips `:443` instead of `:80`
from the host): invisible to `c16.call`, whose in-process proxy has a plain listener and whose `dsthost`
values carry no port. -/
theorem synthetic_request_has_no_tls :
    lookupRequestFields.contains "TLS" = false ∧ lookupRequestTLSStores = 0 ∧
    lookupRequestFields.contains "Host" = true ∧ lookupRequestFields.contains "URL" = true := by decide +kernel

/-- **What the interceptor decides for a call travels in that call's own context.** On the call path —
`Stream`, `lookup`, `getDestinationHostFromMetadata`, the closure `GetGRPCDirector` returns, and every
unexported helper of the package they call — no package-level variable is read, called or written, nothing is
stored through the interceptor's receiver, and nothing is stored into a variable the director's closure
captures: target and metadata reach the director only through `context.WithValue` / the stream's context, which
belong to one call. The models (`World.call`, `Serve.LWorld.call`, `Relay.init`) and `grpc_call_end_to_end` treat
a call as a function of *its own* method, metadata and the table; the per-call relay theorems are about one
call's four streams.
Excludes: parking the chosen target (or the copied metadata) in a package variable or a field between
interceptor and director — two calls in flight at the same time then exchange their backends, but only when a
second call's store falls between the first call's store and its director's read (microseconds): the
concurrent calls of `c16.call`'s "par" steps hit that window by luck at best. -/
theorem call_path_keeps_no_shared_state : callPathSharedState = [] := rfl

end Fabio.Props.C16Facts
