import Fabio.Props.C03
import Fabio.Props.C13
import Fabio.Model.C13Table
import Fabio.Lemmas.C13Table
/-!
C13 ∘ C03 — the redirect a request receives, stated on C03's model of `Table.Lookup`.

C03's `Lookup` (Model/C03.lean) takes the redirect self-skip as the parameter `Cfg.skip`. Here it is
instantiated with C13's predicate — the per-request redirect URL (`buildRedirectURL`) has the request's own
scheme (`reqScheme`: `X-Forwarded-Proto`, else the connection), host and path — and the two loops
(`C03.lookupHosts`, `C13.lookupLoop`) are shown to be the same loop.

What a table target looks like to the redirect code (its parsed URL, `strip`, `prepend`, the redirect code)
is the parameter `view : Route.Target → C13.RTarget` (`url.Parse` of the target URL and `addTarget`'s
option handling; `Model.C13.redirectCode` is the code part).
-/
namespace Fabio.Props.C13Compose
open Fabio Fabio.Model

/-! The definitions (`CReq`, `scheme`, `skipFor`, `cfgFor`, `Lookup`, `answer`, `cands`) live in
`Model/C13Table.lean`: the driver of `c13.http` executes them on the dumped table of every case. -/
export Fabio.Model.C13Table (CReq scheme skipFor cfgFor Lookup answer cands)

theorem skipFor_eq_false_iff {view : Route.Target → C13.RTarget} {q : CReq} {tg : Route.Target} :
    skipFor view q tg = false ↔
      (view tg).code = 0 ∨ C13.selfRedirect (C13.buildRedirectURL (view tg) q.url) (scheme q) q.url = false := by
  rw [skipFor, Bool.and_eq_false_iff, decide_eq_false_iff_not, Decidable.not_not]

/-- `matched` and `look` do not read the skip -/
theorem matched_cfgFor (cfg : C03.Cfg) (view : Route.Target → C13.RTarget) (q : CReq) (t : Route.Table) (req : C03.Req) :
    Props.C03.matched (cfgFor cfg view q) t req = Props.C03.matched cfg t req := rfl

theorem look_cfgFor (cfg : C03.Cfg) (view : Route.Target → C13.RTarget) (q : CReq) (t : Route.Table) (req : C03.Req) :
    Props.C03.look (cfgFor cfg view q) t req = Props.C03.look cfg t req := rfl

theorem lookupHosts_refines (view : Route.Target → C13.RTarget) (q : CReq)
    (look : Route.Str → Option (Route.Route × Route.Target)) (hs : List Route.Str) :
    (C03.lookupHosts look (skipFor view q) hs none).map (fun x => view x.2.2) =
      (C13.lookupLoop (scheme q) q.url (hs.map (fun h => (look h).map (fun p => view p.2)))).map (·.1) := by
  induction hs with
  | nil => simp [C03.lookupHosts, C13.lookupLoop]
  | cons h hs ih =>
    simp only [C03.lookupHosts, List.map_cons]
    cases hl : look h with
    | none => simpa [C13.lookupLoop] using ih
    | some p =>
      -- both loops branch on the same test
      obtain ⟨r, tg⟩ := p
      simp only [Option.map_some, Lemmas.C13.lookupLoop_cons_some]
      rw [← Lemmas.C13Table.skipFor_eq]
      cases skipFor view q tg
      · rfl
      · exact ih

/-- **C03's `Lookup` with C13's skip selects the target C13's `lookup` selects** on the candidate list built
from C03's host list and C03's per-host `lookup`. -/
theorem lookup_refines (cfg : C03.Cfg) (view : Route.Target → C13.RTarget) (t : Route.Table) (q : CReq) :
    (Lookup cfg view t q).map (fun x => view x.2.2) =
      (C13.lookup (scheme q) q.url (cands cfg view t q)).map (·.1) := by
  unfold Lookup C03.Lookup C13.lookup cands
  exact lookupHosts_refines view q _ _

/-- A redirect is never answered with the request's own scheme, host and path (as the code compares them:
on the URL record, whose path is absolute since 391a8b7). -/
theorem answered_redirect_is_not_a_self_redirect (cfg : C03.Cfg) (view : Route.Target → C13.RTarget)
    (t : Route.Table) (q : CReq) {h : Route.Str} {r : Route.Route} {tg : Route.Target}
    (hres : Lookup cfg view t q = some (h, r, tg)) (hc : (view tg).code ≠ 0) :
    C13.selfRedirect (C13.buildRedirectURL (view tg) q.url) (scheme q) q.url = false :=
  (skipFor_eq_false_iff.1 (Props.C03.skipped_redirect_never_returned (cfgFor cfg view q) t q.r03 hres)).resolve_left hc

/-- A request that is answered with a redirect gets the status
and the `Location` of a target that `Lookup` selected from a route which matches the request in C03's
sense: the route's host key is empty or matches the request host, the route belongs to that key, its path
matches under the configured matcher, the target is one of the route's targets — and that target is a
redirect target whose URL does not point back at the request. -/
theorem redirect_answer_is_from_matching_route (cfg : C03.Cfg) (view : Route.Target → C13.RTarget)
    (t : Route.Table) (q : CReq) (hpick : Props.C03.PickOK cfg.pick) {code : Int} {loc : C13.Str}
    (ha : answer cfg view t q = some (code, loc)) :
    ∃ h r tg, Lookup cfg view t q = some (h, r, tg) ∧
      (h = [] ∨ Props.C03.HostMatches cfg t q.r03 h) ∧ r ∈ t.get (lowerL h) ∧
      cfg.pathMatch q.r03.path r.path = true ∧ tg ∈ r.targets ∧
      code = (view tg).code ∧ code ≠ 0 ∧ loc = C13.location (view tg) q.url ∧
      C13.selfRedirect (C13.buildRedirectURL (view tg) q.url) (scheme q) q.url = false := by
  unfold answer at ha
  split at ha
  · rename_i h r tg hres
    split at ha
    · rename_i hc
      simp only [Option.some.injEq, Prod.mk.injEq] at ha
      obtain ⟨rfl, rfl⟩ := ha
      have hs := Props.C03.lookup_sound (cfgFor cfg view q) t q.r03 hpick hres
      exact ⟨h, r, tg, hres, hs.1, hs.2.1, hs.2.2.1, hs.2.2.2, rfl, hc, rfl,
        answered_redirect_is_not_a_self_redirect cfg view t q hres hc⟩
    · cases ha
  · cases ha

def AllSkippedOrNone (look : Route.Str → Option (Route.Route × Route.Target)) (skip : Route.Target → Bool)
    (pre : List Route.Str) : Prop :=
  ∀ x ∈ pre, look x = none ∨ ∃ r tg, look x = some (r, tg) ∧ skip tg = true

theorem passed_of_all {cfg : C03.Cfg} {view : Route.Target → C13.RTarget} {t : Route.Table} {q : CReq}
    {pre : List Route.Str} (h : AllSkippedOrNone (Props.C03.look cfg t q.r03) (skipFor view q) pre) :
    ∀ x ∈ pre, Props.C03.Passed (cfgFor cfg view q) t q.r03 x := by
  intro x hx p hp
  rw [look_cfgFor] at hp
  rcases h x hx with h0 | ⟨r, tg, h1, hs⟩
  · rw [h0] at hp; cases hp
  · rw [h1] at hp; cases hp; exact hs

/-- Let the matched host keys, in C03's specificity order, be
`pre ++ k :: post`, where every key of `pre` either has no route for the request path or its route is a
redirect back to the request itself, and `k` has a route whose target is not such a self-redirect. Then the
request is answered by `k`'s route — the *next host in the host list that has a matching route* — and `k`
stands after every skipped key in the specificity order (`hostOrd`: exact before wildcard, then C03's
reverse-host order). -/
theorem self_redirect_falls_to_next_matching_host (cfg : C03.Cfg) (view : Route.Target → C13.RTarget)
    (t : Route.Table) (q : CReq) (pre post : List Route.Str) (k : Route.Str) {r : Route.Route} {tg : Route.Target}
    (hm : Props.C03.matched cfg t q.r03 = pre ++ k :: post)
    (hpre : AllSkippedOrNone (Props.C03.look cfg t q.r03) (skipFor view q) pre)
    (hk : Props.C03.look cfg t q.r03 k = some (r, tg)) (hns : skipFor view q tg = false) :
    Lookup cfg view t q = some (k, r, tg) ∧ ∀ x ∈ pre, Lemmas.C03.hostOrd x k := by
  refine ⟨Props.C03.Lookup_eq_some.2 ⟨pre, post ++ [[]], ?_, passed_of_all hpre, hk, hns⟩, fun x hx => ?_⟩
  · rw [matched_cfgFor, hm]; simp
  · have hp := Props.C03.matched_pairwise cfg t q.r03
    rw [hm] at hp
    exact (List.pairwise_append.1 hp).2.2 x hx k (by simp)

/-- When every matched host key is skipped or has no route, the host-less routes (the trailing `""` of
the host list) answer, if they hold a target that is not itself a self-redirect. -/
theorem self_redirect_falls_to_hostless_routes (cfg : C03.Cfg) (view : Route.Target → C13.RTarget)
    (t : Route.Table) (q : CReq) {r : Route.Route} {tg : Route.Target}
    (hpre : AllSkippedOrNone (Props.C03.look cfg t q.r03) (skipFor view q) (Props.C03.matched cfg t q.r03))
    (hk : Props.C03.look cfg t q.r03 [] = some (r, tg)) (hns : skipFor view q tg = false) :
    Lookup cfg view t q = some ([], r, tg) :=
  Props.C03.Lookup_eq_some.2 ⟨_, [], rfl, passed_of_all hpre, hk, hns⟩

/-- The property's last sentence read the other way round: if *some* host key that
matches the request (a key of C03's host list, whatever its position) has a route for the request path whose
target is no redirect back to the request itself, the request is answered from a matching host key — never by
the host-less routes and never with "no route" — and the answering target is itself no self-redirect. (This is
the statement `Model.C13Table.specAnswered` evaluates on the real proxy's answer in `c13.http`; the seeded change
that made `matchingHostNoGlob` return only the first matching key breaks exactly this.) -/
theorem next_matching_host_is_tried (cfg : C03.Cfg) (view : Route.Target → C13.RTarget) (t : Route.Table) (q : CReq)
    {k : Route.Str} {r : Route.Route} {tg : Route.Target}
    (hk : k ∈ Props.C03.matched cfg t q.r03) (hl : Props.C03.look cfg t q.r03 k = some (r, tg))
    (hns : skipFor view q tg = false) :
    ∃ h r' tg', Lookup cfg view t q = some (h, r', tg') ∧ h ∈ Props.C03.matched cfg t q.r03 ∧
      Props.C03.look cfg t q.r03 h = some (r', tg') ∧ skipFor view q tg' = false := by
  have hnp : ¬ Props.C03.Passed (cfgFor cfg view q) t q.r03 k := fun hp =>
    Bool.false_ne_true (hns.symm.trans (hp _ hl))
  cases hL : Lookup cfg view t q with
  | none => exact absurd (Props.C03.Lookup_eq_none.1 hL k (List.mem_append_left _ hk)) hnp
  | some a =>
    obtain ⟨h, r', tg'⟩ := a
    obtain ⟨_, _, _, _, hl', hs'⟩ := Props.C03.Lookup_eq_some.1 hL
    obtain ⟨pre, post, e, _⟩ := Props.C03.Lookup_matched hL hk hnp
    rw [matched_cfgFor] at e
    exact ⟨h, r', tg', rfl, by rw [e]; simp, hl', hs'⟩

/-- In particular a plain (non-redirect) route under a matching host key always wins over the host-less routes,
whatever redirects stand before it -/
theorem plain_route_under_matching_host_is_reached (cfg : C03.Cfg) (view : Route.Target → C13.RTarget) (t : Route.Table)
    (q : CReq) {k : Route.Str} {r : Route.Route} {tg : Route.Target}
    (hk : k ∈ Props.C03.matched cfg t q.r03) (hl : Props.C03.look cfg t q.r03 k = some (r, tg))
    (hplain : (view tg).code = 0) :
    ∃ h r' tg', Lookup cfg view t q = some (h, r', tg') ∧ h ∈ Props.C03.matched cfg t q.r03 :=
  let ⟨h, r', tg', e, hm, _, _⟩ := next_matching_host_is_tried cfg view t q hk hl (skipFor_eq_false_iff.2 (.inl hplain))
  ⟨h, r', tg', e, hm⟩

/-- If every route that matches the request — under any key of the
host list, the host-less fallback included — redirects to the request's own scheme, host and path (in
particular: a table whose only matching route does), the request is *not* redirected: `Lookup` yields no
target and the proxy answers with the no-route status (404 by default).

Before the repair b42ae83 this held only when the self-redirecting route sat under a matched host key;
a host-less route (`route add r / https://$host$path opts "redirect=301"`, HTTPS request) was still
answered and the client looped. -/
theorem no_redirect_loop_for_single_route (cfg : C03.Cfg) (view : Route.Target → C13.RTarget)
    (t : Route.Table) (q : CReq)
    (hall : AllSkippedOrNone (Props.C03.look cfg t q.r03) (skipFor view q) (C03.hostList cfg t q.r03)) :
    Lookup cfg view t q = none ∧ answer cfg view t q = none := by
  have h1 : Lookup cfg view t q = none := by
    rw [Props.C03.hostList_eq] at hall
    exact Props.C03.Lookup_eq_none.2 (passed_of_all hall)
  exact ⟨h1, by simp [answer, h1]⟩

namespace Ex
open Fabio.Model.Route

def redirectTg : Target := { service := "redir".toList, tags := [], opts := [("redirect".toList, "301".toList)], url := "https://example.com/".toList, fixedWeight := 0 }
def appTg : Target := { service := "app".toList, tags := [], opts := [], url := "http://127.0.0.1:3000/".toList, fixedWeight := 0 }

/-- `route add redir example.com/ https://example.com/ opts "redirect=301"` and `route add app / http://127.0.0.1:3000/` -/
def T : Table :=
  [("example.com".toList, [{ host := "example.com".toList, path := "/".toList, targets := [redirectTg] }]),
   ([], [{ host := [], path := "/".toList, targets := [appTg] }])]

def view (tg : Target) : C13.RTarget :=
  if tg.service == "redir".toList then
    { url := { scheme := C13.lit "https", host := C13.lit "example.com", path := C13.lit "/" }, code := C13.redirectCode (C13.lit "301") }
  else { url := { scheme := C13.lit "http", host := C13.lit "127.0.0.1:3000", path := C13.lit "/" } }

def cfg : C03.Cfg :=
  { globMatch := fun p s => p == s, pathMatch := fun uri p => p.isPrefixOf uri, pick := fun r => r.targets.headD appTg, globDisabled := true }

def q (tls : Bool) : CReq :=
  { r03 := { host := "example.com".toList, tls := tls, path := "/".toList }, url := { host := C13.lit "example.com", path := C13.lit "/" }, xfp := [] }

/-- plain HTTP: redirected to HTTPS -/
example : answer cfg view T (q false) = some (301, C13.lit "https://example.com/") := by
  unfold T view cfg q redirectTg appTg
  simp only [Model.C13.lit, toList_lit rfl]; decide +kernel
/-- HTTPS (no `X-Forwarded-Proto`): the redirect would point at the request itself, the fallback answers (D18) -/
example : answer cfg view T (q true) = none ∧ (Lookup cfg view T (q true)).map (·.2.2.service) = some "app".toList := by
  unfold T view cfg q redirectTg appTg
  simp only [Model.C13.lit, toList_lit rfl]; decide +kernel
/-- HTTPS and no fallback route: no route, not a loop (D18c) -/
example : Lookup cfg view (T.take 1) (q true) = none := by
  unfold T view cfg q redirectTg appTg
  simp only [Model.C13.lit, toList_lit rfl]; decide +kernel

/-- the documented pair `example.com:80/ → https redirect`, `example.com/ → app` next to a host-less route, host globs
disabled, `X-Forwarded-Proto: https`: both keys match, the redirect is skipped, `example.com` answers (seeded m11's input) -/
def T2 : Table :=
  [("example.com:80".toList, [{ host := "example.com:80".toList, path := "/".toList, targets := [redirectTg] }]),
   ("example.com".toList, [{ host := "example.com".toList, path := "/".toList, targets := [appTg] }]),
   ([], [{ host := [], path := "/".toList, targets := [{ appTg with service := "other".toList }] }])]

def qx : CReq := { q false with xfp := C13.lit "https" }

example : Props.C03.matched cfg T2 qx.r03 = ["example.com:80".toList, "example.com".toList] ∧
    skipFor view qx redirectTg = true ∧
    (Lookup cfg view T2 qx).map (fun x => (x.1, x.2.2.service)) = some ("example.com".toList, "app".toList) := by
  unfold T2 qx q view cfg redirectTg appTg
  simp only [Model.C13.lit, toList_lit rfl]; decide +kernel

end Ex

end Fabio.Props.C13Compose
