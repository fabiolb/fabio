import Fabio.Lemmas.C15Slice
import Fabio.Lemmas.Lit
/-!
C15 — list-valued options: `Set` never writes an array it did not allocate (so the package-level defaults, which
the flag variables share their arrays with, and every `Config` returned earlier are untouched by a later load),
and the value it leaves is a function of the string alone.
-/
namespace Fabio.Props.C15Slice
open Fabio Fabio.Model.C15 Fabio.Lemmas.C15Slice

/--
**`Set` never writes an array that existed before the call** — for every store (in particular: the backing arrays
of `defaultConfig`'s lists and of every `Config` returned by an earlier `Load`), every string, every element
parser and every growth policy of `append`.  It holds because `Set` starts from `[]T{}`.
-/
theorem sliceSet_preserves_store {α} (zero : α) (grow : Nat → Nat) (parse : Str → Option α) (h : Store α) (s : Str) :
    (sliceSet zero grow parse h s).1.take h.length = h := by
  unfold sliceSet
  rw [setLoop_take zero grow parse _ h _ h.length (Nat.le_refl _) (Nat.le_refl _)]
  simp

/-- starting from the old slice truncated to length 0 instead does write the shared array: a default `[passing]`
becomes `[critical]` for every later load -/
theorem truncating_set_overwrites_default :
    let h : Store Str := [["passing".toList]]
    (sliceSetTruncating [] (fun _ => 0) some h { arr := 0, len := 1, cap := 1 } "critical".toList).1
      = [["critical".toList]] ∧
    (sliceSet [] (fun _ => 0) some h "critical".toList).1.take 1 = h := by
  simp only [toList_lit rfl]; decide +kernel

/-- **The value `Set` leaves is a function of the string alone**: the parsed fields (split at commas, blanks
trimmed, empty fields skipped) up to the first that does not parse — whatever the variable held before, whatever
is in the store, however `append` grows. -/
theorem sliceSet_value {α} (zero : α) (grow : Nat → Nat) (parse : Str → Option α) (h : Store α) (s : Str) :
    (sliceSet zero grow parse h s).1.read (sliceSet zero grow parse h s).2.1 = setValue parse (listFields s) := by
  unfold sliceSet
  rw [setLoop_read zero grow parse _ h _ ⟨Nat.le_refl _, Or.inl rfl⟩]
  simp [Store.read]

section Examples
example : listFields " a , b ,, c".toList = ["a".toList, "b".toList, "c".toList] := by
  simp only [toList_lit rfl]; decide +kernel
example : listFields ",".toList = [] ∧ listFields [] = [] ∧ listFields " ".toList = [] := by decide +kernel
/-- a second `Set` in the same load (`-x=a -x=b,c`) replaces the first value and leaves the first array alone -/
example :
    let r1 := sliceSet ([] : Str) (fun n => n) some [["dflt".toList]] "a".toList
    let r2 := sliceSet ([] : Str) (fun n => n) some r1.1 "b,c".toList
    r2.1.read r2.2.1 = ["b".toList, "c".toList] ∧ r2.1.read r1.2.1 = ["a".toList] ∧ r2.1.take 1 = [["dflt".toList]] := by
  simp only [toList_lit rfl]; decide +kernel
/-- a field that does not parse stops the loop with the earlier fields kept (what `ParseFlags` then ignores) -/
example : setValue (fun f => if f = "x".toList then none else some f) (listFields "1,x,2".toList) = ["1".toList] := by decide +kernel
end Examples

end Fabio.Props.C15Slice
