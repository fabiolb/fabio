import Fabio.Model.Route
import Fabio.Model.C04
import Fabio.Model.C04Spec
import Fabio.Lemmas.C04Ring
import Fabio.Lemmas.C04Weights
import Fabio.Lemmas.C04Slots
import Fabio.Lemmas.C04Pick
import Fabio.Lemmas.C04TableG
import Fabio.Lemmas.C04Arith
import Mathlib.Data.List.Perm.Subperm
/-!
C04 — traffic is split by the configured weights: property theorems over ℚ. The signs of the weights and the ring are
proved once, for `weighTargets` as coded in an arbitrary arithmetic (`weighA_nonneg`, `ring_as_coded`; `Model/C04F64.lean`);
ℚ is the instance `Arith.exact` (`weighA_exact`), and what ℚ adds is the values of the weights and that they sum to one.
(`Props/C04Round4.lean` has the float64 instance, the one the driver compares with the Go code bit for bit.)

Reading of the statement: "to within the resolution of 10,000 slots" = per target
|slots − 10⁴·weight| < 1, total slots within #targets of 10⁴, and *exact* equality with the weights when no
target has a fixed weight (the ring is bypassed: every target once per cycle).
-/
namespace Fabio.Props.C04
open Fabio Fabio.Model.Route Fabio.Model.C04 Fabio.Lemmas.C04

/-- `weighTargets` as coded (summation loop, `unit`, `norm`, `FixedWeight / unit / norm`), evaluated without
rounding, equals the ℚ model `weigh` (which multiplies with the reciprocal of the sum). -/
theorem weighA_exact (ts : List Target) : weighA Arith.exact ts = weigh ts := by
  rw [weighA_eq, unitSum_exact, weigh_eq]
  exact List.map_congr_left (fun t _ => by rw [effA_exact])

/-- Effective weights are never negative, in float64 (`f64_rounds_nonneg`) as in ℚ. -/
theorem weighA_nonneg (A : Arith) (hA : ∀ q, 0 ≤ q → 0 ≤ A.rnd q) (ts : List Target) :
    ∀ t ∈ weighA A ts, 0 ≤ t.weight := by
  obtain ⟨h1, h2⟩ := unitSum_nonneg A hA _ (fun f hf => le_of_lt (fixed_pos ts f hf))
  intro t ht
  rw [weighA_eq] at ht
  obtain ⟨x, _, rfl⟩ := List.mem_map.mp ht
  exact effA_nonneg A hA ts _ h1 h2 x

theorem weights_nonneg (ts : List Target) : ∀ t ∈ weigh ts, 0 ≤ t.weight :=
  weighA_exact ts ▸ weighA_nonneg Arith.exact (fun _ h => h) ts

/-- The effective weights of a non-empty route sum to one — in all four cases (no fixed weight; fixed sum
> 1, with or without dynamic targets; every target fixed and sum < 1; fixed + dynamic with sum ≤ 1). -/
theorem weights_sum_one (ts : List Target) (h : ts ≠ []) : ((weigh ts).map (·.weight)).sum = 1 := by
  rw [weights_map]; exact eff_sum_one ts h

/-- `weighTargets` changes nothing but the effective weight. -/
theorem weigh_keeps_fields (ts : List Target) (i : Nat) (t : Target) (h : ts[i]? = some t) :
    ∃ w, (weigh ts)[i]? = some { t with weight := w } := by
  exact ⟨_, weigh_getElem?_some h⟩

/-- Fixed weights are honoured as given when they do not exceed 100 % and either some target is dynamic or
they sum to exactly 100 %. -/
theorem fixed_honoured (ts : List Target) (i : Nat) (t : Target) (h : ts[i]? = some t)
    (hf : 0 < t.fixedWeight) (hs : sumFixed ts ≤ 1) (hd : nFixed ts < ts.length ∨ sumFixed ts = 1) :
    (weigh ts)[i]? = some { t with weight := t.fixedWeight } := by
  have hn := nFixed_ne_zero_of_mem (List.mem_of_getElem? h) hf
  have hsc : scaleOf ts = 1 := scaleOf_of_not ts (by
    rintro (h1 | ⟨h1, h2⟩)
    · exact absurd h1 (not_lt.mpr hs)
    · rcases hd with hd | hd
      · omega
      · rw [hd] at h2; exact absurd h2 (lt_irrefl _))
  rw [weigh_getElem?_some h, eff_of_fixed hn hf, hsc, mul_one]

/-- Fixed weights exceeding 100 % are scaled down proportionally (each divided by their sum) and the
dynamic targets get nothing. -/
theorem scaled_down_proportionally (ts : List Target) (i : Nat) (t : Target) (h : ts[i]? = some t)
    (hs : 1 < sumFixed ts) :
    (weigh ts)[i]? = some { t with weight := if 0 < t.fixedWeight then t.fixedWeight / sumFixed ts else 0 } := by
  rw [weigh_getElem?_some h]
  have hn : nFixed ts ≠ 0 := by
    intro h0; rw [sumFixed_zero ts h0] at hs; exact absurd hs (by norm_num)
  by_cases hf : 0 < t.fixedWeight
  · rw [if_pos hf, eff_of_fixed hn hf, scaleOf_of_scaled ts (Or.inl hs), mul_one_div]
  · rw [if_neg hf, eff_of_dynamic hn hf, dynOf_of_gt ts hs]

/-- If every target has a fixed weight and they sum to less than 100 % they are scaled up (each divided by
their sum). -/
theorem scaled_up_when_all_fixed (ts : List Target) (i : Nat) (t : Target) (h : ts[i]? = some t)
    (hall : nFixed ts = ts.length) (hs : sumFixed ts < 1) :
    (weigh ts)[i]? = some { t with weight := t.fixedWeight / sumFixed ts } := by
  have hmem : t ∈ ts := List.mem_of_getElem? h
  have hlen : 0 < ts.length := List.length_pos_of_mem hmem
  have hn : nFixed ts ≠ 0 := by omega
  -- as many fixed targets as targets: `t` is one of them
  have hf : 0 < t.fixedWeight := of_decide_eq_true (List.length_filter_eq_length_iff.mp hall t hmem)
  rw [weigh_getElem?_some h, eff_of_fixed hn hf, scaleOf_of_scaled ts (Or.inr ⟨hall, hs⟩), mul_one_div]

/-- The targets without a fixed weight share what the fixed weights leave over equally (this includes the
case of no fixed weight at all: `1 / n`). -/
theorem dynamic_share_equal (ts : List Target) (i : Nat) (t : Target) (h : ts[i]? = some t)
    (hf : ¬ 0 < t.fixedWeight) (hs : sumFixed ts ≤ 1) :
    (weigh ts)[i]? = some { t with weight := (1 - sumFixed ts) / ((ts.length - nFixed ts : Nat) : Rat) } := by
  rw [weigh_getElem?_some h]
  by_cases hn : nFixed ts = 0
  · rw [eff_of_no_fixed t hn, sumFixed_zero ts hn, hn, sub_zero, Nat.sub_zero]
  · rw [eff_of_dynamic hn hf, dynOf_of_le ts hs]

/-- `route weight`: each of the `n` matching targets is given the requested weight `w / n`, every other
target keeps its requested weight, no other field changes, and `n` is reported. -/
theorem setWeight_spreads (r : Route) (service : Str) (w : Rat) (tags : List Str) :
    let n := (r.targets.filter (matchesWeight service tags)).length
    (r.setWeight service w tags).2 = n ∧
    (n = 0 → (r.setWeight service w tags).1 = r) ∧
    (n ≠ 0 → ∀ (i : Nat) (t : Target), r.targets[i]? = some t →
      ∃ w', (r.setWeight service w tags).1.targets[i]? =
        some { t with fixedWeight := if matchesWeight service tags t then w / (n : Rat) else t.fixedWeight,
                      weight := w' }) := by
  intro n
  rw [setWeight_eq r service w tags (n := n) rfl]
  by_cases h0 : n = 0
  · rw [if_pos h0]
    exact ⟨h0.symm, fun _ => rfl, fun h => absurd h0 h⟩
  · rw [if_neg h0]
    refine ⟨rfl, fun h => absurd h h0, fun _ i t ht => ?_⟩
    simp only [spread, weigh_getElem?, List.getElem?_map, ht, Option.map_some]
    by_cases hm : matchesWeight service tags t
    · rw [if_pos hm, if_pos hm]; exact ⟨_, rfl⟩
    · rw [if_neg hm, if_neg hm]; exact ⟨_, rfl⟩

/-- `addTarget` clamps a negative requested weight to 0, i.e. the target is dynamic. -/
theorem addTarget_clamps_negative (r : Route) (service url : Str) (fw : Rat) (tags : List Str)
    (opts : List (Str × Str)) (h : fw < 0) :
    r.addTarget service url fw tags opts = r.addTarget service url 0 tags opts := by
  unfold Route.addTarget
  simp only [h, if_true, lt_irrefl, if_false]

theorem slot_error_lt_one (w : Rat) (hw : 0 ≤ w) : |(slotCount w : Rat) - 10000 * w| < 1 :=
  slotCount_abs w hw

/-- The slot counts of a non-empty route (`n` targets) sum to between `10⁴ − n` and `10⁴ + n`: the length of the ring
unless no target has a fixed weight, when the ring has `n` slots (`ring_of_route`). -/
theorem slots_total_near (ts : List Target) (h : ts ≠ []) :
    |((sumInt (slotCounts (weigh ts)) : Int) : Rat) - 10000| ≤ (ts.length : Rat) := by
  have hs := slots_sum_near ((weigh ts).map (·.weight)) (by
    intro w hw
    obtain ⟨t, ht, rfl⟩ := List.mem_map.mp hw
    exact weights_nonneg ts t ht)
  rw [weights_sum_one ts h] at hs
  simp only [List.length_map, weigh_length, List.map_map] at hs
  rw [sumInt_eq]
  simpa [slotCounts, Function.comp_def] using hs

theorem slot_positive_iff (w : Rat) : (0 < w → 1 ≤ slotCount w) ∧ (w = 0 → slotCount w = 0) :=
  ⟨slotCount_pos w, fun h => by rw [h]; exact slotCount_zero⟩

/-- The scan `for targets[next] != nil { next = (next+1) % usedSlots }` terminates within `usedSlots` steps
on a free slot whenever fewer than `usedSlots` slots are filled. -/
theorem ring_fill_terminates (ring : Ring) (next : Nat) (hn : next < ring.length)
    (hfree : 0 < ring.count none) :
    ∃ k, findFree ring next ring.length = some k ∧ k < ring.length ∧ ring[k]? = some none :=
  findFree_of_free ring next hn hfree

/-- For every vector of non-negative slot counts and **every** placement order (any permutation of the
entries — sortedness is not even needed) the fill neither panics nor loops, the ring has `Σ nᵢ` slots, no
slot is left empty, and target `i` occupies exactly `nᵢ` slots. -/
theorem ring_counts (ns : List Int) (hpos : ∀ n ∈ ns, 0 ≤ n) (pl : List (Int × Nat))
    (hperm : pl.Perm (entries ns)) :
    ∃ ring, fillRing ns pl = .ok ring ∧ ring.length = (sumInt ns).toNat ∧ (∀ s ∈ ring, s ≠ none) ∧
      ∀ i (h : i < ns.length), ring.count (some i) = (ns[i]).toNat := by
  obtain ⟨ring, h1, h2, h3, h4⟩ := ring_spec ns hpos pl hperm 1
  exact ⟨ring, h1, h2, not_none_of_slots h3, h4⟩

/-- the driver's executable check of a placement order implies the hypothesis of `ring_counts` -/
theorem validPlacement_sound (ns : List Int) (pl : List (Int × Nat)) (h : validPlacement ns pl = true) :
    pl.Perm (entries ns) := by
  simp only [validPlacement, Bool.and_eq_true, beq_iff_eq, List.all_eq_true, List.mem_range] at h
  obtain ⟨⟨_, hlen⟩, hall⟩ := h
  have hnd : (entries ns).Nodup := List.Nodup.of_map _ (entries_snd_nodup ns)
  have hsub : entries ns ⊆ pl := by
    intro e he
    obtain ⟨hi, hv⟩ := mem_entries.mp he
    have := hall e.2 hi
    rw [List.contains_iff_mem, List.getD_eq_getElem?_getD, List.getElem?_eq_getElem hi, hv] at this
    exact this
  have hsp : (entries ns).Subperm pl := List.subperm_of_subset hnd hsub
  exact (hsp.perm_of_length_le (by rw [hlen, entries, List.length_zipIdx])).symm

/-- The ring of the code as coded, for every tie order of the sort (`pl`) and with the weights computed in `A`, an
arithmetic that rounds non-negative numbers to non-negative numbers and `0` to `0`: every slot holds a target of the
route. Sentences 3 and 4 of the property therefore do not depend on the ℚ idealisation. Without fixed weights every
target has its one slot whatever its weight, hence `nFixed ts ≠ 0` in the last conjunct. -/
theorem ring_as_coded (A : Arith) (hA : ∀ q, 0 ≤ q → 0 ≤ A.rnd q) (h0 : A.rnd 0 = 0) (ts : List Target)
    (pl : List (Int × Nat))
    (hperm : pl.Perm (entries ((weighA A ts).map (fun t => slotCountA A t.weight)))) :
    ∃ ring, ringAsCoded A ts pl = .ok ring ∧
      ring.length = (if nFixed ts = 0 then ts.length
        else (sumInt ((weighA A ts).map (fun t => slotCountA A t.weight))).toNat) ∧
      (∀ s ∈ ring, ∃ i, i < ts.length ∧ s = some i) ∧
      ∀ i t, (weighA A ts)[i]? = some t →
        ring.count (some i) = (if nFixed ts = 0 then 1 else (slotCountA A t.weight).toNat) ∧
        (0 < t.weight → some i ∈ ring) ∧ (t.weight = 0 → nFixed ts ≠ 0 → some i ∉ ring) := by
  have hpos : ∀ n ∈ (weighA A ts).map (fun t => slotCountA A t.weight), 0 ≤ n := by
    intro n hnm
    obtain ⟨t, ht, rfl⟩ := List.mem_map.mp hnm
    exact slotCountA_nonneg A hA _ (weighA_nonneg A hA ts t ht)
  obtain ⟨ring, h1, h2, h3, h4⟩ := ring_spec _ hpos pl hperm (nFixed ts)
  rw [List.length_map, weighA_length] at h1 h2 h3
  refine ⟨ring, h1, h2, h3, fun i t hi => ?_⟩
  obtain ⟨hil, hti⟩ := List.getElem?_eq_some_iff.mp hi
  have hc : ring.count (some i) = if nFixed ts = 0 then 1 else (slotCountA A t.weight).toNat := by
    rw [h4 i (by rw [List.length_map]; exact hil)]
    simp only [List.getElem_map, hti]
  exact ⟨hc, fun hp => (mem_ring_of_count hc).1 (slotCountA_pos A hA _ hp),
    fun hz => (mem_ring_of_count hc).2 (by rw [hz, slotCountA_zero A h0])⟩

theorem ringAsCoded_exact (ts : List Target) (pl : List (Int × Nat)) :
    ringAsCoded Arith.exact ts pl = ringOf (weigh ts) pl := by
  unfold ringAsCoded ringOf
  rw [nFixed_weigh, weighA_exact, weigh_length]
  rfl

/-- the weights of a non-empty route sum to one, so one of them is positive -/
theorem exists_pos_weight (ts : List Target) (hne : ts ≠ []) : ∃ t ∈ weigh ts, 0 < t.weight := by
  by_contra hno
  have hall : ∀ w ∈ (weigh ts).map (·.weight), w = 0 := by
    intro w hw
    obtain ⟨t, ht, rfl⟩ := List.mem_map.mp hw
    exact le_antisymm (not_lt.mp (fun hp => hno ⟨t, ht, hp⟩)) (weights_nonneg ts t ht)
  have hsum := weights_sum_one ts hne
  rw [List.sum_eq_zero hall] at hsum
  exact absurd hsum (by norm_num)

theorem slotCounts_nonneg (ts : List Target) : ∀ n ∈ slotCounts (weigh ts), 0 ≤ n := by
  intro n hnm
  obtain ⟨t, ht, rfl⟩ := List.mem_map.mp hnm
  exact slotCount_nonneg _ (weights_nonneg ts t ht)

/-- a weight of zero needs a fixed weight somewhere: without one every weight is `1/n` -/
theorem nFixed_ne_zero_of_weight_zero {ts : List Target} (hne : ts ≠ []) {i : Nat} {t : Target}
    (hi : (weigh ts)[i]? = some t) (hw : t.weight = 0) : nFixed ts ≠ 0 := by
  intro h0
  rw [weigh_weight_no_fixed ts h0 i t hi] at hw
  have hpos : (0 : Rat) < (ts.length : Rat) := by exact_mod_cast (List.length_pos_iff.mpr hne)
  exact absurd hw (ne_of_gt (one_div_pos.mpr hpos))

/-- The ring of a non-empty weighed route, for every placement order: `ring_as_coded` in exact arithmetic. Target `i`
occupies exactly `slotCount wᵢ` slots, or one slot each when no target has a fixed weight (the bypass
`r.wTargets = r.Targets`); it is on the ring iff its weight is positive. What ℚ adds: the ring is not empty, because
the weights sum to one. -/
theorem ring_of_route (ts : List Target) (hne : ts ≠ []) (pl : List (Int × Nat))
    (hperm : pl.Perm (entries (slotCounts (weigh ts)))) :
    ∃ ring, ringOf (weigh ts) pl = .ok ring ∧ ring ≠ [] ∧
      ring.length = (if nFixed ts = 0 then ts.length else (sumInt (slotCounts (weigh ts))).toNat) ∧
      (∀ s ∈ ring, ∃ i, i < ts.length ∧ s = some i) ∧
      ∀ i t, (weigh ts)[i]? = some t →
        ring.count (some i) = (if nFixed ts = 0 then 1 else (slotCount t.weight).toNat) ∧
        (0 < t.weight → some i ∈ ring) ∧ (t.weight = 0 → some i ∉ ring) := by
  rw [← weighA_exact] at hperm
  obtain ⟨ring, h1, h2, h3, h4⟩ := ring_as_coded Arith.exact (fun _ h => h) rfl ts pl hperm
  rw [ringAsCoded_exact] at h1
  rw [weighA_exact] at h2 h4
  refine ⟨ring, h1, ?_, h2, h3, fun i t hi => ⟨(h4 i t hi).1, (h4 i t hi).2.1, fun hz =>
    (h4 i t hi).2.2 hz (nFixed_ne_zero_of_weight_zero hne hi hz)⟩⟩
  obtain ⟨t, ht, hp⟩ := exists_pos_weight ts hne
  obtain ⟨i, hi, hti⟩ := List.getElem_of_mem ht
  exact List.ne_nil_of_mem ((h4 i t (by rw [List.getElem?_eq_getElem hi, hti])).2.1 hp)

/-- A target with positive effective weight is on the ring, whatever the placement order. -/
theorem positive_weight_never_starved (ts : List Target) (hne : ts ≠ []) (pl : List (Int × Nat))
    (hperm : pl.Perm (entries (slotCounts (weigh ts)))) (i : Nat) (t : Target)
    (hi : (weigh ts)[i]? = some t) (hw : 0 < t.weight) :
    ∃ ring, ringOf (weigh ts) pl = .ok ring ∧ some i ∈ ring := by
  obtain ⟨ring, h1, _, _, _, h4⟩ := ring_of_route ts hne pl hperm
  exact ⟨ring, h1, (h4 i t hi).2.1 hw⟩

/-- A target with effective weight zero is not on the ring, hence no picker can return it: `rrPicker` and
`rndPicker` only ever return ring slots. (Without any fixed weight every weight is `1/n > 0`.) -/
theorem zero_weight_never_picked (ts : List Target) (hne : ts ≠ []) (pl : List (Int × Nat))
    (hperm : pl.Perm (entries (slotCounts (weigh ts)))) (i : Nat) (t : Target)
    (hi : (weigh ts)[i]? = some t) (hw : t.weight = 0) :
    ∃ ring, ringOf (weigh ts) pl = .ok ring ∧ some i ∉ ring ∧
      (∀ total s total', rrPick ring total = .ok (s, total') → s ≠ some i) ∧
      (∀ rnd s, rndPick ring rnd = .ok s → s ≠ some i) := by
  obtain ⟨ring, h1, _, _, _, h4⟩ := ring_of_route ts hne pl hperm
  have hnot := (h4 i t hi).2.2 hw
  exact ⟨ring, h1, hnot, fun total s total' hp hs => hnot (hs ▸ rrPick_mem ring total total' s hp),
    fun rnd s hp hs => hnot (hs ▸ rndPick_mem ring rnd s hp)⟩

/-- Any window of `N = len(ring)` consecutive sequential `rrPicker` calls (not crossing the wrap-around of
the uint64 cursor) returns every slot content exactly as often as it occurs on the ring. -/
theorem rr_cycle_exact (ring : Ring) (h : 0 < ring.length) (total : Nat)
    (hw : total + ring.length ≤ uint64Size) :
    ∃ out, rrRun ring ring.length total = .ok out ∧ ∀ s, out.count s = ring.count s := by
  refine ⟨ring.rotate total, rrRun_cycle ring h total hw, fun s => ?_⟩
  exact (List.rotate_perm ring total).count_eq s

/-- closed form of `k` sequential `rrPicker` calls (what the driver evaluates) -/
theorem rrRun_eq (ring : Ring) (h : 0 < ring.length) (k total : Nat) (ht : total < uint64Size) :
    ∃ out, rrRun ring k total = .ok out ∧ out.length = k ∧
      ∀ j, j < k → out[j]? = ring[((total + j) % uint64Size) % ring.length]? :=
  rrRun_spec ring h k total ht

/-- The per-target clause of the share theorems, from the number `c` of ring slots `ring_of_route` gives target `i`. -/
theorem share_of_count {ts : List Target} {i : Nat} {t : Target} {c : Nat} (hi : (weigh ts)[i]? = some t)
    (hc : c = if nFixed ts = 0 then 1 else (slotCount t.weight).toNat) :
    (nFixed ts = 0 → c = 1 ∧ t.weight = 1 / (ts.length : Rat)) ∧
    (nFixed ts ≠ 0 → |(c : Rat) - 10000 * t.weight| < 1) := by
  have hw : 0 ≤ t.weight := weights_nonneg ts t (List.mem_of_getElem? hi)
  refine ⟨fun h0 => ⟨by rw [hc, if_pos h0], weigh_weight_no_fixed ts h0 i t hi⟩, fun hn => ?_⟩
  rw [hc, if_neg hn, toNat_cast (slotCount_nonneg _ hw)]
  exact slotCount_abs _ hw

/-- End to end: on a non-empty route, for every placement order and every cursor position whose window does not
cross the uint64 wrap, a full cycle of round-robin lookups sends target `i` exactly `nᵢ` requests where
`|nᵢ − 10⁴·wᵢ| < 1` (and exactly one of `n` when no weight is fixed, i.e. the share `wᵢ = 1/n` exactly). -/
theorem rr_share (ts : List Target) (hne : ts ≠ []) (pl : List (Int × Nat))
    (hperm : pl.Perm (entries (slotCounts (weigh ts)))) (total : Nat) :
    ∃ ring, ringOf (weigh ts) pl = .ok ring ∧ 0 < ring.length ∧
      (total + ring.length ≤ uint64Size →
        ∃ out, rrRun ring ring.length total = .ok out ∧
          ∀ i t, (weigh ts)[i]? = some t →
            (nFixed ts = 0 → out.count (some i) = 1 ∧ t.weight = 1 / (ts.length : Rat)) ∧
            (nFixed ts ≠ 0 → |((out.count (some i) : Nat) : Rat) - 10000 * t.weight| < 1)) := by
  obtain ⟨ring, h1, h2, _, _, h4⟩ := ring_of_route ts hne pl hperm
  have hl : 0 < ring.length := List.length_pos_iff.mpr h2
  refine ⟨ring, h1, hl, fun hw => ?_⟩
  obtain ⟨out, ho, hc⟩ := rr_cycle_exact ring hl total hw
  exact ⟨out, ho, fun i t hi => share_of_count hi ((hc _).trans (h4 i t hi).1)⟩

/-- `rndPicker` with an RNG honouring its contract (`0 ≤ randIntn n < n`) returns what is stored in a ring slot. -/
theorem rnd_picks_ring_slot (ring : Ring) (rnd : Nat → Int)
    (hr : 0 ≤ rnd ring.length ∧ rnd ring.length < ring.length) :
    ∃ s, rndPick ring rnd = .ok s ∧ s ∈ ring := by
  have hk : (rnd ring.length).toNat < ring.length := by omega
  exact ⟨_, rndPick_ok ring rnd hr.1 hk, List.getElem_mem hk⟩

/-- `Table.lookup`: a route with a single target always answers with that target, a route without targets
with nil; neither consults the picker. -/
theorem lookup_shortcuts (pick : Outcome (Option Nat)) :
    lookupPick 0 pick = .ok none ∧ lookupPick 1 pick = .ok (some 0) ∧
    ∀ n, 2 ≤ n → lookupPick n pick = pick := by
  refine ⟨rfl, rfl, fun n hn => ?_⟩
  unfold lookupPick
  have h0 : n ≠ 0 := by omega
  have h1 : n ≠ 1 := by omega
  simp [h0, h1]

/-! The statements above are about `weigh ts`. The route commands (`route add` / `route del` / `route weight`,
any script, through `NewTable` or `NewTableCustom`) only ever store targets that came out of `weigh`, and
never leave an empty route behind — so they hold for every route of every table. Both are carried through the
commands for every weighing function (`newTable_okG`, `Lemmas/C04TableG.lean`); `weigh` is the instance `Ops.rat`. -/

/-- the parametrised route commands with `weigh` and `w / n` plugged in are, literally, the shared model -/
theorem newTableG_rat (env : Env) (defs : List RouteDef) : newTableG Ops.rat env defs = newTable env defs := by
  unfold newTableG newTable buildFrom; rw [applyDefG_rat]; rfl
theorem newTableWG_rat (env : Env) (defs : List (RouteDef × Bool)) :
    newTableWG Ops.rat env defs = newTableW env defs := by
  unfold newTableWG newTableW; rw [applyDefWG_rat]; rfl

theorem route_weighed (env : Env) (defs : List RouteDef) (t : Table) (h : newTable env defs = .ok t) :
    ∀ kv ∈ t, ∀ r ∈ kv.2, ∃ ts, ts ≠ [] ∧ r.targets = weigh ts := by
  intro kv hkv r hr
  obtain ⟨hne, ts, hts⟩ := newTable_okG Ops.rat (fun _ => Lemmas.Route.weigh_ne_nil) env defs t
    (by rw [newTableG_rat]; exact h) kv hkv r hr
  exact ⟨ts, fun h0 => by subst h0; exact hne hts, hts⟩

theorem every_route_weights (env : Env) (defs : List RouteDef) (t : Table) (h : newTable env defs = .ok t) :
    ∀ kv ∈ t, ∀ r ∈ kv.2,
      r.targets ≠ [] ∧ (∀ tg ∈ r.targets, 0 ≤ tg.weight) ∧ (r.targets.map (·.weight)).sum = 1 := by
  intro kv hkv r hr
  obtain ⟨ts, hne, hts⟩ := route_weighed env defs t h kv hkv r hr
  rw [hts]
  exact ⟨Lemmas.Route.weigh_ne_nil hne, weights_nonneg ts, weights_sum_one ts hne⟩

theorem every_route_ring (env : Env) (defs : List RouteDef) (t : Table) (h : newTable env defs = .ok t) :
    ∀ kv ∈ t, ∀ r ∈ kv.2, ∀ pl : List (Int × Nat), pl.Perm (entries (slotCounts r.targets)) →
      ∃ ring, ringOf r.targets pl = .ok ring ∧ ring ≠ [] ∧ (∀ s ∈ ring, s ≠ none) ∧
        ∀ i tg, r.targets[i]? = some tg →
          ring.count (some i) = (if nFixed r.targets = 0 then 1 else (slotCount tg.weight).toNat) ∧
          (0 < tg.weight → some i ∈ ring) ∧ (tg.weight = 0 → some i ∉ ring) := by
  intro kv hkv r hr pl hperm
  obtain ⟨ts, htsne, hts⟩ := route_weighed env defs t h kv hkv r hr
  rw [hts] at hperm ⊢
  obtain ⟨ring, h1, h2, _, h3, h4⟩ := ring_of_route ts htsne pl hperm
  rw [nFixed_weigh]
  exact ⟨ring, h1, h2, not_none_of_slots h3, h4⟩

theorem fillA_refines (ns : List Int) (pl : List (Int × Nat)) :
    (fillRingA ns pl).map Array.toList = fillRing ns pl := by
  unfold fillRingA fillRing
  simp only
  split
  · rfl
  · rw [fillA_eq]; simp

/-- non-finite weights (D02 repaired) are refused, never weighed -/
theorem nonfinite_weight_rejected (env : Env) (t : Table) (d : RouteDef)
    (hc : d.cmd = .add ∨ d.cmd = .weight) : ∃ e, applyDefW env t d false = .error e := by
  unfold applyDefW
  rcases hc with hc | hc <;> simp only [hc, Bool.false_eq_true, if_false]
  · split
    · exact ⟨_, rfl⟩
    · split <;> exact ⟨_, rfl⟩
  · split <;> exact ⟨_, rfl⟩

def tg (fw : Rat) : Target := { service := ['s'], tags := [], opts := [], url := ['u'], fixedWeight := fw }

-- one example per case of `weighTargets`; the three after them check the hypotheses of the case theorems
example : (weigh [tg (1/4), tg 0, tg 0]).map (·.weight) = [1/4, 3/8, 3/8] := by decide +kernel
example : (weigh [tg 2, tg 3, tg 0]).map (·.weight) = [2/5, 3/5, 0] := by decide +kernel
example : (weigh [tg (1/5), tg (3/10)]).map (·.weight) = [2/5, 3/5] := by decide +kernel
example : (weigh [tg 0, tg 0, tg 0]).map (·.weight) = [1/3, 1/3, 1/3] := by decide +kernel
example : nFixed [tg (1/4), tg 0, tg 0] < [tg (1/4), tg 0, tg 0].length ∧ sumFixed [tg (1/4), tg 0, tg 0] ≤ 1 := by decide +kernel
example : 1 < sumFixed [tg 2, tg 3, tg 0] := by decide +kernel
example : nFixed [tg (1/5), tg (3/10)] = 2 ∧ sumFixed [tg (1/5), tg (3/10)] < 1 := by decide +kernel
example : slotCount (1/30000) = 1 ∧ slotCount (1/3) = 3333 ∧ slotCount 0 = 0 := by decide +kernel
-- two tie orders of the same slot vector
example : validPlacement [2, 1, 1] [(1, 1), (1, 2), (2, 0)] = true ∧ validPlacement [2, 1, 1] [(1, 2), (1, 1), (2, 0)] = true := by decide +kernel
example : fillRing [2, 1, 1] [(1, 1), (1, 2), (2, 0)] = .ok [some 1, some 2, some 0, some 0] := by decide +kernel
example : fillRing [2, 1, 1] [(1, 2), (1, 1), (2, 0)] = .ok [some 2, some 1, some 0, some 0] := by decide +kernel
-- the scan really probes: 3 and 3 on a ring of 6, second entry collides on every slot
example : fillRing [3, 3] [(3, 0), (3, 1)] = .ok [some 0, some 1, some 0, some 1, some 0, some 1] := by decide +kernel
example : rrRun [some 0, some 1, some 0] 3 7 = .ok [some 1, some 0, some 0] := by decide +kernel
-- an empty ring is a crash (what D02 produced before the repair)
example : (rrPick [] 0).isPanic = true := by decide +kernel
example : applyDefW ⟨fun _ => none, fun _ => true⟩ [] { cmd := .add, src := ['/'], dst := ['x'] } false = .error none := by decide +kernel

end Fabio.Props.C04
