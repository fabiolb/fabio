import Fabio.Lemmas.C06
/-!
C06 — concurrent requests do not influence each other's routing: property theorems.

Every `∀ sch : List Nat` below quantifies over ALL schedules (`run` skips ids that name no runnable thread,
so every list of naturals is a schedule, complete or not), any number of threads, any operation sequences.
The "current" forms (`…Current`) are the programs found on the unchanged tree; the witnesses about them are
replayed on the implementation by the race streams of the check (D08, D09, D10).
-/
namespace Fabio.Props.C06
open Fabio.Model.C06 Fabio.Lemmas.C06

/-- **Round-robin hands out an exact share under every interleaving.**  `ks[i]` picks by thread `i`, each
pick one atomic fetch-add (`rrThreadRepaired`), any start cursor `c = s.total`, any schedule (also one that
stops half-way: `K` is the number of picks performed so far).  The multiset of ring indices handed out is
exactly `{c, …, c+K-1} mod N`. -/
theorem rr_exact_share_any_schedule (N : Nat) (hN : 0 < N) (ks : List Nat) (s : State) (sch : List Nat) :
    let r := run sch (ks.map (rrThreadRepaired N)) s
    let K := r.1.total - s.total
    s.total ≤ r.1.total ∧ K ≤ ks.sum ∧ (finished r.2 = true → K = ks.sum) ∧
    (allPicks r.2).Perm ((List.range' s.total K).map (· % N)) :=
  rr_run_fresh N hN ks s sch

/-- Every ring slot is hit `⌊K/N⌋` or `⌊K/N⌋+1` times, exactly `K/N` times after whole cycles. -/
theorem rr_slot_share_any_schedule (N : Nat) (hN : 0 < N) (ks : List Nat) (s : State) (sch : List Nat)
    (j : Nat) (hj : j < N) :
    let r := run sch (ks.map (rrThreadRepaired N)) s
    let K := r.1.total - s.total
    K / N ≤ (allPicks r.2).count j ∧ (allPicks r.2).count j ≤ K / N + 1 ∧
      (K % N = 0 → (allPicks r.2).count j = K / N) := by
  have h := (rr_label_share (fun x => x) N hN ks s sch j).2
  rwa [labelWeight_id N j hj, List.map_id', Nat.mul_one, Nat.mul_one] at h

/-- Every target receives its exact share of the lookups: a target owning `w` of the `N` ring slots
(`ring` maps slot ↦ target) is chosen between `⌊K/N⌋·w` and `(⌊K/N⌋+1)·w` times, exactly `(K/N)·w` times
after whole cycles. -/
theorem rr_target_share_any_schedule (ring : List Nat) (hN : 0 < ring.length) (ks : List Nat) (s : State)
    (sch : List Nat) (t : Nat) :
    let N := ring.length
    let r := run sch (ks.map (rrThreadRepaired N)) s
    let K := r.1.total - s.total
    let hits := ((allPicks r.2).map (fun i => ring[i]?.getD 0)).count t
    K / N * ring.count t ≤ hits ∧ hits ≤ (K / N + 1) * ring.count t ∧
      (K % N = 0 → hits = K / N * ring.count t) ∧
      hits = targetShare ring s.total K t := by
  obtain ⟨e, h⟩ := rr_label_share (fun i => ring[i]?.getD 0) ring.length hN ks s sch t
  rw [ring_weight] at h
  exact ⟨h.1, h.2.1, h.2.2, e.trans (targetShare_eq ring s.total _ t).symm⟩

/-- The driver's cycle-wise evaluation of the share is the specification's. -/
theorem targetShareFast_eq (ring : List Nat) (hN : 0 < ring.length) (c K t : Nat) :
    targetShareFast ring c K t = targetShare ring c K t := by
  rw [targetShare_eq, labelShare_split, ring_weight]
  unfold targetShareFast
  simp only [List.getElem?_toArray]
  rfl

/-- The form found on the unchanged tree (plain read of the cursor, then atomic add) loses the share: two
goroutines, one pick each, ring of 3 — both read cursor 0, both receive slot 0, slot 1 is skipped. -/
theorem rr_current_loses_share :
    ∃ sch : List Nat,
      let r := run sch [rrThreadCurrent 3 1, rrThreadCurrent 3 1] {}
      finished r.2 = true ∧ r.1.total = 2 ∧ allPicks r.2 = [0, 0] ∧
      ¬ (allPicks r.2).Perm ((List.range' 0 2).map (· % 3)) :=
  ⟨[0, 1, 0, 1], by decide +kernel⟩

/-- **`rnd` always hands out a slot of the route's ring** (a target of the route with positive weight), under
every schedule, next to any other lookups and table replacements: with `randIntn` = math/rand's internally
locked top-level generator one pick is one micro-step yielding an index below the ring size. -/
theorem rnd_pick_is_a_ring_slot (compile : Nat → Option Nat) (build : Nat → Nat) (size : Nat) (hsize : 0 < size)
    (ts : List Th) (s : State) (sch : List Nat)
    (hsteps : ∀ t ∈ ts, ∀ f ∈ t.steps, SysStep compile build f)
    (hI : CacheInv compile size s.cache) (hJ : ∀ t ∈ ts, LocalInv compile build t.loc) :
    ∀ t ∈ (run sch ts s).2, t.loc.dead = false ∧ ∀ e ∈ t.loc.rpicks, e.2 < e.1 := by
  intro t ht
  have h := (sys_inv compile build size hsize sch ts s hsteps hI hJ).2 t ht
  exact ⟨h.alive, h.rpicks⟩

/-- **The cache stays within its configured size and never fails a lookup.**  Any threads made of repaired
lookups (lock-free fast path, slow path under the mutex) and table replacements, any schedule, size ≥ 1:
the structural invariant `n ≤ size ∧ keys(m) = set(l[0..n)) ∧ …` holds afterwards, the map holds at most
`size` entries, no goroutine panicked, and every `Get` that returned gave exactly `compile pattern` (the
glob if the pattern compiles, the compile error otherwise) — whatever the cache held at the time. -/
theorem globcache_inv (compile : Nat → Option Nat) (build : Nat → Nat) (size : Nat) (hsize : 0 < size)
    (ts : List Th) (s : State) (sch : List Nat)
    (hsteps : ∀ t ∈ ts, ∀ f ∈ t.steps, SysStep compile build f)
    (hI : CacheInv compile size s.cache) (hJ : ∀ t ∈ ts, LocalInv compile build t.loc) :
    let r := run sch ts s
    CacheInv compile size r.1.cache ∧ r.1.cache.n ≤ size ∧ r.1.cache.m.length ≤ size ∧
    (∀ t ∈ r.2, t.loc.dead = false ∧ ∀ e ∈ t.loc.gets, e.2 = getSpec compile e.1) := by
  obtain ⟨hc, hl⟩ := sys_inv compile build size hsize sch ts s hsteps hI hJ
  exact ⟨hc, hc.n_le, hc.map_length_le, fun t ht => ⟨(hl t ht).alive, (hl t ht).gets⟩⟩

/-- The unsynchronised form overflows, three ways (cache of size 1, patterns 1…5 all compile):
(a) two first-time `Get`s both pass `n < len(l)`; the second `c.l[c.n] = pattern` indexes out of range;
(b) with a slightly different interleaving both succeed and `n` ends at 2 > size; the eviction after next computes
    `h = 1` and `c.l[c.h]` panics;
(c) two evictions of the same head slot delete the same key and store two: no panic, but the map holds keys that no
    ring slot refers to (never evicted) — one more per round (3 keys after two rounds, one ring slot), and `CacheInv`
    is false. -/
theorem globcache_current_overflows :
    let compile : Nat → Option Nat := fun p => some p
    let s1 : State := { cache := Cache.new 1 }
    (∃ sch, (outputs (run sch [getThreadCurrent compile [1], getThreadCurrent compile [2]] s1)).map (·.gets)
        = [[(1, .ok 1)], [(2, .panic .indexOutOfRange)]]) ∧
    (∃ sch, let r := run sch [getThreadCurrent compile [1, 3, 4], getThreadCurrent compile [2]] s1
        r.1.cache.n = 2 ∧ (outputs r).map (·.gets) =
          [[(1, .ok 1), (3, .ok 3), (4, .panic .indexOutOfRange)], [(2, .ok 2)]]) ∧
    (∃ sch, let r := run sch [getThreadCurrent compile [1, 2, 4], getThreadCurrent compile [3, 5]] s1
        finished r.2 = true ∧ (∀ l ∈ outputs r, l.dead = false) ∧
        r.1.cache.l = [5] ∧ keys r.1.cache.m = [5, 4, 2] ∧ ¬ CacheInv compile 1 r.1.cache) := by
  refine ⟨⟨[0,0,0,1,1,1,0,0,0,1,1,1], by decide +kernel⟩,
          ⟨[0,0,0,0, 1,1,1,1, 0,1, 0,1, 0,1] ++ List.replicate 14 0, by decide +kernel⟩,
          ⟨List.replicate 7 0 ++ [0,0,0, 1,1,1, 0,1, 0,1, 0,1, 0,1] ++ [0,0,0, 1,1,1, 0,1, 0,1, 0,1, 0,1], ?_⟩⟩
  -- the four decidable conjuncts in one evaluation of the run; then three keys are no permutation of one slot
  simp only [← and_assoc]
  refine (fun h => ⟨h, fun hI => ?_⟩) (by decide +kernel)
  have hp := hI.mapOK.1.length_eq
  rw [h.2, h.1.2, List.length_take] at hp
  simp only [List.length_cons, List.length_nil] at hp
  omega

/-- **The redirect Location depends only on the request.**  In the same setting (any mix of concurrent
repaired lookups and table replacements, any schedule) every Location handed back for request `q` is
`build q` — no other request, no schedule, no earlier state can influence it. -/
theorem redirect_depends_only_on_request (compile : Nat → Option Nat) (build : Nat → Nat) (size : Nat)
    (hsize : 0 < size) (ts : List Th) (s : State) (sch : List Nat)
    (hsteps : ∀ t ∈ ts, ∀ f ∈ t.steps, SysStep compile build f)
    (hI : CacheInv compile size s.cache) (hJ : ∀ t ∈ ts, LocalInv compile build t.loc) :
    ∀ t ∈ (run sch ts s).2, ∀ e ∈ t.loc.locs, e.2 = some (build e.1) :=
  fun t ht => ((sys_inv compile build size hsize sch ts s hsteps hI hJ).2 t ht).locs

/-- The form found on the unchanged tree (URL stored on the shared target by `Lookup`, read back by
`ServeHTTP`): two requests, the first is answered with the second one's Location. -/
theorem redirect_current_crosstalk :
    ∃ sch : List Nat,
      let build : Nat → Nat := fun q => 100 + q
      (outputs (run sch [rdThreadCurrent build [1], rdThreadCurrent build [2]] {})).map (·.locs)
        = [[(1, some 102)], [(2, some 102)]] :=
  ⟨[0, 1, 0, 1], by decide +kernel⟩

/-- **The only shared effect of a lookup is advancing load balancing.**  After any schedule of repaired
lookups, the state differs from the initial one only in the cursor — advanced by exactly the number of
picks handed out —, in the cache contents (which `globcache_inv` shows to be unobservable) and in the state of
math/rand's generator when the strategy is `rnd`: all three are load balancing / caching, none is a routing input. -/
theorem lookup_frame (compile : Nat → Option Nat) (build : Nat → Nat) (ts : List Th) (s : State) (sch : List Nat)
    (hsteps : ∀ t ∈ ts, ∀ f ∈ t.steps, LookupStep compile build f) :
    let r := run sch ts s
    r.1 = { s with total := s.total + ((allPicks r.2).length - (allPicks ts).length), cache := r.1.cache,
                    rng := r.1.rng } ∧
    (allPicks ts).length ≤ (allPicks r.2).length := by
  obtain ⟨hr, ht, htot, hmono⟩ := lookup_run compile build sch ts s hsteps
  refine ⟨?_, hmono⟩
  have e : (run sch ts s).1.total
      = s.total + ((allPicks (run sch ts s).2).length - (allPicks ts).length) := by omega
  -- the final state field by field: cursor, redirect slot and table cell are known
  show (⟨(run sch ts s).1.total, (run sch ts s).1.cache, (run sch ts s).1.redirect, (run sch ts s).1.table,
    (run sch ts s).1.rng⟩ : State) = _
  rw [e, hr, ht]

example (sch : List Nat)
    (hfin : finished (run sch ([2, 2, 2].map (rrThreadRepaired 3)) { total := 7 }).2 = true) :
    (allPicks (run sch ([2, 2, 2].map (rrThreadRepaired 3)) { total := 7 }).2).count 1 = 2 := by
  have h := rr_exact_share_any_schedule 3 (by decide) [2, 2, 2] { total := 7 } sch
  have hK := h.2.2.1 hfin
  have hs := rr_slot_share_any_schedule 3 (by decide) [2, 2, 2] { total := 7 } sch 1 (by decide)
  simp only [] at hK hs
  rw [hK] at hs
  exact hs.2.2 (by decide)

example : (outputs (run [0, 1, 2, 2, 1, 0] ([2, 2, 2].map (rrThreadRepaired 3)) { total := 7 })).map (·.picks)
    = [[1, 0], [2, 2], [0, 1]] := by decide +kernel

example : targetShare [0, 0, 1] 7 6 0 = 4 := by decide +kernel

/-- The hypotheses of `globcache_inv` (those of `redirect_depends_only_on_request` and `rnd_pick_is_a_ring_slot` too)
are met by the thread builders: lookups over more glob hosts than the cache holds, a weighted route and a redirect,
next to a goroutine replacing the table. -/
example (compile : Nat → Option Nat) (build : Nat → Nat) (sch : List Nat) :
    let q1 : Req := { id := 1, pats := [1, 2, 3], ring := some 3, redirect := true }
    let q2 : Req := { id := 2, pats := [3, 2, 1], ring := some 4, rnd := true, redirect := true }
    let ts := [lookupThread compile build [q1, q2], lookupThread compile build [q2, q1], swapThread [1, 2]]
    (run sch ts { cache := Cache.new 2 }).1.cache.m.length ≤ 2 := by
  intro q1 q2 ts
  refine (globcache_inv compile build 2 (by decide) ts _ sch ?_ (cacheInv_new compile 2) ?_).2.2.1
  · intro t ht
    simp only [ts, List.mem_cons, List.mem_nil_iff, or_false] at ht
    rcases ht with h | h | h <;> subst h
    · exact fun f hf => .lookup (lookupThread_steps compile build _ (by simp [q1, q2]) f hf)
    · exact fun f hf => .lookup (lookupThread_steps compile build _ (by simp [q1, q2]) f hf)
    · exact swapThread_steps compile build _
  · intro t ht
    simp only [ts, List.mem_cons, List.mem_nil_iff, or_false] at ht
    rcases ht with h | h | h <;> subst h <;> exact localInv_init compile build

example :
    let compile : Nat → Option Nat := fun p => some (p + 10)
    let build : Nat → Nat := fun q => 100 + q
    let q1 : Req := { id := 1, pats := [1, 2, 3], ring := some 3, redirect := true }
    let q2 : Req := { id := 2, pats := [3, 2, 1], ring := none, redirect := true }
    let ts := [lookupThread compile build [q1], lookupThread compile build [q2]]
    let r := run ((List.replicate 12 [0, 1]).flatten) ts { cache := Cache.new 2 }
    finished r.2 = true ∧ (outputs r).map (·.locs) = [[(1, some 101)], [(2, some 102)]] ∧
      r.1.total = 1 ∧ r.1.cache.m.length = 2 ∧ cacheOK 2 (keys r.1.cache.m) r.1.cache.l r.1.cache.h r.1.cache.n = true := by
  decide +kernel

example :
    let r := run [0, 1, 1, 0] [mkThread [rndPick 3, rndPick 3], mkThread [rndPick 3, rndPick 3]] { rng := 7 }
    (outputs r).map (·.rpicks) = [[(3, 1), (3, 1)], [(3, 0), (3, 0)]] ∧ r.1.total = 0 := by decide +kernel

end Fabio.Props.C06
