import Fabio.Lemmas.C05Main
import Fabio.Lemmas.C05Text
import Fabio.Lemmas.C05Rebuild
import Fabio.Lemmas.C05Glue
import Fabio.Lemmas.C05Lang
import Fabio.Lemmas.C05Fix
import Fabio.Lemmas.C05From
import Fabio.Lemmas.Lit
/-!
C05 — route commands mean what the command language says: the property theorems (which sentence of the property each
lemma file serves: `design/C05.md`). Where the code cannot satisfy a sentence of the property the forced hypothesis is
spelled out and its necessity is witnessed (`round_trip_needs_*`).
`Good env t` = the invariants of every table built by commands (`reachable_good`): host keys unique, paths unique per
host, `Route.Host` = key, no empty route or host, effective weights = `weighTargets` of the current targets, every
host accepted by `glob.Compile`.
-/
namespace Fabio.Props.C05
open Fabio Fabio.Model.Route Fabio.Model.Parse Fabio.Model.C05Spec
open Fabio.Lemmas Fabio.Lemmas.C05Main Fabio.Lemmas.Route
open Fabio.Model.C05Glue

variable {env : Env} {t t1 t' : Table} {d : RouteDef}

private theorem wrapped_refines {ε ε' α β : Type} {f : α → β} {r : Except ε α} {s : Except ε β} (hr : r.map f = s)
    {wrap : ε → ε'} (hinj : ∀ a b, wrap a = wrap b → a = b) {l : Except ε' α}
    (hl : l = r.mapError wrap) :
    (∀ a, l = .ok a → s = .ok (f a)) ∧ (∀ e, l = .error (wrap e) → s = .error e) ∧
    (∀ e', (∀ e, e' ≠ wrap e) → l ≠ .error e') := by
  subst hr hl
  cases r with
  | error e0 =>
    refine ⟨fun a ha => (by cases ha), fun e he => ?_, fun e' hne he => ?_⟩
    · injection he with he
      rw [hinj _ _ he]; rfl
    · injection he with he
      exact hne e0 he.symm
  | ok a0 =>
    refine ⟨fun a ha => ?_, fun e he => (by cases he), fun e' _ he => (by cases he)⟩
    injection ha with ha
    subst ha; rfl

theorem reachable_good (h : Reachable env t) : Good env t := C05Main.reachable_good h

theorem newTable_good {defs : List RouteDef} (h : newTable env defs = .ok t) : Good env t := good_newTable h

/-- **paths_unique_per_host**: in every reachable table each host holds each path at most once (and each host
once, and a route is stored under its own host) -/
theorem paths_unique_per_host (h : Reachable env t) : WF t := (C05Main.reachable_good h).inv.wf

/-- the final `sort.Sort` is unstable; with paths unique per host it is deterministic all the same: any permutation of
the host's routes that is ordered by `Routes.Less` *is* the model's `sortRoutes` -/
theorem final_sort_deterministic (rs l : List Route) (hu : (rs.map (·.path)).Nodup) (hp : l.Perm rs)
    (hs : C05Weight.SortedDesc l) : l = sortRoutes rs := C05Weight.sort_unique rs l hu hp hs

theorem final_sort_sorted (rs : List Route) (hu : (rs.map (·.path)).Nodup) :
    C05Weight.SortedDesc (sortRoutes rs) ∧ (sortRoutes rs).Perm rs :=
  ⟨C05Weight.sortRoutes_sorted rs hu, Route.sortRoutes_perm rs⟩

/-- **refines_spec**: for every command list, the concrete table abstracts to exactly what the spec machine
`(host,path) ↦ targets` computes — same error, or same map. -/
theorem refines_spec (defs : List RouteDef) : (newTable env defs).map abs = specRun env defs :=
  C05Main.refines_spec defs

theorem step_refines_spec (hg : Good env t) : (applyDef env t d).map abs = specApply env (abs t) d :=
  apply_refines hg

/-- **add_idempotent**: applying the same add twice equals applying it once -/
theorem add_idempotent (hg : Good env t) (h : addRoute env t d = .ok t1) : addRoute env t1 d = .ok t1 :=
  C05Add.add_idempotent hg.inv h

theorem add_twice_in_script (pre post : List RouteDef) (hc : d.cmd = .add) :
    newTable env (pre ++ d :: d :: post) = newTable env (pre ++ d :: post) := by
  unfold newTable buildFrom
  have hk : (pre ++ d :: d :: post).foldlM (applyDef env) ([] : Table) =
      (pre ++ d :: post).foldlM (applyDef env) [] := by
    rw [List.foldlM_append, List.foldlM_append]
    cases hp : pre.foldlM (applyDef env) ([] : Table) with
    | error e => rfl
    | ok t0 =>
      show (d :: d :: post).foldlM (applyDef env) t0 = (d :: post).foldlM (applyDef env) t0
      have hg : Good env t0 := good_fold pre good_nil hp
      rw [List.foldlM_cons, List.foldlM_cons]
      cases ha : applyDef env t0 d with
      | error e => rfl
      | ok t1 =>
        show (d :: post).foldlM (applyDef env) t1 = post.foldlM (applyDef env) t1
        have h1 : addRoute env t0 d = .ok t1 := by simpa [applyDef, hc] using ha
        have h2 : applyDef env t1 d = .ok t1 := by
          simpa [applyDef, hc] using C05Add.add_idempotent hg.inv h1
        rw [List.foldlM_cons, h2]; rfl
  rw [hk]

/-- **add_accumulates**: a successful add leaves every other (host,path) alone; at its own (lower-cased host,
path) the target list is unchanged when an equal target (service, URL, weight, tags) is there already, else the
new target is appended at the end (and the shares are recomputed) -/
theorem add_accumulates (hg : Good env t) (h : addRoute env t d = .ok t1) :
    ∃ url, env.normURL d.dst = some url ∧
      (∀ h' p', ¬ (h' = (key d.src).1 ∧ p' = (key d.src).2) → abs t1 h' p' = abs t h' p') ∧
      abs t1 (key d.src).1 (key d.src).2 =
        (if isDup (abs t (key d.src).1 (key d.src).2) (newTarget d url) then abs t (key d.src).1 (key d.src).2
         else weigh (abs t (key d.src).1 (key d.src).2 ++ [newTarget d url])) := by
  obtain ⟨url, hu, ha⟩ := C05Add.abs_add h
  exact ⟨url, hu, fun h' p' hne => by rw [ha]; exact upd_other _ _ _ _ _ _ hne, by rw [ha, upd_same]; rfl⟩

/-- "The targets removed are exactly those selected; all others stay, in order" is stated up to `core`, since `weigh`
recomputes the `weight` field and nothing else (`dropSel_core`). The lemmas call it `Lemmas.Route.coreT`. -/
def core (x : Target) : Target := { x with weight := 0 }

theorem dropSel_core (sel : Target → Bool) (ts : List Target) :
    (dropSel sel ts).map core = (ts.filter (fun x => !sel x)).map core := coreT_weigh _

/-- **del_removes_exactly**, form `route del <svc>`: in every route the targets of that service disappear -/
theorem del_removes_exactly_svc (hg : Good env t) (ht : d.tags = []) (hs : d.src = []) (hd : d.dst = [])
    (h : delRoute env t d = .ok t1) :
    ∀ h' p', abs t1 h' p' = dropSel (fun x => x.service == d.service) (abs t h' p') := by
  have := Except.ok.inj ((C05Del.del_ok hg.inv.wf h).symm.trans (C05Del.specDel_svc ht hs hd))
  exact fun h' p' => congrFun (congrFun this h') p'

/-- form `route del <svc> <src>`: only the route at (lower-cased host, path) of `src` is touched -/
theorem del_removes_exactly_svc_src (hg : Good env t) (ht : d.tags = []) (hs : d.src ≠ []) (hd : d.dst = [])
    (h : delRoute env t d = .ok t1) :
    abs t1 = upd (abs t) (key d.src).1 (key d.src).2
      (dropSel (fun x => x.service == d.service) (abs t (key d.src).1 (key d.src).2)) :=
  Except.ok.inj ((C05Del.del_ok hg.inv.wf h).symm.trans (C05Del.specDel_src ht hs hd))

/-- form `route del <svc> <src> <dst>`: in that one route, the targets of that service with that URL -/
theorem del_removes_exactly_svc_src_dst (hg : Good env t) (ht : d.tags = []) (hd : d.dst ≠ [])
    (h : delRoute env t d = .ok t1) :
    ∃ url, env.normURL d.dst = some url ∧
      abs t1 = upd (abs t) (key d.src).1 (key d.src).2
        (dropSel (fun x => x.service == d.service && x.url == url) (abs t (key d.src).1 (key d.src).2)) := by
  cases hu : env.normURL d.dst with
  | none => have := C05Del.del_ok hg.inv.wf h; simp [specDel, ht, hd, hu] at this
  | some url => exact ⟨url, rfl, Except.ok.inj ((C05Del.del_ok hg.inv.wf h).symm.trans (C05Del.specDel_dst ht hd hu))⟩

/-- form `route del tags "…"`: in every route, the targets carrying all the listed tags -/
theorem del_removes_exactly_tags (hg : Good env t) (ht : d.tags ≠ []) (hs : d.service = [])
    (h : delRoute env t d = .ok t1) :
    ∀ h' p', abs t1 h' p' = dropSel (fun x => containsAll x.tags d.tags) (abs t h' p') := by
  have := Except.ok.inj ((C05Del.del_ok hg.inv.wf h).symm.trans (C05Del.specDel_tags ht))
  have hsel : delSelTags d = fun x => containsAll x.tags d.tags := by
    funext x; simp [delSelTags, hs]
  exact fun h' p' => hsel ▸ congrFun (congrFun this h') p'

/-- form `route del <svc> tags "…"`: in every route, the targets of that service carrying all the listed tags -/
theorem del_removes_exactly_svc_tags (hg : Good env t) (ht : d.tags ≠ []) (hs : d.service ≠ [])
    (h : delRoute env t d = .ok t1) :
    ∀ h' p', abs t1 h' p' = dropSel (fun x => x.service == d.service && containsAll x.tags d.tags) (abs t h' p') := by
  have := Except.ok.inj ((C05Del.del_ok hg.inv.wf h).symm.trans (C05Del.specDel_tags ht))
  have hsel : delSelTags d = fun x => x.service == d.service && containsAll x.tags d.tags := by
    funext x; simp [delSelTags, List.isEmpty_eq_false_iff.2 hs]
  exact fun h' p' => hsel ▸ congrFun (congrFun this h') p'

/-- **del_leaves_no_empty**: after any del no route has an empty target list and no host an empty route list -/
theorem del_leaves_no_empty (hn : NoEmpty t) (h : delRoute env t d = .ok t1) : NoEmpty t1 :=
  C05Del.del_leaves_no_empty hn h

theorem reachable_no_empty (h : Reachable env t) : NoEmpty t := (C05Main.reachable_good h).inv.noEmpty

theorem route_none_iff_no_targets (hn : NoEmpty t) (h' p' : Str) : t.route h' p' = none ↔ abs t h' p' = [] := by
  rw [← Option.isNone_iff_eq_none, isNone_route hn, List.isEmpty_iff]

/-- **weight_changes_only_matching**: a successful `route weight` touches one (host,path) only; there, the
matching targets (service if given, all tags if given) get the share `w / n` each, every other target keeps its
fixed weight, and nothing is added, removed or reordered -/
theorem weight_changes_only_matching (hg : Good env t) (h : weighRoute t d = .ok t1) :
    let ts := abs t (key d.src).1 (key d.src).2
    let n := (ts.filter (matchesWeight d.service d.tags)).length
    n ≠ 0 ∧
    abs t1 = upd (abs t) (key d.src).1 (key d.src).2
      (weigh (ts.map (fun x => if matchesWeight d.service d.tags x then { x with fixedWeight := d.weight / (n : Rat) } else x))) :=
  ⟨(C05Weight.weighRoute_ok h).1, (C05Weight.weighRoute_ok h).2 ▸ abs_put ..⟩

private theorem isEmpty_case (h h' rest : Str) (hl : lowerL h = lowerL h') :
    (h ++ rest).isEmpty = (h' ++ rest).isEmpty := by
  have : h.length = h'.length := by
    have := congrArg List.length hl
    simpa [lowerL] using this
  cases h <;> cases h' <;> simp_all

/-- **host_case_insensitive_add/del/weight**: two commands whose sources `host ++ rest` differ only in the letter
case of the host (`rest` = empty or the path starting with '/') have the same effect on every table -/
theorem host_case_insensitive_add (h h' rest : Str) (hl : lowerL h = lowerL h') (hs : '/' ∉ h) (hs' : '/' ∉ h')
    (hr : rest = [] ∨ ∃ r, rest = '/' :: r) :
    addRoute env t { d with src := h ++ rest } = addRoute env t { d with src := h' ++ rest } :=
  C05Add.host_case_add (d := { d with src := h ++ rest }) (h' ++ rest)
    (C05Add.key_case h h' rest hl hs hs' hr) (isEmpty_case h h' rest hl)

theorem host_case_insensitive_del (h h' rest : Str) (hl : lowerL h = lowerL h') (hs : '/' ∉ h) (hs' : '/' ∉ h')
    (hr : rest = [] ∨ ∃ r, rest = '/' :: r) :
    delRoute env t { d with src := h ++ rest } = delRoute env t { d with src := h' ++ rest } :=
  C05Del.host_case_del (d := { d with src := h ++ rest }) (h' ++ rest)
    (C05Add.key_case h h' rest hl hs hs' hr) (isEmpty_case h h' rest hl)

theorem host_case_insensitive_weight (h h' rest : Str) (hl : lowerL h = lowerL h') (hs : '/' ∉ h) (hs' : '/' ∉ h')
    (hr : rest = [] ∨ ∃ r, rest = '/' :: r) :
    weighRoute t { d with src := h ++ rest } = weighRoute t { d with src := h' ++ rest } :=
  C05Weight.host_case_weight (d := { d with src := h ++ rest }) (h' ++ rest)
    (C05Add.key_case h h' rest hl hs hs' hr) (isEmpty_case h h' rest hl)

theorem good_perm (hg : Good env t) (hp : t.Perm t') : Good env t' :=
  ⟨C05Weight.inv_perm hg.inv hp, fun kv hkv => hg.hosts kv (hp.symm.subset hkv)⟩

/-- **map_order_irrelevant**: the association list's order stands for Go's map iteration order; any other order
of the same table gives the same routing map after every command (same error or same `abs`) and the same text
rendering -/
theorem map_order_irrelevant (hg : Good env t) (hp : t.Perm t') :
    (applyDef env t' d).map abs = (applyDef env t d).map abs ∧ render t' = render t := by
  refine ⟨?_, C05Weight.render_perm hg.inv.wf hp⟩
  rw [apply_refines (good_perm hg hp), apply_refines hg, C05Weight.abs_perm hg.inv.wf hp]

/-! `Model/C05Glue.lean`: `ParseAliases` (the second reader of the command language, which `main.go` runs on every
configuration text before `NewTable`), `validWeight`, the option-derived target fields, the admin endpoint that prints
the table. -/

section glue
variable {pf : ParseFloat} {text : Str}

/-- **aliases_agree_with_parse**: every text `Parse` accepts is accepted by `ParseAliases`, which returns exactly the
`register` options of the parsed definitions, in order -/
theorem aliases_agree_with_parse {defs : List RouteDef} (h : parse pf text = .ok defs) :
    parseAliases pf text = .ok (registerNames defs) := by
  have := C05Glue.parse_aliasDefs pf text
  rw [h] at this
  unfold parseAliases
  rw [this, List.map_id]

/-- **aliases_same_syntax_error**: a syntax error is reported by both readers, for the same line -/
theorem aliases_same_syntax_error {j : Nat} {e : SynErr} (h : parse pf text = .error (.syn j e)) :
    parseAliases pf text = .error (.syn j e) := by
  have := C05Glue.parse_aliasDefs pf text
  rw [h] at this
  unfold parseAliases
  rw [this]

/-- **aliases_differ_only_outside**: when `ParseAliases` succeeds, `Parse` yields the same definitions (hence the
same names) unless it stops at a line of 64 KiB or more (`ParseAliases` has no line limit) or at a non-finite
weight (`ParseAliases` does not look at weights; `NewTable` refuses such a text, `nonfinite_weight_never_loads`) -/
theorem aliases_differ_only_outside {names : List Str} (h : parseAliases pf text = .ok names) :
    (∃ defs, parse pf text = .ok defs ∧ registerNames defs = names) ∨
    (∃ j, parse pf text = .error (.tooLong j)) ∨ (∃ j v, parse pf text = .error (.nonFinite j v)) := by
  -- a syntax error of `Parse` would have been repeated
  have := C05Glue.parse_aliasDefs pf text
  unfold parseAliases at h
  cases hp : parse pf text with
  | ok defs =>
    rw [hp] at this
    rw [this, List.map_id] at h
    exact .inl ⟨defs, rfl, Except.ok.inj h⟩
  | error e =>
    cases e with
    | syn j e' => rw [hp] at this; rw [this] at h; cases h
    | tooLong j => exact .inr (.inl ⟨j, rfl⟩)
    | nonFinite j v => exact .inr (.inr ⟨j, v, rfl⟩)

/-- only `route add` lines contribute names: `route del` and `route weight` carry no options -/
theorem aliases_only_from_adds {l : Str} {d : RouteDef} (h : parseLine pf l = .ok (some d)) (hc : d.cmd ≠ .add) :
    d.opts = [] := by
  rw [C05Text.parseLine_shape] at h
  have ho := C05Text.shape_opts (trimSpace l)
  cases hs : C05Text.shape (trimSpace l) with
  | skip => rw [hs] at h; cases h
  | err e => rw [hs] at h; cases h
  | plain d' =>
    rw [hs] at h ho
    injection h with h; injection h with h; subst h
    exact ho
  | weighted w mk =>
    rw [hs] at h ho
    simp only [C05Text.runShape] at h
    cases hw : parseWeight pf w with
    | error e => rw [hw] at h; cases h
    | ok q =>
      rw [hw] at h
      injection h with h; injection h with h; subst h
      exact ((ho q).resolve_left hc).2

/-- **aliases_of_rendered_table**: the text `String()` writes for a table (under the hypotheses of the round trip
that concern the text) is accepted by `ParseAliases` too, which finds the `register` options of the targets in
rendering order -/
theorem aliases_of_rendered_table
    (hpf : ∀ w : Rat, 0 < w → pf (fmt4 w) = some (.fin (round4Rat w)))
    (htext : ∀ hst, ∀ r ∈ t.get hst, ∀ tg ∈ r.targets, C05Text.TextOK r tg) :
    parseAliases pf (render t) = .ok (registerNames (defsOfTable t)) :=
  aliases_agree_with_parse (C05Text.parse_render pf hpf t htext)

/-- **finite_weights_conservative**: on a text without non-finite weights the model that is total over float64
weights is `loadTable` — every theorem of this file about `NewTable` is about `loadTableW` -/
theorem finite_weights_conservative {defs : List RouteDef} (h : parse pf text = .ok defs) :
    loadTableW env pf text =
      (match newTable env defs with
       | .ok t => .ok t
       | .error e => .error (.cmd (.table e))) := by
  have := C05Glue.parse_parseW pf text
  rw [h] at this
  rw [loadTableW_eq_of_parseW this, C05Glue.newTableW_fin env _ (by
    intro x hx
    obtain ⟨d, _, rfl⟩ := List.mem_map.1 hx
    rfl), List.map_map,
    (List.map_congr_left fun _ _ => rfl : defs.map ((fun x : WDef => x.d) ∘ fun d => ({ d, bad := false } : WDef)) = defs.map id),
    List.map_id]
  cases newTable env defs <;> rfl

/-- **refines_spec_total**: `refines_spec` for commands whose weight is any float64 — the table abstracts to what
the spec machine with "a non-finite weight is refused" computes: same error (which command fails first, with which
error) or same map -/
theorem refines_spec_total (xs : List WDef) : (newTableW env xs).map abs = specRunW env xs :=
  C05Glue.refinesW_spec env xs

theorem syntax_errors_unchanged {j : Nat} {e : SynErr} (h : parse pf text = .error (.syn j e)) :
    loadTableW env pf text = .error (.parse (.syn j e)) := by
  have := C05Glue.parse_parseW pf text
  rw [h] at this
  unfold loadTableW
  rw [this]

theorem too_long_unchanged {j : Nat} (h : parse pf text = .error (.tooLong j)) :
    loadTableW env pf text = .error (.parse (.tooLong j)) := by
  have := C05Glue.parse_parseW pf text
  rw [h] at this
  unfold loadTableW
  rw [this rfl]

/-- **nonfinite_weight_never_loads**: a text in which some `route add` / `route weight` carries a weight that
`strconv.ParseFloat` accepts as NaN or ±Inf never yields a table (it ends in a syntax error of a later line, or in
the first command that fails — `invalid weight` at the latest) -/
theorem nonfinite_weight_never_loads {j : Nat} {v : F64} (h : parse pf text = .error (.nonFinite j v)) :
    ∀ t, loadTableW env pf text ≠ .ok t := by
  intro t ht
  have := C05Glue.parse_parseW pf text
  rw [h] at this
  unfold loadTableW at ht
  rcases this with ⟨e, he⟩ | ⟨xs, hxs, x, hx, hb, hc⟩
  · rw [he] at ht; cases ht
  · rw [hxs] at ht
    obtain ⟨e, he⟩ := C05Glue.foldW_bad env xs x hx hb hc []
    unfold newTableW at ht
    simp only [he] at ht
    cases ht

/-- **invalid_weight_only_for_nonfinite**: `route: invalid weight` is the answer to a non-finite weight only -/
theorem invalid_weight_only_for_nonfinite {x : WDef} (h : applyW env t x = .error .invalidWeight) : x.bad = true :=
  C05Glue.applyW_invalidWeight env t x h

/-- **redirect_code_range**: whatever the `redirect` option says, the target's redirect code is 0 (none) or a
3xx code -/
theorem redirect_code_range (o : List (Str × Str)) :
    (derive o).redirect = 0 ∨ (300 ≤ (derive o).redirect ∧ (derive o).redirect ≤ 399) :=
  C05Glue.redirect_range _

/-- **derived_fields_survive_round_trip**: in the table rebuilt from the text (`render_parse_roundtrip`), every
target has the same option-derived fields (strip, prepend, host, auth scheme, TLS verification, PROXY protocol,
redirect code) as the target it came from — options are a Go map: keys unique -/
theorem derived_fields_survive_round_trip {t2 : Table}
    (ha : abs t2 = fun h p => weigh ((abs t h p).map norm4))
    (hk : ∀ h p, ∀ x ∈ abs t h p, (x.opts.map (·.1)).Nodup) (h p : Str) :
    (abs t2 h p).map (fun x => derive x.opts) = (abs t h p).map (fun x => derive x.opts) := by
  rw [ha]
  rw [map_weigh (fun x => derive x.opts) (fun _ _ => rfl), List.map_map]
  apply List.map_congr_left
  intro x hx
  simp only [Function.comp, norm4]
  exact C05Glue.derive_sortOpts x.opts (hk h p x hx)

/-- **raw_api_reloads**: what `GET /api/routes?raw` prints (`t.String()` and a newline) is read by `NewTable`
exactly like `t.String()` — the round-trip theorems apply to it -/
theorem raw_api_reloads (t : Table) : loadTable env pf (apiRaw t) = loadTable env pf (render t) :=
  loadTable_snoc_nl env pf (render t)

/-- **api_lists_the_routing_map**: the JSON listing of `/api/routes` has an entry for a target exactly when the
routing map `abs` holds that target, and the entry names the host and path it is routed at -/
theorem api_lists_the_routing_map (hw : WF t) (a : ApiRoute) :
    a ∈ apiRoutes t ↔ ∃ h p, ∃ tg ∈ abs t h p, a = apiEntry ⟨h, p, abs t h p⟩ tg :=
  C05Glue.api_lists_abs hw a

/-- **api_lists_each_route_in_order**: restricted to one host and path, the listing *is* the target list of the
routing map there, in order (and nothing else carries that host and path) -/
theorem api_lists_each_route_in_order (hw : WF t) (h p : Str) :
    (apiRoutes t).filter (fun a => a.host == h && a.path == p) = (abs t h p).map (apiEntry ⟨h, p, abs t h p⟩) :=
  C05Glue.api_at_key hw h p

end glue

/-! `Model/C05Lang.lean`: `printDef w d` is the text of a command in the documented syntax (`w` = the decimal text of its
weight), `DefOK pf w d` says that the language can carry `d` at all. The property quantifies over "every finite sequence
of well-formed route commands": such a sequence may be given as text (`NewTable`) or as definitions (`NewTableCustom`,
the custom backend) with the same result, so every theorem of this file about command lists is one about texts. -/

section lang
open Fabio.Model.C05Lang Fabio.Lemmas.C05Lang
variable {pf : ParseFloat}

/-- **print_then_parse**: every well-formed command, written in the command language, is read back by `Parse`'s
line reader as that very command — all three commands, all eight forms (`route del tags …` is not mistaken for a
service called `tags`, `route weight <src> weight …` not for the service form, a source called `weight` or a
service called `tags` are read correctly) -/
theorem print_then_parse {w : Str} (h : DefOK pf w d) : parseLine pf (printDef w d) = .ok (some d) :=
  parseLine_printDef h

theorem parse_of_printed_commands (cs : List (Str × RouteDef))
    (h : ∀ x ∈ cs, DefOK pf x.1 x.2 ∧ byteLen (printDef x.1 x.2) < maxToken) :
    parse pf (scriptText cs) = .ok (cs.map (·.2)) := parse_scriptText pf cs h

/-- **commands_as_text**: `NewTable` on the text of a well-formed command list returns what `NewTableCustom` returns
on the list itself — the same table or the same error of the same command -/
theorem commands_as_text (cs : List (Str × RouteDef))
    (h : ∀ x ∈ cs, DefOK pf x.1 x.2 ∧ byteLen (printDef x.1 x.2) < maxToken) :
    loadTable env pf (scriptText cs) =
      (match newTable env (cs.map (·.2)) with
       | .ok t => .ok t
       | .error e => .error (.table e)) := by
  rw [loadTable_eq_of_parse (parse_scriptText pf cs h)]
  cases newTable env (cs.map (·.2)) <;> rfl

/-- **commands_as_text_total**: `commands_as_text` for every float64 weight — a weight text such as `nan` or `-Inf`
is a weight text like any other (`DefOK` is asked of the reader with NaN/±Inf mapped to 0, the flag `bad` records that
the text denotes a non-finite value): `NewTable` on the text returns what `NewTableCustom` returns on the commands,
`route: invalid weight` included -/
theorem commands_as_text_total (cs : List (Str × RouteDef))
    (h : ∀ x ∈ cs, DefOK (finPf pf) x.1 x.2 ∧ byteLen (printDef x.1 x.2) < maxToken) :
    loadTableW env pf (scriptText cs) =
      (match newTableW env (cs.map (fun x => ({ d := x.2, bad := nonFiniteTok pf x.1 } : WDef))) with
       | .ok t => .ok t
       | .error e => .error (.cmd e)) := by
  rw [loadTableW_eq_of_parseW (parseW_scriptText pf cs h)]
  cases newTableW env (cs.map (fun x => ({ d := x.2, bad := nonFiniteTok pf x.1 } : WDef))) <;> rfl

/-- **text_refines_spec**: for every text `Parse` accepts, what `NewTable` makes of it is what the spec machine
computes from the parsed commands — the table abstracts to the spec's map, or both stop with the same error -/
theorem text_refines_spec {text : Str} {defs : List RouteDef} (h : parse pf text = .ok defs) :
    (∀ t, loadTable env pf text = .ok t → specRun env defs = .ok (abs t)) ∧
    (∀ e, loadTable env pf text = .error (.table e) → specRun env defs = .error e) ∧
    (∀ e, loadTable env pf text ≠ .error (.parse e)) := by
  obtain ⟨h1, h2, h3⟩ :=
    wrapped_refines (refines_spec (env := env) defs) (fun _ _ => LoadErr.table.inj) (loadTable_eq_of_parse (env := env) h)
  exact ⟨h1, h2, fun e => h3 _ (fun e0 he => by cases he)⟩

/-- **text_refines_spec_total**: the same for every text and every float64 weight — what `NewTable` makes of a text
(`loadTableW`) is what the spec machine with "a non-finite weight is refused" computes from the commands `Parse`
reads (`parseW`); a parse error of `NewTable` is `Parse`'s own. This is the predicate stream `c05.text` evaluates
on the implementation's output. -/
theorem text_refines_spec_total {text : Str} {xs : List WDef} (h : parseW pf text = .ok xs) :
    (∀ t, loadTableW env pf text = .ok t → specRunW env xs = .ok (abs t)) ∧
    (∀ e, loadTableW env pf text = .error (.cmd e) → specRunW env xs = .error e) ∧
    (∀ e, loadTableW env pf text ≠ .error (.parse e)) := by
  obtain ⟨h1, h2, h3⟩ :=
    wrapped_refines (refines_spec_total (env := env) xs) (fun _ _ => LoadErrW.cmd.inj)
      (loadTableW_eq_of_parseW (env := env) h)
  exact ⟨h1, h2, fun e => h3 _ (fun e0 he => by cases he)⟩

/-- **text_of_commands_refines_spec**: the property's first sentence for commands given as text — applying a
sequence of well-formed `route add`, `del` and `weight` commands, written in the command language, yields exactly
the table the spec machine prescribes for those commands -/
theorem text_of_commands_refines_spec (cs : List (Str × RouteDef))
    (h : ∀ x ∈ cs, DefOK pf x.1 x.2 ∧ byteLen (printDef x.1 x.2) < maxToken) :
    (∀ t, loadTable env pf (scriptText cs) = .ok t → specRun env (cs.map (·.2)) = .ok (abs t)) ∧
    (∀ e, loadTable env pf (scriptText cs) = .error (.table e) → specRun env (cs.map (·.2)) = .error e) :=
  ⟨(text_refines_spec (parse_scriptText pf cs h)).1, (text_refines_spec (parse_scriptText pf cs h)).2.1⟩

/-- **add_line_twice_in_text**: writing a `route add` line twice in a row anywhere in a configuration text does
not change what `NewTable` returns -/
theorem add_line_twice_in_text (pre post : List (Str × RouteDef)) (x : Str × RouteDef) (hc : x.2.cmd = .add)
    (h : ∀ y ∈ pre ++ x :: post, DefOK pf y.1 y.2 ∧ byteLen (printDef y.1 y.2) < maxToken) :
    loadTable env pf (scriptText (pre ++ x :: x :: post)) = loadTable env pf (scriptText (pre ++ x :: post)) := by
  have h2 : ∀ y ∈ pre ++ x :: x :: post, DefOK pf y.1 y.2 ∧ byteLen (printDef y.1 y.2) < maxToken := by
    intro y hy
    apply h y
    simp only [List.mem_append, List.mem_cons] at hy ⊢
    rcases hy with hy | hy | hy | hy
    · exact .inl hy
    · exact .inr (.inl hy)
    · exact .inr (.inl hy)
    · exact .inr (.inr hy)
  rw [commands_as_text _ h2, commands_as_text _ h]
  simp only [List.map_append, List.map_cons]
  rw [add_twice_in_script (env := env) (d := x.2) (pre.map (·.2)) (post.map (·.2)) hc]

/-- **aliases_of_printed_commands**: `ParseAliases` finds in the text of a command list exactly the `register`
options of its commands -/
theorem aliases_of_printed_commands (cs : List (Str × RouteDef))
    (h : ∀ x ∈ cs, DefOK pf x.1 x.2 ∧ byteLen (printDef x.1 x.2) < maxToken) :
    parseAliases pf (scriptText cs) = .ok (registerNames (cs.map (·.2))) :=
  aliases_agree_with_parse (parse_scriptText pf cs h)

/-- the hypotheses are satisfiable on a list with one command of every form (a service called `tags`, a source
called `weight`, an option value containing `=`, a repeated tag) -/
example : parse pfEx (scriptText csEx) = .ok (csEx.map (·.2)) := parse_of_printed_commands csEx csEx_ok
example : csEx.length = 9 ∧ (csEx.map (·.2.cmd)).eraseDups.length = 3 := by decide +kernel
/-- on a list whose commands all succeed: `NewTable(text)` = `NewTableCustom(commands)`, a non-empty table -/
example : (match loadTable C05Rebuild.env0 pfEx (scriptText csT), newTable C05Rebuild.env0 (csT.map (·.2)) with
    | .ok a, .ok b => a == b && !a.isEmpty | _, _ => false) = true := by
  rw [commands_as_text csT csT_ok]
  have h : (newTable C05Rebuild.env0 (csT.map (·.2))).toOption.map (fun a => !a.isEmpty) = some true := by
    unfold csT csEx; simp only [toList_lit rfl]; decide +kernel
  generalize newTable C05Rebuild.env0 (csT.map (·.2)) = x at h ⊢
  cases x with
  | error e => cases h
  | ok a => simp only [beq_self_eq_true, Bool.true_and]; exact Option.some.inj h
example := commands_as_text (env := C05Rebuild.env0) csT csT_ok

/-- `commands_as_text_total` on a list with the weight text `nan`: both entry points answer `invalid weight` -/
example := commands_as_text_total (env := C05Rebuild.env0) csN csN_ok
example : (match loadTableW C05Rebuild.env0 pfN (scriptText csN) with
    | .error (.cmd .invalidWeight) => true | _ => false) = true := by
  rw [commands_as_text_total csN csN_ok]
  have h : newTableW C05Rebuild.env0 (csN.map (fun x => ({ d := x.2, bad := nonFiniteTok pfN x.1 } : WDef))) =
      .error .invalidWeight := by
    unfold csN pfN; simp only [toList_lit rfl]; decide +kernel
  rw [h]

end lang

/-- two commands that differ only in the letter case of the host of their source -/
def CaseEq (d d' : RouteDef) : Prop :=
  ∃ (d0 : RouteDef) (h h' rest : Str), d = { d0 with src := h ++ rest } ∧ d' = { d0 with src := h' ++ rest } ∧
    lowerL h = lowerL h' ∧ '/' ∉ h ∧ '/' ∉ h' ∧ (rest = [] ∨ ∃ r, rest = '/' :: r)

theorem applyDef_caseEq {d d' : RouteDef} (h : CaseEq d d') (t : Table) : applyDef env t d = applyDef env t d' := by
  obtain ⟨d0, h1, h2, rest, rfl, rfl, hl, hs, hs', hr⟩ := h
  unfold applyDef
  cases hc : d0.cmd with
  | add => exact host_case_insensitive_add (d := d0) h1 h2 rest hl hs hs' hr
  | del => exact host_case_insensitive_del (d := d0) h1 h2 rest hl hs hs' hr
  | weight => exact host_case_insensitive_weight (d := d0) h1 h2 rest hl hs hs' hr
  | other s => rfl

/-- **host_case_insensitive_script**: re-casing the host of any number of commands of a script — adds, dels and
weights alike — does not change what `NewTable`/`NewTableCustom` returns (same table or same error) -/
theorem host_case_insensitive_script (ps : List (RouteDef × RouteDef)) (h : ∀ p ∈ ps, CaseEq p.1 p.2) :
    newTable env (ps.map (·.1)) = newTable env (ps.map (·.2)) := by
  unfold newTable buildFrom
  have : ∀ t0 : Table, (ps.map (·.1)).foldlM (applyDef env) t0 = (ps.map (·.2)).foldlM (applyDef env) t0 := by
    induction ps with
    | nil => intro t0; rfl
    | cons p l ih =>
      intro t0
      simp only [List.map_cons]
      rw [List.foldlM_cons, List.foldlM_cons, applyDef_caseEq (h p (by simp)) t0]
      cases applyDef env t0 p.2 with
      | error e => rfl
      | ok t1 => exact ih (fun q hq => h q (List.mem_cons_of_mem _ hq)) t1
  rw [this]

/-- not vacuous: `Foo.COM/x` and `foo.com/x` in a `route weight` -/
example : CaseEq { cmd := .weight, service := ['s'], src := "Foo.COM".toList ++ "/x".toList, weight := 1 }
    { cmd := .weight, service := ['s'], src := "foo.com".toList ++ "/x".toList, weight := 1 } :=
  ⟨{ cmd := .weight, service := ['s'], weight := 1 }, "Foo.COM".toList, "foo.com".toList, "/x".toList, rfl, rfl,
    by simp only [toList_lit rfl]; decide +kernel, by simp only [toList_lit rfl]; decide +kernel,
    by simp only [toList_lit rfl]; decide +kernel, Or.inr ⟨['x'], rfl⟩⟩

/-- **targets_come_from_adds**: every target a table built by a command list holds — under whatever host and path,
after whatever dels and weights — carries the service, tags, options and normalised destination of one of the list's
`route add` commands: `del` and `weight` never invent or rewrite any of these ("add accumulates", "weight changes
only the matching targets" — and of them only the weight) -/
theorem targets_come_from_adds {defs : List RouteDef} (h : newTable env defs = .ok t) (hst p : Str) :
    ∀ x ∈ abs t hst p, ∃ d ∈ defs, d.cmd = .add ∧ x.service = d.service ∧ x.tags = d.tags ∧ x.opts = d.opts ∧
      env.normURL d.dst = some x.url := fun _ hx =>
  let ⟨d, hd, hc, _, r⟩ := C05From.newTable_from h hx
  ⟨d, hd, hc, r⟩

/-- **targets_of_wellformed_commands**: in a table built from well-formed commands (`DefOK`, e.g. from any text
written with `printDef`) every target has a service, tags and options the command language can carry — the part of
the round trip's hypothesis `TextOK` that concerns them holds for every such table -/
theorem targets_of_wellformed_commands {pf : ParseFloat} (cs : List (Str × RouteDef))
    (h : ∀ x ∈ cs, C05Lang.DefOK pf x.1 x.2) (ht : newTable env (cs.map (·.2)) = .ok t) (hst p : Str) :
    ∀ x ∈ abs t hst p, C05Lang.Tok x.service ∧ C05Lang.TagsOK x.tags ∧ C05Lang.OptsOK x.opts := by
  intro x hx
  obtain ⟨d, hd, hc, h1, h2, h3, _⟩ := targets_come_from_adds ht hst p x hx
  obtain ⟨c, hcm, rfl⟩ := List.mem_map.1 hd
  obtain ⟨hv, _, _, _, htags, hopts⟩ := (h c hcm).add hc
  rw [h1, h2, h3]
  exact ⟨hv, htags, hopts⟩

/-- not vacuous: the table of `csT` (two adds, a weight, a del) — its one remaining target is the first add's -/
example : (match newTable C05Rebuild.env0 (C05Lang.csT.map (·.2)) with
    | .ok t => (abs t "foo.com".toList "/a".toList).map (·.service) == ["svc".toList] | .error _ => false) = true := by
  rw [C05Lang.csT, C05Lang.csEx]; simp only [toList_lit rfl]; decide +kernel

/-- **render_parse_roundtrip**. For a good table `t` (every reachable table is one) whose rendering is readable
(`TextOK`: what the command grammar can carry at all — no white space inside service/source/URL, no quote or
comma inside a tag, no lone empty tag, option keys without '=', lines shorter than 64 KiB) and rebuildable
(`RebuildOK`, the hypotheses the proof forces — "every target has a positive traffic share" is not among them:
`String()` writes every target, also one without share (`round_trip_keeps_zero_share_targets`):
  * `keys` — no route holds two targets with the same service, URL, tags and 4-decimal weight
             (the property's "two targets that differ only in weight" — and, beyond it, targets that differ only
             in options, which `addTarget`'s de-duplication ignores),
  * `url`, `glob`, `src` — `url.Parse∘String` is idempotent on the stored URLs, stored hosts/paths compile as
             globs, stored host/path re-split to themselves (`glob` and `src` hold for tables built by commands,
             `built_table_rebuild_ok`; `url` is an assumption about net/url),
and for an exact `strconv.ParseFloat` on the printed weights (`hpf`), `NewTable(t.String())` succeeds and
rebuilds, for every (host,path), the same targets in the same order with the same service, URL, tags and
options, the weight rounded to the four decimals the text carries, and shares recomputed from those. -/
theorem render_parse_roundtrip (pf : ParseFloat)
    (hpf : ∀ w : Rat, 0 < w → pf (fmt4 w) = some (.fin (round4Rat w)))
    (hg : Good env t)
    (htext : ∀ hst, ∀ r ∈ t.get hst, ∀ tg ∈ r.targets, C05Text.TextOK r tg)
    (ho : C05Rebuild.RebuildOK env t) :
    ∃ t2, loadTable env pf (render t) = .ok t2 ∧ Good env t2 ∧
      abs t2 = fun h p => weigh ((abs t h p).map norm4) := by
  -- `NewTable` on `t.String()` is `NewTableCustom` on the definitions the text denotes, `defsOfTable t`
  have href := C05Main.refines_spec (env := env) (defsOfTable t)
  rw [C05Rebuild.rebuild_spec hg.inv.wf ho] at href
  obtain ⟨t2, hn, ha⟩ := of_map_eq_ok href
  exact ⟨t2, loadTable_of_parse (C05Text.parse_render pf hpf t htext) hn, good_newTable hn, ha⟩

theorem norm4_exact {x : Target} (h0 : 0 ≤ x.fixedWeight)
    (h4 : 0 < x.fixedWeight → round4Rat x.fixedWeight = x.fixedWeight) (hs : sortOpts x.opts = x.opts) :
    norm4 x = core x := by
  unfold norm4 core
  rw [hs]
  by_cases hp : 0 < x.fixedWeight
  · rw [if_pos hp, h4 hp]
  · rw [if_neg hp]
    have : x.fixedWeight = 0 := Rat.le_antisymm (Rat.not_lt.mp hp) h0
    rw [this]

/-- **render_parse_roundtrip, exact form**: if moreover every fixed weight is ≥ 0 and already has at most four
decimals and the options are stored sorted by key (as `parseOpts` builds them), the rebuilt table routes
*exactly* as the original: `abs t2 = abs t`, shares included. -/
theorem render_parse_roundtrip_exact (pf : ParseFloat)
    (hpf : ∀ w : Rat, 0 < w → pf (fmt4 w) = some (.fin (round4Rat w)))
    (hg : Good env t)
    (htext : ∀ hst, ∀ r ∈ t.get hst, ∀ tg ∈ r.targets, C05Text.TextOK r tg)
    (ho : C05Rebuild.RebuildOK env t)
    (hx : ∀ hst, ∀ r ∈ t.get hst, ∀ tg ∈ r.targets,
      0 ≤ tg.fixedWeight ∧ (0 < tg.fixedWeight → round4Rat tg.fixedWeight = tg.fixedWeight) ∧ sortOpts tg.opts = tg.opts) :
    ∃ t2, loadTable env pf (render t) = .ok t2 ∧ Good env t2 ∧ abs t2 = abs t := by
  obtain ⟨t2, hl, hg2, ha⟩ := render_parse_roundtrip pf hpf hg htext ho
  refine ⟨t2, hl, hg2, ?_⟩
  rw [ha]
  funext h p
  have hn : (abs t h p).map norm4 = (abs t h p).map core := by
    apply List.map_congr_left
    intro x hxm
    obtain ⟨r, hr, _, htg⟩ := mem_targets_of_abs hxm
    obtain ⟨h0, h4, hs⟩ := hx h r hr x htg
    exact norm4_exact h0 h4 hs
  rw [hn]
  exact (weigh_coreT _).trans (weighed_abs hg.inv.weighed h p)

/-- **render_is_canonical**: the text is a function of the routing map — two well-formed tables without empty
routes, each host's routes in final-sort order (every table `NewTable` returns is such a table), that route the
same targets up to the computed shares, have the same `String()` -/
theorem render_is_canonical {a b : Table} (ha : Good env a) (hb : Good env b) (hsa : C05Fix.Sorted a) (hsb : C05Fix.Sorted b)
    (hc : ∀ h p, (abs a h p).map core = (abs b h p).map core) : render a = render b :=
  C05Fix.render_canonical ha.inv.wf hb.inv.wf ha.inv.noEmpty hb.inv.noEmpty hsa hsb hc

theorem newTable_sorted {defs : List RouteDef} (h : newTable env defs = .ok t) : C05Fix.Sorted t :=
  C05Fix.newTable_sorted h

/-- **rendered_text_is_fixpoint**: under the hypotheses of `render_parse_roundtrip`, for a table in final-sort order
(as `NewTable` returns it), the table rebuilt from `t.String()` renders to the text of `t` with every weight rounded
to the four decimals the text carries and the options sorted (`normTable`): the same lines in the same order,
except that a weight that rounds to `0.0000` is not written -/
theorem rendered_text_is_fixpoint (pf : ParseFloat)
    (hpf : ∀ w : Rat, 0 < w → pf (fmt4 w) = some (.fin (round4Rat w)))
    (hg : Good env t) (hs : C05Fix.Sorted t)
    (htext : ∀ hst, ∀ r ∈ t.get hst, ∀ tg ∈ r.targets, C05Text.TextOK r tg)
    (ho : C05Rebuild.RebuildOK env t) :
    ∃ t2, loadTable env pf (render t) = .ok t2 ∧ render t2 = render (C05Fix.normTable t) := by
  obtain ⟨t2, hl, hg2, ha⟩ := render_parse_roundtrip pf hpf hg htext ho
  exact ⟨t2, hl, C05Fix.render_of_rebuilt hg.inv hs hg2.inv (C05Fix.loaded_sorted hl) ha⟩

/-- **rendered_text_is_fixpoint_exact**: if moreover the fixed weights are ≥ 0 with at most four decimals and the
options are stored key-sorted (every table built from a text `String()` wrote is such a table), `String()` of the
rebuilt table *is* the text it was read from -/
theorem rendered_text_is_fixpoint_exact (pf : ParseFloat)
    (hpf : ∀ w : Rat, 0 < w → pf (fmt4 w) = some (.fin (round4Rat w)))
    (hg : Good env t) (hs : C05Fix.Sorted t)
    (htext : ∀ hst, ∀ r ∈ t.get hst, ∀ tg ∈ r.targets, C05Text.TextOK r tg)
    (ho : C05Rebuild.RebuildOK env t)
    (hx : ∀ hst, ∀ r ∈ t.get hst, ∀ tg ∈ r.targets,
      0 ≤ tg.fixedWeight ∧ (0 < tg.fixedWeight → round4Rat tg.fixedWeight = tg.fixedWeight) ∧ sortOpts tg.opts = tg.opts) :
    ∃ t2, loadTable env pf (render t) = .ok t2 ∧ render t2 = render t := by
  obtain ⟨t2, hl, hg2, ha⟩ := render_parse_roundtrip_exact pf hpf hg htext ho hx
  exact ⟨t2, hl, render_is_canonical hg2 hg (C05Fix.loaded_sorted hl) hs fun h p => by rw [ha]⟩

def envB : Env := { normURL := fun s => some s, globOK := fun _ => true }
def pfB : ParseFloat := fun s =>
  if s == "0.2500".toList then some (.fin (1/4)) else if s == "0.7500".toList then some (.fin (3/4)) else none
def addB (svc src dst : String) (w : Rat) : RouteDef :=
  { cmd := .add, service := svc.toList, src := src.toList, dst := dst.toList, weight := w }

/-- **built_table_rebuild_ok**: for a table built by any command list the structural hypotheses of the round trip are
theorems, not assumptions — every route sits at the `key` of an add's source (so `hostpath` splits the rendered prefix
into the same host and path) and its host and path were accepted by `glob.Compile`. What remains are the property's
own hypothesis `hk` (no route holds two targets with the same service, URL, tags and four-decimal weight) and the
assumption `hu` about `net/url` (`url.Parse ∘ String` is idempotent on the stored URLs) -/
theorem built_table_rebuild_ok {defs : List RouteDef} (h : newTable env defs = .ok t)
    (hk : ∀ kv ∈ t, ∀ r ∈ kv.2, (r.targets.map C05Rebuild.dupKey).Nodup)
    (hu : ∀ kv ∈ t, ∀ r ∈ kv.2, ∀ tg ∈ r.targets, tg.url ≠ [] ∧ env.normURL tg.url = some tg.url) :
    C05Rebuild.RebuildOK env t :=
  C05From.rebuildOK_of_built h hk hu

/-- **round_trip_of_built_table**: the last sentence of the property for "every table such sequences produce" — a table
`NewTable`/`NewTableCustom` built from any command list, whose text is readable (`TextOK`), with `hk` and `hu` as above:
`NewTable(t.String())` succeeds, the rebuilt table is good, routes per host and path the same targets in order with
the weight to four decimals, and renders to the normalised text of `t` (no `Good`, `Sorted` or structural `RebuildOK`
hypothesis is left: they are consequences of being built by commands) -/
theorem round_trip_of_built_table (pf : ParseFloat)
    (hpf : ∀ w : Rat, 0 < w → pf (fmt4 w) = some (.fin (round4Rat w)))
    {defs : List RouteDef} (h : newTable env defs = .ok t)
    (htext : ∀ hst, ∀ r ∈ t.get hst, ∀ tg ∈ r.targets, C05Text.TextOK r tg)
    (hk : ∀ kv ∈ t, ∀ r ∈ kv.2, (r.targets.map C05Rebuild.dupKey).Nodup)
    (hu : ∀ kv ∈ t, ∀ r ∈ kv.2, ∀ tg ∈ r.targets, tg.url ≠ [] ∧ env.normURL tg.url = some tg.url) :
    ∃ t2, loadTable env pf (render t) = .ok t2 ∧ Good env t2 ∧
      abs t2 = (fun h p => weigh ((abs t h p).map norm4)) ∧ render t2 = render (C05Fix.normTable t) := by
  have hg := good_newTable h
  obtain ⟨t2, hl, hg2, ha⟩ := render_parse_roundtrip pf hpf hg htext (built_table_rebuild_ok h hk hu)
  exact ⟨t2, hl, hg2, ha,
    C05Fix.render_of_rebuilt hg.inv (C05Fix.newTable_sorted h) hg2.inv (C05Fix.loaded_sorted hl) ha⟩

/-- **round_trip_of_wellformed_commands**: the property's last sentence, end to end, for its own quantifier — "every
finite sequence of well-formed route commands … and every table such sequences produce". For every list of well-formed
commands (`DefOK`) that builds a table `t`: if no route of `t` holds two targets with the same service, URL, tags and
four-decimal weight (`hk`, the property's "whenever"), then `NewTable(t.String())` succeeds and rebuilds, per host and
path, the same targets in order with the same service, URL, tags and options and the weight to four decimals, and
its own `String()` is the normalised text of `t`. What is assumed beyond the property's hypothesis is about libraries
only: `url.Parse(dst).String()` is non-empty, free of white space and a fixpoint of `url.Parse ∘ String` (`hu`), the
lines are shorter than `bufio.MaxScanTokenSize` (`hshort`), `strconv.ParseFloat` reads the printed weights (`hpf`) -/
theorem round_trip_of_wellformed_commands (pf : ParseFloat)
    (hpf : ∀ w : Rat, 0 < w → pf (fmt4 w) = some (.fin (round4Rat w)))
    (cs : List (Str × RouteDef)) (hcs : ∀ x ∈ cs, C05Lang.DefOK pf x.1 x.2)
    (ht : newTable env (cs.map (·.2)) = .ok t)
    (hk : ∀ kv ∈ t, ∀ r ∈ kv.2, (r.targets.map C05Rebuild.dupKey).Nodup)
    (hu : ∀ kv ∈ t, ∀ r ∈ kv.2, ∀ tg ∈ r.targets,
      tg.url ≠ [] ∧ env.normURL tg.url = some tg.url ∧ ∀ c ∈ tg.url, isUniSpace c = false)
    (hshort : ∀ hst, ∀ r ∈ t.get hst, ∀ tg ∈ r.targets, byteLen (renderTarget r tg) < maxToken) :
    ∃ t2, loadTable env pf (render t) = .ok t2 ∧ Good env t2 ∧
      abs t2 = (fun h p => weigh ((abs t h p).map norm4)) ∧ render t2 = render (C05Fix.normTable t) := by
  have hg := good_newTable ht
  have htext := C05From.textOK_of_wellformed cs hcs ht
    (fun hst r hr tg htg =>
      have h0 := mem_get hr
      ⟨(hu _ h0 r hr tg htg).1, (hu _ h0 r hr tg htg).2.2⟩) hshort
  exact round_trip_of_built_table pf hpf ht htext hk
    (fun kv hkv r hr tg htg => ⟨(hu kv hkv r hr tg htg).1, (hu kv hkv r hr tg htg).2.1⟩)

/-- evaluated: a table built by commands (two hosts in different letter case, a weight command, a del), its text read
back and rendered again -/
example : (match newTable envB [addB "s" "Foo.com/a" "http://a:1/" (1/4), addB "t" "foo.COM/a" "http://b:1/" (3/4),
      addB "u" "/" "http://c:1/" 0, { cmd := .del, service := "u".toList }] with
    | .ok t => (match loadTable envB pfB (render t) with
        | .ok t2 => render t2 == render (C05Fix.normTable t) && (abs t2 "foo.com".toList "/a".toList).length == 2
        | .error _ => false)
    | .error _ => false) = true := by
  simp only [addB, funext pfB.eq_def, toList_lit rfl]; decide +kernel

/-! ### the forced hypotheses are necessary (witnesses; the same inputs are replayed on the real code from
`corpus/c05.roundtrip.jsonl`, where they are recorded findings) -/

section witnesses

def envW : Env := { normURL := fun s => some s, globOK := fun _ => true }

def pfW : ParseFloat := fun s =>
  if s == "1.0000".toList || s == "1".toList then some (.fin 1)
  else if s == "0.5000".toList || s == "0.5".toList then some (.fin (1/2))
  else if s == "0.2500".toList then some (.fin (1/4))
  else if s == "0.7500".toList then some (.fin (3/4))
  else none

def roundTrip (defs : List RouteDef) (h p : Str) : Option (List Target × List Target) :=
  match newTable envW defs with
  | .error _ => none
  | .ok t =>
    match loadTable envW pfW (render t) with
    | .error _ => none
    | .ok t2 => some (abs t h p, abs t2 h p)

def countsOf (x : Option (List Target × List Target)) : Option (Nat × Nat) := x.map (fun ab => (ab.1.length, ab.2.length))

def addW (svc dst : String) (w : Rat := 0) (tags : List Str := []) (opts : List (Str × Str) := []) : RouteDef :=
  { cmd := .add, service := svc.toList, src := "/p".toList, dst := dst.toList, weight := w, tags, opts }

/-- The witnesses below in one evaluation: each evaluation decodes the literals of the reader and of `render` anew, so
the four statements share one and are its projections. -/
private theorem round_trip_witnesses :
    (countsOf (roundTrip [addW "s" "http://a:1/" 1, addW "s" "http://b:1/"] [] "/p".toList) = some (2, 2) ∧
    ((roundTrip [addW "s" "http://a:1/" 1, addW "s" "http://b:1/"] [] "/p".toList).map
      (fun ab => ab.1.map (·.weight))) = some [1, 0]) ∧
    countsOf (roundTrip [addW "s" "http://a:1/" 0 [] [("strip".toList, "/p".toList)], addW "s" "http://a:1/" (1/2),
      { cmd := .weight, service := "s".toList, src := "/p".toList, weight := 1/2 }] [] "/p".toList) = some (2, 1) ∧
    (roundTrip [addW "s" "http://a:1/" 0 [[]]] [] "/p".toList).map (fun ab => (ab.1.map (·.tags), ab.2.map (·.tags)))
      = some ([[[]]], [[]]) ∧
    (match newTable envW [addW "s" "http://a:1/" (1/4) [['x']] [("a".toList, "1".toList), ("b".toList, "2=3".toList)],
      addW "t" "http://b:1/" (3/4)] with
    | .ok t => (match loadTable envW pfW (render t) with
        | .ok t2 => render t2 == render t && !(render t).isEmpty
        | .error _ => false)
    | .error _ => false) = true := by
  simp only [addW, toList_lit rfl]; decide +kernel

/-- a target without traffic share (a dynamic target next to a fixed share of 100 %) is written by `String()`
and comes back (2 targets → 2, shares 1 and 0). Defect of fabio: `Route.config` omitted such a target from
`String()`, so it was lost in the round trip (2 → 1); repaired in `Route.config`, which skips a target without
share only in the weighted display -/
theorem round_trip_keeps_zero_share_targets :
    countsOf (roundTrip [addW "s" "http://a:1/" 1, addW "s" "http://b:1/"] [] "/p".toList) = some (2, 2) ∧
    ((roundTrip [addW "s" "http://a:1/" 1, addW "s" "http://b:1/"] [] "/p".toList).map
      (fun ab => ab.1.map (·.weight))) = some [1, 0] :=
  round_trip_witnesses.1

/-- `RebuildOK.keys` is necessary beyond "differ only in weight": two targets that differ only in their
*options* (weights equalised by `route weight`) are written as two lines, and the second is de-duplicated
away when the text is read (2 targets → 1) -/
theorem round_trip_needs_distinct_keys :
    countsOf (roundTrip [addW "s" "http://a:1/" 0 [] [("strip".toList, "/p".toList)], addW "s" "http://a:1/" (1/2),
      { cmd := .weight, service := "s".toList, src := "/p".toList, weight := 1/2 }] [] "/p".toList) = some (2, 1) :=
  round_trip_witnesses.2.1

/-- `TextOK.tags_ne` is necessary: the single empty tag is written as `tags ""` and read back as no tag -/
theorem round_trip_needs_nonempty_tag_text :
    (roundTrip [addW "s" "http://a:1/" 0 [[]]] [] "/p".toList).map (fun ab => (ab.1.map (·.tags), ab.2.map (·.tags)))
      = some ([[[]]], [[]]) :=
  round_trip_witnesses.2.2.1

/-- `C05Rebuild.tab0` rendered and loaded, evaluated once: what the statements below ask of the loaded table -/
private theorem load_tab0 : (loadTable envW pfW (render C05Rebuild.tab0)).toOption.map (fun t2 =>
    ([("h".toList, "/".toList), ("g".toList, "/p".toList), ("x".toList, "/".toList)].all
      (fun k => abs t2 k.1 k.2 == weigh ((abs C05Rebuild.tab0 k.1 k.2).map norm4)),
     render t2 == render (C05Fix.normTable C05Rebuild.tab0) && !(render t2).isEmpty, !t2.isEmpty)) =
    some (true, true, true) := by
  unfold pfW; simp only [toList_lit rfl]; decide +kernel

/-- the round trip on a table inside the hypotheses, evaluated: two hosts, tags, unsorted options, weights
1/4 and 3/4 — every (host,path) comes back as `weigh (targets.map norm4)` -/
theorem round_trip_instance :
    (match loadTable envW pfW (render C05Rebuild.tab0) with
     | .ok t2 => [("h".toList, "/".toList), ("g".toList, "/p".toList), ("x".toList, "/".toList)].all
         (fun k => abs t2 k.1 k.2 == weigh ((abs C05Rebuild.tab0 k.1 k.2).map norm4))
     | .error _ => false) = true := by
  have h := load_tab0
  generalize loadTable envW pfW (render C05Rebuild.tab0) = x at h ⊢
  cases x with
  | error e => cases h
  | ok t2 => exact congrArg (·.1) (Option.some.inj h)

/-- `rendered_text_is_fixpoint` evaluated on the same table: the rebuilt table's text is the normalised text -/
example : (match loadTable envW pfW (render C05Rebuild.tab0) with
    | .ok t2 => render t2 == render (C05Fix.normTable C05Rebuild.tab0) && !(render t2).isEmpty
    | .error _ => false) = true := by
  have h := load_tab0
  generalize loadTable envW pfW (render C05Rebuild.tab0) = x at h ⊢
  cases x with
  | error e => cases h
  | ok t2 => exact congrArg (·.2.1) (Option.some.inj h)

/-- `rendered_text_is_fixpoint_exact` evaluated: a table built by commands (weights 1/4 and 3/4, a tag, two options),
rendered, read, rendered again — the very same text -/
example : (match newTable envW [addW "s" "http://a:1/" (1/4) [['x']] [("a".toList, "1".toList), ("b".toList, "2=3".toList)],
      addW "t" "http://b:1/" (3/4)] with
    | .ok t => (match loadTable envW pfW (render t) with
        | .ok t2 => render t2 == render t && !(render t).isEmpty
        | .error _ => false)
    | .error _ => false) = true :=
  round_trip_witnesses.2.2.2

end witnesses

section examples
open C05Del

/-- `route del a H/p` on `h: / ↦ [a ½, b ½], /p ↦ [a 1]` removes route `/p` entirely (upper-case host) -/
example : delRoute env0 tab0 dSrc = .ok tab2 := del_src
example : Good env0 tab0 := ⟨inv_tab0, fun _ _ => rfl⟩
example : NoEmpty tab2 := del_leaves_no_empty inv_tab0.noEmpty del_src
example : abs tab2 ['h'] ['/', 'p'] = [] ∧ abs tab0 ['h'] ['/', 'p'] ≠ [] := by decide +kernel
/-- del by service removes `a` everywhere and leaves `b` with the whole share -/
example : abs tab1 ['h'] ['/'] = dropSel (fun x => x.service == ['a']) (abs tab0 ['h'] ['/']) :=
  del_removes_exactly_svc (d := dSvc) ⟨inv_tab0, fun _ _ => rfl⟩ rfl rfl rfl del_svc ['h'] ['/']
/-- weight: `route weight a H/ weight 1/4` changes `a` only -/
example : weighRoute C05Weight.tab0 C05Weight.dW = .ok C05Weight.tabW := C05Weight.weigh_tab0
/-- case-insensitivity is not vacuous: the two sources differ -/
example : addRoute env0 tab0 { cmd := .add, service := ['s'], dst := ['u'], src := "FOO.com".toList ++ "/x".toList }
        = addRoute env0 tab0 { cmd := .add, service := ['s'], dst := ['u'], src := "foo.COM".toList ++ "/x".toList } :=
  host_case_insensitive_add (d := { cmd := .add, service := ['s'], dst := ['u'] }) _ _ _
    (by simp only [toList_lit rfl]; decide +kernel) (by simp only [toList_lit rfl]; decide +kernel)
    (by simp only [toList_lit rfl]; decide +kernel) (Or.inr ⟨['x'], rfl⟩)
/-- the final sort really reorders, also paths that differ only in case -/
example : sortRoutes C05Weight.rs0 = C05Weight.rs1 ∧ C05Weight.rs0 ≠ C05Weight.rs1 := by decide +kernel
/-- an add that appends a second target (upper-case host), and applying it again changes nothing -/
example : addRoute C05Add.env0 C05Add.tab0 C05Add.dB = .ok C05Add.tab1 ∧
    addRoute C05Add.env0 C05Add.tab1 C05Add.dB = .ok C05Add.tab1 ∧ C05Add.tab1 ≠ C05Add.tab0 :=
  ⟨C05Add.add_B, add_idempotent ⟨C05Add.inv_tab0, fun _ _ => rfl⟩ C05Add.add_B, by decide +kernel⟩
/-- the round trip's hypotheses are satisfiable on a table with tags, options and a weight -/
example : C05Text.TextOK C05Text.exRoute C05Text.exTarget := C05Text.exTextOK

def pfG : ParseFloat := fun s =>
  if s == "nan".toList then some .nan else if s == "0.5".toList then some (.fin (1/2)) else none

/-- CRLF, a comment, a `del`, an option without value -/
def textG : Str :=
  "route add s h/ http://a:1/ opts \"register=foo strip=/x\"\r\n# c\nroute del x\nroute add t h/ http://b:1/ weight 0.5 opts \"register\"\n".toList

/-- what `Parse` makes of `textG`, evaluated once -/
private theorem parse_textG : parse pfG textG = .ok
    [{ cmd := .add, service := ['s'], src := ['h', '/'], dst := "http://a:1/".toList,
       opts := [("register".toList, "foo".toList), ("strip".toList, "/x".toList)] },
     { cmd := .del, service := ['x'] },
     { cmd := .add, service := ['t'], src := ['h', '/'], dst := "http://b:1/".toList, weight := 1/2,
       opts := [("register".toList, [])] }] := by
  unfold pfG textG
  simp only [toList_lit rfl]
  decide +kernel

/-- `aliases_agree_with_parse` is not vacuous: three definitions, two names (the second one empty) -/
example : (match parse pfG textG with | .ok ds => ds.length == 3 | _ => false) = true := by
  rw [parse_textG]; rfl
example : (match parseAliases pfG textG with | .ok ns => ns == ["foo".toList, []] | _ => false) = true := by
  rw [aliases_agree_with_parse parse_textG]; simp only [toList_lit rfl]; decide +kernel

def textN : Str := "route add s h/ http://a:1/\nroute weight s h/ weight nan\nroute del s".toList

/-- what the total reader makes of `textN`, evaluated once: three commands, the second flagged -/
private theorem parseW_textN : parseW pfG textN = .ok
    [{ d := { cmd := .add, service := ['s'], src := ['h', '/'], dst := "http://a:1/".toList }, bad := false },
     { d := { cmd := .weight, service := ['s'], src := ['h', '/'] }, bad := true },
     { d := { cmd := .del, service := ['s'] }, bad := false }] := by
  unfold pfG textN
  simp only [toList_lit rfl]
  decide +kernel

private theorem readers_textN :
    parse pfG textN = .error (.nonFinite 2 .nan) ∧
    parseAliases pfG textN = .ok [] ∧
    loadTableW envW pfG ("route weight s h/ weight 0.5\n".toList ++ textN) = .error (.cmd (.table .noMatch)) := by
  unfold pfG textN; simp only [toList_lit rfl]; decide +kernel

/-- a non-finite weight: `Parse` (model over ℚ) stops at line 2, the total model answers `invalid weight`, and
`ParseAliases` reads the text without complaint -/
example : (match parse pfG textN with | .error (.nonFinite 2 .nan) => true | _ => false) = true := by
  rw [readers_textN.1]; rfl
example : (match loadTableW envW pfG textN with | .error (.cmd .invalidWeight) => true | _ => false) = true := by
  have h : loadTableW envW pfG textN = .error (.cmd .invalidWeight) := by
    rw [loadTableW_eq_of_parseW parseW_textN]; simp only [toList_lit rfl]; decide +kernel
  rw [h]
example : (match parseAliases pfG textN with | .ok [] => true | _ => false) = true := by
  rw [readers_textN.2.1]
/-- the earlier failing command wins: a `weight` without match before the non-finite one -/
example : (match loadTableW envW pfG ("route weight s h/ weight 0.5\n".toList ++ textN) with
    | .error (.cmd (.table .noMatch)) => true | _ => false) = true := by
  rw [readers_textN.2.2]

/-- derived fields: `+301` is a redirect code, `200` and `3x1` are not; sorting the options keeps them -/
example : (derive [("redirect".toList, "+301".toList), ("host".toList, "dst".toList)]).redirect = 301 ∧
    (derive [("redirect".toList, "200".toList)]).redirect = 0 ∧ (derive [("redirect".toList, "3x1".toList)]).redirect = 0 ∧
    (derive [("tlsskipverify".toList, "true".toList)]).tlsSkip = true ∧ (derive [("tlsskipverify".toList, "TRUE".toList)]).tlsSkip = false ∧
    derive (sortOpts [("strip".toList, "/a".toList), ("auth".toList, "b".toList)]) =
      derive [("strip".toList, "/a".toList), ("auth".toList, "b".toList)] := by
  simp only [derive, optGet, toList_lit rfl]; decide +kernel

/-- the admin listing of a two-host table: three targets, hosts ascending; `?raw` reloads like `String()` -/
example : (apiRoutes C05Rebuild.tab0).length = 3 ∧ ((apiRoutes C05Rebuild.tab0).map (·.host)).head? = some "g".toList := by
  decide +kernel
example : ((apiRoutes C05Rebuild.tab0).filter (fun a => a.host == "h".toList && a.path == "/".toList)).length = 2 := by
  decide +kernel
example : (match loadTable envW pfW (apiRaw C05Rebuild.tab0), loadTable envW pfW (render C05Rebuild.tab0) with
    | .ok a, .ok b => a == b && !a.isEmpty | _, _ => false) = true := by
  rw [raw_api_reloads]
  have h := load_tab0
  generalize loadTable envW pfW (render C05Rebuild.tab0) = x at h ⊢
  cases x with
  | error e => cases h
  | ok a => simp only [beq_self_eq_true, Bool.true_and]; exact congrArg (·.2.2) (Option.some.inj h)
/-- `text_refines_spec_total` is not vacuous: `parseW` reads the text with the `nan` weight as three commands, one of
them flagged, and the spec machine refuses it like `NewTable` does -/
example : (match parseW pfG textN with | .ok xs => xs.length == 3 && xs.any (·.bad) | _ => false) = true := by
  rw [parseW_textN]; rfl
example : (match parseW pfG textN with
    | .ok xs => (match specRunW envW xs with | .error .invalidWeight => true | _ => false)
    | _ => false) = true := by
  rw [parseW_textN]; simp only [toList_lit rfl]; decide +kernel
end examples

end Fabio.Props.C05
