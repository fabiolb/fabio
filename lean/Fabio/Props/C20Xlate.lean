import Fabio.Generated.C20
import Fabio.Props.C20
import Fabio.Xlate.Cps
/-!
C20 — the tie by translation. `Fabio.Generated.C20.XUint16`, `XI32toa`, `XUuid`, `XHostport`, `XAtoi` and `XLex` are produced
on every run by the Go→Lean translator (`tools/factgen/xlate.go`) from the current `proxy/http_headers.go`,
`uuid/format.go` and `logger/pattern.go`. The theorems below prove them equal — for every input, panics and "ran out
of fuel" included — to the hand-written model (`Model/C20.lean`), and transfer the theorems of `Props/C20.lean` to the
translated source. They are registered as a change detector through `Props/C20Pins.lean`: when a change to a Go function
stops them building nothing is claimed broken — the streams compare the same code with the model — but every stream
runs at the widened budget.

Compared: the returned text (bytes read as characters: everything the formatters write is ASCII); the final state
and the wording of a panic are dropped.

`uint16base16` and `uuid.ToString` are written op for op like their models: both sides are brought to one chain of
checked operations (`Xlate/Cps.lean`) and no bound is derived. `i32toa` and `atoi` fill an array from the back where
the model conses onto a list (`Back`); `hostport` (two slices against one test in the model) and `lex` (a `range` loop
against a state machine) are evaluated case by case.
-/
namespace Fabio.Props.C20Xlate
open Fabio Fabio.Xlate Fabio.Model.C20 Fabio.Generated.C20

def chars (b : Bytes) : List Char := b.map fun x => Char.ofNat x.toNat
def obsX {σ} : V (Bytes × σ) → Outcome (List Char)
  | .ok (r, _) => .ok (chars r)
  | .panic _ => .panic ""
def obsM {α} : Outcome α → Outcome α
  | .ok r => .ok r
  | .panic _ => .panic ""

theorem digit_char (i : Int) (h : 0 ≤ i) : Char.ofNat ((48 : UInt8) + toU8 (Int.tmod i 10)).toNat = digitByte i.toNat := by
  have h1 : Int.tmod i 10 = ((i.toNat % 10 : Nat) : Int) := by
    rw [Int.tmod_eq_emod_of_nonneg h]; omega
  unfold digitByte toU8
  rw [h1]
  have : (((i.toNat % 10 : Nat) : Int) % 256).toNat = i.toNat % 10 := by omega
  rw [this, UInt8.toNat_add, UInt8.toNat_ofNat']
  congr 1
  simp
  omega

theorem tdiv10 {i : Int} (h : 0 ≤ i) : Int.tdiv i 10 = ((i.toNat / 10 : Nat) : Int) := by
  rw [Int.tdiv_eq_ediv_of_nonneg h]; omega

/-- A `cap`-byte array filled from the back (`d[p] = c; p--`): behind index `p` it holds the text `acc`. -/
structure Back (cap : Nat) (d : Bytes) (p : Int) (acc : List Char) : Prop where
  len : d.length = cap
  fits : acc.length ≤ cap
  pos : p = (cap : Int) - 1 - acc.length
  text : chars (d.drop (cap - acc.length)) = acc

/-- `p` lies between -1 and `cap`: the int64 arithmetic on it and its neighbours does not wrap around -/
theorem Back.wrap {cap : Nat} {d : Bytes} {p : Int} {acc : List Char} (h : Back cap d p acc) (hc : cap ≤ 2^62)
    {q : Int} (hq : p - 1 ≤ q ∧ q ≤ p + 1) : wrapI 64 q = q := by
  have := h.fits; have := h.pos
  rw [wrapI64_id] <;> omega

/-- A store at `p` is the model's `pushFront`: both panic (the array is full, `p = -1`), or the array with the
byte stored holds the text with the character in front. -/
theorem Back.push {cap : Nat} {d : Bytes} {p : Int} {acc : List Char} (h : Back cap d p acc) (v : UInt8) {c : Char}
    (hc : Char.ofNat v.toNat = c) :
    ((∃ w, upd d p v = .panic w) ∧ ∃ w, pushFront cap c acc = .panic w) ∨
      ∃ d', upd d p v = .ok d' ∧ pushFront cap c acc = .ok (c :: acc) ∧ Back cap d' (p - 1) (c :: acc) := by
  obtain ⟨h1, h2, h3, h4⟩ := h
  subst hc
  unfold pushFront
  by_cases hlt : acc.length < cap
  · have hk : cap - 1 - acc.length < d.length := by omega
    have hp : p = ((cap - 1 - acc.length : Nat) : Int) := by omega
    refine .inr ⟨_, by rw [hp, upd_ok _ _ _ hk], if_pos hlt, by simp [h1], by simp; omega, by simp; omega, ?_⟩
    have e : cap - (Char.ofNat v.toNat :: acc).length = cap - 1 - acc.length := by simp; omega
    rw [e, drop_set_self _ _ _ hk, show cap - 1 - acc.length + 1 = cap - acc.length by omega]
    show Char.ofNat v.toNat :: chars _ = _
    rw [h4]
  · exact .inl ⟨upd_neg _ _ _ (by omega), _, if_neg hlt⟩

theorem Back.tail {cap : Nat} {d : Bytes} {p : Int} {acc : List Char} (h : Back cap d p acc) :
    sliceFrom d (p + 1) = .ok (d.drop (cap - acc.length)) := by
  have := h.len; have := h.fits
  have e : p + 1 = ((cap - acc.length : Nat) : Int) := by have := h.pos; omega
  rw [e, sliceFrom_natCast, if_pos (by omega)]

theorem chars_set (d : Bytes) (i : Nat) (v : UInt8) : chars (d.set i v) = (chars d).set i (Char.ofNat v.toNat) := by
  simp [chars, List.map_set]

theorem chars_length (d : Bytes) : (chars d).length = d.length := by simp [chars]

theorem upd_setIdx (d : Bytes) (i : Nat) (v : UInt8) :
    (match upd d (i : Int) v with | .ok d' => Outcome.ok (chars d') | .panic _ => .panic "") =
      obsM (setIdx (chars d) i (Char.ofNat v.toNat)) := by
  rw [upd_natCast, setIdx, chars_length]
  by_cases h : i < d.length <;> simp [h, chars_set, obsM]

section
variable {β : Type}

/-! `getIdx`, `setIdx` of the model are `idx`, `upd` of the translation, panic for panic. -/
@[cps] theorem thenO_getIdx (u : Bytes) (k : Nat) (p : String → β) (f : UInt8 → β) :
    thenO (getIdx u k) p f = thenV (Xlate.idx u (k : Int)) p f := by
  rw [idx_natCast]; unfold idxN getIdx; cases u[k]? <;> rfl

@[cps] theorem thenO_getIdx_chars (g : Bytes) (k : Nat) (p : String → β) (f : Char → β) :
    thenO (getIdx (chars g) k) p f = thenV (Xlate.idx g (k : Int)) p fun v => f (Char.ofNat v.toNat) := by
  rw [idx_natCast]; unfold idxN getIdx chars; rw [List.getElem?_map]; cases g[k]? <;> rfl

@[cps] theorem thenO_setIdx_chars (d : Bytes) (n : Nat) (v : UInt8) (p : String → β) (f : List Char → β) :
    thenO (setIdx (chars d) n (Char.ofNat v.toNat)) p f = thenV (upd d (n : Int) v) p fun d' => f (chars d') := by
  rw [upd_natCast, setIdx, chars_length]; split <;> simp only [thenO, thenV, chars_set]
end

theorem digit16_table : chars XUint16.g0 = Model.C20.digit16 := by decide +kernel

theorem xuint16_eq_model (n : UInt16) :
    obsX (XUint16.run { p0 := n }) = obsM (uint16base16 n.toNat) := by
  unfold XUint16.run
  rw [run_obs obsX]
  show _ = obs obsM _
  unfold XUint16.body uint16base16
  simp only [cps, ← digit16_table, UInt16.toNat_and, UInt16.toNat_shiftRight]
  -- the same four reads on both sides; the stores go to literal places of the literal `0x0000` and are evaluated
  simp [upd, cps, obs, runK, obsX, obsM, chars, thenV]

/-- `uint16base16_eq_hex4` transferred; in particular the translated function never panics (no index leaves `digit16`
or the 6-byte buffer). -/
theorem xuint16_eq_hex4 (n : UInt16) : obsX (XUint16.run { p0 := n }) = .ok (Spec.hex4 n.toNat) := by
  rw [xuint16_eq_model, Props.C20.uint16base16_eq_hex4 n.toNat n.toNat_lt]; rfl

namespace I32
open XI32toa

theorem loop_spec (fuel : Nat) (s : St) (acc : List Char) (h : Back 11 s.l0 (s.l1 - 1) acc) (hi : 0 ≤ s.l2) :
    obsX (runK (fun _ => []) (loopN loop0Cond loop0Body fuel s)) =
      obsM ((digitsLoop 11 fuel s.l2.toNat acc).bind fun ds => if s.l3 then pushFront 11 '-' ds else .ok ds) := by
  induction fuel generalizing s acc with
  | zero => simp [loopN, digitsLoop, runK, obsX, obsM, Outcome.bind]
  | succ fuel ih =>
    unfold loopN digitsLoop
    simp only [loop0Cond]
    have hw : wrapI 64 (s.l1 - 1) = s.l1 - 1 := h.wrap (by decide) (by omega)
    rcases h.push _ (digit_char s.l2 hi) with ⟨⟨w, hu⟩, w', hpf⟩ | ⟨d', hu, hpf, hb1⟩
    · simp [loop0Body, seq, assign, hw, hu, hpf, runK, obsX, obsM, Outcome.bind]
    · simp only [hpf]
      generalize hb : loop0Body s = fl
      simp only [loop0Body, seq, assign, hw, hu, V.bind_ok, V.pure_eq, tdiv10 hi, ifS] at hb
      by_cases hz : s.l2.toNat / 10 = 0
      · -- the last digit: the sign if there is one, then `return buf[pos:]`
        have hz' : (((s.l2.toNat / 10 : Nat) : Int) == 0) = true := by simp [hz]
        simp only [hz'] at hb
        cases hs : s.l3
        · have ht := hb1.tail
          rw [Int.sub_add_cancel] at ht
          simp only [hs, skip, Xlate.ret, ht] at hb
          subst hb
          simp only [hz, if_true, runK, obsX, obsM, Outcome.bind, hb1.text, Bool.false_eq_true, if_false]
        · have hw2 : wrapI 64 (s.l1 - 1 - 1) = s.l1 - 1 - 1 := h.wrap (by decide) (by omega)
          rcases hb1.push 45 (c := '-') rfl with ⟨⟨w, hu2⟩, w', hpf2⟩ | ⟨d2, hu2, hpf2, hb2⟩
          · simp only [hs, hw2, hu2] at hb
            subst hb
            simp [hz, runK, obsX, obsM, Outcome.bind, hpf2]
          · have ht := hb2.tail
            rw [Int.sub_add_cancel] at ht
            simp only [hs, hw2, hu2, Xlate.ret, ht] at hb
            subst hb
            simp only [hz, if_true, runK, obsX, obsM, Outcome.bind, hb2.text, hpf2]
      · have hz' : (((s.l2.toNat / 10 : Nat) : Int) == 0) = false := by simp; omega
        simp only [hz', skip] at hb
        subst hb
        simp only [hz, if_false]
        have := ih { s with l0 := d', l1 := s.l1 - 1, l2 := ((s.l2.toNat / 10 : Nat) : Int) } (digitByte s.l2.toNat :: acc)
          hb1 (Int.natCast_nonneg _)
        rw [Int.toNat_natCast] at this
        exact this

end I32

/-- **The translated `i32toa` equals the model's, for every integer** (same 11-byte buffer, same digit loop, same
fuel: running out of either is a panic value on both sides). -/
theorem xi32toa_eq_model (n : Int) : obsX (XI32toa.run { p0 := n }) = obsM (i32toa n) := by
  unfold XI32toa.run
  rw [run_obs obsX]
  unfold XI32toa.body i32toa
  by_cases hn : n < 0
  · simp only [obs, seq, assign, ifS, ltI_eq, hn, decide_true, loop]
    have := I32.loop_spec 11 { p0 := n, l0 := List.replicate 11 0, l1 := 11, l2 := -n, l3 := true } [] ⟨by simp, by simp, by simp, by simp [chars]⟩ (by simp; omega)
    simpa using this
  · simp only [obs, seq, assign, ifS, ltI_eq, hn, decide_false, loop, skip]
    have := I32.loop_spec 11 { p0 := n, l0 := List.replicate 11 0, l1 := 11, l2 := n, l3 := false } [] ⟨by simp, by simp, by simp, by simp [chars]⟩ (by simp; omega)
    simpa using this


/-- `i32toa_eq_decimal` transferred: the translated function equals `strconv.Itoa` on every int32 (MinInt32
included); it never panics and its `for { … }` loop terminates within the 11 rounds of fuel. -/
theorem xi32toa_eq_decimal (n : Int) (hlo : -2^31 ≤ n) (hhi : n < 2^31) :
    obsX (XI32toa.run { p0 := n }) = .ok (Spec.itoa n) := by
  rw [xi32toa_eq_model, Props.C20.i32toa_eq_decimal n hlo hhi]; rfl

example : obsX (XI32toa.run { p0 := -2147483648 }) = .ok "-2147483648".toList := by
  simp only [toList_lit rfl]
  decide +kernel
example : obsX (XUint16.run { p0 := 0x0301 }) = .ok "0x0301".toList := by
  simp only [toList_lit rfl]
  decide +kernel

namespace UU
open XUuid

theorem hex_table : chars g0 = Model.C20.halfbyte2hexchar := by decide +kernel

def obsN : Flow Rho St → Outcome (List Char × Bytes)
  | .next s => .ok (chars s.l0, s.p0)
  | .panic _ => .panic ""
  | _ => .panic "unexpected flow"

theorem body_spec (s : St) (k n : Nat) (hk : s.l1 = k) (hn : s.l2 = n) :
    obsN (loop0Body s) = obsM ((Lemmas.C20.uuidStep s.p0 n k (chars s.l0)).bind fun b2 => .ok (b2, s.p0)) := by
  show obs obsN _ = obs obsM _
  unfold loop0Body Lemmas.C20.uuidStep
  simp only [cps, hk, hn, ← hex_table]
  -- the code reads `u[i]` for each of the two digits, the model once
  cases Xlate.idx s.p0 (k : Int) with
  | panic w => rfl
  | ok a =>
    simp only [cps, UInt8.toNat_and, UInt8.toNat_shiftRight, ← Int.ofNat_eq_natCast]
    rfl

theorem loop_spec (ns : List Nat) (k : Nat) (s : St) :
    obsN (forEachL (fun k x s => { s with l1 := Int.ofNat k, l2 := x }) loop0Body (ns.map Int.ofNat) k s) =
      obsM ((uuidLoop s.p0 ns k (chars s.l0)).bind fun b => .ok (b, s.p0)) := by
  induction ns generalizing k s with
  | nil => simp [forEachL, uuidLoop, obsN, obsM, Outcome.bind]
  | cons n ns ih =>
    have hb := body_spec { s with l1 := Int.ofNat k, l2 := Int.ofNat n } k n rfl rfl
    simp only [List.map_cons, forEachL, Lemmas.C20.uuidLoop_cons] at hb ⊢
    generalize loop0Body { s with l1 := Int.ofNat k, l2 := Int.ofNat n } = fl at hb
    cases hm : Lemmas.C20.uuidStep s.p0 n k (chars s.l0) with
    | panic w => rw [hm] at hb; cases fl <;> simp_all [obsN, obsM, Outcome.bind]
    | ok b2 =>
      rw [hm] at hb
      cases fl <;> simp [obsN, obsM, Outcome.bind] at hb
      rename_i s'
      have := ih (k+1) s'
      rw [hb.1, hb.2] at this
      exact this

end UU

/-- **The translated `uuid.ToString` equals the model's, for every byte list** (a list shorter than the 16 bytes the
loop reads panics on both sides). -/
theorem xuuid_eq_model (u : Bytes) : obsX (XUuid.run { p0 := u }) = obsM (uuidToString u) := by
  unfold XUuid.run
  rw [run_obs obsX]
  unfold XUuid.body uuidToString
  simp only [cps]
  rw [seq, forEach, XUuid.loop0List]
  have hl := UU.loop_spec Model.C20.uuidIdx 0 { p0 := u, l0 := List.replicate 36 0 }
  have hm : (Model.C20.uuidIdx.map Int.ofNat) = ([0, 2, 4, 6, 9, 11, 14, 16, 19, 21, 24, 26, 28, 30, 32, 34] : List Int) := by decide
  have hz : chars (List.replicate 36 (0 : UInt8)) = List.replicate 36 (Char.ofNat 0) := by decide
  rw [hm] at hl
  simp only [hz] at hl
  generalize forEachL _ XUuid.loop0Body _ 0 _ = fl at hl ⊢
  cases hu : uuidLoop u Model.C20.uuidIdx 0 (List.replicate 36 (Char.ofNat 0)) with
  | panic w => cases fl <;> simp_all [UU.obsN, obs, runK, obsX, obsM, Outcome.bind]
  | ok b =>
    simp only [hu, Outcome.bind, obsM] at hl ⊢
    cases fl <;> simp [UU.obsN] at hl
    rename_i s'
    obtain ⟨hb, _⟩ := hl
    subst hb
    -- the four dash stores, store for store
    have hc : '-' = Char.ofNat (45 : UInt8).toNat := rfl
    show obs (fun fl => obsX (runK _ fl)) _ = obs obsM _
    simp only [cps, Model.C20.uuidDashes, setAll, hc, Int.cast_ofNat_Int]
    rfl

/-- `uuid_format` transferred: for 24 bytes the translated function prints the 8-4-4-4-12 lower-hex text of the
first 16 — no index leaves `u`, the hex table or the 36-byte buffer. -/
theorem xuuid_format (u : Bytes) (h : u.length = 24) : obsX (XUuid.run { p0 := u }) = .ok (Spec.uuidText u) := by
  rw [xuuid_eq_model, Props.C20.uuid_format u h]; rfl

example : obsX (XUuid.run { p0 := (List.range 24).map UInt8.ofNat }) = .ok "00010203-0405-0607-0809-0a0b0c0d0e0f".toList := by
  simp only [toList_lit rfl]
  decide +kernel

def encIdx : Option Nat → Int
  | none => -1
  | some k => k

theorem lastIndex_go (c : UInt8) (b : Bytes) (i : Nat) (best : Option Nat) :
    lastIndexByteGo c b i (encIdx best) = encIdx (lastIndexOf.go (Char.ofNat c.toNat) i best (chars b)) := by
  induction b generalizing i best with
  | nil => simp [lastIndexByteGo, lastIndexOf.go, chars]
  | cons x xs ih =>
    simp only [lastIndexByteGo, chars, List.map_cons, lastIndexOf.go, ofNat_byte_beq]
    cases hx : (x == c)
    · simpa [chars] using ih (i+1) best
    · simpa [chars, encIdx] using ih (i+1) (some i)

/-- `strings.LastIndexByte` on the bytes is `lastIndexOf` on the text (-1 for "not found") -/
theorem lastIndex_eq (b : Bytes) (c : UInt8) :
    lastIndexByte b c = encIdx (lastIndexOf (Char.ofNat c.toNat) (chars b)) :=
  lastIndex_go c b 0 none

def obsHP {σ} : V ((Bytes × Bytes) × σ) → Outcome (List Char × List Char)
  | .ok ((h, p), _) => .ok (chars h, chars p)
  | .panic _ => .panic ""

/-- **The translated `hostport` equals the model's on every byte string** (the bytes read as Latin-1 text: one
character per byte, `:` is the byte 58 and no other). -/
theorem xhostport_eq_model (b : Bytes) : obsHP (XHostport.run { p0 := b }) = obsM (hostport (chars b)) := by
  unfold XHostport.run Xlate.run XHostport.body hostport
  cases b with
  | nil => simp [seq, ifS, Xlate.ret, obsHP, obsM, chars]
  | cons x xs =>
    have hne : ((x :: xs : Bytes) == ([] : Bytes)) = false := by rfl
    have hne' : (chars (x :: xs)).isEmpty = false := by simp [chars]
    simp only [seq, ifS, assign, hne, hne', skip, lastIndex_eq, show Char.ofNat (58 : UInt8).toNat = ':' from rfl,
      Bool.false_eq_true, if_false]
    cases hl : lastIndexOf ':' (chars (x :: xs)) with
    | none => simp [encIdx, Xlate.ret, obsHP, obsM, chars]
    | some n =>
      have hn : ¬ ((n : Int) < 0) := by omega
      simp only [encIdx, ltI_eq, hn, decide_false, Xlate.ret, chars_length]
      rw [← Int.natCast_succ, sliceFrom_natCast]
      by_cases hb : n ≤ xs.length
      · simp [sliceTo_natCast, hb, show n ≤ xs.length + 1 by omega, obsHP, obsM, chars, List.map_take, List.map_drop]
      · cases sliceTo (x :: xs) (n : Int) <;> simp [hb, obsHP, obsM]

theorem xhostport_spec (b : Bytes) :
    ∃ h p, obsHP (XHostport.run { p0 := b }) = .ok (h, p) ∧ Spec.hostportOk (chars b) h p = true := by
  rw [xhostport_eq_model]
  obtain ⟨h, p, hm, hs⟩ := Props.C20.hostport_spec (chars b)
  exact ⟨h, p, by rw [hm]; rfl, hs⟩

/-- `hostport_total` transferred: the translated function never panics, whatever bytes the address consists of
(no slice bound leaves the string: `strings.LastIndexByte` answers an index inside it). -/
theorem xhostport_total (b : Bytes) : ∃ h p, obsHP (XHostport.run { p0 := b }) = .ok (h, p) :=
  let ⟨h, p, e, _⟩ := xhostport_spec b; ⟨h, p, e⟩

example : obsHP (XHostport.run { p0 := "[::1]:80".toUTF8.toList }) = .ok ("[::1]".toList, "80".toList) := by
  simp only [toList_lit rfl]
  decide +kernel
example : obsHP (XHostport.run { p0 := "backend".toUTF8.toList }) = .ok ("backend".toList, []) := by
  simp only [toList_lit rfl]
  decide +kernel


/-- UTF-8 of a text, as Go holds it -/
def utf8 (cs : List Char) : Bytes := cs.flatMap String.utf8EncodeChar

/-- every byte of a multi-byte sequence is ≥ 128 -/
theorem colon_in_utf8 (c : Char) (h : (58 : UInt8) ∈ String.utf8EncodeChar c) : c = ':' := by
  have hv : c.val.toNat < 1114112 := by
    have := c.valid
    simp only [UInt32.isValidChar, Nat.isValidChar] at this
    omega
  have key : ∀ n : Nat, UInt8.ofNat n = 58 → n % 256 = 58 := by
    intro n hn
    have := congrArg UInt8.toNat hn
    simpa using this
  unfold String.utf8EncodeChar at h
  simp only at h
  split at h
  · simp only [List.mem_singleton] at h
    have := key _ h.symm
    have hc : c.val.toNat = 58 := by omega
    exact Char.ext (UInt32.toNat_inj.mp hc)
  · split at h
    · simp only [List.mem_cons, List.not_mem_nil, or_false] at h
      rcases h with h | h <;> (have := key _ h.symm; omega)
    · split at h
      · simp only [List.mem_cons, List.not_mem_nil, or_false] at h
        rcases h with h | h | h <;> (have := key _ h.symm; omega)
      · simp only [List.mem_cons, List.not_mem_nil, or_false] at h
        rcases h with h | h | h | h <;> (have := key _ h.symm; omega)

theorem utf8_colon : String.utf8EncodeChar ':' = [58] := by decide

theorem colon_mem_utf8 (cs : List Char) : (58 : UInt8) ∈ utf8 cs ↔ ':' ∈ cs := by
  unfold utf8
  constructor
  · intro h
    obtain ⟨c, hc, hm⟩ := List.mem_flatMap.mp h
    have := colon_in_utf8 c hm
    subst this; exact hc
  · intro h
    exact List.mem_flatMap.mpr ⟨':', h, by rw [utf8_colon]; simp⟩

theorem colon_mem_chars (b : Bytes) : ':' ∈ chars b ↔ (58 : UInt8) ∈ b :=
  ⟨fun h => let ⟨_, hx, he⟩ := List.mem_map.mp h; ofNat_byte_inj (y := 58) he ▸ hx,
   fun h => List.mem_map.mpr ⟨58, h, rfl⟩⟩

/-- **The translated `hostport` on the UTF-8 bytes of a text is the reference split of the text** — the step from
bytes to runes: a string is cut at the last byte 58, and that is the last `:` of the text because no other
character has a byte 58 in its encoding. With `hostport_eq_reference` this is the character-level model. -/
theorem xhostport_utf8 (cs : List Char) :
    ∃ s', XHostport.run { p0 := utf8 cs } =
      .ok ((utf8 (Spec.splitLastColon cs).1, utf8 (Spec.splitLastColon cs).2), s') := by
  have hm := xhostport_eq_model (utf8 cs)
  rw [Props.C20.hostport_eq_reference] at hm
  cases hr : XHostport.run { p0 := utf8 cs } with
  | panic w => simp [hr, obsHP, obsM] at hm
  | ok r =>
    obtain ⟨⟨hb, pb⟩, s'⟩ := r
    simp only [hr, obsHP, obsM, Outcome.ok.injEq] at hm
    have hm1 : chars hb = (Spec.splitLastColon (chars (utf8 cs))).1 := by rw [← hm]
    have hm2 : chars pb = (Spec.splitLastColon (chars (utf8 cs))).2 := by rw [← hm]
    refine ⟨s', ?_⟩
    congr 2
    by_cases hc : ':' ∈ cs
    · -- the encodings of the two halves of the text split the bytes at a `:` with none after it
      obtain ⟨g1, g2⟩ := Lemmas.C20.splitLastColon_spec cs hc
      have e : chars (utf8 cs) =
          chars (utf8 (Spec.splitLastColon cs).1) ++ ':' :: chars (utf8 (Spec.splitLastColon cs).2) := by
        conv => lhs; rw [← g1]
        simp [utf8, utf8_colon, chars]
      rw [e, Lemmas.C20.splitLastColon_append_cons _ _
        fun h => g2 ((colon_mem_utf8 _).mp ((colon_mem_chars _).mp h))] at hm1 hm2
      exact Prod.ext (map_ofNat_byte_inj hm1) (map_ofNat_byte_inj hm2)
    · have hcb : ¬ ':' ∈ chars (utf8 cs) := fun h => hc ((colon_mem_utf8 cs).mp ((colon_mem_chars _).mp h))
      have c1 : (chars (utf8 cs)).contains ':' = false := by simpa using hcb
      have c2 : cs.contains ':' = false := by simpa using hc
      simp only [Spec.splitLastColon, c1, c2, Bool.false_eq_true, if_false] at hm1 hm2 ⊢
      have e1 : hb = utf8 cs := map_ofNat_byte_inj hm1
      have e2 : pb = [] := by
        cases pb <;> simp_all [chars]
      rw [e1, e2]; rfl

example : obsHP (XHostport.run { p0 := utf8 "hôte:8080".toList }) = .ok (chars (utf8 "hôte".toList), "8080".toList) := by
  simp only [toList_lit rfl]
  decide +kernel


def obsA : V (Unit × XAtoi.St) → Outcome (List Char)
  | .ok (_, s) => .ok (chars s.p0)
  | .panic _ => .panic ""

namespace AT
open XAtoi

def Rel (s : St) (acc : List Char) : Prop := Back 128 s.l1 s.l3 acc ∧ s.l2 = 128

def Frame (s s' : St) : Prop := s'.p0 = s.p0 ∧ s'.l0 = s.l0 ∧ s'.p2 = s.p2

def LoopOut (s : St) (fl : Flow Rho St) (m : Outcome (List Char)) : Prop :=
  match fl, m with
  | .next s', .ok acc' => Rel s' acc' ∧ Frame s s'
  | .panic _, .panic _ => True
  | _, _ => False

theorem LoopOut.frame {s s1 : St} {fl : Flow Rho St} {m : Outcome (List Char)} (h : LoopOut s1 fl m) (hf : Frame s s1) :
    LoopOut s fl m := by
  unfold LoopOut at h ⊢
  cases fl <;> cases m <;> simp_all [Frame]

/-- the digit loop (`for i >= 0 { d[p] = '0' + i%10; i /= 10; p--; if i == 0 { break } }`) -/
theorem loop0_spec (fuel : Nat) (s : St) (acc : List Char) (h : Rel s acc) (hi : 0 ≤ s.p1) :
    LoopOut s (loopN loop0Cond loop0Body fuel s) (digitsLoop 128 fuel s.p1.toNat acc) := by
  induction fuel generalizing s acc with
  | zero => simp [loopN, digitsLoop, LoopOut]
  | succ fuel ih =>
    unfold loopN digitsLoop
    have hc : loop0Cond s = .ok true := by simp [loop0Cond, hi]
    simp only [hc]
    rcases h.1.push _ (digit_char s.p1 hi) with ⟨⟨w, hu⟩, w', hpf⟩ | ⟨d', hu, hpf, hd⟩
    · simp [loop0Body, seq, assign, hu, hpf, LoopOut]
    · generalize hb : loop0Body s = fl
      simp only [loop0Body, seq, assign, hu, tdiv10 hi, h.1.wrap (q := s.l3 - 1) (by decide) (by omega), ifS] at hb
      simp only [hpf]
      have hrel : ∀ q : Int, Rel ({ s with p1 := q, l1 := d', l3 := s.l3 - 1 } : St) (digitByte s.p1.toNat :: acc) :=
        fun q => ⟨hd, h.2⟩
      by_cases hz : s.p1.toNat / 10 = 0
      · have hz' : (((s.p1.toNat / 10 : Nat) : Int) == 0) = true := by simp [hz]
        simp only [hz', brk] at hb
        subst hb
        simp only [hz, if_true, LoopOut]
        exact ⟨hrel _, rfl, rfl, rfl⟩
      · have hz' : (((s.p1.toNat / 10 : Nat) : Int) == 0) = false := by simp; omega
        simp only [hz', skip] at hb
        subst hb
        simp only [hz, if_false]
        have := ih _ (digitByte s.p1.toNat :: acc) (hrel ((s.p1.toNat / 10 : Nat) : Int)) (Int.natCast_nonneg _)
        have e : ((s.p1.toNat / 10 : Nat) : Int).toNat = s.p1.toNat / 10 := by omega
        simp only [e] at this
        exact this.frame ⟨rfl, rfl, rfl⟩

/-- the padding loop (`for n-p-1 < pad { d[p] = '0'; p-- }`): the fuel the translator was given (130) is enough —
the loop stores at most 128 zeros before the bounds check of `d[-1]` stops it -/
theorem loop1_spec (fuel : Nat) (s : St) (acc : List Char) (pad : Nat) (h : Rel s acc) (hp : s.p2 = pad)
    (hf : 130 - acc.length ≤ fuel) :
    LoopOut s (loopN loop1Cond loop1Body fuel s) (padLoop 128 (pad - acc.length) acc) := by
  induction fuel generalizing s acc with
  | zero => have := h.1.fits; omega
  | succ fuel ih =>
    unfold loopN
    have hcond : loop1Cond s = .ok (decide (acc.length < pad)) := by
      obtain ⟨⟨h1, h2, h3, h4⟩, h5⟩ := h
      have e1 : wrapI 64 (s.l2 - s.l3) = (acc.length : Int) + 1 := by rw [wrapI64_id] <;> omega
      have e2 : wrapI 64 ((acc.length : Int) + 1 - 1) = acc.length := by rw [wrapI64_id] <;> omega
      simp only [loop1Cond, e1, e2, hp, ltI_eq]
      congr 1
      simp
    simp only [hcond]
    by_cases hlp : acc.length < pad
    · have hk : pad - acc.length = (pad - (acc.length + 1)) + 1 := by omega
      rw [hk]
      simp only [hlp, decide_true, padLoop]
      rcases h.1.push 48 (c := '0') rfl with ⟨⟨w, hu⟩, w', hpf⟩ | ⟨d', hu, hpf, hd⟩
      · simp [loop1Body, seq, assign, hu, hpf, LoopOut]
      · simp only [loop1Body, seq, assign, hu, h.1.wrap (q := s.l3 - 1) (by decide) (by omega), hpf]
        have := ih { s with l1 := d', l3 := s.l3 - 1 } ('0' :: acc) ⟨hd, h.2⟩ hp (by simp only [List.length_cons]; omega)
        exact this.frame ⟨rfl, rfl, rfl⟩
    · have hk : pad - acc.length = 0 := by omega
      rw [hk]
      simp only [hlp, decide_false, padLoop, LoopOut]
      exact ⟨h, rfl, rfl, rfl⟩

/-- `XAtoi.body` from the first loop on -/
def rest : Stmt Rho St :=
  seq (loop (fun _ => 20) loop0Cond loop0Body) (
  seq (loop (fun _ => 130) loop1Cond loop1Body) (
  seq (ifS (fun s => .ok s.l0) (
      seq (assign (fun s => do let t3 ← upd s.l1 s.l3 (45 : UInt8); pure t3) (fun s v => { s with l1 := v })) (
        assign (fun s => .ok (wrapI 64 (s.l3 - (1 : Int)))) (fun s v => { s with l3 := v }))) skip) (
  assign (fun s => do let t4 ← sliceFrom s.l1 (wrapI 64 (s.l3 + (1 : Int))); pure (s.p0 ++ t4))
    (fun s v => { s with p0 := v }))))

def start (buf : Bytes) (i pad : Int) : St :=
  { p0 := buf, p1 := if i < 0 then wrapI 64 (-i) else i, p2 := pad, l0 := decide (i < 0),
    l1 := List.replicate 128 0, l2 := 128, l3 := 127 }

theorem body_start (buf : Bytes) (i pad : Int) : body { p0 := buf, p1 := i, p2 := pad } = rest (start buf i pad) := by
  -- `simp` runs the statements in front of the first loop; what is left of `body` is `rest` unfolded
  by_cases h : i < 0 <;> simp [body, start, seq, assign, ifS, skip, h] <;> rfl

theorem rel_start (buf : Bytes) (i pad : Int) : Rel (start buf i pad) [] :=
  ⟨⟨by simp [start], by simp, by simp [start], by simp [start, chars]⟩, rfl⟩

theorem rest_spec (s0 : St) (pad : Nat) (hr : Rel s0 []) (hp : s0.p2 = pad) :
    obsA (Xlate.run rest (fun _ => ()) s0) =
      obsM (((if s0.p1 < 0 then Outcome.ok [] else digitsLoop 128 20 s0.p1.toNat []).bind fun ds =>
        (padLoop 128 (pad - ds.length) ds).bind fun padded =>
          if s0.l0 then pushFront 128 '-' padded else .ok padded).map (chars s0.p0 ++ ·)) := by
  have L0 : LoopOut s0 (loopN loop0Cond loop0Body 20 s0)
      (if s0.p1 < 0 then Outcome.ok [] else digitsLoop 128 20 s0.p1.toNat []) := by
    by_cases ha : s0.p1 < 0
    · -- MinInt64: `for i >= 0` is skipped
      rw [if_pos ha]
      unfold loopN
      simp only [loop0Cond, geI_eq, show ¬ 0 ≤ s0.p1 by omega, decide_false, LoopOut]
      exact ⟨hr, rfl, rfl, rfl⟩
    · rw [if_neg ha]
      exact loop0_spec 20 _ [] hr (by omega)
  unfold Xlate.run rest
  simp only [seq, loop, ifS, assign]
  generalize loopN loop0Cond loop0Body 20 s0 = fl0 at L0 ⊢
  generalize (if s0.p1 < 0 then Outcome.ok [] else digitsLoop 128 20 s0.p1.toNat []) = m0 at L0 ⊢
  cases fl0 <;> cases m0 <;> simp only [LoopOut] at L0 <;> try contradiction
  · rename_i s1 ds
    obtain ⟨r1, f1⟩ := L0
    have L1 := loop1_spec 130 s1 ds pad r1 (by rw [f1.2.2, hp]) (by omega)
    simp only [Outcome.bind]
    generalize loopN loop1Cond loop1Body 130 s1 = fl1 at L1 ⊢
    generalize padLoop 128 (pad - ds.length) ds = m1 at L1 ⊢
    cases fl1 <;> cases m1 <;> simp only [LoopOut] at L1 <;> try contradiction
    · rename_i s2 padded
      obtain ⟨r2, f2⟩ := L1
      have hl0 : s2.l0 = s0.l0 := by rw [f2.2.1, f1.2.1]
      have hp0 : s2.p0 = s0.p0 := by rw [f2.1, f1.1]
      simp only [hl0]
      cases s0.l0
      · simp only [skip, r2.1.wrap (q := s2.l3 + 1) (by decide) (by omega), r2.1.tail, V.bind_ok, V.pure_eq, obsA, obsM,
          Outcome.map, hp0]
        have := r2.1.text
        simp [chars] at this ⊢
        exact this
      · rcases r2.1.push 45 (c := '-') rfl with ⟨⟨w, hu⟩, w', hpf⟩ | ⟨d', hu, hpf, hd⟩
        · simp only [hu, hpf, obsA, obsM, Outcome.map]
          simp
        · simp only [hu, r2.1.wrap (q := s2.l3 - 1) (by decide) (by omega),
            hd.wrap (q := s2.l3 - 1 + 1) (by decide) (by omega), hd.tail, V.bind_ok, V.pure_eq, hpf,
            obsA, obsM, Outcome.map, hp0]
          have := hd.text
          simpa [chars] using this
    · simp [obsA, obsM, Outcome.map]
  · simp [obsA, obsM, Outcome.map, Outcome.bind]

end AT

/-- **The translated `atoi` equals the model's for every integer and every pad ≥ 0**: same 128-byte scratch array
filled from the back, same wrap-around of `-i` at MinInt64, same panic when the padding runs off the array; neither
loop runs out of the fuel the translator was given (20 and 130). -/
theorem xatoi_eq_model (buf : Bytes) (i : Int) (pad : Nat) :
    obsA (XAtoi.run { p0 := buf, p1 := i, p2 := (pad : Int) }) = obsM ((atoi i pad).map (chars buf ++ ·)) := by
  have hwr : ∀ x : Int, wrap64 x = wrapI 64 x := by intro x; simp [wrap64, wrapI]
  have h := AT.rest_spec (AT.start buf i pad) pad (AT.rel_start buf i pad) rfl
  unfold XAtoi.run Xlate.run at *
  rw [AT.body_start, h]
  by_cases hneg : i < 0 <;> simp [atoi, AT.start, hneg, hwr]

/-- `atoi_eq_decimal` transferred: for every int64 but MinInt64 and every pad that fits the scratch array, the
translated `atoi` appends the sign and the zero-padded decimal digits (`Nat.toDigits 10`) to the buffer. -/
theorem xatoi_eq_decimal (buf : Bytes) (i : Int) (pad : Nat) (hlo : -2^63 < i) (hhi : i < 2^63) (hpad : pad ≤ 127) :
    obsA (XAtoi.run { p0 := buf, p1 := i, p2 := (pad : Int) }) = .ok (chars buf ++ Spec.decimal i pad) := by
  rw [xatoi_eq_model, Props.C20.atoi_eq_decimal i pad hlo hhi hpad]; rfl

/-- `atoi_total` transferred: no int64 (MinInt64 included) and no pad ≤ 127 makes the translated `atoi` panic —
no store leaves the 128-byte array and both loops end within their fuel. -/
theorem xatoi_total (buf : Bytes) (i : Int) (pad : Nat) (hlo : -2^63 ≤ i) (hhi : i < 2^63) (hpad : pad ≤ 127) :
    ∃ r, obsA (XAtoi.run { p0 := buf, p1 := i, p2 := (pad : Int) }) = .ok r := by
  rw [xatoi_eq_model]
  obtain ⟨r, hr⟩ := (Outcome.isPanic_false_iff _).1 (Props.C20.atoi_total i pad hlo hhi hpad)
  exact ⟨_, by rw [hr]; rfl⟩

example : obsA (XAtoi.run { p0 := [65], p1 := -42, p2 := 4 }) = .ok "A-0042".toList := by
  simp only [toList_lit rfl]
  decide +kernel


namespace LX
open Fabio.Generated.C20.XLex

/-- a rune slice that came from a string: the code points -/
def runes (cs : List Char) : List Int := cs.map fun c => (c.toNat : Int)

def stN : LexState → Int
  | .start => 0 | .text => 1 | .dollar => 2 | .field => 3 | .dot => 4 | .header => 5

def tyN : ItemType → Int
  | .text => 0 | .field => 1 | .header => 2

theorem toNat_cast_inj {c d : Char} : (c.toNat : Int) = (d.toNat : Int) ↔ c = d := by
  rw [Int.natCast_inj, Char.toNat_inj]

theorem toNat_eq (c d : Char) : ((c.toNat : Int) == (d.toNat : Int)) = decide (c = d) := by
  rw [Bool.eq_iff_iff, beq_iff_eq, decide_eq_true_iff, toNat_cast_inj]

theorem char_le (a c : Char) : (a ≤ c) ↔ ((a.toNat : Int) ≤ (c.toNat : Int)) :=
  (char_le_iff a c).trans Int.ofNat_le.symm

theorem idchar (c : Char) : fn0 (c.toNat : Int) = isIDChar c := by
  unfold fn0 isIDChar
  have e1 := toNat_eq c '_'
  have e2 := toNat_eq c '-'
  have h95 : (('_' : Char).toNat : Int) = 95 := rfl
  have h45 : (('-' : Char).toNat : Int) = 45 := rfl
  rw [h95] at e1; rw [h45] at e2
  rw [e1, e2]
  simp only [leI_eq, char_le, show (('a' : Char).toNat : Int) = 97 from rfl, show (('z' : Char).toNat : Int) = 122 from rfl,
    show (('A' : Char).toNat : Int) = 65 from rfl, show (('Z' : Char).toNat : Int) = 90 from rfl,
    show (('0' : Char).toNat : Int) = 48 from rfl, show (('9' : Char).toNat : Int) = 57 from rfl]
  rfl

theorem runes_take (whole : List Char) (k : Nat) : (runes whole).take k = runes (whole.take k) := by
  simp [runes, List.map_take]

theorem runes_inj (a b : List Char) : (runes a == runes b) = decide (a = b) := by
  rw [Bool.eq_iff_iff, beq_iff_eq, decide_eq_true_iff]
  exact List.map_inj_right fun _ _ => toNat_cast_inj.mp

theorem header_runes : ([36, 104, 101, 97, 100, 101, 114] : List Int) = runes headerPrefix := by decide

def LoopRel (whole : List Char) (s : St) (fl : Flow Rho St) (m : ItemType × Int) : Prop :=
  match fl with
  | .ret (t, n) _ => (t, n) = (tyN m.1, m.2)
  | .next s' => s'.p0 = s.p0 ∧ ∃ st', s'.l0 = stN st' ∧ m = Lemmas.C20.lexFin whole st'
  | _ => False

theorem body_spec (whole : List Char) (k : Nat) (st : LexState) (c : Char) (s : St)
    (hp : s.p0 = runes whole) (hs : s.l0 = stN st) (hk : s.l1 = k) (hc : s.l2 = (c.toNat : Int)) (hl : k ≤ whole.length) :
    loop0Body s =
      match Lemmas.C20.lexStep whole k st c with
      | .goto st' => .next { s with l0 := stN st' }
      | .done ty => .ret (tyN ty, (k : Int)) s := by
  have d36 : (s.l2 == (36 : Int)) = decide (c = '$') := by rw [hc]; exact toNat_eq c '$'
  have d46 : (s.l2 == (46 : Int)) = decide (c = '.') := by rw [hc]; exact toNat_eq c '.'
  have hid : fn0 s.l2 = isIDChar c := by rw [hc]; exact idchar c
  have hh : ∀ x : List Char, (runes x == ([36, 104, 101, 97, 100, 101, 114] : List Int)) = decide (x = headerPrefix) := by
    intro x; rw [header_runes]; exact runes_inj x headerPrefix
  have hsl : (lsliceTo s.p0 s.l1 >>= fun t1 => pure (t1 == ([36, 104, 101, 97, 100, 101, 114] : List Int))) =
      .ok (decide (whole.take k = headerPrefix)) := by
    rw [hp, hk, lsliceTo_natCast, if_pos (by simpa [runes] using hl)]
    simp [runes_take, hh]
  obtain ⟨p0, r0, r1, l0, l1, l2⟩ := s
  simp only at hs hk
  subst hs hk
  unfold loop0Body
  cases st <;> simp only [stN, ifS, Lemmas.C20.lexStep, d36, d46, hid, hsl, assign, Xlate.ret, skip]
  case start | text =>
    by_cases h1 : c = '$' <;> simp only [h1, decide_true, decide_false, if_true, if_false] <;> rfl
  case dollar | dot | header =>
    cases h2 : isIDChar c <;> simp only [if_true, Bool.false_eq_true, if_false] <;> rfl
  case field =>
    by_cases h3 : c = '.'
    · by_cases h4 : whole.take k = headerPrefix <;> simp only [h3, h4, decide_true, decide_false, if_true, if_false] <;> rfl
    · cases h2 : isIDChar c <;> simp only [h3, decide_false, if_true, Bool.false_eq_true, if_false] <;> rfl

theorem LoopRel.frame {whole : List Char} {s s1 : St} {fl : Flow Rho St} {m : ItemType × Int}
    (h : LoopRel whole s1 fl m) (hf : s1.p0 = s.p0) : LoopRel whole s fl m := by
  unfold LoopRel at h ⊢
  cases fl <;> simp_all

theorem loop_spec (whole rest : List Char) (k : Nat) (st : LexState) (s : St)
    (hp : s.p0 = runes whole) (hs : s.l0 = stN st) (hl : whole.length = k + rest.length) :
    LoopRel whole s (forEachL (fun k x s => { s with l1 := Int.ofNat k, l2 := x }) loop0Body (runes rest) k s)
      (lexLoop whole st k rest) := by
  induction rest generalizing k st s with
  | nil =>
    simp only [runes, List.map_nil, forEachL, LoopRel, Lemmas.C20.lexLoop_nil]
    exact ⟨trivial, st, hs, rfl⟩
  | cons c cs ih =>
    simp only [runes, List.map_cons, forEachL]
    have hb := body_spec whole k st c { s with l1 := Int.ofNat k, l2 := (c.toNat : Int) } hp hs rfl rfl (by omega)
    rw [hb, Lemmas.C20.lexLoop_cons]
    cases hstep : Lemmas.C20.lexStep whole k st c with
    | goto st' =>
      simp only
      have := ih (k+1) st' { s with l0 := stN st', l1 := Int.ofNat k, l2 := (c.toNat : Int) } hp rfl (by simp at hl; omega)
      exact this.frame rfl
    | done ty =>
      simp [LoopRel]

end LX

/-- **The translated `lex` equals the model's on every rune slice that came from a string** (`parse` calls it on
`[]rune(format)` only): same item type, same length; it never panics — in particular `s[:i]` stays in range. -/
theorem xlex_eq_model (cs : List Char) :
    ∃ s', XLex.run { p0 := LX.runes cs } = .ok ((LX.tyN (lex cs).1, (lex cs).2), s') := by
  unfold XLex.run Xlate.run XLex.body
  simp only [seq, assign, forEach, XLex.loop0List]
  have L := LX.loop_spec cs cs 0 .start { p0 := LX.runes cs, l0 := 0 } rfl rfl (by simp)
  rw [show lexLoop cs .start 0 cs = lex cs from rfl] at L
  generalize forEachL _ XLex.loop0Body _ 0 _ = fl at L ⊢
  cases fl <;> simp only [LX.LoopRel] at L
  · rename_i s1
    obtain ⟨hp, st', hs, hm⟩ := L
    rw [hm]
    cases st' <;> simp only [LX.stN] at hs <;>
      simp [ifS, hs, Xlate.ret, Lemmas.C20.lexFin, LX.tyN, llen, hp, LX.runes]
  · rename_i r s1
    obtain ⟨t, n⟩ := r
    have L' : (t, n) = (LX.tyN (lex cs).1, (lex cs).2) := L
    exact ⟨s1, by simp only [L']⟩

/-- `lex_progress` transferred: on a non-empty rune slice the translated `lex` answers a length between 1 and the
length of the slice — the loop of `parse` terminates and its `s[:n]`, `s[n:]` are in range. -/
theorem xlex_progress (cs : List Char) (h : cs ≠ []) :
    ∃ t n s', XLex.run { p0 := LX.runes cs } = .ok ((t, n), s') ∧ 1 ≤ n ∧ n ≤ cs.length := by
  obtain ⟨s', hs'⟩ := xlex_eq_model cs
  exact ⟨_, _, s', hs', Props.C20.lex_progress cs h⟩


end Fabio.Props.C20Xlate
