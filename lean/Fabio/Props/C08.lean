import Fabio.Lemmas.C08Steps
/-!
C08 — forwarding headers tell the upstream the truth about the client: property theorems.

`entries k h` is everything stored under the key `k`, i.e. exactly the header lines the upstream receives under
that name; `= [(k, [v])]` therefore says "present once, with the single value `v`". The theorems hold for every
header map. That a line the client sent in any casing or repetition sits under the canonical key is how `ofWire`
(the map the HTTP server hands over) is defined, no theorem states it; `canonicalKey_casing` shows that spellings
differing in letter case have the same key. The proofs follow `addHeaders` statement by statement through the lemmas of
`Lemmas/C08Steps.lean` (under a name, its result is what the last statement writing that name left); the header map, the
names and `canonicalKey` are those of `Lemmas/C08.lean`.

Hypotheses of the form `KeyFree … k` (defined in `Lemmas/C08Steps.lean`, in front of the lemmas that carry them) exclude
configurations in which an operator gave two jobs to one header name (TLS header called `X-Forwarded-For`, client-IP
header called `Forwarded`, …): then two sentences of the property contradict each other and the later statement of
`addHeaders` wins; the correspondence streams run those configurations for model agreement only (class
`config-collision`).
-/
namespace Fabio.Props.C08
open Fabio Fabio.Model.C08

/-- **The configured client-IP header is overwritten with the peer address.** For a configured name other
than the two with dedicated rules, the upstream receives it exactly once with the peer's IP as its only
value. -/
theorem clientip_overwritten (cfg : Cfg) (strip : Str) (r : Req) (ip : Str)
    (hne : cfg.clientIPHeader ≠ []) (hx : cfg.clientIPHeader ≠ xForwardedFor) (hr : cfg.clientIPHeader ≠ xRealIp)
    (hk : canonicalKey cfg.clientIPHeader ∉ Lemmas.C08.writtenNames)
    (ht : TLSKeyFree cfg (canonicalKey cfg.clientIPHeader)) :
    entries (canonicalKey cfg.clientIPHeader) (addHeadersIP cfg strip r ip)
      = [(canonicalKey cfg.clientIPHeader, [ip])] := by
  have happ : clientIPApplies cfg = true := by
    simp [clientIPApplies, hne, hx, hr]
  rw [Lemmas.C08.addHeadersIP_after_clientIP ht hk]
  exact Lemmas.C08.stepClientIP_self happ ip _

theorem wire_clientip_overwritten (cfg : Cfg) (strip : Str) (r : Req) (ip : Str)
    (wire : List (Str × Option Str))
    (hne : cfg.clientIPHeader ≠ []) (hx : cfg.clientIPHeader ≠ xForwardedFor) (hr : cfg.clientIPHeader ≠ xRealIp)
    (hk : canonicalKey cfg.clientIPHeader ∉
      [xRealIp, xForwardedFor, xForwardedProto, xForwardedPort, xForwardedHost, xForwardedPrefix, forwarded, connection])
    (ht : TLSKeyFree cfg (canonicalKey cfg.clientIPHeader)) :
    entries (canonicalKey cfg.clientIPHeader) (addHeadersIP cfg strip { r with headers := ofWire wire } ip)
      = [(canonicalKey cfg.clientIPHeader, [ip])] :=
  clientip_overwritten cfg strip _ ip hne hx hr hk ht

/-- Names that differ only in letter case share one key, so under *every* spelling `name` of the configured
client-IP header the upstream finds the peer address and nothing else. -/
theorem clientip_overwritten_any_casing (cfg : Cfg) (strip : Str) (r : Req) (ip : Str)
    (wire : List (Str × Option Str)) (name : Str)
    (htok : name.all isTokenChar = true) (hcase : lowerL name = lowerL cfg.clientIPHeader)
    (hne : cfg.clientIPHeader ≠ []) (hx : cfg.clientIPHeader ≠ xForwardedFor) (hr : cfg.clientIPHeader ≠ xRealIp)
    (hk : canonicalKey cfg.clientIPHeader ∉
      [xRealIp, xForwardedFor, xForwardedProto, xForwardedPort, xForwardedHost, xForwardedPrefix, forwarded, connection])
    (ht : TLSKeyFree cfg (canonicalKey cfg.clientIPHeader)) :
    entries (canonicalKey name) (addHeadersIP cfg strip { r with headers := ofWire wire } ip)
      = [(canonicalKey cfg.clientIPHeader, [ip])] := by
  rw [Lemmas.C08.canonicalKey_casing name cfg.clientIPHeader htok hcase]
  exact clientip_overwritten cfg strip _ ip hne hx hr hk ht

/-- **The peer is appended as the last element of X-Forwarded-For** — websocket upgrades (any casing of the
`websocket` token), where `addHeaders` itself does it. -/
theorem xff_last_is_peer (cfg : Cfg) (strip : Str) (r : Req) (ip : Str)
    (hws : isWebsocket r.headers = true)
    (hcu : ClientIPKeyFree cfg upgrade) (hcx : ClientIPKeyFree cfg xForwardedFor) (ht : TLSKeyFree cfg xForwardedFor)
    (hnil : vals xForwardedFor r.headers ≠ some [])
    (hc : ',' ∉ ip) (hs : ip.head? ≠ some ' ') :
    ∃ v, entries xForwardedFor (addHeadersIP cfg strip r ip) = [(xForwardedFor, [v])] ∧ lastElem v = ip := by
  rw [Lemmas.C08.addHeadersIP_xff cfg strip r ip hcu hcx ht, if_pos hws]
  exact Lemmas.C08.xffAppend_last_is_peer ip _ hnil hc hs

/-- Every other request `ServeHTTP` hands to `httputil.ReverseProxy`, which is **assumed**
(`Model.C08.reverseProxyXFF`, Go 1.24 `ReverseProxy.ServeHTTP` with a `Director`) to run the same block on the
headers `addHeaders` produced. -/
theorem xff_last_is_peer_reverseProxy (cfg : Cfg) (strip : Str) (r : Req) (ip : Str)
    (hws : isWebsocket r.headers = false)
    (hcu : ClientIPKeyFree cfg upgrade) (hcx : ClientIPKeyFree cfg xForwardedFor) (ht : TLSKeyFree cfg xForwardedFor)
    (hnil : vals xForwardedFor r.headers ≠ some [])
    (hc : ',' ∉ ip) (hs : ip.head? ≠ some ' ') :
    ∃ v, entries xForwardedFor (reverseProxyXFF ip (addHeadersIP cfg strip r ip)) = [(xForwardedFor, [v])]
      ∧ lastElem v = ip := by
  unfold reverseProxyXFF
  refine Lemmas.C08.xffAppend_last_is_peer ip _ ?_ hc hs
  rw [Lemmas.C08.vals_congr (Lemmas.C08.addHeaders_xff_untouched_when_not_ws cfg strip r ip hws hcu hcx ht)]
  exact hnil

/-- **X-Real-Ip carries the peer unless the client already sent one**: absent or empty ⇒ exactly the peer;
a non-empty first value ⇒ the client's lines are passed on unchanged. -/
theorem xrealip_unless_sent (cfg : Cfg) (strip : Str) (r : Req) (ip : Str)
    (hc : ClientIPKeyFree cfg xRealIp) (ht : TLSKeyFree cfg xRealIp) :
    (get1 xRealIp r.headers = [] → entries xRealIp (addHeadersIP cfg strip r ip) = [(xRealIp, [ip])]) ∧
    (get1 xRealIp r.headers ≠ [] → entries xRealIp (addHeadersIP cfg strip r ip) = entries xRealIp r.headers) := by
  have e1 : entries xRealIp (stepClientIP cfg ip r.headers) = entries xRealIp r.headers :=
    Lemmas.C08.stepClientIP_other hc _ _
  rw [Lemmas.C08.addHeadersIP_lastSteps ht (List.not_mem_of_not_mem_cons Lemmas.C08.xRealIp_not_later),
    Lemmas.C08.stepWS_other (List.ne_of_not_mem_cons Lemmas.C08.xRealIp_not_later), Lemmas.C08.stepRealIp_self,
    Lemmas.C08.get1_congr e1, e1]
  constructor
  · intro h0; rw [h0]; rfl
  · intro h0; rw [List.isEmpty_eq_false_iff.2 h0]; rfl

/-- **The configured TLS header is present with the configured value exactly when the client connection
used TLS, whatever the client sent**: on TLS it is there once with the configured value; on a plain
connection every copy (forged by the client in any casing) is gone. Only side condition: the TLS header is
not called `Connection` (the one header the last statement of `addHeaders` edits). -/
theorem tls_header_iff_tls (cfg : Cfg) (strip : Str) (r : Req) (ip : Str) (hne : cfg.tlsHeader ≠ [])
    (hcn : canonicalKey cfg.tlsHeader ≠ connection) :
    (r.tls.isSome = true →
      entries (canonicalKey cfg.tlsHeader) (addHeadersIP cfg strip r ip) = [(canonicalKey cfg.tlsHeader, [cfg.tlsHeaderValue])]) ∧
    (r.tls.isSome = false → entries (canonicalKey cfg.tlsHeader) (addHeadersIP cfg strip r ip) = []) := by
  rw [Lemmas.C08.addHeadersIP_entries hcn, addHeadersCore, Lemmas.C08.stepTLS_self hne]
  constructor
  · intro ht; rw [ht]; rfl
  · intro ht; rw [ht]; rfl

/-- **X-Forwarded-Proto and Forwarded are supplied when absent and describe the client's actual
connection** (fabio as first hop: the client sent neither): `Forwarded: for=<peer>; proto=<http|https|ws|wss
of the connection>` followed only by fabio's own `by/httpproto/tlsver/tlscipher` parameters, and
`X-Forwarded-Proto: http|https` by TLS. -/
theorem forwarded_supplied_when_absent (cfg : Cfg) (strip : Str) (r : Req) (ip : Str)
    (hp : get1 xForwardedProto r.headers = []) (hf : get1 forwarded r.headers = [])
    (hcp : ClientIPKeyFree cfg xForwardedProto) (hcf : ClientIPKeyFree cfg forwarded) (hcu : ClientIPKeyFree cfg upgrade)
    (htp : TLSKeyFree cfg xForwardedProto) (htf : TLSKeyFree cfg forwarded) :
    entries forwarded (addHeadersIP cfg strip r ip) =
      [(forwarded, ["for=".toList ++ ip ++ "; proto=".toList ++ connScheme (isWebsocket r.headers) r.tls.isSome
                     ++ forwardedTail cfg r.proto r.tls])] ∧
    entries xForwardedProto (addHeadersIP cfg strip r ip) =
      [(xForwardedProto, [if r.tls.isSome then "https".toList else "http".toList])] := by
  obtain ⟨ef1, ef2⟩ := Lemmas.C08.addHeadersIP_forward_name (k := forwarded) (by simp) hcf htf strip r ip
  obtain ⟨ep1, ep2⟩ := Lemmas.C08.addHeadersIP_forward_name (k := xForwardedProto) (by simp) hcp htp strip r ip
  have eu : isWebsocket (stepWS ip (stepRealIp ip (stepClientIP cfg ip r.headers))) = isWebsocket r.headers :=
    Lemmas.C08.isWebsocket_congr (Lemmas.C08.firstSteps_other hcu (List.ne_of_not_mem_cons Lemmas.C08.upgrade_not_written)
      (List.ne_of_not_mem_cons (List.not_mem_of_not_mem_cons Lemmas.C08.upgrade_not_written)) ip _)
  have hs : scheme (stepWS ip (stepRealIp ip (stepClientIP cfg ip r.headers))) r.tls.isSome
      = connScheme (isWebsocket r.headers) r.tls.isSome := by
    rw [Lemmas.C08.scheme_from_connection_when_no_headers _ _ (by rw [Lemmas.C08.get1_congr ep2]; exact hp)
      (by rw [Lemmas.C08.get1_congr ef2]; exact hf), eu]
  constructor
  · rw [ef1, Lemmas.C08.stepForward_forwarded, Lemmas.C08.get1_congr ef2, hf, hs]; rfl
  · rw [ep1, Lemmas.C08.stepForward_xfproto, Lemmas.C08.get1_congr ep2, hp, hs, Lemmas.C08.xfpOf_connScheme]; rfl

/-- **X-Forwarded-Host is the host the client asked for, even when the route rewrites Host** (D12): for
every `host=` option (none, `dst`, a literal) the upstream is told the client's Host, while the request it
receives carries the overridden one. -/
theorem xfhost_is_client_host (cfg : Cfg) (uuid hostOpt targetHost strip : Str) (r : Req) (ip port : Str)
    (hsplit : splitHostPort r.remoteAddr = some (ip, port))
    (hx : get1 xForwardedHost r.headers = []) (hh : r.host ≠ [])
    (hq : RequestIDKeyFree cfg xForwardedHost) (hc : ClientIPKeyFree cfg xForwardedHost) (ht : TLSKeyFree cfg xForwardedHost) :
    ∃ u, serve cfg uuid hostOpt targetHost strip r = some u ∧
      entries xForwardedHost u.headers = [(xForwardedHost, [r.host])] ∧
      u.host = overrideHost hostOpt targetHost r.host :=
  ⟨_, Lemmas.C08.serve_eq cfg uuid hostOpt targetHost strip r hsplit,
    Lemmas.C08.addHeadersIP_xfhost cfg strip _ ip ((Lemmas.C08.get1_withRequestID hq uuid r).trans hx) hh hc ht, rfl⟩

/-- **X-Forwarded-Port is derived from the host the client asked for (else 443/80 by TLS), even when the
route rewrites Host** (D12). -/
theorem xfport_from_client_host (cfg : Cfg) (uuid hostOpt targetHost strip : Str) (r : Req) (ip port : Str)
    (hsplit : splitHostPort r.remoteAddr = some (ip, port))
    (hx : get1 xForwardedPort r.headers = [])
    (hq : RequestIDKeyFree cfg xForwardedPort) (hc : ClientIPKeyFree cfg xForwardedPort) (ht : TLSKeyFree cfg xForwardedPort) :
    ∃ u, serve cfg uuid hostOpt targetHost strip r = some u ∧
      entries xForwardedPort u.headers = [(xForwardedPort, [localPort r.host r.tls.isSome])] ∧
      u.host = overrideHost hostOpt targetHost r.host :=
  ⟨_, Lemmas.C08.serve_eq cfg uuid hostOpt targetHost strip r hsplit,
    Lemmas.C08.addHeadersIP_xfport cfg strip _ ip ((Lemmas.C08.get1_withRequestID hq uuid r).trans hx) hc ht, rfl⟩

theorem localPort_name_port (name port : Str) (tls : Bool) (hn : name ≠ []) (hp : port ≠ [])
    (hc : ':' ∉ name) (hb : ']' ∉ name ++ ':' :: port) :
    localPort (name ++ ':' :: port) tls = port := by
  have hnl : 0 < name.length := List.length_pos_iff.mpr hn
  have hpl : 0 < port.length := List.length_pos_iff.mpr hp
  have hcond : (decide (0 < name.length) && decide (name.length + 1 < (name ++ ':' :: port).length)) = true := by
    simp only [List.length_append, List.length_cons, Bool.and_eq_true, decide_eq_true_eq]
    omega
  unfold localPort
  simp only [lastIndexOf_eq_none _ _ hb, indexOf_append ':' name port hc]
  rw [if_pos hcond]
  simp

theorem localPort_no_port (host : Str) (tls : Bool) (hc : ':' ∉ host) :
    localPort host tls = if tls then "443".toList else "80".toList := by
  unfold localPort
  cases lastIndexOf ']' host with
  | none => simp only [indexOf_eq_none ':' host hc]
  | some n => simp only [indexOf_eq_none ':' (host.drop n) (fun m => hc (List.mem_of_mem_drop m))]

/-- An unparsable `RemoteAddr` is an error (500 to the client), never a request forwarded without the
peer address. -/
theorem no_peer_no_forward (cfg : Cfg) (uuid hostOpt targetHost strip : Str) (r : Req)
    (h : splitHostPort r.remoteAddr = none) : serve cfg uuid hostOpt targetHost strip r = none := by
  rw [Lemmas.C08.serve_eq_map, h]; rfl

theorem requestid_overwritten (cfg : Cfg) (uuid hostOpt targetHost strip : Str) (r : Req) (ip port : Str)
    (hsplit : splitHostPort r.remoteAddr = some (ip, port)) (hne : cfg.requestID ≠ [])
    (hc : ClientIPKeyFree cfg (canonicalKey cfg.requestID)) (ht : TLSKeyFree cfg (canonicalKey cfg.requestID))
    (hk : canonicalKey cfg.requestID ∉
      [xRealIp, xForwardedFor, xForwardedProto, xForwardedPort, xForwardedHost, xForwardedPrefix, forwarded, connection]) :
    ∃ u, serve cfg uuid hostOpt targetHost strip r = some u ∧
      entries (canonicalKey cfg.requestID) u.headers = [(canonicalKey cfg.requestID, [uuid])] := by
  refine ⟨_, Lemmas.C08.serve_eq cfg uuid hostOpt targetHost strip r hsplit, ?_⟩
  rw [Lemmas.C08.addHeadersIP_other hc ht hk]
  exact Lemmas.C08.withRequestID_self hne uuid r

theorem xff_last_is_peer_after_reverseProxy (ip : Str) (h : Headers)
    (hnil : vals xForwardedFor (removeHopByHop h) ≠ some []) (hc : ',' ∉ ip) (hs : ip.head? ≠ some ' ') :
    ∃ v, entries xForwardedFor (reverseProxy ip h) = [(xForwardedFor, [v])] ∧ lastElem v = ip := by
  unfold reverseProxy
  simp only
  apply Lemmas.C08.xffAppend_last_is_peer ip _ _ hc hs
  obtain ⟨h1, h2⟩ := Lemmas.C08.not_fixed_ne (Lemmas.C08.fixed_managed_not_hopByHop xForwardedFor (by simp))
  rw [Lemmas.C08.vals_congr (Lemmas.C08.entries_upgrade_readd xForwardedFor _ _ h1 h2)]
  exact hnil

/-- **For every `Connection` header the client sends, the headers fabio maintains reach the upstream**
(D12d): what `httputil.ReverseProxy` forwards under a managed name is exactly what `addHeaders` left there.
Assumption (as everywhere): the reverse proxy deletes precisely the headers named by the `Connection`
tokens (`hopByHopNames`) and its fixed hop-by-hop list, puts `Connection`/`Upgrade` back for a protocol switch
and appends to X-Forwarded-For. Forced hypothesis: the header is not itself one of the fixed hop-by-hop names
(an operator who calls the client-IP header `Keep-Alive` loses it). -/
theorem managed_headers_survive_connection_tokens (cfg : Cfg) (strip : Str) (r : Req) (ip : Str) (k : Str)
    (hk : k ∈ managedKeys cfg) (hx : k ≠ xForwardedFor) (hf : k ∉ fixedHopByHop) :
    entries k (reverseProxy ip (addHeadersIP cfg strip r ip)) = entries k (addHeadersIP cfg strip r ip) := by
  apply Lemmas.C08.reverseProxy_keeps_unnamed ip _ k hx _ hf
  intro hmem
  exact Lemmas.C08.connection_names_no_managed cfg _ k hmem hk

/-- Stated for `removeHopByHop`: the reverse proxy goes on to append the peer to the chain. -/
theorem xff_chain_survives_connection_tokens (cfg : Cfg) (strip : Str) (r : Req) (ip : Str) :
    entries xForwardedFor (removeHopByHop (addHeadersIP cfg strip r ip))
      = entries xForwardedFor (addHeadersIP cfg strip r ip) := by
  apply Lemmas.C08.entries_removeHopByHop _ _ _ (Lemmas.C08.fixed_managed_not_hopByHop xForwardedFor (by simp))
  intro hmem
  exact Lemmas.C08.connection_names_no_managed cfg _ _ hmem (Lemmas.C08.mem_managedKeys_fixed cfg (by simp))

/-- On a TLS connection the upstream receives the configured TLS header with the configured value whatever the
client put into `Connection` (and into that header itself). -/
theorem tls_header_reaches_upstream (cfg : Cfg) (strip : Str) (r : Req) (ip : Str)
    (hne : cfg.tlsHeader ≠ []) (hcn : canonicalKey cfg.tlsHeader ≠ connection)
    (hx : canonicalKey cfg.tlsHeader ≠ xForwardedFor) (hf : canonicalKey cfg.tlsHeader ∉ fixedHopByHop)
    (htls : r.tls.isSome = true) :
    entries (canonicalKey cfg.tlsHeader) (reverseProxy ip (addHeadersIP cfg strip r ip))
      = [(canonicalKey cfg.tlsHeader, [cfg.tlsHeaderValue])] := by
  rw [managed_headers_survive_connection_tokens cfg strip r ip _
    (Lemmas.C08.mem_managedKeys_cfg hne (Or.inr (Or.inl rfl))) hx hf]
  exact (tls_header_iff_tls cfg strip r ip hne hcn).1 htls

/-- What the repair closed, kept as a witness about the code *without* its last statement
(`addHeadersCore`): on TLS with `X-Tls: on` and `X-Client-Ip` configured, `Connection: X-Tls, x-client-ip`
made the reverse proxy drop both. With the last statement the same input keeps both (examples below). -/
theorem connection_header_could_remove_managed :
    ∃ (cfg : Cfg) (r : Req) (ip : Str), cfg.tlsHeader ≠ [] ∧ r.tls.isSome = true ∧
      entries (canonicalKey cfg.tlsHeader) (reverseProxy ip (addHeadersCore cfg [] r ip)) = [] ∧
      entries (canonicalKey cfg.clientIPHeader) (reverseProxy ip (addHeadersCore cfg [] r ip)) = [] :=
  ⟨{ clientIPHeader := "X-Client-Ip".toList, tlsHeader := "X-Tls".toList, tlsHeaderValue := "on".toList },
   { headers := ofWire [("connection".toList, some "X-Tls, x-client-ip".toList)], host := "foo.com".toList,
     remoteAddr := "1.2.3.4:5".toList, tls := some ⟨0x0303, 0xc02f⟩, proto := "HTTP/1.1".toList },
   "1.2.3.4".toList, by decide, rfl, by simp only [toList_lit rfl]; decide +kernel⟩

/-- **Strict-Transport-Security is added to responses only on TLS connections**: on a plain connection
`addResponseHeaders` changes nothing; on TLS with a positive max-age the header is set once. -/
theorem sts_only_on_tls (cfg : Cfg) (w : Headers) :
    addResponseHeaders cfg false w = w ∧
    (cfg.stsMaxAge > 0 → entries stsName (addResponseHeaders cfg true w) = [(stsName, [stsValue cfg])]) ∧
    (cfg.stsMaxAge ≤ 0 → addResponseHeaders cfg true w = w) := by
  refine ⟨by simp [addResponseHeaders], ?_, ?_⟩
  · intro h; simp [addResponseHeaders, h, Lemmas.C08.entries_put_self]
  · intro h
    have : ¬ (cfg.stsMaxAge > 0) := by omega
    simp [addResponseHeaders, this]

/-- The max-age the client reads is the configured one, capped at the largest 32 bit value — never a wrapped
(negative or small) number (repair `e4a57ff`; `i32toa` formats an `int32`). -/
theorem sts_max_age_is_configured (cfg : Cfg) (hpos : cfg.stsMaxAge > 0) :
    wrap32 (clampMaxAge cfg.stsMaxAge) = (if cfg.stsMaxAge ≤ 2147483647 then cfg.stsMaxAge else 2147483647) ∧
    wrap32 (clampMaxAge cfg.stsMaxAge) > 0 := by
  have hc : clampMaxAge cfg.stsMaxAge = if cfg.stsMaxAge ≤ 2147483647 then cfg.stsMaxAge else 2147483647 := by
    unfold clampMaxAge; split <;> split <;> omega
  have hr : 0 < clampMaxAge cfg.stsMaxAge ∧ clampMaxAge cfg.stsMaxAge ≤ 2147483647 := by
    rw [hc]; split <;> omega
  rw [Lemmas.C08.wrap32_small (by omega) hr.2]
  exact ⟨hc, hr.1⟩

theorem sts_absent_on_plain (cfg : Cfg) (uuid hostOpt targetHost strip : Str) (r : Req) (u : Upstream)
    (htls : r.tls = none) (hs : serve cfg uuid hostOpt targetHost strip r = some u) : u.resp = [] := by
  rw [Lemmas.C08.serve_eq_map, Option.map_eq_some_iff] at hs
  obtain ⟨_, _, rfl⟩ := hs
  rw [htls]
  exact (sts_only_on_tls cfg []).1

/-! ### non-vacuity: the hypotheses are satisfiable on forged, differently-cased, repeated input -/

def exCfg : Cfg := { clientIPHeader := "X-Client-Ip".toList, tlsHeader := "x-tls".toList, tlsHeaderValue := "on".toList,
                     localIP := "5.6.7.8".toList, stsMaxAge := 31536000, stsSubdomains := true, requestID := "X-Request-Id".toList }
def exWire : List (Str × Option Str) :=
  [("x-client-ip".toList, some "6.6.6.6".toList), ("X-CLIENT-IP".toList, some "7.7.7.7".toList),
   ("X-TLS".toList, some "on".toList), ("x-Tls".toList, some "on".toList),
   ("x-forwarded-for".toList, some "9.9.9.9".toList), ("UPGRADE".toList, some "WebSocket".toList)]
def exReq (tls : Option TLS) : Req :=
  { headers := ofWire exWire, host := "client.example:8080".toList, remoteAddr := "1.2.3.4:5555".toList,
    tls := tls, proto := "HTTP/1.1".toList }

def exConnReq : Req :=
  { headers := ofWire [("connection".toList, some "keep-alive, X-TLS ,x-client-ip, X-Other".toList),
                       ("Connection".toList, some "x-real-ip".toList)],
    host := "foo.com".toList, remoteAddr := "1.2.3.4:5".toList, tls := some ⟨0x0303, 0xc02f⟩, proto := "HTTP/1.1".toList }

theorem exReq_split (tls : Option TLS) : splitHostPort (exReq tls).remoteAddr = some ("1.2.3.4".toList, "5555".toList) := by
  unfold exReq; simp only [toList_lit rfl]; decide +kernel

def hmap (l : List (String × List String)) : Headers := l.map fun e => (e.1.toList, e.2.map String.toList)

/-- One evaluation for the runs of `addHeadersIP` in the examples below and for what they read off the request: what an
evaluation pays for is decoding the header names of the model, once per declaration. -/
theorem addHeadersIP_vectors :
    addHeadersIP exCfg [] (exReq none) "1.2.3.4".toList =
      hmap [("Forwarded", ["for=1.2.3.4; proto=ws; by=5.6.7.8; httpproto=http/1.1"]),
        ("X-Forwarded-Host", ["client.example:8080"]), ("X-Forwarded-Port", ["8080"]), ("X-Forwarded-Proto", ["http"]),
        ("X-Forwarded-For", ["9.9.9.9, 1.2.3.4"]), ("X-Real-Ip", ["1.2.3.4"]), ("X-Client-Ip", ["1.2.3.4"]),
        ("Upgrade", ["WebSocket"])] ∧
    (serve exCfg "id".toList "up.example".toList "10.0.0.1:9000".toList [] (exReq none)).map
        (fun u => (u.host, vals xForwardedHost u.headers, vals xForwardedPort u.headers))
      = some ("up.example".toList, some ["client.example:8080".toList], some ["8080".toList]) ∧
    vals connection (addHeadersIP exCfg [] exConnReq "1.2.3.4".toList) = some ["keep-alive, X-Other".toList] ∧
    vals "X-Client-Ip".toList (ofWire exWire) = some ["6.6.6.6".toList, "7.7.7.7".toList] ∧
    isWebsocket (exReq none).headers = true := by
  unfold exCfg exReq exWire exConnReq hmap xForwardedHost xForwardedPort connection
  simp only [List.map, toList_lit rfl]; decide +kernel

/-- `exReq` on a plain connection: the forged `X-Tls` copies gone, both casings of the client-IP header collapsed into
the peer address, the peer appended to X-Forwarded-For. -/
theorem addHeadersIP_exReq_plain : addHeadersIP exCfg [] (exReq none) "1.2.3.4".toList =
    hmap [("Forwarded", ["for=1.2.3.4; proto=ws; by=5.6.7.8; httpproto=http/1.1"]),
      ("X-Forwarded-Host", ["client.example:8080"]), ("X-Forwarded-Port", ["8080"]), ("X-Forwarded-Proto", ["http"]),
      ("X-Forwarded-For", ["9.9.9.9, 1.2.3.4"]), ("X-Real-Ip", ["1.2.3.4"]), ("X-Client-Ip", ["1.2.3.4"]),
      ("Upgrade", ["WebSocket"])] := addHeadersIP_vectors.1

theorem exCfg_tlsKey : canonicalKey exCfg.tlsHeader = "X-Tls".toList := by unfold exCfg; simp only [toList_lit rfl]; decide +kernel
theorem exCfg_tlsKey_fresh : canonicalKey exCfg.tlsHeader ∉ connection :: xForwardedFor :: fixedHopByHop := by
  rw [exCfg_tlsKey]; unfold connection xForwardedFor fixedHopByHop; simp only [List.map, toList_lit rfl]; decide +kernel

example : vals "X-Client-Ip".toList (ofWire exWire) = some ["6.6.6.6".toList, "7.7.7.7".toList] :=
  addHeadersIP_vectors.2.2.2.1
example : entries "X-Client-Ip".toList (addHeadersIP exCfg [] (exReq none) "1.2.3.4".toList)
    = [("X-Client-Ip".toList, ["1.2.3.4".toList])] := by
  rw [addHeadersIP_exReq_plain]; unfold hmap; simp only [List.map, toList_lit rfl]; decide +kernel
example : entries "X-Tls".toList (addHeadersIP exCfg [] (exReq none) "1.2.3.4".toList) = [] := by
  rw [addHeadersIP_exReq_plain]; unfold hmap; simp only [List.map, toList_lit rfl]; decide +kernel
example : entries "X-Tls".toList (addHeadersIP exCfg [] (exReq (some ⟨0x0303, 0xc02f⟩)) "1.2.3.4".toList)
    = [("X-Tls".toList, ["on".toList])] := by
  rw [← exCfg_tlsKey]
  exact (tls_header_iff_tls exCfg [] _ _ (by decide) (List.ne_of_not_mem_cons exCfg_tlsKey_fresh)).1 rfl
-- the hypotheses of `clientip_overwritten` hold for this configuration
theorem exCfg_clientIPKey_fresh : canonicalKey exCfg.clientIPHeader ∉ Lemmas.C08.writtenNames := by
  unfold Lemmas.C08.writtenNames exCfg xRealIp xForwardedFor xForwardedProto xForwardedPort xForwardedHost xForwardedPrefix
    forwarded connection
  simp only [toList_lit rfl]; decide +kernel
theorem exCfg_clientIPKey_tlsFree : TLSKeyFree exCfg (canonicalKey exCfg.clientIPHeader) :=
  Or.inr (by unfold exCfg; simp only [toList_lit rfl]; decide +kernel)
example : canonicalKey exCfg.clientIPHeader ∉
    [xRealIp, xForwardedFor, xForwardedProto, xForwardedPort, xForwardedHost, xForwardedPrefix, forwarded, connection] :=
  exCfg_clientIPKey_fresh
example : TLSKeyFree exCfg (canonicalKey exCfg.clientIPHeader) := exCfg_clientIPKey_tlsFree
-- mixed-case websocket upgrade: X-Forwarded-For keeps the chain and ends with the peer (D12b)
example : isWebsocket (exReq none).headers = true := addHeadersIP_vectors.2.2.2.2
example : vals xForwardedFor (addHeadersIP exCfg [] (exReq none) "1.2.3.4".toList) = some ["9.9.9.9, 1.2.3.4".toList] := by
  rw [addHeadersIP_exReq_plain]; unfold hmap xForwardedFor; simp only [List.map, toList_lit rfl]; decide +kernel
example : lastElem "9.9.9.9, 1.2.3.4".toList = "1.2.3.4".toList := by
  simp only [toList_lit rfl]; decide +kernel
example : vals forwarded (addHeadersIP exCfg [] (exReq none) "1.2.3.4".toList)
    = some ["for=1.2.3.4; proto=ws; by=5.6.7.8; httpproto=http/1.1".toList] := by
  rw [addHeadersIP_exReq_plain]; unfold hmap forwarded; simp only [List.map, toList_lit rfl]; decide +kernel
-- D12: route option host=up.example — the upstream sees Host up.example and is told the client's host/port
example : (serve exCfg "id".toList "up.example".toList "10.0.0.1:9000".toList [] (exReq none)).map
    (fun u => (u.host, vals xForwardedHost u.headers, vals xForwardedPort u.headers))
    = some ("up.example".toList, some ["client.example:8080".toList], some ["8080".toList]) := addHeadersIP_vectors.2.1
-- D12d: Connection names the TLS and client-IP headers next to harmless tokens; both survive, the tokens stay
example : vals connection (addHeadersIP exCfg [] exConnReq "1.2.3.4".toList) = some ["keep-alive, X-Other".toList] :=
  addHeadersIP_vectors.2.2.1
example : entries "X-Tls".toList (reverseProxy "1.2.3.4".toList (addHeadersIP exCfg [] exConnReq "1.2.3.4".toList))
    = [("X-Tls".toList, ["on".toList])] := by
  rw [← exCfg_tlsKey]
  have hx := List.not_mem_of_not_mem_cons exCfg_tlsKey_fresh
  exact tls_header_reaches_upstream exCfg [] exConnReq _ (by decide) (List.ne_of_not_mem_cons exCfg_tlsKey_fresh)
    (List.ne_of_not_mem_cons hx) (List.not_mem_of_not_mem_cons hx) rfl
example : entries "X-Client-Ip".toList (reverseProxy "1.2.3.4".toList (addHeadersIP exCfg [] exConnReq "1.2.3.4".toList))
    = [("X-Client-Ip".toList, ["1.2.3.4".toList])] := by
  have h : canonicalKey exCfg.clientIPHeader = "X-Client-Ip".toList ∧ "X-Client-Ip".toList ∉ fixedHopByHop ∧
      exCfg.clientIPHeader ≠ [] ∧ exCfg.clientIPHeader ≠ xForwardedFor ∧ exCfg.clientIPHeader ≠ xRealIp := by
    unfold exCfg fixedHopByHop xForwardedFor xRealIp; simp only [List.map, toList_lit rfl]; decide +kernel
  rw [← h.1, managed_headers_survive_connection_tokens exCfg [] exConnReq _ _
    (Lemmas.C08.mem_managedKeys_cfg h.2.2.1 (Or.inl rfl))
    (List.ne_of_not_mem_cons (List.not_mem_of_not_mem_cons exCfg_clientIPKey_fresh)) (h.1 ▸ h.2.1)]
  exact clientip_overwritten exCfg [] exConnReq _ h.2.2.1 h.2.2.2.1 h.2.2.2.2 exCfg_clientIPKey_fresh exCfg_clientIPKey_tlsFree
example : canonicalKey exCfg.tlsHeader ∈ managedKeys exCfg := Lemmas.C08.mem_managedKeys_cfg (by decide) (Or.inr (Or.inl rfl))
example : localPort ("client.example".toList ++ ':' :: "8080".toList) true = "8080".toList := by
  simp only [toList_lit rfl]
  exact localPort_name_port _ _ _ (by decide +kernel) (by decide +kernel) (by decide +kernel) (by decide +kernel)
example : localPort "[::1]:8080".toList false = "8080".toList := by simp only [toList_lit rfl]; decide +kernel
example : localPort "[::1]".toList true = "443".toList := by simp only [toList_lit rfl]; decide +kernel
example : splitHostPort "[::1]:80".toList = some ("::1".toList, "80".toList) := by simp only [toList_lit rfl]; decide +kernel
example : splitHostPort "1.2.3.4".toList = none := by simp only [toList_lit rfl]; decide +kernel
theorem stsValue_exCfg : stsValue exCfg = "max-age=31536000; includeSubdomains".toList := by
  unfold exCfg; simp only [toList_lit rfl]; decide +kernel
example : stsValue exCfg = "max-age=31536000; includeSubdomains".toList := stsValue_exCfg
example : stsValue { exCfg with stsMaxAge := 3000000000 } = "max-age=2147483647; includeSubdomains".toList := by
  unfold exCfg; simp only [toList_lit rfl]; decide +kernel
example : scheme (ofWire [("forwarded".toList, some "for=1.1.1.1;proto=https;by=2.2.2.2".toList)]) false = "https".toList := by
  simp only [toList_lit rfl]; decide +kernel
example : canonicalKey "x-cLIENT-ip".toList = "X-Client-Ip".toList := by simp only [toList_lit rfl]; decide +kernel
example : canonicalKey "bad name".toList = "bad name".toList := by simp only [toList_lit rfl]; decide +kernel

end Fabio.Props.C08
