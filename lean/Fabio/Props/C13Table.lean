import Fabio.Model.C13Table
import Fabio.Lemmas.Lit
import Fabio.Lemmas.C13Table
import Fabio.Props.C13
/-!
C13 — the *specification* of "matches the request host" used by `Model.C13Table.specAnswered` (written
from the sentence: default port removed via the reversed string, ASCII case ignored, `*`+literal as a suffix test)
and C03's *model* of host matching (`normalizeHost`, `globLib`) say the same, wherever the specification reads a
key at all. Together with `Props.C03.mem_matched_iff` and `Props.C13Compose.next_matching_host_is_tried` this is the
model-side counterpart of what `c13.http` checks on the real proxy's answers. Likewise for the specification's "surely
not a self-redirect" (`surelyLive`) and the model's skip (`surelyLive_not_skipped`).
-/
namespace Fabio.Props.C13Table
open Fabio Fabio.Model Fabio.Model.C13Table Fabio.Lemmas.C13Table

/-- C03's model of "the key matches the request host" under `cfgOf noglob` (the second conjunct of
`Props.C03.hostMatches_iff`), read on the dump's byte strings -/
def modelHostOK (noglob : Bool) (key host : C13.Str) (tls : Bool) : Prop :=
  if noglob then C03.normalizeHost (chars key) tls = C03.normalizeHost (chars host) tls
  else C03.globLib (C03.normalizeHost (chars key) tls) (C03.normalizeHost (chars host) tls) = true

/-- **The specification's reading of "the route's host matches the request host" is C03's model of it**,
wherever the specification reads the key: with host globs disabled, equality of the normalised names; with host
globs, a key without metacharacters matches itself only and `*`+literal is a suffix test — `C03.globLib`
(gobwas/glob with its two quirks) on the normalised strings says the same. -/
theorem specHostOK_is_model (noglob : Bool) (key host : C13.Str) (tls : Bool) (b : Bool)
    (h : specHostOK noglob key host tls = some b) : modelHostOK noglob key host tls ↔ b = true := by
  unfold modelHostOK
  rw [normalizeHost_chars, normalizeHost_chars]
  unfold specHostOK at h
  cases noglob with
  | true =>
    simp only [Bool.true_or, if_true, Option.some.injEq] at h
    rw [if_pos rfl, ← h, beq_iff_eq]
    exact ⟨chars_inj, congrArg chars⟩
  | false =>
    simp only [Bool.false_or, Bool.false_eq_true, if_false] at h ⊢
    by_cases hm : hasMeta (specNorm key tls) = true
    · simp only [hm, Bool.not_true, Bool.false_eq_true, if_false] at h
      split at h
      · rename_i lit hk
        split at h
        · cases h
        · rename_i hml
          rw [hk, show chars (42 :: lit) = '*' :: chars lit from rfl,
            Lemmas.C03.globLib_star_literal _ _ (hasMeta_chars lit (by simpa using hml)), isSuffixOf_chars, Option.some.inj h]
      · cases h
    · have hm' : hasMeta (specNorm key tls) = false := by simpa using hm
      simp only [hm', Bool.not_false, if_true, Option.some.injEq] at h
      -- the model compares `host == key`, the specification `key == host`
      rw [Lemmas.C03.globLib_literal _ _ (hasMeta_chars _ hm'), chars_beq, ← h, BEq.comm]

/-- non-vacuity: the three readings on concrete names -/
example : specHostOK true (C13.lit "Example.com:80") (C13.lit "example.COM") false = some true := by simp only [Model.C13.lit, toList_lit rfl]; decide +kernel
example : specHostOK false (C13.lit "*.example.com") (C13.lit "www.example.com:443") true = some true := by simp only [Model.C13.lit, toList_lit rfl]; decide +kernel
example : specHostOK false (C13.lit "*.example.com") (C13.lit "example.com") false = some false := by simp only [Model.C13.lit, toList_lit rfl]; decide +kernel
example : specHostOK false (C13.lit "ex[a]mple.com") (C13.lit "example.com") false = none := by simp only [Model.C13.lit, toList_lit rfl]; decide +kernel

/-- **The specification's "surely not a self-redirect" implies the model's "not skipped".** A target that is no
redirect, or whose template scheme differs from the request's, or whose template host holds no variable and
differs from the request's `Host`, is never skipped by `Lookup` — whatever strip, prepend, path and query. -/
theorem surelyLive_not_skipped (t : C13.RTarget) (scheme : C13.Str) (req : C13.URL)
    (h : surelyLive t scheme req.host = true) :
    Lemmas.C13.skipped scheme req t = false := by
  unfold Lemmas.C13.skipped
  simp only [surelyLive, Bool.or_eq_true, beq_iff_eq, bne_iff_ne, ne_eq, Bool.and_eq_true, Bool.not_eq_true'] at h
  rcases h with (hc | hs) | ⟨hd, hh⟩
  · simp [hc]
  · have := Props.C13.scheme_kept t req
    have hne : ((C13.buildRedirectURL t req).scheme == scheme) = false := by
      rw [this]; exact beq_eq_false_iff_ne.2 hs
    simp [C13.selfRedirect, hne]
  · -- a host without `$` holds neither variable
    have h36 : (36 : UInt8) ∉ t.url.host := by simpa using hd
    have hH := Props.C13.host_substituted t req
    have h2 : (C13.stage2 (C13.stage1 t)).host = t.url.host := by
      rw [Lemmas.C13.stage2_of_not_suffix t (Lemmas.C13.hasSuffix_eq_false_of_not_mem 36 C13.vPath _ (by decide) h36)]; rfl
    rw [h2, show C13.contains C13.vHost t.url.host = false from Lemmas.C13.contains_eq_false_of_not_mem 36 _ _ h36] at hH
    simp only [Bool.false_eq_true, if_false] at hH
    have hne : ((C13.buildRedirectURL t req).host == req.host) = false := by
      rw [hH]; exact beq_eq_false_iff_ne.2 hh
    simp [C13.selfRedirect, hne]

theorem surelyLive_skipFor (view : Route.Target → C13.RTarget) (q : CReq) (tg : Route.Target)
    (h : surelyLive (view tg) (scheme q) q.url.host = true) : skipFor view q tg = false :=
  (skipFor_eq view q tg).trans (surelyLive_not_skipped (view tg) (scheme q) q.url h)

/-- non-vacuity: the three ways to be surely live, and a self-redirect that is not -/
example : surelyLive { url := { scheme := C13.lit "http", host := C13.lit "10.0.0.1:80" } } (C13.lit "https") (C13.lit "foo.com") = true := by simp only [Model.C13.lit, toList_lit rfl]; decide +kernel
example : surelyLive { url := { scheme := C13.lit "https", host := C13.lit "$host$path" }, code := 301 } (C13.lit "http") (C13.lit "foo.com") = true := by simp only [Model.C13.lit, toList_lit rfl]; decide +kernel
example : surelyLive { url := { scheme := C13.lit "https", host := C13.lit "bar.com" }, code := 301 } (C13.lit "https") (C13.lit "foo.com") = true := by simp only [Model.C13.lit, toList_lit rfl]; decide +kernel
example : surelyLive { url := { scheme := C13.lit "https", host := C13.lit "$host$path" }, code := 301 } (C13.lit "https") (C13.lit "foo.com") = false := by simp only [Model.C13.lit, toList_lit rfl]; decide +kernel

end Fabio.Props.C13Table
