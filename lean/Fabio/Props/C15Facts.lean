import Fabio.Generated.C15
import Fabio.Props.C15
import Fabio.Props.C15Cmd
import Fabio.Props.C15Listen
/-! Obligations over the facts regenerated from `/repo` on every run (C15). -/
namespace Fabio.Props.C15Facts
open Fabio Fabio.Model.C15 Fabio.Props.C15
open Fabio.Generated.C15

theorem flag_table_nonempty : 0 < flagTable.length := by decide +kernel

/-- every flag name is ASCII and contains no `=` (so `NAME=value` splits at the right place and ASCII
upper-casing is Go's upper-casing) -/
theorem flag_names_ascii_no_eq :
    (flagNames ++ prefixes).all (fun n => n.all (fun c => decide (c.toNat < 128) && c != '=')) = true := by decide +kernel

/-- the prefixes `Load` passes to `load`, in order -/
theorem prefix_list : prefixStrings = ["FABIO_", ""] ∧ prefixes = ["FABIO_".toList, []]
    ∧ loadReceivesEnvironAndPrefixes = true := ⟨rfl, rfl, rfl⟩

/-- the model's mangling, applied to the table, gives exactly the names Go's `strings.ToUpper` /
`strings.Replace` give (computed by the extractor; each name packed into one number by `enc`) -/
theorem mangled_table :
    (envNames prefixes flagNames).map (fun x => enc x.2) = mangledCodes := by decide +kernel

-- the modulus is odd, so that codes of names with a common ending (`enc` is positional, base 2²¹) spread
theorem mangled_distinct : allDistinct mangledCodes = true :=
  allDistinct_of_residueMask 1000003 mangledCodes (by decide +kernel)

/-- **No two registered options share an environment variable** (either prefix), on the table as it is in
the source now. -/
theorem env_names_injective :
    ∀ p ∈ prefixes, ∀ q ∈ prefixes, ∀ f ∈ flagNames, ∀ g ∈ flagNames, envName p f = envName q g → p = q ∧ f = g :=
  env_names_injective_generic prefixes flagNames (by unfold noCollision; rw [mangled_table]; exact mangled_distinct)

/-- the options the model treats as kvslice-valued are the ones the source hands to the kvslice parsers -/
theorem kvslice_flags : kvsliceFlags = ["bgp.peers", "proxy.addr", "proxy.auth", "proxy.cs", "ui.addr"] := rfl

/-- the enumerations `validate` checks (sets of literals the option is compared with, sorted) -/
theorem enum_validations : strategyValues = ["rnd", "rr"] ∧ matcherValues = ["glob", "iprefix", "prefix"]
    ∧ uiAccessValues = ["ro", "rw"] := ⟨rfl, rfl, rfl⟩

/-- on `load`'s path there is an unconditional top-level `if <cfg>.GlobCacheSize <= 0 { return nil, err }`
(or `< 1`, or the mirrored comparison) (D21), and the cache is built from that field only -/
theorem glob_cache_size_validated :
    globCacheSizeBelowOneRejected = true ∧ 0 < globCacheBuiltFromConfig := by decide +kernel

/-- **Every integer-indexed expression on the path of `Load` / `ParseFlags` keeps its guard**: the
(index site, dominating length check) pairs of all functions reachable from `config.Load` and
`FlagSet.ParseFlags`, with variables printed by role (`p<i>` i-th parameter, `r<i>` i-th named result,
`@<callee>` local assigned from that call, `@i` loop counter), so that renaming, extracting or inlining code does
not change it but weakening or dropping a guard does.
`@parseKVSlice.0[0]` (the `ui.addr` listener `kvs[0]`, modelled by the checked `ui[0]?` in `validate`) is reached
only after `len ≠ 1 ⇒ return`; `@strings.SplitN[1]` (environment entry, certificate header) only after
`len ≠ 2 ⇒ continue/return`; `p0[@i+1]`, `p0[@i]`, `r1[0]` are `parse`'s accesses to `args` and `path`.
`p0[0]` is `cmdline[0]` in `load`: no guard there — `Load` requires the program name (`parse` panics
deliberately on an empty `args`), a stated precondition. -/
theorem index_sites_guarded : indexGuards =
    [("@parseKVSlice.0[0]", "exit-if len(@parseKVSlice.0) != 1"),
     ("@strings.SplitN[0]", "exit-if len(@strings.SplitN) != 2"),
     ("@strings.SplitN[1]", "exit-if len(@strings.SplitN) != 2"),
     ("p0[0]", "none"),
     ("p0[@i+1]", "exit-if @i >= len(p0)-1"),
     ("p0[@i]", "loop-while @i < len(p0)"),
     ("r1[0]", "after-case r1 == \"\"")] := rfl

/-- an environment entry without `=` is guarded before the second part of the split is read (D20) -/
theorem env_entry_guarded :
    ("@strings.SplitN[1]", "exit-if len(@strings.SplitN) != 2") ∈ indexGuards :=
  index_sites_guarded ▸ .tail _ (.tail _ (.head _))

/-- the options a user can set on the command line: every registered flag except the three the pre-pass of
`config.Load` takes for itself (`-v`, `-version`, `-cfg`) -/
def settableNames : List Str :=
  flagNames.filter (fun n => n != "v".toList && n != "version".toList && n != "cfg".toList)

/-- **every settable option's name is safe on the command line**: the flag package can carry it and no spelling
of it is taken by the pre-pass (no option is called `test.…`).  Hypothesis `hs` of
`C15Cmd.cmdline_spelling_partial`. -/
theorem flag_names_cmdline_safe : Fabio.Props.C15Cmd.namesCmdlineSafe settableNames = true := by decide +kernel

/-- the three names `settableNames` leaves out are registered flags too (so that `-h` lists them) -/
theorem prepass_flags_registered :
    ["v".toList, "version".toList, "cfg".toList].all (fun n => flagNames.contains n) = true := by decide +kernel

/-- is the name registered, and is it boolean -/
def formal (n : Str) : Option Bool :=
  match flagTable.find? (fun r => r.1 == n) with
  | some r => some (r.2.1 == "bool")
  | none => none

theorem cmdline_spelling_here (accepts : Str → Str → Bool) (prog : Str) (xs : List (Str × Str × Form))
    (hx : ∀ x ∈ xs, x.1 ∈ settableNames) (hwf : ∀ x ∈ xs, Fabio.Props.C15Cmd.wf formal accepts x)
    (hv : Fabio.Props.C15Cmd.splitValuesPlain xs) :
    parsePre (prog :: spell xs) = .ok (.ok { rest := spell xs, path := [] }) ∧
    tokenise formal accepts (spell xs) [] = .ok { pairs := xs.map (fun x => (x.1, x.2.1)), positional := [] } :=
  Fabio.Props.C15Cmd.cmdline_spelling_partial formal accepts settableNames flag_names_cmdline_safe prog xs hx hwf hv

/-- `main` hands the process's own argument vector and environment block to `config.Load` — the two inputs
every theorem here quantifies over — and `Load` is not called in any other way -/
theorem main_loads_args_and_environ : mainLoadsArgsAndEnviron = true := rfl

/-- the protocol names of the model are the case literals of the protocol switch in `parseListen`, and that
switch rejects every other name -/
theorem listen_protos_model :
    listenProtosAccepted.all (fun p => acceptedProtos.contains p.toList) = true ∧
    acceptedProtos.all (fun p => listenProtosAccepted.contains (String.ofList p)) = true ∧
    listenProtoOthersRejected = true := by
  unfold acceptedProtos listenProtosAccepted
  simp only [List.all_cons, List.all_nil, toList_lit rfl]
  decide +kernel

/-- **`main.startServers` has a case for every protocol name `parseListen` accepts**: `listenProtosHandled` are the
case literals that every switch over a listener's `.Proto` in package main has, and there is such a switch -/
theorem listen_protos_handled :
    (∀ p ∈ acceptedProtos, p ∈ listenProtosHandled.map String.toList) ∧ 0 < listenProtoSwitches := by
  unfold acceptedProtos listenProtosHandled
  simp only [List.map_cons, List.map_nil, toList_lit rfl]
  decide +kernel

theorem accepted_listener_startable_here (E : ListenEnv) (cfg : Map) (l : LListen)
    (h : parseListenM E cfg = .ok l) : startable (listenProtosHandled.map String.toList) l = true :=
  Fabio.Props.C15Listen.accepted_listener_startable E _ listen_protos_handled.1 cfg l h

theorem accepted_config_listeners_startable_here (unq : Str → Option Str) (atoi : Str → Int) (X : ListenExt)
    (rest : List Resolved → Option Err) (flags : List (Str × Str)) (s : Sources) (cfg : Cfg)
    (h : loadModel unq atoi (listenExtra unq X rest) flags s = .ok (.ok cfg)) :
    ∃ ls ui, listenersOf unq X cfg.values = .ok (ls, ui) ∧
      (∀ l ∈ ls, startable (listenProtosHandled.map String.toList) l = true ∧ l.addr ≠ []) ∧
      (∀ l, ui = some l → startable (listenProtosHandled.map String.toList) l = true ∧ l.addr ≠ []) :=
  Fabio.Props.C15Listen.accepted_config_listeners_startable unq atoi X rest flags s _ listen_protos_handled.1 cfg h

end Fabio.Props.C15Facts
