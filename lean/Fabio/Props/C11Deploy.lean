import Fabio.Model.C11Deploy
import Fabio.Props.C11
import Fabio.Props.C11Order
import Fabio.Lemmas.Lit
/-!
C11 — from the configuration to the handshake. The property's first sentence speaks of "strict and non-strict
listeners": several listeners can be configured on one certificate source, each with its own `strictmatch` option,
each served by its own store (`main.makeTLSConfig`). The stages (option → strictness, source → published list →
store of every listener on that source → answer) are composed into the sentence for a whole deployment; the
`GetCertificate` closure of `cert.TLSConfig` with a source that can issue certificates is covered too.
-/
namespace Fabio.Props.C11Deploy
open Fabio Fabio.Model.C11 Fabio.Props.C11 Fabio.Props.C11Order

theorem closure_without_issuer (p : Published) (server : Name) (strict : Bool) :
    tlsGetCertificate none p server strict = (Presented.ofAnswer (getCertificateP p server strict), []) := by
  unfold tlsGetCertificate
  cases getCertificateP p server strict <;> rfl

theorem closure_store_first (issuer : Option IssuerFn) (p : Published) (server : Name) (strict : Bool) (c : Cert)
    (h : getCertificateP p server strict = .cert c) :
    tlsGetCertificate issuer p server strict = (.cert c, []) := by
  unfold tlsGetCertificate; rw [h]

theorem closure_asks_issuer (issue : IssuerFn) (p : Published) (server : Name) (strict : Bool)
    (h : ∀ c, getCertificateP p server strict ≠ .cert c) :
    tlsGetCertificate (some issue) p server strict =
      (match issue server with | some c => .issued c | none => .issueErr, [server]) := by
  unfold tlsGetCertificate
  cases hg : getCertificateP p server strict with
  | cert c => exact absurd hg (h c)
  | noCert => cases hi : issue server <;> simp [hi]
  | errNoCerts => cases hi : issue server <;> simp [hi]

theorem closure_issued (issue : IssuerFn) (p : Published) (server : Name) (strict : Bool)
    (h : ∀ c, getCertificateP p server strict ≠ .cert c) :
    (tlsGetCertificate (some issue) p server strict).1 =
      match issue server with
      | some c => .issued c
      | none => .issueErr :=
  congrArg Prod.fst (closure_asks_issuer issue p server strict h)

/-- The issuer is asked once, and for the server name as the client sent it, not normalised. -/
theorem closure_issuer_asked_iff (issue : IssuerFn) (p : Published) (server : Name) (strict : Bool) :
    ((tlsGetCertificate (some issue) p server strict).2 = [server] ↔
        ∀ c, getCertificateP p server strict ≠ .cert c) ∧
    ((tlsGetCertificate (some issue) p server strict).2 = [] ↔
        ∃ c, getCertificateP p server strict = .cert c) := by
  by_cases h : ∃ c, getCertificateP p server strict = .cert c
  · obtain ⟨c, hc⟩ := h
    simp [closure_store_first _ p server strict c hc, hc]
  · have h' : ∀ c, getCertificateP p server strict ≠ .cert c := fun c hc => h ⟨c, hc⟩
    simp [closure_asks_issuer issue p server strict h', h']

-- a strict listener, a name no certificate carries: without issuer nothing, with issuer the issued
-- certificate for the name as sent (upper case kept); a name that matches is served from the store
example :
    let a : Cert := ⟨0, ["a.test".toList]⟩
    let b : Cert := ⟨1, ["*.w.test".toList]⟩
    let p := mkPublished [a, b]
    let issue : IssuerFn := fun n => some ⟨9, [n]⟩
    tlsGetCertificate none p "Other.test".toList true = (.noCert, []) ∧
    tlsGetCertificate (some issue) p "Other.test".toList true = (.issued ⟨9, ["Other.test".toList]⟩, ["Other.test".toList]) ∧
    tlsGetCertificate (some issue) p "X.W.test.".toList true = (.cert b, []) ∧
    tlsGetCertificate (some fun _ => none) (mkPublished []) "a.test".toList false = (.issueErr, ["a.test".toList]) := by
  simp only [toList_lit rfl]; decide +kernel

theorem parseStrict_true_iff (o : Option Name) : parseStrict o = true ↔ o = some "true".toList := by
  cases o with
  | none => simp [parseStrict]
  | some v => simp [parseStrict]

theorem file_source_single (cf kf : Name) (blocks : Blocks) (order : List Name) (ids : List Nat)
    (h : sourceIds ⟨.file cf kf, blocks⟩ order = some ids) :
    ∃ c k id, blocks.lookup cf = some c ∧ blocks.lookup kf = some k ∧ pairCert c k = some id ∧ ids = [id] := by
  unfold sourceIds at h
  simp only at h
  split at h
  · rename_i c k hc hk
    obtain ⟨id, hp, rfl⟩ := Option.map_eq_some_iff.mp h
    exact ⟨c, k, id, hc, hk, hp, rfl⟩
  · cases h

/-- `.dir` is a `path` or `http` source; `o1`, `o2` are orders in which Go may iterate the loaded map. -/
theorem dir_source_order_irrelevant (blocks : Blocks) (o1 o2 : List Name) (h : ∀ n, n ∈ o1 ↔ n ∈ o2) :
    sourceIds ⟨.dir, blocks⟩ o1 = sourceIds ⟨.dir, blocks⟩ o2 :=
  congrArg (Option.map _) (loadCertificates_order_irrelevant blocks o1 o2 h)

/-- **What a listener presents is the best match within the set of its own source, with its own strictness**:
exact name, else first covering wildcard, else the first certificate — or nothing when *this listener's*
`strictmatch` option is `true`. -/
theorem listener_presents_best_match (names : Nat → List Name) (ids : List Nat) (l : ListenerCfg) (server : Name) :
    listenerAnswer names ids l server =
      specAnswer (ids.map fun i => ⟨i, names i⟩) server (parseStrict l.strict) :=
  getCertificate_eq_spec _ _ _

theorem listener_best_match_for_every_order (blocks : Blocks) (o1 o2 : List Name) (h : ∀ n, n ∈ o1 ↔ n ∈ o2)
    (ids : List Nat) (h1 : sourceIds ⟨.dir, blocks⟩ o1 = some ids)
    (names : Nat → List Name) (l : ListenerCfg) (server : Name) :
    sourceIds ⟨.dir, blocks⟩ o2 = some ids ∧
    listenerAnswer names ids l server = specAnswer (ids.map fun i => ⟨i, names i⟩) server (parseStrict l.strict) :=
  ⟨(dir_source_order_irrelevant blocks o1 o2 h) ▸ h1, listener_presents_best_match names ids l server⟩

/-- **Strictness is per listener**: of two listeners on the same published list, for a name that nothing in the
set matches, the one with `strictmatch=true` presents no certificate and the other (no option, or any other value)
the first certificate of the set. -/
theorem strictness_is_per_listener (names : Nat → List Name) (i : Nat) (rest : List Nat) (l1 l2 : ListenerCfg)
    (server : Name) (h1 : l1.strict = some "true".toList) (h2 : l2.strict ≠ some "true".toList)
    (hx : lastWith ((i :: rest).map fun i => ⟨i, names i⟩) (normName server) = none)
    (hw : ∀ k ∈ candidates (splitDots (normName server)),
            lastWith ((i :: rest).map fun i => ⟨i, names i⟩) k = none) :
    listenerAnswer names (i :: rest) l1 server = .noCert ∧
    listenerAnswer names (i :: rest) l2 server = .cert ⟨i, names i⟩ := by
  have s1 : parseStrict l1.strict = true := (parseStrict_true_iff _).mpr h1
  have s2 : parseStrict l2.strict = false :=
    Bool.eq_false_iff.mpr fun hp => h2 ((parseStrict_true_iff _).mp hp)
  have hw' := List.findSome?_eq_none_iff.mpr hw
  unfold listenerAnswer
  rw [s1, s2, getCertificate_eq_spec, getCertificate_eq_spec]
  exact ⟨Lemmas.C11.specAnswer_default true hx hw', Lemmas.C11.specAnswer_default false hx hw'⟩

-- `TRUE` and an absent option leave strictness off; a name that matches is answered alike under `false` and `true`
example :
    let names : Nat → List Name := fun i => if i = 0 then ["a.test".toList] else ["b.test".toList]
    listenerAnswer names [0, 1] ⟨0, some "true".toList⟩ "zzz.test".toList = .noCert ∧
    listenerAnswer names [0, 1] ⟨0, none⟩ "zzz.test".toList = .cert ⟨0, ["a.test".toList]⟩ ∧
    listenerAnswer names [0, 1] ⟨0, some "TRUE".toList⟩ "zzz.test".toList = .cert ⟨0, ["a.test".toList]⟩ ∧
    listenerAnswer names [0, 1] ⟨0, some "false".toList⟩ "B.test.".toList = .cert ⟨1, ["b.test".toList]⟩ ∧
    listenerAnswer names [0, 1] ⟨0, some "true".toList⟩ "B.test.".toList = .cert ⟨1, ["b.test".toList]⟩ := by
  simp only [toList_lit rfl]; decide +kernel

/-- The set source `j` published last (`init` when it has not published). -/
def lastOf (j : Nat) (init : CertSet) : List (Nat × CertSet) → CertSet
  | [] => init
  | (k, cs) :: ps => lastOf j (if k = j then cs else init) ps

def runPubs (d : Deployment) (pubs : List (Nat × CertSet)) : Deployment :=
  pubs.foldl (fun d p => d.publish p.1 p.2) d

/-- A listener's store follows the publications of its own source the way the cell of `Sys` follows `publish`. -/
theorem lastOf_eq_currentSet (j : Nat) (init : CertSet) (pubs : List (Nat × CertSet)) :
    lastOf j init pubs = currentSet init ((pubs.filter fun p => p.1 = j).map fun p => Op.publish p.2) := by
  induction pubs generalizing init with
  | nil => rfl
  | cons p ps ih =>
    rw [lastOf, ih]
    by_cases h : p.1 = j <;> simp [h, currentSet]

theorem lastOf_append_singleton (j : Nat) (init : CertSet) (pubs : List (Nat × CertSet)) (k : Nat) (cs : CertSet) :
    lastOf j init (pubs ++ [(k, cs)]) = if j = k then cs else lastOf j init pubs := by
  simp only [lastOf_eq_currentSet, List.filter_append, List.map_append, Lemmas.C11.currentSet_append]
  by_cases h : j = k <;> simp [h, currentSet, eq_comm (a := k)]

private theorem zip_map_publish (ls : List ListenerCfg) (g : ListenerCfg → CertSet) (j : Nat) (cs : CertSet) :
    ((ls.zip (ls.map g)).map fun (p : ListenerCfg × CertSet) => if p.1.src = j then cs else p.2)
      = ls.map fun l => if l.src = j then cs else g l := by
  induction ls with
  | nil => rfl
  | cons l ls ih => simp only [List.map_cons, List.zip_cons_cons, ih]

private theorem publish_stores (ls : List ListenerCfg) (g : ListenerCfg → CertSet) (j : Nat) (cs : CertSet) :
    (⟨ls, ls.map g⟩ : Deployment).publish j cs = ⟨ls, ls.map fun l => if l.src = j then cs else g l⟩ := by
  simp only [Deployment.publish, zip_map_publish]

private theorem runPubs_stores (ls : List ListenerCfg) (g : ListenerCfg → CertSet) (pubs : List (Nat × CertSet)) :
    runPubs ⟨ls, ls.map g⟩ pubs = ⟨ls, ls.map fun l => lastOf l.src (g l) pubs⟩ := by
  induction pubs generalizing g with
  | nil => rfl
  | cons p ps ih =>
    obtain ⟨j, cs⟩ := p
    have step : runPubs ⟨ls, ls.map g⟩ ((j, cs) :: ps)
        = runPubs ((⟨ls, ls.map g⟩ : Deployment).publish j cs) ps := rfl
    rw [step, publish_stores, ih (fun l => if l.src = j then cs else g l)]
    congr 1
    apply List.map_congr_left
    intro l _
    simp only [lastOf, eq_comm (a := j)]

/-- **Every handshake on every listener, after every history of publications of every source**: the answer is
`getCertificate` of the set that *this listener's* source published last (the empty store before its first
publication), decided with *this listener's* strictness. Publications of other sources and the options of other
listeners — also of listeners on the same source — do not enter. -/
theorem deployment_handshake (ls : List ListenerCfg) (pubs : List (Nat × CertSet)) (i : Nat) (l : ListenerCfg)
    (hl : ls[i]? = some l) (server : Name) :
    (runPubs (Deployment.init ls) pubs).handshake i server
      = some (getCertificate (lastOf l.src [] pubs) server (parseStrict l.strict)) := by
  unfold Deployment.init
  rw [runPubs_stores ls (fun _ => []) pubs]
  unfold Deployment.handshake
  simp only [List.getElem?_map, hl, Option.map_some]

theorem deployment_presents_best_match (ls : List ListenerCfg) (pubs : List (Nat × CertSet)) (i : Nat)
    (l : ListenerCfg) (hl : ls[i]? = some l) (server : Name) :
    (runPubs (Deployment.init ls) pubs).handshake i server
      = some (specAnswer (lastOf l.src [] pubs) server (parseStrict l.strict)) := by
  rw [deployment_handshake ls pubs i l hl server, getCertificate_eq_spec]

/-- A new set of a source takes effect on **all** listeners of that source, and on no other listener. -/
theorem publication_reaches_the_listeners_of_its_source (ls : List ListenerCfg) (pubs : List (Nat × CertSet))
    (j : Nat) (cs : CertSet) (i : Nat) (l : ListenerCfg) (hl : ls[i]? = some l) (server : Name) :
    (runPubs (Deployment.init ls) (pubs ++ [(j, cs)])).handshake i server =
      if l.src = j then some (getCertificate cs server (parseStrict l.strict))
      else (runPubs (Deployment.init ls) pubs).handshake i server := by
  rw [deployment_handshake ls _ i l hl server, deployment_handshake ls pubs i l hl server, lastOf_append_singleton]
  split <;> rfl

-- three listeners, two on source 0 with different strictness, one on source 1; source 0 publishes,
-- source 1 publishes, source 0 publishes again
example :
    let a : Cert := ⟨0, ["a.test".toList]⟩
    let b : Cert := ⟨1, ["b.test".toList]⟩
    let c : Cert := ⟨2, ["c.test".toList]⟩
    let ls : List ListenerCfg := [⟨0, some "true".toList⟩, ⟨0, none⟩, ⟨1, some "false".toList⟩]
    let d := runPubs (Deployment.init ls) [(0, [a, b]), (1, [c]), (0, [b, a])]
    d.handshake 0 "zzz.test".toList = some .noCert ∧
    d.handshake 1 "zzz.test".toList = some (.cert b) ∧
    d.handshake 2 "zzz.test".toList = some (.cert c) ∧
    d.handshake 0 "A.test.".toList = some (.cert a) ∧
    (runPubs (Deployment.init ls) [(1, [c])]).handshake 0 "a.test".toList = some .errNoCerts := by
  simp only [toList_lit rfl]; decide +kernel

/-- **A source that delivers unusable material removes no listener's working set**: whatever the deployment has
been through (`pubs`), when the watcher of source `j` then goes through any history of failing loads, every
handshake on every listener — those of source `j` included, strict or not — is answered exactly as before. -/
theorem deployment_keeps_working_set {M : Type} [DecidableEq M] (ls : List ListenerCfg) (pubs : List (Nat × CertSet))
    (j : Nat) (mk : M → Option CertSet) (refresh : Int) (st : St M) (script : List (LoadResult M))
    (hbad : ∀ r ∈ script, badLoad mk r = true) (i : Nat) (server : Name) :
    (runPubs (Deployment.init ls)
        (pubs ++ (publications (trace true mk refresh st script)).map fun s => (j, s))).handshake i server
      = (runPubs (Deployment.init ls) pubs).handshake i server := by
  rw [bad_script_publishes_nothing true mk refresh st script hbad]
  simp

/-- The first usable, different material `m` after such a history: the watcher's iteration on it emits
`publish m cs`, and with `(j, cs)` appended to the deployment's history every listener of source `j` answers from
`cs` with its own strictness. The statement does not link the two: that what the watcher emits is what the stores
receive is the applier of `TLSConfig` (`C11Facts.one_applier_in_channel_order`). -/
theorem deployment_new_set_effective {M : Type} [DecidableEq M] (ls : List ListenerCfg) (pubs : List (Nat × CertSet))
    (j : Nat) (mk : M → Option CertSet) (refresh : Int) (st : St M) (bad : List (LoadResult M))
    (hbad : ∀ r ∈ bad, badLoad mk r = true) (m : M) (cs : CertSet) (hm : mk m = some cs) (hne : m ≠ st.last)
    (i : Nat) (l : ListenerCfg) (hl : ls[i]? = some l) (hj : l.src = j) (server : Name) :
    (step true mk refresh (runSt true mk refresh st bad) (.blocks m)).2 = [.publish m cs] ∧
    (runPubs (Deployment.init ls) (pubs ++ [(j, cs)])).handshake i server
      = some (specAnswer cs server (parseStrict l.strict)) := by
  refine ⟨by rw [good_material_after_bad_is_published true mk refresh st bad m cs hbad hm hne], ?_⟩
  rw [publication_reaches_the_listeners_of_its_source ls pubs j cs i l hl server, if_pos hj, getCertificate_eq_spec]

-- a script of failing loads (an error, then material without key) in front of a deployment
example :
    let mk : Nat → Option CertSet := fun m => if m = 7 then none else some [⟨m, ["x.test".toList]⟩]
    let script : List (LoadResult Nat) := [.err, .blocks 7, .err]
    (∀ r ∈ script, badLoad mk r = true) ∧
    publications (trace true mk 0 ⟨0, false⟩ script) = [] ∧
    publications (trace true mk 0 ⟨0, false⟩ (script ++ [.blocks 3])) = [[⟨3, ["x.test".toList]⟩]] := by
  simp only [toList_lit rfl]; decide +kernel

/-- `path.Clean` leaves a sequence of ordinary path elements alone. -/
theorem cleanSegs_plain (acc ss : List Name)
    (h : ∀ s ∈ ss, s ≠ [] ∧ s ≠ ['.'] ∧ s ≠ ['.', '.']) : cleanSegs acc ss = acc.reverse ++ ss := by
  induction ss generalizing acc with
  | nil => simp [cleanSegs]
  | cons s ss ih =>
    obtain ⟨h1, h2, h3⟩ := h s (by simp)
    rw [cleanSegs, if_neg (by simp [h1, h2]), if_neg (by simpa using h3),
      ih (s :: acc) (fun t ht => h t (List.mem_cons_of_mem _ ht))]
    simp

theorem baseOf_split (origin path : Name) (dirs : List Name) (file : Name)
    (hsplit : splitOn '/' path = [] :: dirs ++ [file])
    (hd : ∀ s ∈ dirs, s ≠ [] ∧ s ≠ ['.'] ∧ s ≠ ['.', '.']) :
    baseOf origin path = origin ++ '/' :: joinSlash dirs := by
  have hp : path.isEmpty = false := by
    cases path with
    | nil => simpa [splitOn] using congrArg List.length hsplit
    | cons c cs => rfl
  unfold baseOf
  split
  · -- the path is `/`: it splits into two empty elements, so there are no directories
    rename_i h1
    obtain rfl : path = ['/'] := by simpa using h1
    cases dirs with
    | nil => rfl
    | cons d ds => simpa [splitOn] using congrArg List.length hsplit
  · have hdl : (splitOn '/' path).dropLast = [] :: dirs := by
      rw [hsplit]; exact List.dropLast_concat
    have hc : cleanSegs [] ([] :: dirs) = dirs := by
      rw [cleanSegs, if_pos (by rfl)]; simpa using cleanSegs_plain [] dirs hd
    simp only [hp, Bool.false_eq_true, if_false, pathDir, hdl, hc]

/-- **A list in a directory**: for a list at `origin/d₁/…/dₙ/file` (n ≥ 1, ordinary directory names) the files are
fetched from `origin/d₁/…/dₙ` — *without* a trailing slash, so the names in the list must start with `/`. -/
theorem base_of_list_in_directory (origin path : Name) (dirs : List Name) (file : Name)
    (hsplit : splitOn '/' path = [] :: dirs ++ [file]) (hne : dirs ≠ [])
    (hd : ∀ s ∈ dirs, s ≠ [] ∧ s ≠ ['.'] ∧ s ≠ ['.', '.']) :
    baseOf origin path = origin ++ '/' :: joinSlash dirs :=
  baseOf_split origin path dirs file hsplit hd

/-- **A list at the server's root** (`origin/file`): the files are fetched from `origin/` (names without a slash). -/
theorem base_of_list_at_root (origin path : Name) (file : Name) (hsplit : splitOn '/' path = [[], file])
    (hf : file ≠ []) : baseOf origin path = origin ++ ['/'] :=
  baseOf_split origin path [] file hsplit (by simp)

-- the two corner cases of the code: a URL without path, and elements `path.Clean` removes
example :
    baseOf "http://h:80".toList "/certs/tls/list.txt".toList = "http://h:80/certs/tls".toList ∧
    splitOn '/' "/certs/tls/list.txt".toList = [] :: ["certs".toList, "tls".toList] ++ ["list.txt".toList] ∧
    baseOf "http://h:80".toList "/list".toList = "http://h:80/".toList ∧
    baseOf "http://h:80".toList "/".toList = "http://h:80/".toList ∧
    baseOf "http://h:80".toList [] = "http://h:80/.".toList ∧
    baseOf "http://h:80".toList "/a/../list".toList = "http://h:80/".toList ∧
    baseOf "http://h:80".toList "/a//b/./list".toList = "http://h:80/a/b".toList := by
  simp only [toList_lit rfl]; decide +kernel

/-- change only what `pairCert` does not look at -/
def reRest (g : Name → FileC → Nat) (b : Blocks) : Blocks := b.map fun e => (e.1, { e.2 with rest := g e.1 e.2 })

theorem lookup_reRest (g : Name → FileC → Nat) (b : Blocks) (n : Name) :
    (reRest g b).lookup n = (b.lookup n).map fun c => { c with rest := g n c } := by
  induction b with
  | nil => rfl
  | cons e b ih =>
    obtain ⟨m, c⟩ := e
    simp only [reRest, List.map_cons, List.lookup_cons]
    by_cases h : n == m
    · have : n = m := by simpa using h
      subst this
      simp
    · simp only [h]
      exact ih

theorem pairCert_ignores_rest (c k : FileC) (r1 r2 : Nat) :
    pairCert { c with rest := r1 } { k with rest := r2 } = pairCert c k := rfl

theorem certOf_reRest (g : Name → FileC → Nat) (b : Blocks) : certOf (reRest g b) = certOf b := by
  funext cf
  simp only [certOf, lookup_reRest]
  cases b.lookup cf <;> cases b.lookup (keyOfCert cf) <;> rfl

theorem loadCertificates_ignores_rest (g : Name → FileC → Nat) (b : Blocks) (order : List Name) :
    loadCertificates (reRest g b) order = loadCertificates b order :=
  loadCertificates_congr (certOf_reRest g b) order

/-- **A renewed chain is published**: material that differs from the last published one only in what follows a
leaf (the operator appended the missing intermediate) makes the same certificates
(`loadCertificates_ignores_rest`) but is different material; when it is usable the watcher sends it on, so the new
chain takes effect without restart. -/
theorem chain_renewal_is_published (g : Name → FileC → Nat) (b : Blocks) (order : Blocks → List Name)
    (ids : List (Name × Nat)) (refresh : Int) (hne : reRest g b ≠ b)
    (hok : loadCertificates b (order b) = some ids) (hord : order (reRest g b) = order b) :
    step true (fun m => loadCertificates m (order m)) refresh ⟨b, false⟩ (.blocks (reRest g b))
      = (⟨reRest g b, once refresh⟩, [.publish (reRest g b) ids]) :=
  Lemmas.C11.step_good true refresh (by rw [hord, loadCertificates_ignores_rest, hok]) hne

example :
    let b : Blocks := [("a-cert.pem".toList, ⟨some 0, none, 0⟩), ("a-key.pem".toList, ⟨none, some 0, 0⟩)]
    let g : Name → FileC → Nat := fun _ c => if c.cert.isSome then 1 else 0
    reRest g b ≠ b ∧ loadCertificates (reRest g b) (b.map (·.1)) = some [("a-cert.pem".toList, 0)] := by
  simp only [toList_lit rfl]; decide +kernel

end Fabio.Props.C11Deploy
