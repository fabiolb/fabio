import Fabio.Lemmas.C17Proxy
import Fabio.Props.C17
/-!
C17 — the glue around the writer machine (`Fabio.Model.C17Proxy`): one handler value serving many responses over
the recycled writers, the option `proxy.gzip.contenttype`, and `HTTPProxy.ServeHTTP` handing the response of
`httputil.ReverseProxy` through `NewGzipHandler`. An upstream response is any header lines, any number of relayed
1xx responses, any chunking of the copy loop, flushing or not.
-/
namespace Fabio.Props.C17Proxy
open Fabio.Model.C17 Fabio.Lemmas.C17 Fabio.Props.C17

variable {Z : Type}

theorem pool_invisible (C : Cfg Z) (hrt : C.comp.RoundTrip) (head dfl : Bool) (req h0 : Hdr) (p q : List Z)
    (ops : List Op) :
    (serve C head dfl req h0 p ops).view C = (serve C head dfl req h0 q ops).view C := by
  cases hacc : acceptsGzip req && !head with
  | true =>
    simp only [serve_engaged C dfl h0 _ ops hacc]
    -- `Served.view` of this record unfolds to `GW.view` of the closed machine
    exact engaged_view_pool C hrt (hadd h0 hVary hAcceptEncoding) p q ops
  | false =>
    simp only [serve_bypassed C dfl h0 _ ops hacc]
    rfl

/-- One handler value (one configured expression, the shared writer pool) serves a
sequence of exchanges: every response looks to its client — compressed or not, status, header map, content —
exactly as if it were the only response ever served, whatever the earlier responses were and whatever state
the recycled writers were left in. (The package keeps no state but the pool: obligation `package_state_is_the_pool`.) -/
theorem history_independent (C : Cfg Z) (hrt : C.comp.RoundTrip) (pool : List Z) (es : List Exch) :
    (serveSeq C pool es).map (Served.view C) =
      es.map (fun e => (serve C e.head e.dfl e.req e.h0 [] e.ops).view C) := by
  induction es generalizing pool with
  | nil => rfl
  | cons e r ih =>
    simp only [serveSeq, List.map_cons]
    rw [ih, pool_invisible C hrt e.head e.dfl e.req e.h0 pool []]

/-- Compression is off exactly for the empty option value; a value that does not compile
is refused at start-up, never silently turned into "compress nothing/everything". -/
theorem configured_iff (value : String) (compiles : Bool) :
    (configure value compiles = .off ↔ value = "") ∧
    (configure value compiles = .on ↔ value ≠ "" ∧ compiles = true) ∧
    (configure value compiles = .invalid ↔ value ≠ "" ∧ compiles = false) := by
  unfold configure
  by_cases hv : value = ""
  · simp [hv]
  · have : (value == "") = false := by simp [beq_eq_false_iff_ne, hv]
    cases compiles <;> simp [this, hv]

/-- Without a configured expression the gzip package is not in the path at all:
the response is the reverse proxy's on the bare writer (no `Vary` line either), and the request is handed on
as it came. -/
theorem unconfigured_untouched (C : Cfg Z) (head dfl : Bool) (req h0 : Hdr) (pool : List Z) (u : UpResp) :
    (proxyServe C false head dfl req h0 pool u).compressed = false ∧
    (proxyServe C false head dfl req h0 pool u).obs = proxyBare C dfl h0 (relay (h0.map (·.1)) u) ∧
    (proxyServe C false head dfl req h0 pool u).fwd = req ∧
    (proxyServe C false head dfl req h0 pool u).pool = pool := ⟨rfl, rfl, rfl, rfl⟩

/-- Configured or not, compressing or not: the reverse proxy — hence the
transport and the upstream — is handed the client's request header as it came (in particular its
`Accept-Encoding`, so the transport never adds its own and never decodes an encoded upstream response behind
the writer's back). Tied to the code by obligation `request_read_only` and by stream `c17.proxy`. -/
theorem request_forwarded_unchanged (C : Cfg Z) (gz head dfl : Bool) (req h0 : Hdr) (pool : List Z) (u : UpResp) :
    (proxyServe C gz head dfl req h0 pool u).fwd = req := by
  cases gz <;> rfl

/-! The sentences for the handler on the reverse proxy's relay, whatever keys `before` the relay's `clear(h)` deletes
(`proxyServe` passes those of the map that holds the `Vary` line; C07's handler chain is the case `before = []`). -/

theorem relay_compress_iff (C : Cfg Z) (head dfl : Bool) (req h0 : Hdr) (pool : List Z) (before : List String)
    (u : UpResp) (hinfo : ∀ i ∈ u.info, informational i.1 = true) (hfin : informational u.code = false) :
    (serve C head dfl req h0 pool (relay before u)).compressed = true ↔
      acceptsGzip req = true ∧ head = false ∧ bodyAllowedForStatus u.code = true ∧
      hget (liveAtStatus before u (hadd h0 hVary hAcceptEncoding)) hContentEncoding = "" ∧
      C.typeOk (hget (liveAtStatus before u (hadd h0 hVary hAcceptEncoding)) hContentType) = true := by
  rw [compress_iff, relay_decision C false _ u _ hinfo hfin]
  constructor
  · rintro ⟨h1, h2, h, c, heq, hb, he, ht⟩
    obtain ⟨rfl, rfl⟩ := Prod.mk.inj (Option.some.inj heq)
    exact ⟨h1, h2, hb, he, ht⟩
  · rintro ⟨h1, h2, hb, he, ht⟩
    exact ⟨h1, h2, _, _, rfl, hb, he, ht⟩

theorem relay_when_compressed (C : Cfg Z) (hrt : C.comp.RoundTrip) (head dfl : Bool) (req h0 : Hdr) (pool : List Z)
    (before : List String) (u : UpResp) (hinfo : ∀ i ∈ u.info, informational i.1 = true)
    (hfin : informational u.code = false) (hc : (serve C head dfl req h0 pool (relay before u)).compressed = true) :
    (serve C head dfl req h0 pool (relay before u)).obs.status = u.code ∧
    hget (serve C head dfl req h0 pool (relay before u)).obs.hdr hContentEncoding = encGzip ∧
    hhasRaw (serve C head dfl req h0 pool (relay before u)).obs.hdr hContentLength = false ∧
    (∀ k, k ≠ hContentLength → k ≠ hContentEncoding →
      hraw (serve C head dfl req h0 pool (relay before u)).obs.hdr k =
        hraw (liveAtStatus before u (hadd h0 hVary hAcceptEncoding)) k) ∧
    C.comp.decode (serve C head dfl req h0 pool (relay before u)).obs.body = some u.chunks.flatten := by
  obtain ⟨h, c, hd, hs, hce, hcl, hk, hdec⟩ := when_compressed C hrt head dfl req h0 pool _ hc
  rw [relay_decision C false _ u _ hinfo hfin] at hd
  obtain ⟨rfl, rfl⟩ := Prod.mk.inj (Option.some.inj hd)
  rw [relay_writes _ u hinfo] at hdec
  exact ⟨hs, hce, hcl, hk, hdec⟩

theorem relay_status (C : Cfg Z) (head dfl : Bool) (req h0 : Hdr) (pool : List Z) (before : List String) (u : UpResp)
    (hinfo : ∀ i ∈ u.info, informational i.1 = true) (hfin : informational u.code = false) :
    (serve C head dfl req h0 pool (relay before u)).obs.status = u.code := by
  rw [status_preserved, serveBare_eq, relay_decision C _ _ u _ hinfo hfin]

/-- Through the reverse proxy, with an expression configured: the response is compressed
exactly when the request passes `acceptsGzip`, is not HEAD, the upstream's final status allows a body, and the
header map at the reverse proxy's `WriteHeader` — the upstream's lines added to whatever survived the relayed
1xx responses — has no Content-Encoding and a Content-Type the expression matches. Chunking and flushing of the
copy loop play no role. -/
theorem proxy_compress_iff (C : Cfg Z) (head dfl : Bool) (req h0 : Hdr) (pool : List Z) (u : UpResp)
    (hinfo : ∀ i ∈ u.info, informational i.1 = true) (hfin : informational u.code = false) :
    (proxyServe C true head dfl req h0 pool u).compressed = true ↔
      acceptsGzip req = true ∧ head = false ∧ bodyAllowedForStatus u.code = true ∧
      hget (liveAtStatus ((hadd h0 hVary hAcceptEncoding).map (·.1)) u (hadd h0 hVary hAcceptEncoding)) hContentEncoding = "" ∧
      C.typeOk (hget (liveAtStatus ((hadd h0 hVary hAcceptEncoding).map (·.1)) u (hadd h0 hVary hAcceptEncoding)) hContentType) = true := by
  simp only [proxyServe_on]
  exact relay_compress_iff C head dfl req h0 pool _ u hinfo hfin

/-- A response compressed through the reverse proxy has the upstream's status, `Content-Encoding: gzip`, no
Content-Length, every other line as it stood at the reverse proxy's `WriteHeader`, and a body that decodes to
exactly the upstream's bytes — for every chunking of the copy loop, flushing or not. -/
theorem proxy_when_compressed (C : Cfg Z) (hrt : C.comp.RoundTrip) (head dfl : Bool) (req h0 : Hdr) (pool : List Z)
    (u : UpResp) (hinfo : ∀ i ∈ u.info, informational i.1 = true) (hfin : informational u.code = false)
    (hc : (proxyServe C true head dfl req h0 pool u).compressed = true) :
    (proxyServe C true head dfl req h0 pool u).obs.status = u.code ∧
    hget (proxyServe C true head dfl req h0 pool u).obs.hdr hContentEncoding = encGzip ∧
    hhasRaw (proxyServe C true head dfl req h0 pool u).obs.hdr hContentLength = false ∧
    (∀ k, k ≠ hContentLength → k ≠ hContentEncoding →
      hraw (proxyServe C true head dfl req h0 pool u).obs.hdr k =
        hraw (liveAtStatus ((hadd h0 hVary hAcceptEncoding).map (·.1)) u (hadd h0 hVary hAcceptEncoding)) k) ∧
    C.comp.decode (proxyServe C true head dfl req h0 pool u).obs.body = some u.chunks.flatten := by
  simp only [proxyServe_on] at hc ⊢
  exact relay_when_compressed C hrt head dfl req h0 pool _ u hinfo hfin hc

/-- An upstream response that arrives with a non-empty first Content-Encoding
line (no relayed 1xx left one in the map before) is never compressed again: the client gets what the reverse
proxy would have written to the bare writer carrying the `Vary` line. -/
theorem encoded_upstream_untouched (C : Cfg Z) (head dfl : Bool) (req h0 : Hdr) (pool : List Z) (u : UpResp)
    (hinfo : ∀ i ∈ u.info, informational i.1 = true) (hfin : informational u.code = false)
    (v : String) (rest : List String) (hv : v ≠ "")
    (hl : lineVals u.hdr hContentEncoding = v :: rest)
    (hnone : hraw (hops ((u.info.map (relayInfo ((hadd h0 hVary hAcceptEncoding).map (·.1)))).flatten)
        (hadd h0 hVary hAcceptEncoding)) hContentEncoding = none) :
    (proxyServe C true head dfl req h0 pool u).compressed = false ∧
    (proxyServe C true head dfl req h0 pool u).obs =
      serveBare C (flusherOffered head dfl req) h0 (relay ((hadd h0 hVary hAcceptEncoding).map (·.1)) u) := by
  have hnc : (proxyServe C true head dfl req h0 pool u).compressed = false :=
    Bool.eq_false_iff.mpr fun hc => by
      obtain ⟨_, _, _, he, _⟩ := (proxy_compress_iff C head dfl req h0 pool u hinfo hfin).mp hc
      rw [liveAtStatus, encoded_line_seen u.hdr _ v rest hnone hl] at he
      exact hv he
  simp only [proxyServe_on] at hnc ⊢
  exact ⟨hnc, otherwise_identical C head dfl req h0 pool _ hnc⟩

def exchHtml : Exch := { head := false, dfl := true, req := reqGzip, h0 := [], ops := script1 }
def scriptPng : List Op := [.set "Content-Type" "image/png", .w [9, 9]]
def exchPng : Exch := { head := false, dfl := true, req := reqGzip, h0 := [], ops := scriptPng }

def upHtml : UpResp :=
  { info := [(103, [("Link", "</a.css>; rel=preload")])], code := 200,
    hdr := [("content-type", "text/html"), ("Content-Length", "3"), ("X-Up", "1")],
    chunks := [[1], [2, 3]], flushEach := true }
def upEncoded : UpResp := { upHtml with hdr := ("Content-Encoding", "br") :: upHtml.hdr }

structure ToyVectors : Prop where
  seq_pools :
    ((serveSeq toyCfg [] [exchHtml, exchPng, exchHtml]).map (·.pool)) = [[3], [3], [3]]
  configure_cases :
    configure "" true = .off ∧ configure "^text/" true = .on ∧ configure "(" false = .invalid
  html_served :
    (proxyServe toyCfg true false true reqGzip [] [] upHtml).compressed = true ∧
    (proxyServe toyCfg true false true reqGzip [] [] upHtml).obs =
      { status := 200, body := [1, 2, 3],
        hdr := [("Content-Type", ["text/html"]), ("X-Up", ["1"]), ("Content-Encoding", ["gzip"])] }
  unconfigured_hdr :
    (proxyServe toyCfg false false true reqGzip [] [] { upHtml with info := [] }).obs.hdr =
      [("Content-Type", ["text/html"]), ("Content-Length", ["3"]), ("X-Up", ["1"])]
  encoded_line :
    lineVals upEncoded.hdr hContentEncoding = ["br"]
  html_info_informational :
    ∀ i ∈ upHtml.info, informational i.1 = true
  html_code_final :
    informational upHtml.code = false
  encoded_no_earlier_line :
    hraw (hops ((upEncoded.info.map (relayInfo ((hadd [] hVary hAcceptEncoding).map (·.1)))).flatten)
      (hadd [] hVary hAcceptEncoding)) hContentEncoding = none

instance : Decidable ToyVectors :=
  decidable_of_iff (_ ∧ _ ∧ _ ∧ _ ∧ _ ∧ _ ∧ _ ∧ _)
    ⟨fun ⟨h1, h2, h3, h4, h5, h6, h7, h8⟩ => ⟨h1, h2, h3, h4, h5, h6, h7, h8⟩,
     fun h => ⟨h.1, h.2, h.3, h.4, h.5, h.6, h.7, h.8⟩⟩

/-- Evaluated together, the kernel computes the header names and comparisons the vectors share once. -/
theorem toy_vectors : ToyVectors := by
  decide +kernel

-- three exchanges over one handler; the third reuses the writer the first one put back (state 3: the chunks of `script1`)
example : ((serveSeq toyCfg [] [exchHtml, exchPng, exchHtml]).map (·.pool)) = [[3], [3], [3]] := toy_vectors.seq_pools
example : (serveSeq toyCfg [5] [exchHtml, exchPng, exchHtml]).map (Served.view toyCfg) =
    [exchHtml, exchPng, exchHtml].map (fun e => (serve toyCfg e.head e.dfl e.req e.h0 [] e.ops).view toyCfg) :=
  history_independent toyCfg toy_roundtrip [5] _

example : configure "" true = .off ∧ configure "^text/" true = .on ∧ configure "(" false = .invalid := toy_vectors.configure_cases

-- compressed through the proxy: the relayed 103 took the Vary line with it (`clear(h)`), Content-Length is gone
example : (proxyServe toyCfg true false true reqGzip [] [] upHtml).compressed = true ∧
    (proxyServe toyCfg true false true reqGzip [] [] upHtml).obs =
      { status := 200, body := [1, 2, 3],
        hdr := [("Content-Type", ["text/html"]), ("X-Up", ["1"]), ("Content-Encoding", ["gzip"])] } := toy_vectors.html_served
example : (proxyServe toyCfg true false true reqGzip [] [] upHtml).obs.status = 200 ∧
    toyCfg.comp.decode (proxyServe toyCfg true false true reqGzip [] [] upHtml).obs.body = some [1, 2, 3] :=
  let v := toy_vectors
  let h := proxy_when_compressed toyCfg toy_roundtrip false true reqGzip [] [] upHtml v.html_info_informational
    v.html_code_final v.html_served.1
  ⟨h.1, h.2.2.2.2⟩
-- the hypotheses of `encoded_upstream_untouched` are satisfiable
example : (proxyServe toyCfg true false true reqGzip [] [] upEncoded).compressed = false :=
  let v := toy_vectors
  (encoded_upstream_untouched toyCfg false true reqGzip [] [] upEncoded v.html_info_informational v.html_code_final
    "br" [] (by decide) v.encoded_line v.encoded_no_earlier_line).1
example : (proxyServe toyCfg false false true reqGzip [] [] { upHtml with info := [] }).obs.hdr =
    [("Content-Type", ["text/html"]), ("Content-Length", ["3"]), ("X-Up", ["1"])] := toy_vectors.unconfigured_hdr
example : lineVals upEncoded.hdr hContentEncoding = ["br"] := toy_vectors.encoded_line

end Fabio.Props.C17Proxy
