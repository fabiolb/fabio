import Fabio.Generated.C16
import Fabio.Model.C16
/-!
CHANGE DETECTORS for C16 (`"pins_module"` in checks/C16.json): the shape of sequential, deterministic code whose
input/output behaviour a correspondence stream compares with the model on every run. When one of these stops
building nothing is claimed broken — the streams run at the widened budget and decide. Each names the stream
that carries the tie. The lists are *event lists in role names* (header of `tools/factgen/c16.go`): normalised
source, unexported helpers followed, variables named by role (`recv`, `p<i>`, `c<i>`, `looked`, `<callee>#<i>`,
`lit#T`, `made#T`, `rk/rv<n>`), `[g₁ && g₂] e` = event e under the conditions g₁, g₂.
-/
namespace Fabio.Props.C16Pins
open Fabio Fabio.Generated.C16

/-- the metadata key and the alternatives of `getDestinationHostFromMetadata` — `c16.call` (`dsthost` absent,
once, twice, empty, in other spellings; the model's `dstHost` selects among the table's answers) -/
theorem dsthost_key_pinned :
    dsthostKey.toList = Model.C16.dsthostKey ∧
    dsthostResults = ["[!(len(p0[\"dsthost\"]) == 1)] ret \"\"", "[len(p0[\"dsthost\"]) == 1] ret p0[\"dsthost\"][0]"] := ⟨by decide +kernel, rfl⟩

/-- the request built for the lookup and where its parts come from — `c16.call` (routing oracle per host) -/
theorem lookup_request_pinned :
    lookupRequest = ["lit http.Request {Header=_; Host=recv.getDestinationHostFromMetadata(FromIncomingContext#0); URL=ParseRequestURI#0}", "lit http.Request {Header=_}}"] ∧
    lookupInputs = ["call metadata.FromIncomingContext(p1.Context())", "call url.ParseRequestURI(p2.FullMethod)", "call metadata.FromIncomingContext(p1.Context())"] := ⟨rfl, rfl⟩

/-- the whole flow of `Stream` with guards, statuses and messages — `c16.call` (NotFound / Internal / forward),
`c16.serve` (access gate), C12's `c12.grpc` (auth gate); the order relation the proofs need is the obligation
`C16Facts.stream_gates_precede_the_handler` -/
theorem lookup_calls_table_lookup_once :
    streamFlow = ["call route.GetTable().Lookup(lit#http.Request, lit#http.Request.Header.Get(\"trace\"), route.Picker[recv.Config.Proxy.Strategy], route.Matcher[recv.Config.Proxy.Matcher], recv.GlobCache, recv.Config.GlobMatchingDisabled)", "[lookedErr != nil] ret status.Error(codes.Internal, \"internal error\")", "[!(lookedErr != nil) && looked == nil] ret status.Error(codes.NotFound, \"no route found\")", "[!(lookedErr != nil) && !(looked == nil) && looked.AccessDeniedAddr(remote)] ret status.Error(codes.PermissionDenied, \"access denied\")", "[!(lookedErr != nil) && !(looked == nil) && !(looked.AccessDeniedAddr(remote)) && looked.AuthScheme != \"\" && !looked.Authorized(lit#http.Request, nopResponseWriter{http.Header{}}, recv.AuthSchemes)] ret status.Error(codes.Unauthenticated, \"unauthorized\")", "[!(lookedErr != nil) && !(looked == nil) && !(looked.AccessDeniedAddr(remote))] call p3"] := rfl

/-- `Stream` calls the handler at one place and its flow has six entries: those of
`lookup_calls_table_lookup_once`, where the return of `NotFound` for a nil target is the third and the call of the
handler the last — `c16.call` (NotFound) -/
theorem nil_target_returns_notfound_before_handler :
    streamHandlerCalls = 1 ∧ streamFlow.length = 6 := ⟨rfl, rfl⟩

/-- the director's calls (metadata copied, pool asked with the context's target) and the pool key — `c16.call`
(metadata arrives unchanged), `c16.pool` (one address under several paths and schemes = several keys) -/
theorem director_copies_metadata_and_uses_pool :
    directorCalls = ["call metadata.FromIncomingContext(c0)", "call FromIncomingContext#0.Copy()", "call metadata.NewOutgoingContext(c0, FromIncomingContext#0.Copy())", "call c0.Value(key{})", "call made#*grpcConnectionPool.Get(metadata.NewOutgoingContext(c0, FromIncomingContext#0.Copy()), c0.Value(key{}).(*route.Target))"] ∧
    targetKeyReturns = ["ret p0.URL.String()"] := ⟨rfl, rfl⟩

/-- `Get` — `c16.pool` (hit / miss / dial error with connection ids); an edit that makes `Get` dial although a
live connection is pooled is invisible to callers (the repaired `Set` closes the newcomer and hands back the
pooled one): a change detector is all there can be -/
theorem pool_get_shape :
    poolGet = ["call recv.lock.RLock()", "call recv.lock.RUnlock()", "call recv.connections[makeGRPCTargetKey(p1)].GetState()", "[recv.connections[makeGRPCTargetKey(p1)] != nil && recv.connections[makeGRPCTargetKey(p1)].GetState() != connectivity.Shutdown] ret recv.connections[makeGRPCTargetKey(p1)], nil", "[!(recv.connections[makeGRPCTargetKey(p1)] != nil && recv.connections[makeGRPCTargetKey(p1)].GetState() != connectivity.Shutdown)] call grpc.DialContext(p0, p1.URL.Host)", "[!(recv.connections[makeGRPCTargetKey(p1)] != nil && recv.connections[makeGRPCTargetKey(p1)].GetState() != connectivity.Shutdown) && DialContext#1 == nil] call recv.Set(p1, DialContext#0)", "[!(recv.connections[makeGRPCTargetKey(p1)] != nil && recv.connections[makeGRPCTargetKey(p1)].GetState() != connectivity.Shutdown)] ret recv.Set(p1, DialContext#0), DialContext#1", "[!(recv.connections[makeGRPCTargetKey(p1)] != nil && recv.connections[makeGRPCTargetKey(p1)].GetState() != connectivity.Shutdown)] ret <inlined>"] := rfl

/-- `Set` — `c16.race` (2–8 concurrent first callers: one shared connection, nothing left open) -/
theorem pool_set_shape :
    poolSet = ["call recv.lock.Lock()", "defer recv.lock.Unlock()", "call recv.connections[makeGRPCTargetKey(p0)].GetState()", "[recv.connections[makeGRPCTargetKey(p0)] != nil && recv.connections[makeGRPCTargetKey(p0)] != p1 && recv.connections[makeGRPCTargetKey(p0)].GetState() != connectivity.Shutdown] call p1.Close()", "[recv.connections[makeGRPCTargetKey(p0)] != nil && recv.connections[makeGRPCTargetKey(p0)] != p1 && recv.connections[makeGRPCTargetKey(p0)].GetState() != connectivity.Shutdown] ret recv.connections[makeGRPCTargetKey(p0)]", "[!(recv.connections[makeGRPCTargetKey(p0)] != nil && recv.connections[makeGRPCTargetKey(p0)] != p1 && recv.connections[makeGRPCTargetKey(p0)].GetState() != connectivity.Shutdown)] store recv.connections[makeGRPCTargetKey(p0)] = p1", "[!(recv.connections[makeGRPCTargetKey(p0)] != nil && recv.connections[makeGRPCTargetKey(p0)] != p1 && recv.connections[makeGRPCTargetKey(p0)].GetState() != connectivity.Shutdown)] ret p1"] := rfl

/-- the cleanup loop, `hasTarget`, the interval and the single start — `c16.pool` (keys after every cleanup, which
connections the closer closed, over grpc / grpcs / http targets), `c16.live` (the real 5 s timer) -/
theorem cleanup_shape :
    poolCleanup = ["call recv.lock.Lock()", "call route.GetTable()", "range recv.connections", "call rv1.GetState()", "[rv1.GetState() == connectivity.Shutdown] call delete(recv.connections, rk1)", "[!(rv1.GetState() == connectivity.Shutdown)] range route.GetTable()", "[!(rv1.GetState() == connectivity.Shutdown)] range rv2", "[!(rv1.GetState() == connectivity.Shutdown)] range rv3.Targets", "[!(rv1.GetState() == connectivity.Shutdown) && !hasTarget(rk1, route.GetTable())] call rv1.WaitForStateChange(WithTimeout#0, rv1.GetState())", "[!(rv1.GetState() == connectivity.Shutdown) && !hasTarget(rk1, route.GetTable())] call rv1.Close()", "[!(rv1.GetState() == connectivity.Shutdown) && !hasTarget(rk1, route.GetTable())] call delete(recv.connections, rk1)", "call recv.lock.Unlock()", "call time.Sleep(recv.cleanupInterval)"] ∧
    hasTargetReturns = ["range p1", "range rv1", "range rv2.Targets", "[p0 == makeGRPCTargetKey(rv3)] ret true", "ret false"] ∧
    cleanupIntervalSeconds = 5 ∧
    cleanupGoroutinesStarted = 1 := ⟨rfl, rfl, rfl, rfl⟩

/-- `main.newGrpcProxy` and `ListenAndServeGRPC` — `c16.serve` executes them in the real binary (limits from
their own options, one director per listener built from that listener's TLS configuration) -/
theorem proxy_wiring_pinned :
    grpcServerOptions = ["grpc.CustomCodec(grpc_proxy.Codec())", "grpc.MaxRecvMsgSize(p0.Proxy.GRPCMaxRxMsgSize)", "grpc.MaxSendMsgSize(p0.Proxy.GRPCMaxTxMsgSize)", "grpc.StatsHandler(p2)", "grpc.StreamInterceptor(lit#proxy.GrpcProxyInterceptor.Stream)", "grpc.UnknownServiceHandler(grpc_proxy.TransparentHandler(proxy.GetGRPCDirector(p1, p0)))"] ∧
    grpcInterceptorLit = ["lit proxy.GrpcProxyInterceptor {AuthSchemes=LoadAuthSchemes#0; Config=p0; GlobCache=route.NewGlobCache(p0.GlobCacheSize); StatsHandler=p2}"] ∧
    grpcNewServer = ["[!(ListenTCP#1 != nil)] call grpc.NewServer(p1...)"] := ⟨rfl, rfl, rfl⟩

/-- the relay library: the operations on the two streams in grpc-proxy's two forwarding goroutines and in the
cases of its handler's `select`, read from the module version the repo's `go.mod` selects (module cache) — the
micro-steps `Model/C16Relay.lean` interleaves (`RecvMsg`; `Header` + `SendHeader` before the first `SendMsg`;
`CloseSend` on `io.EOF`, cancel + `Internal` otherwise; `SetTrailer(Trailer())` + the backend's error). `c16.call`
compares every forwarded call with that model. Empty lists = module source not found. -/
theorem relay_library_pinned :
    relayClientToServerOps = ["src.RecvMsg", "src.Header", "dst.SendHeader", "dst.SendMsg"] ∧
    relayServerToClientOps = ["src.RecvMsg", "dst.SendMsg"] ∧
    relaySelectCases = ["case s2cErr := <-s2cErrChan: clientStream.CloseSend; clientCancel; return status.Errorf(codes.Internal, \"failed proxying s2c: %v\", s2cErr)", "case c2sErr := <-c2sErrChan: serverStream.SetTrailer; clientStream.Trailer; return c2sErr; return nil"] := ⟨rfl, rfl, rfl⟩

end Fabio.Props.C16Pins
