import Fabio.Model.C12Parse
import Fabio.Model.C12Auth
import Fabio.Lemmas.C12Auth
import Fabio.Lemmas.Lit
import Fabio.Props.C12
import Fabio.Props.C12Serve
/-!
C12 — the request as the gate sees it: the credentials are what `Request.BasicAuth` reads out of the first
`Authorization` line (scheme word, base64, first colon), the forwarded addresses are all `X-Forwarded-For` lines of
the same request, and the sentences of the property are stated end to end over `serveReq`: option *texts* of the
looked-up target, peer text, header list → what is attempted towards which upstream.

All statements hold for every `Parsers`, every scheme table, every lookup sequence, every request.
-/
namespace Fabio.Props.C12Auth
open Fabio Fabio.Model.C12 Fabio.Lemmas.C12

theorem b64_roundtrip (bs : List Nat) (h : ∀ b ∈ bs, b < 256) : b64DecodeString (b64Enc bs) = some bs :=
  b64DecodeString_b64Enc bs h

/-- What a conforming client sends for a pair — `Basic ` + base64 of `user:password`, the user name without a colon,
the password whatever it is (empty, with colons) — is read back by `BasicAuth` as exactly that pair. -/
theorem basic_header_roundtrip (u p : List Char) (hu : ∀ c ∈ u, c ≠ ':') (hb : ∀ c ∈ u ++ ':' :: p, c.toNat < 256) :
    parseBasicAuth (basicHeader u p) = some (u, p) := by
  have hbytes : ∀ b ∈ charsToBytes (u ++ ':' :: p), b < 256 := by
    intro b hb'
    simp only [charsToBytes, List.mem_map] at hb'
    obtain ⟨c, hc, rfl⟩ := hb'
    exact hb c hc
  rw [basicHeader, parseBasicAuth_basic, b64DecodeString_b64Enc _ hbytes, Option.bind_some, bytesToChars_charsToBytes]
  exact cut_append ':' u p hu

/-- Conversely, a pair read out of a header is determined by the header: the decoded payload is `user:password`
with the *first* colon as separator — there is exactly one reading. -/
theorem parseBasicAuth_sound (a u p : List Char) (h : parseBasicAuth a = some (u, p)) :
    6 ≤ a.length ∧ lowerL (a.take 6) = "basic ".toList ∧
    ∃ bs, b64DecodeString (a.drop 6) = some bs ∧ bytesToChars bs = u ++ ':' :: p ∧ ∀ c ∈ u, c ≠ ':' := by
  unfold parseBasicAuth at h
  split at h
  · cases h
  · rename_i hl
    split at h
    · cases h
    · rename_i hp
      split at h
      · cases h
      · rename_i bs hd
        obtain ⟨h1, h2⟩ := cut_some ':' _ u p h
        exact ⟨by omega, by simpa using hp, bs, hd, h1, h2⟩

/-- No `Authorization` line: no credentials. (A line that is not a Basic header — other scheme word, broken base64,
payload without colon — gives none either: the examples under "refused".) -/
theorem no_header_no_credentials (r : Req) (h : headerValues hAuthorization r.headers = []) : basicAuthOf r = none := by
  rw [basicAuthOf_eq, headerGet, h]; rfl

/-- Two requests with the same first `Authorization` line are judged alike by every route: the method (`OPTIONS`,
`CONNECT`, …), every other header (`Origin`, `Access-Control-Request-Method`, `Upgrade`, `X-Forwarded-For`, further
`Authorization` lines, …) and their order have no influence. -/
theorem auth_reads_only_authorization (scheme : List Char) (schemes : List (List Char × List (List Char × List Char)))
    (r r' : Req) (h : headerGet hAuthorization r.headers = headerGet hAuthorization r'.headers) :
    authorizedReq scheme schemes r = authorizedReq scheme schemes r' :=
  Bool.eq_iff_iff.mpr (by simp only [authorizedReq, authorized_basic_iff, h])

/-- A request is authorized exactly when the route names no scheme, or names a registered scheme and the request's first
`Authorization` line is a Basic header whose pair the scheme's htpasswd file stores (`Accepts`). In particular an unknown
scheme rejects everything and so do missing credentials. -/
theorem authorizedReq_iff (scheme : List Char) (schemes : List (List Char × List (List Char × List Char))) (r : Req) :
    authorizedReq scheme schemes r = true ↔ Accepts schemes scheme r := by
  simp only [Accepts, authorizedReq, authorized_basic_iff, basicVerdict_iff, exists_and_left]

theorem accepted_needs_stored_pair (scheme : List Char) (schemes : List (List Char × List (List Char × List Char)))
    (r : Req) (h : authorizedReq scheme schemes r = true) : Accepts schemes scheme r :=
  (authorizedReq_iff scheme schemes r).mp h

/-- … and the gate is not stricter than that: the header a conforming client builds from a stored pair is accepted,
whatever else the request carries. -/
theorem stored_pair_accepted (scheme : List Char) (schemes : List (List Char × List (List Char × List Char)))
    (file : List (List Char × List Char)) (u p : List Char) (r : Req)
    (hk : schemes.lookup scheme = some file) (hf : file.lookup u = some p)
    (hu : ∀ c ∈ u, c ≠ ':') (hb : ∀ c ∈ u ++ ':' :: p, c.toNat < 256)
    (hh : headerGet hAuthorization r.headers = basicHeader u p) :
    authorizedReq scheme schemes r = true :=
  (authorizedReq_iff scheme schemes r).mpr
    (.inr ⟨file, u, p, hk, by rw [hh, basic_header_roundtrip u p hu hb], hf⟩)

/-- "A request is forwarded to an upstream only if the route's access rules admit the peer address and every address
listed in X-Forwarded-For and the route's authentication scheme accepts the credentials", as an equivalence: a
connection to upstream `u` is attempted exactly when the lookup found a target with upstream `u` whose rules admit the
request (`Admits`: peer host and every `X-Forwarded-For` element that is an address and not textually the peer host),
whose scheme is absent or registered with the pair of the `Authorization` line in its file (`Accepts`), and which has no
redirect answer. -/
theorem forwarded_iff (P : Parsers) (schemes : List (List Char × List (List Char × List Char)))
    (lk : Nat → Option TargetM) (alive : Nat → Bool) (remote : List Char) (r : Req) (u : Nat) :
    (serveReq P schemes lk alive remote r).attempted = some u ↔
      ∃ t, lk 0 = some t ∧ t.up = u ∧ Admits P t.rules remote (headerValues hXFF r.headers) ∧
        Accepts schemes t.scheme r ∧ t.redirect = 0 := by
  simp only [serveReq, serveHTTP_attempted_iff, accessDeniedHTTP_false_iff, authorizedReq_iff]

theorem forwarded_only_if (P : Parsers) (schemes : List (List Char × List (List Char × List Char)))
    (lk : Nat → Option TargetM) (alive : Nat → Bool) (remote : List Char) (r : Req) (u : Nat)
    (h : (serveReq P schemes lk alive remote r).attempted = some u) :
    ∃ t, lk 0 = some t ∧ t.up = u ∧ Admits P t.rules remote (headerValues hXFF r.headers) ∧
      Accepts schemes t.scheme r ∧ t.redirect = 0 :=
  (forwarded_iff P schemes lk alive remote r u).mp h

/-- The same with the target built by `addTarget` from the option *texts* of the route command: the options parsed
(a rule that cannot be parsed never widens access — such a target is forwarded for nobody), an `allow=` list admits
only addresses inside one of its blocks, with a `deny=` list alone the addresses are outside all of its blocks. -/
theorem forwarded_only_if_options (P : Parsers) (schemes : List (List Char × List (List Char × List Char)))
    (o : Opts) (up : Nat) (lk : Nat → Option TargetM) (alive : Nat → Bool) (remote : List Char) (r : Req) (u : Nat)
    (hl : lk 0 = some (addTarget P o up))
    (h : (serveReq P schemes lk alive remote r).attempted = some u) :
    u = up ∧ (processAccessRules P o.allow o.deny).2 = none ∧ redirectCode o.redirect = 0 ∧
    (o.auth = [] ∨ ∃ file us pw, schemes.lookup o.auth = some file ∧
        parseBasicAuth (headerGet hAuthorization r.headers) = some (us, pw) ∧ file.lookup us = some pw) ∧
    ∀ rules, rules = (processAccessRules P o.allow o.deny).1 → rules.isEmpty = false →
      ∃ host ip, P.splitHostPort remote = some host ∧ P.parseIP (stripZone host) = some ip ∧
        (∀ bs, rules.allow = some bs → ∃ b ∈ bs, b.contains ip = true) ∧
        (∀ bs, rules.allow = none → rules.deny = some bs → ∀ b ∈ bs, b.contains ip = false) ∧
        ∀ line ∈ headerValues hXFF r.headers, ∀ x ∈ splitOn ',' line, trimSpace x ≠ host →
          ∀ ip', P.parseIP (stripZone (trimSpace x)) = some ip' →
            (∀ bs, rules.allow = some bs → ∃ b ∈ bs, b.contains ip' = true) ∧
            (∀ bs, rules.allow = none → rules.deny = some bs → ∀ b ∈ bs, b.contains ip' = false) := by
  obtain ⟨t, hl', hu, hrules, hauth, hred⟩ := forwarded_only_if P schemes lk alive remote r u h
  rw [hl] at hl'
  cases hl'
  have herr : (processAccessRules P o.allow o.deny).2 = none := by
    cases he : (processAccessRules P o.allow o.deny).2 with
    | none => rfl
    | some e =>
      cases ((Props.C12.unparsable_rule_never_widens P o.allow o.deny e he).1 remote _).symm.trans
        ((accessDeniedHTTP_false_iff P (addTarget P o up).rules remote _).mpr hrules)
  refine ⟨hu.symm, herr, hred, hauth, ?_⟩
  intro rules hrdef hne
  have hrt : (addTarget P o up).rules = rules := by rw [hrdef]; rfl
  rw [hrt] at hrules
  obtain ⟨host, ip, hs, hp, hd, hx⟩ := hrules.checked hne
  refine ⟨host, ip, hs, hp, (not_denied_inside_outside hd).1, (not_denied_inside_outside hd).2, ?_⟩
  intro line hline x hxm hne' ip' hp'
  exact not_denied_inside_outside (hx line hline x hxm hne' ip' hp')

/-- "… otherwise the client gets 403 or 401 and no upstream is contacted": with a target found, a request the
rules deny is answered `forbidden`, one the rules admit but the scheme does not accept `unauthorized`; in both cases
nothing is attempted. -/
theorem otherwise_403_or_401 (P : Parsers) (schemes : List (List Char × List (List Char × List Char)))
    (lk : Nat → Option TargetM) (alive : Nat → Bool) (remote : List Char) (r : Req) (t : TargetM)
    (hl : lk 0 = some t) :
    (accessDeniedHTTP P t.rules remote (headerValues hXFF r.headers) = true →
      serveReq P schemes lk alive remote r = .forbidden) ∧
    (accessDeniedHTTP P t.rules remote (headerValues hXFF r.headers) = false →
      authorizedReq t.scheme schemes r = false → serveReq P schemes lk alive remote r = .unauthorized) ∧
    (serveReq P schemes lk alive remote r = .forbidden ∨ serveReq P schemes lk alive remote r = .unauthorized →
      (serveReq P schemes lk alive remote r).attempted = none) := by
  exact ⟨serveHTTP_denied hl, fun hd ha => serveHTTP_unauthorized hl hd ha,
    fun h => Props.C12Serve.refused_attempts_nothing _ (.inr (h.imp_right .inl))⟩

/-- An address anywhere in the forwarded chain counts — on whichever header line and at whichever position, however
long the chain: if some element of some `X-Forwarded-For` line is an address the rules deny (and is not textually the
peer host), the request is answered `forbidden`. -/
theorem denied_forwarded_address_refuses (P : Parsers) (schemes : List (List Char × List (List Char × List Char)))
    (lk : Nat → Option TargetM) (alive : Nat → Bool) (remote : List Char) (r : Req) (t : TargetM)
    (hl : lk 0 = some t) (host : List Char) (hs : P.splitHostPort remote = some host)
    (line x : List Char) (hline : line ∈ headerValues hXFF r.headers) (hx : x ∈ splitOn ',' line)
    (hne : trimSpace x ≠ host) (ip : IP) (hp : P.parseIP (stripZone (trimSpace x)) = some ip)
    (hd : denyByIP t.rules (some ip) = true) :
    serveReq P schemes lk alive remote r = .forbidden := by
  refine serveHTTP_denied hl (Bool.of_not_eq_false fun hden => ?_)
  have he : t.rules.isEmpty = false := Bool.of_not_eq_true fun he => by simp [denyByIP, he] at hd
  rw [Props.C12.xff_every_element_checked P t.rules remote host _ he hs hden line hline x hx hne ip hp] at hd
  cases hd

/-- The model's `accessDeniedHTTP` (every element of every line) is the code as written (join the lines with commas,
skip the loop when the joined text is empty, split at commas) — for every parser that does not read the empty text
as an address. -/
theorem accessDeniedHTTP_eq_lit (P : Parsers) (hP : P.parseIP [] = none) (r : Rules) (remote : List Char)
    (xff : List (List Char)) : accessDeniedHTTP P r remote xff = accessDeniedHTTPLit P r remote xff := by
  unfold accessDeniedHTTP accessDeniedHTTPLit
  cases xff with
  | nil => rfl
  | cons l ls =>
    rw [xffElems, ← splitOn_joinComma]
    cases joinComma (l :: ls) with
    | nil => simp only [splitOn, xffDenied_empty_elem P r _ hP]; rfl
    | cons c cs => rfl

section examples
open Parse

-- `b64Char` reads the 64-character alphabet literal; with the encoder unrolled and the literal unfolded to a character
-- list, the evaluation decodes no string
example : b64Enc (charsToBytes "alice:secret".toList) = "YWxpY2U6c2VjcmV0".toList := by
  simp only [toList_lit rfl, charsToBytes, List.map, b64Enc]
  unfold b64Char b64Alphabet
  simp only [toList_lit rfl]; decide +kernel
example : parseBasicAuth "Basic YWxpY2U6c2VjcmV0".toList = some ("alice".toList, "secret".toList) := by
  simp only [toList_lit rfl]; decide +kernel
example : parseBasicAuth "bAsIc YWxpY2U6c2VjcmV0".toList = some ("alice".toList, "secret".toList) := by
  simp only [toList_lit rfl]; decide +kernel
-- one byte / two bytes in the last quantum, trailing bits not zero, CR LF inside
example : parseBasicAuth "Basic YTo=".toList = some ("a".toList, []) := by
  simp only [toList_lit rfl]; decide +kernel
example : parseBasicAuth "Basic YTp=".toList = some ("a".toList, []) := by
  simp only [toList_lit rfl]; decide +kernel
example : parseBasicAuth "Basic YT\r\npi".toList = some ("a".toList, "b".toList) := by
  simp only [toList_lit rfl]; decide +kernel
example : parseBasicAuth "Basic OmE6Yg==".toList = some ([], "a:b".toList) := by
  simp only [toList_lit rfl]; decide +kernel
-- refused: no padding, padding too early, garbage behind the padding, two blanks, other scheme word, no colon
example : parseBasicAuth "Basic YTo".toList = none := by
  simp only [toList_lit rfl]; decide +kernel
example : parseBasicAuth "Basic Y=o=".toList = none := by
  simp only [toList_lit rfl]; decide +kernel
example : parseBasicAuth "Basic YTo=YTo=".toList = none := by
  simp only [toList_lit rfl]; decide +kernel
example : parseBasicAuth "Basic  YTo=".toList = none := by
  simp only [toList_lit rfl]; decide +kernel
example : parseBasicAuth "Bearer YTo=".toList = none := by
  simp only [toList_lit rfl]; decide +kernel
example : parseBasicAuth "Basic YWxpY2U=".toList = none := by
  simp only [toList_lit rfl]; decide +kernel
example : parseBasicAuth "Basic".toList = none := by
  simp only [toList_lit rfl]; decide +kernel

private def schemes1 : List (List Char × List (List Char × List Char)) :=
  [("basic".toList, [("alice".toList, "secret".toList)])]
private def pre : Req :=
  ⟨"OPTIONS".toList, [("Origin".toList, "http://x".toList), ("Access-Control-Request-Method".toList, "PUT".toList)]⟩
private def good : Req := { headers := [(hAuthorization, "Basic YWxpY2U6c2VjcmV0".toList)] }
private def t1 : TargetM := addTarget goParsers { allow := "ip:127.0.0.0/8".toList, auth := "basic".toList } 0

-- the two header names are literals inside the model: its definitions down to them are unfolded with the test vector
-- a CORS preflight without credentials is a request without credentials
example : authorizedReq "basic".toList schemes1 pre = false := by
  unfold schemes1 pre authorizedReq basicAuthOf hAuthorization; simp only [toList_lit rfl]; decide +kernel
example : authorizedReq "nope".toList schemes1 good = false := by
  unfold schemes1 good authorizedReq basicAuthOf hAuthorization; simp only [toList_lit rfl]; decide +kernel
example : serveReq goParsers schemes1 (fun _ => some t1) (fun _ => true) "127.0.0.1:9".toList good = .served 0 := by
  unfold schemes1 good t1 serveReq authorizedReq basicAuthOf hXFF hAuthorization; simp only [toList_lit rfl]
  decide +kernel
example : serveReq goParsers schemes1 (fun _ => some t1) (fun _ => true) "127.0.0.1:9".toList pre = .unauthorized := by
  unfold schemes1 pre t1 serveReq authorizedReq basicAuthOf hXFF hAuthorization; simp only [toList_lit rfl]
  decide +kernel
-- the second Authorization line does not count, the seventeenth forwarded address does
example : authorizedReq "basic".toList schemes1
    { headers := [(hAuthorization, "Basic eDp5".toList), (hAuthorization, "Basic YWxpY2U6c2VjcmV0".toList)] } = false := by
  unfold schemes1 authorizedReq basicAuthOf hAuthorization; simp only [toList_lit rfl]; decide +kernel
example : serveReq goParsers schemes1 (fun _ => some t1) (fun _ => true) "127.0.0.1:9".toList
    { headers := (hXFF, (String.intercalate "," (List.replicate 16 "127.0.0.2") ++ ",9.9.9.9").toList) :: good.headers }
    = .forbidden := by
  unfold schemes1 good t1 serveReq authorizedReq basicAuthOf hXFF hAuthorization
  simp only [String.toList_append, String.toList_intercalate, List.map_replicate, toList_lit rfl]
  decide +kernel
example : goParsers.parseIP [] = none := by decide +kernel
example : accessDeniedHTTPLit goParsers t1.rules "127.0.0.1:9".toList ["127.0.0.2".toList, [], " 9.9.9.9,".toList] = true := by
  unfold t1; simp only [toList_lit rfl]; decide +kernel
example : accessDeniedHTTPLit goParsers t1.rules "127.0.0.1:9".toList [[], []] = false := by
  unfold t1; simp only [toList_lit rfl]; decide +kernel
example : canonKey "x-forwarded-for".toList = hXFF := by
  unfold hXFF; simp only [toList_lit rfl]; unfold canonKey isTokenChar; simp only [toList_lit rfl]; decide +kernel
example : canonKey "AUTHORIZATION".toList = hAuthorization := by
  unfold hAuthorization; simp only [toList_lit rfl]; decide +kernel
example : canonKey "a b".toList = "a b".toList := by
  unfold canonKey isTokenChar; simp only [toList_lit rfl]; decide +kernel
end examples

end Fabio.Props.C12Auth
