import Fabio.Lemmas.C03
import Fabio.Lemmas.Lit
/-!
C03 — a request is routed to the most specific matching route: property theorems over the model
`Fabio.Model.C03` (for every table, request, host-glob function, path matcher, picker; both values of
`globDisabled`).
-/
namespace Fabio.Props.C03
open Fabio Fabio.Model.Route Fabio.Model.C03 Fabio.Lemmas.C03

/-- the host keys `Lookup` tries before the host-less fallback, most specific first -/
def matched (cfg : Cfg) (t : Table) (req : Req) : List Str :=
  if cfg.globDisabled then matchingHostNoGlob t req.host req.tls
  else matchingHosts cfg.globMatch t req.host req.tls

/-- `t.lookup(h, req.URL.Path, …)` -/
def look (cfg : Cfg) (t : Table) (req : Req) (h : Str) : Option (Route × Target) :=
  lookup cfg.pathMatch cfg.pick t h req.path

/-- "the route's host pattern matches the request host (case-insensitively, default port removed)":
with host globbing the key's normalised form, compiled as a glob, matches the normalised request host;
without it the two normalised strings are equal. -/
def HostMatches (cfg : Cfg) (t : Table) (req : Req) (h : Str) : Prop :=
  if cfg.globDisabled then
    ∃ pat ∈ keys t, h = lowerL pat ∧ normalizeHost pat req.tls = normalizeHost req.host req.tls
  else h ∈ keys t ∧ cfg.globMatch (normalizeHost h req.tls) (normalizeHost req.host req.tls) = true

/-- the picker returns one of the route's targets (`rndPicker`, `rrPicker` index into the ring of the
route, whose entries are the route's targets: C04) -/
def PickOK (pick : Route → Target) : Prop := ∀ r, r.targets ≠ [] → pick r ∈ r.targets

/-- every route has a target (reachable tables: `addRoute` adds one, `delRoute` prunes empty routes; C05) -/
def NoEmptyRoutes (t : Table) : Prop := ∀ k, ∀ r ∈ t.get k, r.targets ≠ []

/-- no redirect self-skip for this request (C13 owns the skip) -/
def NoSkip (cfg : Cfg) : Prop := cfg.skip = fun _ => false

/-- every host's routes are in the order `newTable` establishes -/
def TableSorted (t : Table) : Prop := ∀ k, RoutesSorted (t.get k)

theorem hostList_eq (cfg : Cfg) (t : Table) (req : Req) : hostList cfg t req = matched cfg t req ++ [[]] := by
  unfold hostList matched; split <;> rfl

theorem mem_matched_iff {cfg : Cfg} {t : Table} {req : Req} {h : Str} :
    h ∈ matched cfg t req ↔ HostMatches cfg t req h := by
  unfold matched HostMatches
  split
  · simp only [matchingHostNoGlob, mem_sortHosts, List.mem_map, List.mem_filter, beq_iff_eq]
    constructor
    · rintro ⟨pat, ⟨hp, he⟩, rfl⟩; exact ⟨pat, hp, rfl, he⟩
    · rintro ⟨pat, hp, rfl, he⟩; exact ⟨pat, ⟨hp, he⟩, rfl⟩
  · simp only [matchingHosts, mem_sortHosts, List.mem_filter]

/-- with lower-case keys (every built table) a matched key reads the same with and without host globs -/
theorem hostMatches_iff {cfg : Cfg} {t : Table} {req : Req} (hl : ∀ k ∈ keys t, lowerL k = k) {h : Str} :
    HostMatches cfg t req h ↔ h ∈ keys t ∧
      if cfg.globDisabled then normalizeHost h req.tls = normalizeHost req.host req.tls
      else cfg.globMatch (normalizeHost h req.tls) (normalizeHost req.host req.tls) = true := by
  unfold HostMatches
  split
  · constructor
    · rintro ⟨pat, hp, rfl, he⟩; rw [hl pat hp]; exact ⟨hp, he⟩
    · rintro ⟨hk, he⟩; exact ⟨h, hk, (hl h hk).symm, he⟩
  · exact Iff.rfl

theorem matched_pairwise (cfg : Cfg) (t : Table) (req : Req) : (matched cfg t req).Pairwise hostOrd := by
  unfold matched matchingHostNoGlob matchingHosts; split <;> exact sortHosts_pairwise _

/-- host key `x` gives no answer: no route of it matches the path, or the redirect skip rejects its target -/
def Passed (cfg : Cfg) (t : Table) (req : Req) (x : Str) : Prop :=
  ∀ p, look cfg t req x = some p → cfg.skip p.2 = true

/-- `Lookup` answers with the per-host answer of the first key of `matched ++ [""]` that has one the skip accepts -/
theorem Lookup_eq_some {cfg : Cfg} {t : Table} {req : Req} {h : Str} {r : Route} {tg : Target} :
    Lookup cfg t req = some (h, r, tg) ↔
    ∃ pre post, matched cfg t req ++ [[]] = pre ++ h :: post ∧ (∀ x ∈ pre, Passed cfg t req x) ∧
      look cfg t req h = some (r, tg) ∧ cfg.skip tg = false := by
  unfold Lookup
  rw [hostList_eq, lookupHosts_eq, List.findSome?_eq_some_iff]
  constructor
  · rintro ⟨pre, x, post, e, hx, hpre⟩
    obtain ⟨rfl, hl, hs⟩ := tryHost_some.1 hx
    exact ⟨pre, post, e, fun y hy => tryHost_none.1 (hpre y hy), hl, hs⟩
  · rintro ⟨pre, post, e, hpre, hl, hs⟩
    exact ⟨pre, h, post, e, tryHost_some.2 ⟨rfl, hl, hs⟩, fun y hy => tryHost_none.2 (hpre y hy)⟩

theorem Lookup_eq_none {cfg : Cfg} {t : Table} {req : Req} :
    Lookup cfg t req = none ↔ ∀ x ∈ matched cfg t req ++ [[]], Passed cfg t req x := by
  unfold Lookup
  rw [hostList_eq, lookupHosts_eq, List.findSome?_eq_none_iff]
  exact forall₂_congr fun x _ => tryHost_none

theorem Lookup_matched {cfg : Cfg} {t : Table} {req : Req} {h : Str} {r : Route} {tg : Target}
    (hres : Lookup cfg t req = some (h, r, tg)) {k : Str} (hk : k ∈ matched cfg t req)
    (hcand : ¬ Passed cfg t req k) :
    ∃ pre post, matched cfg t req = pre ++ h :: post ∧ ∀ x ∈ pre, Passed cfg t req x := by
  obtain ⟨pre, post, e, hpre, _⟩ := Lookup_eq_some.1 hres
  -- `k` is not in `pre`, so `pre` is a proper initial part of the matched keys
  rcases List.append_eq_append_iff.1 e with ⟨as, e1, _⟩ | ⟨bs, e1, e2⟩
  · exact absurd (hpre k (by rw [e1]; exact List.mem_append_left _ hk)) hcand
  · cases bs with
    | nil => exact absurd (hpre k (by rw [e1] at hk; simpa using hk)) hcand
    | cons b bs' =>
      obtain ⟨rfl, _⟩ := List.cons.inj e2
      exact ⟨pre, bs', e1, hpre⟩

/-- a key that has an answer is not passed over once the skip accepts that answer. `NoSkip` asks that of every conceivable
target, and a redirect target that rebuilds the request's own URL is skipped. -/
theorem not_passed_of_isSome {cfg : Cfg} {t : Table} {req : Req} {k : Str}
    (hns : ∀ p, look cfg t req k = some p → cfg.skip p.2 = false)
    (h : (look cfg t req k).isSome = true) : ¬ Passed cfg t req k := fun hp =>
  let ⟨p, e⟩ := Option.isSome_iff_exists.1 h
  Bool.false_ne_true ((hns p e).symm.trans (hp p e))

theorem lookupRoutes_mem {m : Str → Str → Bool} {pick : Route → Target} {path : Str} {rs : List Route}
    {r : Route} {tg : Target} (hpick : PickOK pick) (h : lookupRoutes m pick path rs = some (r, tg)) :
    r ∈ rs ∧ m path r.path = true ∧ tg ∈ r.targets :=
  let ⟨_, _, e, _, hm, hne, htg⟩ := lookupRoutes_some h
  ⟨by rw [e]; simp, hm, htg.elim id fun e => e ▸ hpick r hne⟩

/-- `lookup_sound` without `PickOK`, so without the target -/
theorem lookup_sound_route {cfg : Cfg} {t : Table} {req : Req}
    {h : Str} {r : Route} {tg : Target} (hres : Lookup cfg t req = some (h, r, tg)) :
    (h = [] ∨ HostMatches cfg t req h) ∧ r ∈ t.get (lowerL h) ∧ cfg.pathMatch req.path r.path = true := by
  obtain ⟨pre, post, e, _, hl, _⟩ := Lookup_eq_some.1 hres
  have hmem : h ∈ matched cfg t req ++ [[]] := by rw [e]; simp
  obtain ⟨pre', post', e', _, hm, _⟩ := lookupRoutes_some hl
  refine ⟨?_, by rw [e']; simp, hm⟩
  rcases List.mem_append.1 hmem with hmem | hmem
  · exact Or.inr (mem_matched_iff.1 hmem)
  · exact Or.inl (by simpa using hmem)

theorem key_of_look {cfg : Cfg} {t : Table} {req : Req} {h : Str} {r : Route} {tg : Target}
    (hl : look cfg t req h = some (r, tg)) : lowerL h ∈ keys t := by
  obtain ⟨pre, post, e, _⟩ := lookupRoutes_some hl
  exact List.mem_map.2 ⟨_, Lemmas.Route.mem_get (h := lowerL h) (r := r) (by rw [e]; simp), rfl⟩

/-- Whatever `Lookup` returns comes from a route whose host key is empty or matches the
request host, which is a route of that key, whose path matches under the configured matcher, and the
target is one of the route's targets. Holds with and without the redirect skip. -/
theorem lookup_sound (cfg : Cfg) (t : Table) (req : Req) (hpick : PickOK cfg.pick)
    {h : Str} {r : Route} {tg : Target} (hres : Lookup cfg t req = some (h, r, tg)) :
    (h = [] ∨ HostMatches cfg t req h) ∧ r ∈ t.get (lowerL h) ∧
      cfg.pathMatch req.path r.path = true ∧ tg ∈ r.targets :=
  let ⟨_, _, _, _, hl, _⟩ := Lookup_eq_some.1 hres
  ⟨(lookup_sound_route hres).1, lookupRoutes_mem hpick hl⟩

/-- A target rejected by the redirect self-skip is never the answer
(since the C13 repair b42ae83; before it a skip on the last host tried was still returned). -/
theorem skipped_redirect_never_returned (cfg : Cfg) (t : Table) (req : Req)
    {h : Str} {r : Route} {tg : Target} (hres : Lookup cfg t req = some (h, r, tg)) : cfg.skip tg = false :=
  let ⟨_, _, _, _, _, hs⟩ := Lookup_eq_some.1 hres; hs

theorem Lookup_eq_none_of_no_route {cfg : Cfg} {t : Table} {req : Req}
    (hno : ¬ ∃ k r, (k = [] ∨ HostMatches cfg t req k) ∧ r ∈ t.get (lowerL k) ∧ cfg.pathMatch req.path r.path = true) :
    Lookup cfg t req = none :=
  Option.eq_none_iff_forall_ne_some.2 fun a hl =>
    hno ⟨_, _, lookup_sound_route (h := a.1) (r := a.2.1) (tg := a.2.2) hl⟩

/-- `lookup_sound` and `lookup_complete` as one equivalence. -/
theorem Lookup_eq_none_iff (cfg : Cfg) (t : Table) (req : Req)
    (hns : ∀ k p, look cfg t req k = some p → cfg.skip p.2 = false) (hne : NoEmptyRoutes t) :
    Lookup cfg t req = none ↔ ¬ ∃ k r, (k = [] ∨ HostMatches cfg t req k) ∧ r ∈ t.get (lowerL k) ∧
      cfg.pathMatch req.path r.path = true :=
  ⟨fun hn ⟨k, r, hk, hr, hm⟩ =>
    -- key `k` has an answer, which `Lookup` passes over only if the skip rejects it
    not_passed_of_isSome (hns k) (lookupRoutes_isSome (pick := cfg.pick) (hne _) hr hm)
      (Lookup_eq_none.1 hn k (List.mem_append.2 (hk.symm.imp mem_matched_iff.2 (by simp [·])))),
   Lookup_eq_none_of_no_route⟩

theorem Lookup_isSome_iff (cfg : Cfg) (t : Table) (req : Req)
    (hns : ∀ k p, look cfg t req k = some p → cfg.skip p.2 = false) (hne : NoEmptyRoutes t) :
    (Lookup cfg t req).isSome = true ↔ ∃ k r, (k = [] ∨ HostMatches cfg t req k) ∧ r ∈ t.get (lowerL k) ∧
      cfg.pathMatch req.path r.path = true := by
  rw [← Option.ne_none_iff_isSome, Ne, Lookup_eq_none_iff cfg t req hns hne, Classical.not_not]

/-- If some route with a matching path exists under a key that is empty or matches
the request host, a target is returned (every route of a reachable table has a target; without the
redirect skip). -/
theorem lookup_complete (cfg : Cfg) (t : Table) (req : Req) (hns : NoSkip cfg) (hne : NoEmptyRoutes t)
    {k : Str} (hk : k = [] ∨ HostMatches cfg t req k) {r : Route} (hr : r ∈ t.get (lowerL k))
    (hm : cfg.pathMatch req.path r.path = true) : (Lookup cfg t req).isSome = true :=
  (Lookup_isSome_iff cfg t req (fun _ _ _ => congrFun hns _) hne).2 ⟨k, r, hk, hr, hm⟩

theorem lookup_host_order (cfg : Cfg) (t : Table) (req : Req) (hns : NoSkip cfg)
    {h : Str} {r : Route} {tg : Target} (hres : Lookup cfg t req = some (h, r, tg))
    {k : Str} (hk : k ∈ matched cfg t req) (hcand : (look cfg t req k).isSome = true) :
    h ∈ matched cfg t req ∧ (k = h ∨ hostOrd h k) := by
  have hs {x} : (look cfg t req x).isSome = true → ¬ Passed cfg t req x :=
    not_passed_of_isSome fun _ _ => congrFun hns _
  obtain ⟨pre, post, e, hpre⟩ := Lookup_matched hres hk (hs hcand)
  have hp := matched_pairwise cfg t req
  rw [e] at hp hk ⊢
  exact ⟨by simp, first_match_before hp (fun z hz h => hs h (hpre z hz)) hk hcand⟩

/-- If some matched host key answers for the request path (`look` is `some`: its first
route whose path matches has a target; on a table without empty routes: it has a route whose path matches,
`lookupRoutes_isSome`), the answer comes from a matched host key — the host-less routes (the trailing `""` of the
host list) are not used. -/
theorem host_less_only_as_fallback (cfg : Cfg) (t : Table) (req : Req) (hns : NoSkip cfg)
    {h : Str} {r : Route} {tg : Target} (hres : Lookup cfg t req = some (h, r, tg))
    {k : Str} (hk : HostMatches cfg t req k) (hcand : (look cfg t req k).isSome = true) :
    HostMatches cfg t req h :=
  mem_matched_iff.1 (lookup_host_order cfg t req hns hres (mem_matched_iff.2 hk) hcand).1

/-- If an exact host key (no glob metacharacter, not empty) matches and answers
for the request path (`look` is `some`), the answer does not come from a pattern key. (For every pattern syntax: holds
since the repair of D06b; before it `*foo.com`, `{a,b}.foo.com`, `a?.com` beat `foo.com`, `a.foo.com`,
`a1.com`.) -/
theorem exact_beats_wildcard (cfg : Cfg) (t : Table) (req : Req) (hns : NoSkip cfg)
    {h : Str} {r : Route} {tg : Target} (hres : Lookup cfg t req = some (h, r, tg))
    {k : Str} (hk : HostMatches cfg t req k) (hexact : isGlobPat k = false)
    (hcand : (look cfg t req k).isSome = true) : isGlobPat h = false := by
  rcases (lookup_host_order cfg t req hns hres (mem_matched_iff.2 hk) hcand).2 with rfl | ho
  · exact hexact
  · exact ho.exact hexact

theorem reverseHostPort_no_colon (s : Str) (h : ':' ∉ s) : reverseHostPort s = s.reverse := by
  simp [reverseHostPort, portPart, hostPart, splitHostPort_no_colon s h]

/-- "a longer host suffix beats a shorter one" on two keys: whatever the characters of `Y` (since the repair
"`*` below every other character"; before it `*!.foo.com` lost to `*.foo.com`), whatever the ports (since the
repair "host part first, then the port"; before it `*.*.foo.com:8080` lost to `*.foo.com:8080`). -/
theorem hostBefore_of_longer_suffix (a b Y T : Str) (hY : 2 ≤ Y.length)
    (ha : hostPart a = Y ++ T) (hb : hostPart b = '*' :: T) : hostBefore a b = true := by
  obtain ⟨c, d, u, hu⟩ : ∃ c d u, Y.reverse = c :: d :: u := by
    have h2 : 2 ≤ Y.reverse.length := by rw [List.length_reverse]; exact hY
    match Y.reverse, h2 with
    | c :: d :: u, _ => exact ⟨c, d, u, rfl⟩
  have hlt : lessSpecificHost (revParts b).1 (revParts a).1 = true := by
    simp only [revParts, ha, hb, List.reverse_cons, List.reverse_append, hu, lessSpecificHost]
    -- behind the common `T.reverse`: `*` against `c :: d :: u` — below `c`, or a proper prefix when `c` is `*`
    rw [ltBy_append_left, ltBy_cons]
    by_cases hc : c = '*'
    · subst hc; exact Or.inr ⟨rfl, rfl⟩
    · exact Or.inl (by simp [starRank, hc])
  have hne : (revParts a).1 ≠ (revParts b).1 := by
    intro e; rw [e, lessSpecificHost, (ltBy_strict _).irrefl] at hlt; cases hlt
  unfold hostBefore
  simp [hne, hlt]

/-- The full statement — *for all pattern keys `Y ++ S` and
`*` ++ `S` with `Y` of at least two characters: if the longer one matches and answers for the request path
(`look` is `some`), the answer does not come from the shorter one* — fails for keys whose port `net.SplitHostPort`
does not recognise in one of the two (`longer_suffix_full_statement_fails`: `[ab].foo.com:8080` against
`*.foo.com:8080`; recorded finding, replayed from `corpus/c03.lookup.jsonl`). Forced hypothesis: the host
parts of the two keys (`hostPart`: the host of `net.SplitHostPort`, the whole key without a port) are
`Y ++ T` and `*` ++ `T`. -/
theorem longer_suffix_beats_shorter_partial (cfg : Cfg) (t : Table) (req : Req) (hns : NoSkip cfg)
    (a b Y T : Str) (hY : 2 ≤ Y.length) (ha : hostPart a = Y ++ T) (hb : hostPart b = '*' :: T)
    (hpat : isGlobPat b = true) (hk : HostMatches cfg t req a)
    (hcand : (look cfg t req a).isSome = true) (r : Route) (tg : Target) :
    Lookup cfg t req ≠ some (b, r, tg) := by
  intro hres
  have hbef := hostBefore_of_longer_suffix a b Y T hY ha hb
  rcases (lookup_host_order cfg t req hns hres (mem_matched_iff.2 hk) hcand).2 with e | ho
  · rw [e, hb] at ha
    have := congrArg List.length ha
    simp only [List.length_cons, List.length_append] at this; omega
  · exact absurd ((ho.pattern hpat).symm.trans hbef) Bool.false_ne_true

/-- Keys without a port: pattern keys `Y ++ S` and `*` ++ `S`, no `:` in them, `Y` of at least two characters
(`*.a` ++ `.foo.com`, `*.*` ++ `.foo.com`, `*-eu` ++ `.foo.com`, `*!` ++ `.foo.com`, `{a,b}` ++ `.foo.com`): if the
longer one matches and answers for the request path (`look` is `some`), the answer does not come from the shorter
one. -/
theorem longer_suffix_beats_shorter (cfg : Cfg) (t : Table) (req : Req) (hns : NoSkip cfg)
    (S Y : Str) (hY : 2 ≤ Y.length) (hcolon : ':' ∉ Y ++ S)
    (hk : HostMatches cfg t req (Y ++ S))
    (hcand : (look cfg t req (Y ++ S)).isSome = true) (r : Route) (tg : Target) :
    Lookup cfg t req ≠ some ('*' :: S, r, tg) := by
  have c2 : ':' ∉ '*' :: S := by
    intro hm; rcases List.mem_cons.1 hm with e | hm
    · cases e
    · exact hcolon (List.mem_append_right _ hm)
  exact longer_suffix_beats_shorter_partial cfg t req hns (Y ++ S) ('*' :: S) Y S hY
    (hostPart_no_colon _ hcolon) (hostPart_no_colon _ c2) (by simp [isGlobPat]) hk hcand r tg

/-- Keys with one explicit port: pattern keys `Y ++ T ++ ":" ++ P` and `*` ++ `T ++ ":" ++ P` (no further colon and no
bracket in `Y`, `T`, `P`): as `longer_suffix_beats_shorter`. This is the class the repair "host part first, then the
port" made true: `*.*.foo.com:8080` and `*-*.foo.com:8080` lost to `*.foo.com:8080` because the `:` in front of the
port sorts above `.`, `-` and the digits. -/
theorem longer_suffix_beats_shorter_port (cfg : Cfg) (t : Table) (req : Req) (hns : NoSkip cfg)
    (T Y P : Str) (hY : 2 ≤ Y.length)
    (hYc : ∀ c ∈ Y, c ≠ ':' ∧ c ≠ '[' ∧ c ≠ ']') (hTc : ∀ c ∈ T, c ≠ ':' ∧ c ≠ '[' ∧ c ≠ ']')
    (hPc : ∀ c ∈ P, c ≠ ':' ∧ c ≠ '[' ∧ c ≠ ']')
    (hk : HostMatches cfg t req ((Y ++ T) ++ ':' :: P))
    (hcand : (look cfg t req ((Y ++ T) ++ ':' :: P)).isSome = true) (r : Route) (tg : Target) :
    Lookup cfg t req ≠ some (('*' :: T) ++ ':' :: P, r, tg) := by
  have hYT : ∀ c ∈ Y ++ T, c ≠ ':' ∧ c ≠ '[' ∧ c ≠ ']' := fun c hc =>
    (List.mem_append.1 hc).elim (hYc c) (hTc c)
  have hsT : ∀ c ∈ '*' :: T, c ≠ ':' ∧ c ≠ '[' ∧ c ≠ ']' := fun c hc =>
    (List.mem_cons.1 hc).elim (fun e => e ▸ by decide) (hTc c)
  have hne : Y ++ T ≠ [] := fun e => by
    rw [(List.append_eq_nil_iff.1 e).1] at hY; cases hY
  exact longer_suffix_beats_shorter_partial cfg t req hns _ _ Y T hY
    (hostPart_host_port (Y ++ T) P hne hYT hPc) (hostPart_host_port ('*' :: T) P (by simp) hsT hPc)
    (by simp [isGlobPat]) hk hcand r tg

/-- For every matcher, in particular glob: the answer's route is the first route of its host, in table order, whose
path matches. -/
theorem first_match_in_table_order (cfg : Cfg) (t : Table) (req : Req)
    {h : Str} {r : Route} {tg : Target} (hres : Lookup cfg t req = some (h, r, tg)) :
    ∃ pre post, t.get (lowerL h) = pre ++ r :: post ∧ ∀ x ∈ pre, cfg.pathMatch req.path x.path = false := by
  obtain ⟨_, _, _, _, hl, _⟩ := Lookup_eq_some.1 hres
  obtain ⟨pre, post, e, hpre, _⟩ := lookupRoutes_some hl
  exact ⟨pre, post, e, hpre⟩

theorem first_match_is_longest {m : Str → Str → Bool} {uri : Str}
    (hm : ∀ p, m uri p = true → lowerL p <+: lowerL uri)
    {pick : Route → Target} {rs : List Route} (hs : RoutesSorted rs)
    {r : Route} {tg : Target} (hres : lookupRoutes m pick uri rs = some (r, tg))
    {r' : Route} (hr' : r' ∈ rs) (hm' : m uri r'.path = true) : r'.path.length ≤ r.path.length :=
  find_longest Route.path (fun s => by simp [lowerL]) (fun a ha => hm _ ha) hs (lookupRoutes_find hres).1 hr' hm'

/-- Prefix and iprefix matchers (the latter holds since the repair of D06): in a table whose routes are in
`newTable`'s order, no route of the answer's host with a matching path has a longer path than the answer's route. -/
theorem longest_path_wins (cfg : Cfg) (t : Table) (req : Req) (pg : Str → Str → Bool) (kind : MatcherKind)
    (hkind : kind ≠ .glob) (hcfg : cfg.pathMatch = pathMatch pg kind) (hsorted : TableSorted t)
    {h : Str} {r : Route} {tg : Target} (hres : Lookup cfg t req = some (h, r, tg))
    {r' : Route} (hr' : r' ∈ t.get (lowerL h)) (hm' : cfg.pathMatch req.path r'.path = true) :
    r'.path.length ≤ r.path.length := by
  obtain ⟨_, _, _, _, hl, _⟩ := Lookup_eq_some.1 hres
  unfold look lookup at hl
  rw [hcfg] at hl hm'
  exact first_match_is_longest (fun p hp => pathMatchBy_fold_prefix lowerChar pg hkind _ p (pathMatch_eq pg ▸ hp))
    (hsorted _) hl hr' hm'

/-- under the prefix matcher the longest matching path of `longest_path_wins` is unique -/
theorem longest_path_wins_prefix_unique {uri p q : Str} (hp : p.isPrefixOf uri = true) (hq : q.isPrefixOf uri = true)
    (hl : p.length = q.length) : p = q := by
  rw [List.isPrefixOf_iff_prefix] at hp hq
  obtain ⟨w, rfl⟩ := List.prefix_of_prefix_length_le hp hq (Nat.le_of_eq hl)
  have : w = [] := by
    simp only [List.length_append] at hl
    exact List.eq_nil_of_length_eq_zero (by omega)
  simp [this]

/-- `NewTable`/`NewTableCustom` leave every host's routes sorted (`sortRoutes` is a
sorted permutation: `sortRoutes_sorted`, `sortRoutes_perm`). -/
theorem newTable_sorted (env : Env) (t0 : Table) (defs : List RouteDef) {t : Table}
    (h : buildFrom env t0 defs = .ok t) : TableSorted t := by
  unfold buildFrom at h
  split at h
  · cases h
  · rename_i t' _
    cases h
    intro k
    rw [Lemmas.Route.get_map_snd sortRoutes rfl]
    exact sortRoutes_sorted _

theorem sortRoutes_is_sorted_permutation (rs : List Route) :
    RoutesSorted (sortRoutes rs) ∧ (sortRoutes rs).Perm rs := ⟨sortRoutes_sorted rs, Lemmas.Route.sortRoutes_perm rs⟩

/-- `Lookup` sees the request host only through `normalizeHost` — with host globbing enabled and (since
the repair of D05) disabled. -/
theorem lookup_depends_on_normalized_host (cfg : Cfg) (t : Table) (h1 h2 : Str) (tls : Bool) (p : Str)
    (h : normalizeHost h1 tls = normalizeHost h2 tls) :
    Lookup cfg t ⟨h1, tls, p⟩ = Lookup cfg t ⟨h2, tls, p⟩ := by
  unfold Lookup hostList matchingHosts matchingHostNoGlob
  simp only [h]

/-- The letter case of the request host does not matter: the lower-cased host
is routed exactly like the original, with host globbing enabled and disabled (the latter since the
repair of D05). ASCII case folding (`lowerL`). -/
theorem host_case_insensitive (cfg : Cfg) (t : Table) (h : Str) (tls : Bool) (p : Str) :
    Lookup cfg t ⟨lowerL h, tls, p⟩ = Lookup cfg t ⟨h, tls, p⟩ :=
  lookup_depends_on_normalized_host cfg t _ _ tls p (normalizeHost_lowerL h tls)

theorem host_case_insensitive' (cfg : Cfg) (t : Table) (h h' : Str) (tls : Bool) (p : Str)
    (e : lowerL h = lowerL h') : Lookup cfg t ⟨h, tls, p⟩ = Lookup cfg t ⟨h', tls, p⟩ := by
  rw [← host_case_insensitive cfg t h, ← host_case_insensitive cfg t h', e]

/-- Plain HTTP: `host:80` is routed like `host`, for every configuration (host globbing enabled or disabled). -/
theorem default_port_removed_plain (cfg : Cfg) (t : Table) (h p : Str) (hno : hasSuffix h port80 = false) :
    Lookup cfg t ⟨h ++ port80, false, p⟩ = Lookup cfg t ⟨h, false, p⟩ := by
  apply lookup_depends_on_normalized_host
  unfold normalizeHost
  rw [normalizeHostNoLower_port80]
  simp [normalizeHostNoLower, hno]

/-- TLS: `host:443` is routed like `host`. -/
theorem default_port_removed_tls (cfg : Cfg) (t : Table) (h p : Str) (hno : hasSuffix h port443 = false) :
    Lookup cfg t ⟨h ++ port443, true, p⟩ = Lookup cfg t ⟨h, true, p⟩ := by
  apply lookup_depends_on_normalized_host
  unfold normalizeHost
  rw [normalizeHostNoLower_port443]
  simp [normalizeHostNoLower, hno]

/-- the other scheme's default port is *not* removed: `:443` on a plain request stays -/
theorem other_port_kept (h : Str) : normalizeHostNoLower (h ++ port443) false = h ++ port443 := by
  have : hasSuffix (h ++ port443) port80 = false := by
    unfold hasSuffix List.isSuffixOf
    simp [port443, port80, List.isPrefixOf]
  simp [normalizeHostNoLower, this]

/-- `LookupHost` answers only from the routes stored under exactly the lower-cased
host, with a path that is a prefix of "/". -/
theorem lookuphost_exact (pick : Route → Target) (t : Table) (host : Str) {r : Route} {tg : Target}
    (h : LookupHost pick t host = some (r, tg)) :
    r ∈ t.get (lowerL host) ∧ r.path.isPrefixOf ['/'] = true := by
  obtain ⟨pre, post, e, _, hm, _⟩ := lookupRoutes_some h
  exact ⟨by rw [e]; simp, hm⟩

/-- the picker of the examples and of the composed models that fix one: the route's first target -/
theorem pickOK_headD (d : Target) : PickOK fun r => r.targets.headD d := fun r hr => by
  cases h : r.targets with
  | nil => exact absurd h hr
  | cons x xs => simp [h]

theorem noEmptyRoutes_of_all (t : Table)
    (h : t.all (fun kv => kv.2.all (fun r => !r.targets.isEmpty)) = true) : NoEmptyRoutes t := by
  intro k r hr
  rcases Lemmas.Route.get_mem_or_nil t k with h0 | hm
  · rw [h0] at hr; cases hr
  · have := List.all_eq_true.1 (List.all_eq_true.1 h _ hm) r hr
    intro e; simp [e] at this

end Fabio.Props.C03

namespace Fabio.Props.C03.Ex
open Fabio Fabio.Model.Route Fabio.Model.C03 Fabio.Lemmas.C03 Fabio.Props.C03

def tg (s : String) : Target := { service := s.toList, tags := [], opts := [], url := "http://a:1/".toList, fixedWeight := 0 }
def rt (h p s : String) : Route := { host := h.toList, path := p.toList, targets := [tg s] }

def T : Table :=
  [ ("*.foo.com".toList, [rt "*.foo.com" "/" "w1"]),
    ("foo.com".toList, [rt "foo.com" "/foo/bar" "e1", rt "foo.com" "/foo" "e2", rt "foo.com" "/" "e3"]),
    ("*foo.com".toList, [rt "*foo.com" "/" "w0"]),
    ("*.a.foo.com".toList, [rt "*.a.foo.com" "/" "w2"]),
    ([], [rt "" "/FOOBAR" "h1", rt "" "/foo" "h2", rt "" "/" "h3"]) ]

def cfg (kind : MatcherKind) (noglob : Bool) : Cfg :=
  { globMatch := globLib, pathMatch := pathMatch globLib kind, pick := fun r => r.targets.headD (tg "?"),
    globDisabled := noglob }

def answer (x : Option (Str × Route × Target)) : Option (String × String × String) :=
  x.map (fun a => (String.ofList a.1, String.ofList a.2.1.path, String.ofList a.2.2.service))

-- exact host beats `*foo.com` and `*.foo.com` would not match; longest path within the host
example : answer (Lookup (cfg .pfx false) T ⟨"FOO.com:80".toList, false, "/foo/bar/baz".toList⟩) = some ("foo.com", "/foo/bar", "e1") := by
  unfold T rt tg; simp only [toList_lit rfl]
  decide +kernel
-- longer suffix beats shorter: b.a.foo.com matches *.a.foo.com, *.foo.com and *foo.com
example : (matched (cfg .pfx false) T ⟨"b.a.foo.com".toList, false, "/".toList⟩).map String.ofList = ["*.a.foo.com", "*.foo.com", "*foo.com"] := by
  unfold T rt tg; simp only [toList_lit rfl]
  decide +kernel
example : answer (Lookup (cfg .pfx false) T ⟨"b.a.foo.com".toList, false, "/x".toList⟩) = some ("*.a.foo.com", "/", "w2") := by
  unfold T rt tg; simp only [toList_lit rfl]
  decide +kernel
-- host-less routes only as fallback; iprefix picks the longest path ignoring case
example : answer (Lookup (cfg .iprefix false) T ⟨"bar.com".toList, false, "/foobar".toList⟩) = some ("", "/FOOBAR", "h1") := by
  unfold T rt tg; simp only [toList_lit rfl]
  decide +kernel
-- host globbing disabled: upper-case request host still finds the exact key (D05 repaired); patterns do not match
example : answer (Lookup (cfg .pfx true) T ⟨"FOO.COM".toList, false, "/foo".toList⟩) = some ("foo.com", "/foo", "e2") := by
  unfold T rt tg; simp only [toList_lit rfl]
  decide +kernel
example : answer (Lookup (cfg .pfx true) T ⟨"a.foo.com".toList, false, "/foo".toList⟩) = some ("", "/foo", "h2") := by
  unfold T rt tg; simp only [toList_lit rfl]
  decide +kernel
-- the hypotheses of the theorems are satisfiable on this table
example : NoEmptyRoutes T := noEmptyRoutes_of_all T (by decide +kernel)
example : TableSorted (T.map (fun kv => (kv.1, sortRoutes kv.2))) :=
  newTable_sorted ⟨fun _ => none, fun _ => true⟩ T [] rfl
example : isGlobPat "foo.com".toList = false ∧ isGlobPat "*foo.com".toList = true ∧ isGlobPat [] = true := by
  simp only [toList_lit rfl]; decide +kernel
example : HostMatches (cfg .pfx false) T ⟨"b.a.foo.com".toList, false, "/".toList⟩ "*.a.foo.com".toList := by
  unfold HostMatches T rt tg; simp only [toList_lit rfl]
  decide +kernel
example : sortRoutes [rt "" "/foo" "a", rt "" "/FOOBAR" "b", rt "" "/" "c"] = [rt "" "/FOOBAR" "b", rt "" "/foo" "a", rt "" "/" "c"] := by
  unfold rt tg; simp only [toList_lit rfl]
  decide +kernel
example : Lookup (cfg .pfx true) T ⟨"FOO.com".toList, false, "/".toList⟩ = Lookup (cfg .pfx true) T ⟨"foo.com".toList, false, "/".toList⟩ :=
  host_case_insensitive' _ _ _ _ _ _ (by simp only [toList_lit rfl]; decide +kernel)
example : reverseHostPort "foo.com:8443".toList = "moc.oof:8443".toList ∧ reverseHostPort ":1234".toList = "[4321:]:1234".toList := by
  simp only [toList_lit rfl]; decide +kernel

-- with a port the longer key still goes first (before the repair `:` took part in the comparison)
example : hostBefore "*.*.foo.com:8080".toList "*.foo.com:8080".toList = true ∧
    hostBefore "*-*.foo.com:8080".toList "*.foo.com:8080".toList = true ∧
    hostBefore "*.*.foo.com".toList "*.foo.com:80".toList = true := by
  simp only [toList_lit rfl]; decide +kernel
-- `*` below every other character: a literal character under `*` (`!`, `$`, `&`, `'`, `(`, `)`) does not lose to it
example : hostBefore "*!.foo.com".toList "*.foo.com".toList = true ∧ hostBefore "*.foo.com".toList "*!.foo.com".toList = false := by
  simp only [toList_lit rfl]; decide +kernel
example : (sortHosts ["*.foo.com:8080".toList, "*".toList, "*.*.foo.com:8080".toList, "*-eu.*.foo.com:8080".toList]).map String.ofList =
    ["*-eu.*.foo.com:8080", "*.*.foo.com:8080", "*.foo.com:8080", "*"] := by
  simp only [toList_lit rfl]; decide +kernel
-- the hypotheses of `longer_suffix_beats_shorter_partial` and of its two corollaries are satisfiable
example : hostPart "*.*.foo.com:8080".toList = "*.*".toList ++ ".foo.com".toList ∧
    hostPart "*.foo.com:8080".toList = '*' :: ".foo.com".toList ∧ portPart "*.foo.com:8080".toList = "8080".toList := by
  simp only [toList_lit rfl]; decide +kernel
def T2 : Table :=
  [ ("*.foo.com:8080".toList, [rt "*.foo.com:8080" "/" "short"]),
    ("*.*.foo.com:8080".toList, [rt "*.*.foo.com:8080" "/" "long"]) ]
example : answer (Lookup (cfg .pfx false) T2 ⟨"a.b.foo.com:8080".toList, false, "/x".toList⟩) = some ("*.*.foo.com:8080", "/", "long") := by
  unfold T2 rt tg; simp only [toList_lit rfl]
  decide +kernel
example : ∀ r tg, Lookup (cfg .pfx false) T2 ⟨"a.b.foo.com:8080".toList, false, "/x".toList⟩ ≠ some ("*.foo.com:8080".toList, r, tg) := by
  have h := longer_suffix_beats_shorter_port (cfg .pfx false) T2 ⟨"a.b.foo.com:8080".toList, false, "/x".toList⟩ rfl
    ".foo.com".toList "*.*".toList "8080".toList
  unfold HostMatches T2 rt Ex.tg at h
  unfold T2 rt Ex.tg
  simp only [toList_lit rfl, List.cons_append, List.nil_append] at h ⊢
  exact h (by decide) (by decide +kernel) (by decide +kernel) (by decide +kernel) (by decide +kernel) (by decide +kernel)

-- recorded finding: the sort compares the keys as written, the match (and the specification) the keys with
-- the connection's default port removed. On a plain connection `*:80` is matched as `*`, so it matches `a:443`
-- next to `*:443`, and it is sorted in front (equal host parts, port "80" above "443"). The theorems above speak
-- about the keys as written (`hostPart`), so they do not cover the pair; the specification does.
example : (matched (cfg .pfx false) [("*:443".toList, [rt "*:443" "/" "long"]), ("*:80".toList, [rt "*:80" "/" "short"])]
    ⟨"a:443".toList, false, "/".toList⟩).map String.ofList = ["*:80", "*:443"] := by
  unfold rt tg; simp only [toList_lit rfl]
  decide +kernel

/-- the excluded point of `longer_suffix_beats_shorter_partial`: `[ab].foo.com:8080` (for `net.SplitHostPort`
a bracketed host without a port: error, so the whole key is reversed, port first) against `*.foo.com:8080`
(host part `*.foo.com`). The host glob is a parameter; here: everything matches. -/
def TW : Table :=
  [ ("[ab].foo.com:8080".toList, [rt "[ab].foo.com:8080" "/" "long"]),
    ("*.foo.com:8080".toList, [rt "*.foo.com:8080" "/" "short"]) ]
def cfgW : Cfg := { globMatch := fun _ _ => true, pathMatch := pathMatch globLib .pfx, pick := fun r => r.targets.headD (tg "?") }
def reqW : Req := ⟨"a.foo.com:8080".toList, false, "/".toList⟩

example : hostPart "[ab].foo.com:8080".toList = "[ab].foo.com:8080".toList ∧ hostBefore "[ab].foo.com:8080".toList "*.foo.com:8080".toList = false := by
  simp only [toList_lit rfl]; decide +kernel

/-- The statement without the hypothesis on the host parts is false
(recorded finding; the witness is replayed on the real code from `corpus/c03.lookup.jsonl`). -/
theorem longer_suffix_full_statement_fails :
    ¬ (∀ (cfg : Cfg) (t : Table) (req : Req), NoSkip cfg → ∀ (S Y : Str), 2 ≤ Y.length →
        HostMatches cfg t req (Y ++ S) → (look cfg t req (Y ++ S)).isSome = true →
        ∀ r tg, Lookup cfg t req ≠ some ('*' :: S, r, tg)) := by
  intro h
  have h := fun hY hk hc => h cfgW TW reqW rfl ".foo.com:8080".toList "[ab]".toList hY hk hc
    (rt "*.foo.com:8080" "/" "short") (tg "short")
  unfold HostMatches TW reqW rt tg at h
  simp only [toList_lit rfl, List.cons_append, List.nil_append] at h
  exact h (by decide) (by decide +kernel) (by decide +kernel) (by decide +kernel)

end Fabio.Props.C03.Ex
