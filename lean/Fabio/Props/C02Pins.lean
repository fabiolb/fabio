import Fabio.Generated.C02
/-!
CHANGE DETECTORS for C02 (`"pins_module"` in checks/C02.json): ordered event lists of sequential, deterministic
code whose input/output behaviour a correspondence stream compares with the model on every run. When one of these
stops building nothing is claimed broken — the streams run at five times the budget with a second seed and decide.
Each statement names the stream (and the class of inputs) that carries the tie, and where there is one the trial change
under `seeded/` that the stream reports. (`Props/C02Facts.lean` has the criteria that separate them from obligations.)
-/
namespace Fabio.Props.C02Pins
open Fabio.Generated.C02

/-- `NewTable` returns `nil, err` from every exit but the last. Tie: `c02.history` (a partial table returned
WITH the error is ignored by `watchBackend`: behaviour unchanged), `c02.nopanic` outcome classes. -/
theorem newTable_events :
    newTableEvents = ["call:Parse(p0)", "if(≠nil){", "return nil,val", "}", "call:make(Table)", "range{", "if(≠nil){",
      "return nil,val", "}", "}", "range{", "call:sort.Sort(rangeV)", "}", "return val,nil"] := rfl

/-- same for `NewTableCustom`, which first refuses a nil definition list. Tie: `c02.custom` — a partial table
returned with the error IS installed by the unconditional `SetTable` of the poll loop: class `last-good-not-kept`
(`seeded/C02-m1`; replay: good document, then `route weight` without match); nil list: class
`update-loop-panic-on-null` (corpus lines 1–2). -/
theorem newTableCustom_events :
    newTableCustomEvents = ["if(=nil:p0){", "return nil,val", "}", "call:make(Table)", "range{", "if(≠nil){",
      "return nil,val", "}", "}", "range{", "call:sort.Sort(rangeV)", "}", "return val,nil"] := rfl

/-- `Parse` reports the scanner's own error after the loop (repair of D29). Tie: `c02.history` and `c02.nopanic`,
classes with an over-long line (`amp.long`) + the completeness predicate `commandLines text = number of
definitions` (class `accepted-text-incomplete`). -/
theorem parse_events :
    parseEvents = ["call:bufio.NewScanner(p0)", "for{", "call:NewScanner#0.Scan()", "if(≠nil){", "return nil,val", "}", "}",
      "call:NewScanner#0.Err()", "if(≠nil){", "return nil,val", "}", "return val,nil"] := rfl

/-- the loop body of `watchBackend` (text backends): reset the buffer, service text, "\n", manual text, skip when
equal to the installed text, `ParseAliases` → `Register`, `NewTable`, `continue` on error, `SetTable`, remember the
text (`Model/C02.lean` `WB.step`, `Model/C02Loop.lean` `stepO`). Tie: `c02.history` runs the real loop — tables
after every event (classes `valid-not-applied`, `last-good-not-kept`; padded texts for what an early parse error
leaves in the buffer: `seeded/C02-m4`), the `Register` calls (`registered-differs`). The remembered text being
assigned once, after `SetTable`, is benign either way for a deterministic `NewTable`. -/
theorem watchBackend_events :
    watchBackendEvents = ["for{", "call:new(bytes.Buffer).Reset()",
      "call:new(bytes.Buffer).WriteString(recv(WatchServices#0))", "call:new(bytes.Buffer).WriteString(\"\\n\")",
      "call:new(bytes.Buffer).WriteString(recv(WatchManual#0))", "set:String#0",
      "if(String#0 == copy(String#0)){", "continue", "}", "call:route.ParseAliases(String#0)",
      "call:registry.Default.Register(ParseAliases#0)", "call:route.NewTable(new(bytes.Buffer))", "if(≠nil){", "continue",
      "}", "call:route.SetTable(NewTable#0)", "set:copy(String#0)", "}"] ∧
    watchBackendLastTableAssignments = 1 := ⟨rfl, rfl⟩

/-- the poll loop of the custom backend: transport error, non-200 and decode error `continue` before
`NewTableCustom`; `SetTable` follows unconditionally (`customStep`). Tie: `c02.custom` runs the real loop against a
scripted endpoint (statuses, dropped connections, undecodable and `null` documents). -/
theorem customRoutes_events :
    customRoutesEvents = ["call:lit:http.Client.Do(NewRequest#0)", "if(≠nil){", "continue", "}",
      "if(Do#0.StatusCode != 200){", "continue", "}", "call:NewDecoder#0.Decode(&decl:*[]route.RouteDef)", "if(≠nil){",
      "continue", "}", "call:route.NewTableCustom(decl:*[]route.RouteDef)", "call:route.SetTable(NewTableCustom#0)"] := rfl

/-- panic points closed by earlier repairs: both readers of `RouteDef.Weight` refuse NaN/±Inf (D02), host and
path patterns are compiled when the route is added (D03), no `glob.MustCompile` in package `route`. Tie:
`c02.nopanic` / `c02.history` replay the original inputs from the corpus on every run (`weight Inf`, `[/`, …) and
the hostile grammar draws weights and patterns from the same pools. -/
theorem panic_point_guards :
    weightReaders = ["guarded", "guarded"] ∧ routeDefGlobCompileDistinctArgs = ["2"] ∧ mustCompileSites = [] := ⟨rfl, rfl, rfl⟩

end Fabio.Props.C02Pins
