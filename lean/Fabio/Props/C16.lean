import Fabio.Lemmas.C16
import Fabio.Lemmas.Lit
/-!
C16 — gRPC calls are proxied transparently to a matching backend: which request the interceptor hands to the
routing table, what happens when the table has no route, and the connection pool (reuse per backend, dropping once
the backend has left the table).  The relay of messages, metadata, trailers and status (`mwitkow/grpc-proxy` over
grpc-go) is in `Props/C16Relay.lean`; the correspondence (`c16.call`) evaluates `Model.C16.Spec.forwardOK/backwardOK`
on the real proxy.

Parameters throughout: `pp` = `url.ParseRequestURI(·).Path`, `lookup` = `route.Table.Lookup` under the
current table, answering with the chosen target's `URL.String()` (property C03 is about that function; the
regenerated facts pin that the interceptor calls exactly it with `Host` and `URL` built as modelled).
-/
namespace Fabio.Props.C16
open Fabio.Model.Route (Str Table)
open Fabio.Model.C16 Fabio.Lemmas.C16

/-- The host handed to the table is the `dsthost` value iff the key carries exactly one value; with no value
and with two or more values it is the empty host. -/
theorem dsthost_exactly_one (md : MD) :
    (∀ h, mdGet md dsthostKey = [h] → dstHost md = h) ∧
    (mdGet md dsthostKey = [] → dstHost md = []) ∧
    (∀ a b r, mdGet md dsthostKey = a :: b :: r → dstHost md = []) := by
  refine ⟨?_, ?_, ?_⟩
  · intro h e; simp [dstHost, e]
  · intro e; simp [dstHost, e]
  · intro a b r e; simp [dstHost, e]

/-- **Link to C03.** The interceptor consults the table exactly once, with host = `dstHost md` and path =
the parsed path of the full method name; nothing else of the call reaches the decision: two lookups that
agree on that one argument pair lead to the same outcome, and the outcome is the lookup's answer. -/
theorem grpc_lookup_args {T} (pp : Str → Option Str) (md : MD) (method p : Str) (hp : pp method = some p) :
    (∀ lookup : Str → Str → Option T,
      intercept pp lookup true md method =
        match lookup (dstHost md) p with
        | none => .notFound
        | some t => .forward t) ∧
    (∀ l₁ l₂ : Str → Str → Option T, l₁ (dstHost md) p = l₂ (dstHost md) p →
      intercept pp l₁ true md method = intercept pp l₂ true md method) := by
  constructor
  · intro lookup
    cases h : lookup (dstHost md) p <;> simp [intercept, synthReq, hp, h]
  · intro l₁ l₂ h; simp [intercept, synthReq, hp, h]

/-- For a method name over `[-A-Za-z0-9._/]` and a parser that is the identity there (checked against
`net/url` by the correspondence) the path is the full method name itself. -/
theorem grpc_lookup_args_plain {T} (pp : Str → Option Str) (hpp : ∀ m, plainMethod m = true → pp m = some m)
    (lookup : Str → Str → Option T) (md : MD) (method : Str) (hm : plainMethod method = true) :
    intercept pp lookup true md method =
      match lookup (dstHost md) method with
      | none => .notFound
      | some t => .forward t :=
  (grpc_lookup_args pp md method method (hpp method hm)).1 lookup

/-- Without metadata or with an unparsable method the call is answered `Internal` and the table is not
consulted at all. -/
theorem bad_request_internal {T} (pp : Str → Option Str) (lookup : Str → Str → Option T) (hasMD : Bool)
    (md : MD) (method : Str) (h : hasMD = false ∨ pp method = none) :
    intercept pp lookup hasMD md method = .internal := by
  rcases h with h | h
  · simp [intercept, synthReq, h]
  · cases hasMD <;> simp [intercept, synthReq, h]

/-- No matching route ⇒ the caller gets `NotFound`, the pool is untouched, nothing is dialled (the whole
world is unchanged: the handler, and with it director and pool, are never reached). -/
theorem noroute_notfound_no_backend (pp : Str → Option Str) (lookup : Table → Str → Str → Option Str)
    (w : World) (md : MD) (method p : Str) (dialOk : Bool)
    (hp : pp method = some p) (hno : lookup w.table (dstHost md) p = none) :
    w.call pp lookup true md method dialOk = (w, .status codeNotFound) := by
  rw [call_eq, (grpc_lookup_args pp md method p hp).1, hno]

/-- With a route the pool is reached, and only with the key of the target the lookup returned. -/
theorem route_reaches_pool_with_target (pp : Str → Option Str) (lookup : Table → Str → Str → Option Str)
    (w : World) (md : MD) (method p k : Str) (dialOk : Bool)
    (hp : pp method = some p) (hk : lookup w.table (dstHost md) p = some k) :
    w.call pp lookup true md method dialOk = ((w.get k dialOk).1, .proxied k (w.get k dialOk).2) := by
  rw [call_eq, (grpc_lookup_args pp md method p hp).1, hk]

/-- A live pooled connection for the target key is returned and nothing is dialled; otherwise the dialler is
called exactly once and, when it succeeds, the fresh connection is what the caller gets and what the pool
holds afterwards for that key (when it fails the pool is unchanged). -/
theorem pool_reuse (w : World) (k : Str) (d : Bool) :
    (∀ c, w.pool.find k = some c → c.shut = false →
        w.get k d = (w, .reused c.id)) ∧
    ((∀ c, w.pool.find k = some c → c.shut = true) →
        (w.get k d).1.dialLog = k :: w.dialLog ∧
        (d = true → (w.get k d).2 = .dialled w.next ∧
                    (w.get k d).1.pool.find k = some { id := w.next, shut := false } ∧
                    (w.get k d).1.next = w.next + 1) ∧
        (d = false → (w.get k d).2 = .error ∧ (w.get k d).1.pool = w.pool)) := by
  constructor
  · intro c hf hl; exact get_hit w k d c hf hl
  · intro hm
    cases d
    · rw [get_miss_err w k hm]; simp
    · rw [get_miss_ok w k hm]; simp [find_put_same]

theorem get_other_key (w : World) (k k' : Str) (d : Bool) (h : k' ≠ k) :
    (w.get k d).1.pool.find k' = w.pool.find k' := by
  rcases get_cases w k d with ⟨c, _, _, e⟩ | ⟨_, _, e⟩ | ⟨_, _, e⟩
  · rw [e]
  · rw [e]; exact find_put_other w.pool k k' _ h
  · rw [e]

/-- After a cleanup against table `t` every pool key is a target URL of `t`, no remaining connection is shut
down, and nothing is in the pool that was not there before (what goes to the closer: `cleanup_closes_only_absent`). -/
theorem cleanup_drops_absent (p : Pool) (t : Table) :
    (∀ k ∈ (p.cleanup (tableURLs t)).keys, k ∈ tableURLs t) ∧
    (∀ kc ∈ p.cleanup (tableURLs t), kc.2.shut = false) ∧
    (∀ kc ∈ p.cleanup (tableURLs t), kc ∈ p) := by
  refine ⟨fun k hk => ?_, fun kc hm => (mem_cleanup.mp hm).2.1, fun kc hm => (mem_cleanup.mp hm).1⟩
  obtain ⟨kc, hm, rfl⟩ := List.mem_map.mp hk
  exact (mem_cleanup.mp hm).2.2

/-- A live connection whose backend is still in the table survives the cleanup. -/
theorem cleanup_keeps_present (p : Pool) (t : Table) (k : Str) (c : Conn)
    (hf : p.find k = some c) (hl : c.shut = false) (hk : (tableURLs t).contains k = true) :
    (p.cleanup (tableURLs t)).find k = some c :=
  find_cleanup p _ k c hf hl hk

/-- Only live connections of absent backends are handed to the closer. -/
theorem cleanup_closes_only_absent (p : Pool) (urls : List Str) :
    ∀ c ∈ p.toClose urls, ∃ k, (k, c) ∈ p ∧ c.shut = false ∧ k ∉ urls :=
  fun _ hc => mem_toClose.mp hc

/-- The pool invariant: keys are unique and every pooled connection id was handed out by a dial. -/
def Inv (w : World) : Prop := w.pool.keys.Nodup ∧ ∀ kc ∈ w.pool, kc.2.id < w.next

theorem inv_get (w : World) (k : Str) (d : Bool) (h : Inv w) : Inv (w.get k d).1 := by
  rcases get_cases w k d with ⟨c, _, _, e⟩ | ⟨_, _, e⟩ | ⟨_, _, e⟩
  · rw [e]; exact h
  · rw [e]
    exact ⟨nodup_keys_put _ _ _ h.1, ids_put h.2 k⟩
  · rw [e]; exact h

/-- Over any history the pool holds one connection per target URL. -/
theorem pool_inv (pp : Str → Option Str) (lookup : Table → Str → Str → Option Str) :
    ∀ (evs : List Event) (w : World), Inv w → Inv (w.run pp lookup evs).1 := by
  intro evs
  induction evs with
  | nil => intro w h; exact h
  | cons e es ih =>
    intro w h
    have hs : Inv (w.step pp lookup e).1 := by
      cases e with
      | call hm md m d =>
        rw [step_call, call_eq]
        cases intercept pp (lookup w.table) hm md m with
        | forward k => exact inv_get w k d h
        | _ => exact h
      | get k d => exact inv_get w k d h
      | shut k =>
        refine ⟨by simpa [World.step, keys_shutKey] using h.1, fun kc hm => ?_⟩
        obtain ⟨kc0, hm0, _, e⟩ := mem_shutKey hm
        exact e ▸ h.2 kc0 hm0
      | setTable t => exact h
      | cleanup => exact ⟨nodup_keys_cleanup _ _ h.1, fun kc hm => h.2 kc (mem_cleanup.mp hm).1⟩
    simpa [World.run] using ih _ hs

theorem step_keeps (pp : Str → Option Str) (lookup : Table → Str → Str → Option Str)
    (k : Str) (c : Nat) (w : World) (e : Event)
    (hf : w.pool.find k = some { id := c, shut := false })
    (hk : spares k w e) :
    (w.step pp lookup e).1.pool.find k = some { id := c, shut := false } ∧
    (∀ r, (w.step pp lookup e).2.poolRes = some (k, r) → r = .reused c) ∧
    (∃ l, (w.step pp lookup e).1.dialLog = l ++ w.dialLog ∧ k ∉ l) := by
  -- a step that does not ask the pool: no pool result, no dial
  have idle : ∀ {w' : World} {o : Obs}, w'.pool.find k = some { id := c, shut := false } →
      w'.dialLog = w.dialLog → o.poolRes = none →
      w'.pool.find k = some { id := c, shut := false } ∧ (∀ r, o.poolRes = some (k, r) → r = .reused c) ∧
      (∃ l, w'.dialLog = l ++ w.dialLog ∧ k ∉ l) :=
    fun hp hd ho => ⟨hp, fun r h => (nomatch ho.symm.trans h), [], hd, List.not_mem_nil⟩
  -- a step that asks the pool for `k'`
  have asks : ∀ k' d (f : GetRes → Obs), (∀ g r, (f g).poolRes = some (k, r) → k' = k ∧ g = r) →
      (w.get k' d).1.pool.find k = some { id := c, shut := false } ∧
      (∀ r, (f (w.get k' d).2).poolRes = some (k, r) → r = .reused c) ∧
      (∃ l, (w.get k' d).1.dialLog = l ++ w.dialLog ∧ k ∉ l) := by
    intro k' d f hfo
    obtain ⟨h1, h2, h3⟩ := get_keeps w k k' c d hf
    exact ⟨h1, fun r h => (hfo _ r h).2 ▸ h2 (hfo _ r h).1, h3⟩
  cases e with
  | call hm md m d =>
    rw [step_call, call_eq]
    cases intercept pp (lookup w.table) hm md m with
    | internal => exact idle hf rfl rfl
    | notFound => exact idle hf rfl rfl
    | forward k' =>
      exact asks k' d (fun g => .call (.proxied k' g)) fun g r h => by
        simpa only [Obs.poolRes, Option.some.injEq, Prod.mk.injEq] using h
  | get k' d =>
    exact asks k' d (fun g => .get k' g) fun g r h => by
      simpa only [Obs.poolRes, Option.some.injEq, Prod.mk.injEq] using h
  | shut k' => exact idle ((find_shutKey_other _ _ _ hk).trans hf) rfl rfl
  | setTable t => exact idle hf rfl rfl
  | cleanup => exact idle (find_cleanup _ _ _ _ hf rfl hk) rfl rfl

/-- **Reuse until removed.** Take any history of calls (to any method, with any metadata), table changes,
cleanups and connection shutdowns.  If backend `k` has a live pooled connection `c` at the start and is in
the table whenever a cleanup looks (and nobody closes `c`), then every call that is routed to `k` during the
history is served by that one connection `c`, nothing is dialled for `k`, and `c` is still pooled at the end. -/
theorem reuse_until_removed (pp : Str → Option Str) (lookup : Table → Str → Str → Option Str)
    (k : Str) (c : Nat) :
    ∀ (evs : List Event) (w : World),
      w.pool.find k = some { id := c, shut := false } →
      keeps pp lookup k w evs →
      (w.run pp lookup evs).1.pool.find k = some { id := c, shut := false } ∧
      (∀ o ∈ (w.run pp lookup evs).2, ∀ r, o.poolRes = some (k, r) → r = .reused c) ∧
      (∃ l, (w.run pp lookup evs).1.dialLog = l ++ w.dialLog ∧ k ∉ l) := by
  intro evs
  induction evs with
  | nil => intro w hf _; exact ⟨hf, (by intro o h; cases h), [], rfl, (by simp)⟩
  | cons e es ih =>
    intro w hf hk
    obtain ⟨hk1, hk2⟩ := (keeps_cons pp lookup k w e es).mp hk
    obtain ⟨s1, s2, l1, s3, s4⟩ := step_keeps pp lookup k c w e hf hk1
    obtain ⟨r1, r2, l2, r3, r4⟩ := ih _ s1 hk2
    refine ⟨by simpa [World.run] using r1, ?_, l2 ++ l1, ?_, ?_⟩
    · intro o ho r hr
      simp only [World.run, List.mem_cons] at ho
      rcases ho with rfl | ho
      · exact s2 r hr
      · exact r2 o ho r hr
    · simp only [World.run]; rw [r3, s3, List.append_assoc]
    · simp only [List.mem_append, not_or]; exact ⟨r4, s4⟩

/-- The first call to a backend that is not pooled dials exactly once; from then on, as long as the backend
stays, every call routed to it gets that same connection (the two halves of "connections are reused per
backend"). -/
theorem first_call_then_reuse (pp : Str → Option Str) (lookup : Table → Str → Str → Option Str)
    (k : Str) (w : World) (hmiss : ∀ c, w.pool.find k = some c → c.shut = true)
    (evs : List Event) (hk : keeps pp lookup k (w.get k true).1 evs) :
    (w.get k true).2 = .dialled w.next ∧
    (∀ o ∈ ((w.get k true).1.run pp lookup evs).2, ∀ r, o.poolRes = some (k, r) → r = .reused w.next) ∧
    (∃ l, ((w.get k true).1.run pp lookup evs).1.dialLog = l ++ k :: w.dialLog ∧ k ∉ l) := by
  obtain ⟨h1, h2, _⟩ := ((pool_reuse w k true).2 hmiss).2.1 rfl
  obtain ⟨_, r2, l, r3, r4⟩ := reuse_until_removed pp lookup k w.next evs _ h2 hk
  refine ⟨h1, r2, l, ?_, r4⟩
  rw [r3, ((pool_reuse w k true).2 hmiss).1]

/-- Once the backend has left the table, the next cleanup removes its connection from the pool and hands it
to the closer (if it was still live).  With the key gone from the pool a later call to it is a miss
(`pool_reuse`, second half). -/
theorem dropped_once_removed (w : World) (k : Str) (c : Conn)
    (hf : w.pool.find k = some c) (habs : (tableURLs w.table).contains k = false) :
    (w.pool.cleanup (tableURLs w.table)).find k = none ∧
    (c.shut = false → c ∈ w.pool.toClose (tableURLs w.table)) := by
  have hnm : k ∉ tableURLs w.table := fun hm => by
    have hc : (tableURLs w.table).contains k = true := by simpa using hm
    rw [habs] at hc; cases hc
  exact ⟨find_none_of_not_mem_keys fun hm => hnm ((cleanup_drops_absent w.pool w.table).1 k hm),
    fun hl => mem_toClose.mpr ⟨k, find_mem hf, hl, hnm⟩⟩

open Race in
/-- The pool's `Get` is read–dial–set, not atomic.  Whatever the interleaving of two complete first `Get`s for one
key: both callers hold the *same* connection, it is the one live connection the pool has for the key, at most two
dials happen, and a connection dialled in vain has been closed — no open connection exists outside the pool. -/
theorem race_outcomes :
    ∀ s ∈ schedules 6,
      (isDone (final "k".toList s).a && isDone (final "k".toList s).b) = true →
        (connOf (final "k".toList s).a).isSome = true ∧
        connOf (final "k".toList s).a = connOf (final "k".toList s).b ∧
        (final "k".toList s).pool.length = 1 ∧
        (∀ kc ∈ (final "k".toList s).pool, kc.1 = "k".toList ∧ kc.2.shut = false ∧
            some kc.2.id = connOf (final "k".toList s).a) ∧
        1 ≤ (final "k".toList s).next ∧ (final "k".toList s).next ≤ 2 ∧
        orphans (final "k".toList s) = [] := by
  decide +kernel

open Race in
/-- Both callers may still dial (the overlap is not prevented), but the loser's connection is closed by
`Set` and the loser is handed the pooled one. -/
theorem race_double_dial_loser_closed :
    final "k".toList [false, true, false, true, false, true] =
      { pool := [("k".toList, { id := 0 })], next := 2, closed := [1],
        a := .done (.dialled 0), b := .done (.reused 0) } := by
  decide +kernel

open Race in
/-- **The leak that was repaired (defect F1).** With the original unconditional `Set` there is an
interleaving in which both callers dial and the second `Set` overwrites the first: connection 0 stays open,
is in no pool, and no cleanup will ever close it — "dropped once the backend leaves the table" fails for it.
The failing input is replayed on the real code by `c16.race` (corpus). -/
theorem race_unfixed_orphan :
    finalOld "k".toList [false, true, false, true, false, true] =
      { pool := [("k".toList, { id := 1 })], next := 2, closed := [],
        a := .done (.dialled 0), b := .done (.dialled 1) } ∧
    orphans (finalOld "k".toList [false, true, false, true, false, true]) = [0] := by
  decide +kernel

open Race in
/-- Run one after the other, the second call reuses the first call's connection, and neither `Set` leaves a
connection open outside the pool. -/
theorem sequential_no_orphan :
    (final "k".toList [false, false, false, true, true, true]).b = .done (.reused 0) ∧
    orphans (final "k".toList [false, false, false, true, true, true]) = [] ∧
    orphans (finalOld "k".toList [false, false, false, true, true, true]) = [] := by
  decide +kernel

example : dstHost [("dsthost".toList, ["beta".toList])] = "beta".toList := by decide +kernel
example : dstHost [("dsthost".toList, ["a".toList, "b".toList])] = [] := by decide +kernel
example : dstHost [("other".toList, ["x".toList])] = [] := by decide +kernel
example : plainMethod "/grpc.health.v1.Health/Check".toList = true := by
  simp only [toList_lit rfl]; decide +kernel
example : plainMethod "/a.B/C%41".toList = false := by decide +kernel

private def exLookup : Table → Str → Str → Option Str := fun _ h p =>
  if "/svc".toList.isPrefixOf p then (if h = "beta".toList then some "grpc://b".toList else some "grpc://a".toList) else none

example : ({} : World).call some exLookup true [] "/other/M".toList true = ({}, .status codeNotFound) := by
  simp only [toList_lit rfl]; decide +kernel

example :
    (World.run some exLookup {} [.call true [("dsthost".toList, ["beta".toList])] "/svc/M".toList true,
                                 .call true [("dsthost".toList, ["beta".toList])] "/svc/N".toList true,
                                 .call true [] "/svc/M".toList true]).2 =
      [.call (.proxied "grpc://b".toList (.dialled 0)), .call (.proxied "grpc://b".toList (.reused 0)),
       .call (.proxied "grpc://a".toList (.dialled 1))] := by
  simp only [toList_lit rfl]; decide +kernel

private def exTable (u : String) : Table :=
  [([], [{ host := [], path := "/svc".toList,
           targets := [{ service := "s".toList, tags := [], opts := [], url := u.toList, fixedWeight := 0 }] }])]

example : tableURLs (exTable "grpc://a") = ["grpc://a".toList] := by
  simp only [exTable, toList_lit rfl]; decide +kernel

/-- `keeps` is satisfiable on a history with table changes and a cleanup -/
example :
    let w : World := { pool := [("grpc://a".toList, { id := 0 })], next := 1, table := exTable "grpc://a" }
    keeps some exLookup "grpc://a".toList w [.setTable [], .setTable (exTable "grpc://a"), .cleanup, .get "grpc://a".toList true] := by
  simp [keeps, World.step, tableURLs, exTable]

example :
    let w : World := { pool := [("grpc://a".toList, { id := 0 })], next := 1, table := exTable "grpc://a" }
    (World.run some exLookup w [.setTable (exTable "grpc://b"), .cleanup, .setTable (exTable "grpc://a"),
                                .get "grpc://a".toList true]).2 =
      [.none, .closed [{ id := 0 }], .none, .get "grpc://a".toList (.dialled 1)] := by
  simp only [exTable, toList_lit rfl]; decide +kernel

/-! the message comparison of the correspondence: same field sequence ⇔ same message -/
open Spec.Wire in
example : canon "0801" = some [1, 0, 1] := by decide +kernel
open Spec.Wire in
/-- a non-minimal tag (88 00) and a non-minimal varint value (81 00) denote the same field -/
example : sameMsg "88008100" "0801" = true := by decide +kernel
open Spec.Wire in
/-- altered, dropped, duplicated and reordered fields are different messages -/
example : sameMsg "0801" "0802" = false ∧ sameMsg "08011002" "0801" = false ∧
    sameMsg "0801" "08010801" = false ∧ sameMsg "08011002" "10020801" = false := by decide +kernel
open Spec.Wire in
/-- length-delimited payloads and groups are part of the value; bytes that are not wire format fall back to
byte equality -/
example : sameMsg "0a0161" "0a0162" = false ∧ canon "0b08010c" = some [1, 3, 1, 0, 1, 1, 4] ∧
    canon "0b0801" = none ∧ sameMsg "ff" "ff" = true ∧ sameMsg "ff" "fe" = false := by decide +kernel

end Fabio.Props.C16
