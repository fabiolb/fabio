import Fabio.Lemmas.C20Time
import Fabio.Props.C20
/-!
C20, third module: "time (in UTC)". The calendar fields the time renderers print are the civil date and the clock
of the instant `End` in UTC. `Model/C20Time.lean` computes them from the Unix second with its own civil-date function
(the driver does so on every case and compares with what Go's `time` reports: class `calendar-mismatch`); here that
function is proved to be the calendar: it inverts the Gregorian day count and always answers a date that exists.
With that, the hypothesis `EventCalendar` of the field theorems is discharged for every instant of the years
0…9999.
-/
namespace Fabio.Props.C20Time
open Fabio Fabio.Model.C20 Fabio.Model.C20Time

/-- **The civil date of a day number is the date with that day number**: `daysFromCivil` — 365 days a year, a leap
day every 4th year except every 100th except every 400th, month lengths 31/30/…/28|29 — of the answer is the day
asked for. For every day number (no bound). -/
theorem civil_date_inverts_day_count (z : Int) :
    daysFromCivil (civilFromDays z).1 (civilFromDays z).2.1 (civilFromDays z).2.2 = z := by
  obtain ⟨era, n, k, hn, hd, _, hc⟩ := Lemmas.C20Time.civilFromDays_spec z
  rw [hc]
  obtain ⟨m1, m2, m3, m4, m5, m6⟩ := Lemmas.C20Time.monthDay_facts k
  simp only [daysFromCivil]
  rw [m4]
  -- January and February belong to the era's year `n` but carry the next civil year
  by_cases hm : (monthDay k.val).1 ≤ 2
  · simp only [hm, if_true]
    have e1 : ((n : Int) + era * 400 + 1 - 1) / 400 = era := by omega
    have e2 : (n : Int) + era * 400 + 1 - 1 = n + era * 400 := by omega
    rw [e2] at e1 ⊢
    rw [e1]
    have e3 : (n : Int) + era * 400 - era * 400 = n := by omega
    rw [e3]
    omega
  · simp only [hm, if_false]
    have e1 : ((n : Int) + era * 400) / 400 = era := by omega
    rw [e1]
    have e3 : (n : Int) + era * 400 - era * 400 = n := by omega
    rw [e3]
    omega

/-- The answer is a date of the calendar: month 1…12, day 1…(28 | 29 | 30 | 31 as that month has in that year). -/
theorem civil_date_exists (z : Int) :
    1 ≤ (civilFromDays z).2.1 ∧ (civilFromDays z).2.1 ≤ 12 ∧ 1 ≤ (civilFromDays z).2.2 ∧
      (civilFromDays z).2.2 ≤ daysInMonth (civilFromDays z).1 (civilFromDays z).2.1 := by
  obtain ⟨era, n, k, hn, hd, hleap, hc⟩ := Lemmas.C20Time.civilFromDays_spec z
  rw [hc]
  obtain ⟨m1, m2, m3, m4, m5, m6⟩ := Lemmas.C20Time.monthDay_facts k
  refine ⟨m1, m2, m3, ?_⟩
  simp only [daysInMonth]
  by_cases h2 : (monthDay k.val).1 = 2
  · simp only [h2, if_true] at m6 ⊢
    simp only [show ((2 : Int) ≤ 2) from by omega, if_true]
    by_cases h365 : k.val = 365
    · obtain ⟨l1, l2⟩ := hleap h365
      have : isLeap ((n : Int) + era * 400 + 1) = true := by
        simp only [isLeap, Bool.and_eq_true, beq_iff_eq, Bool.or_eq_true, bne_iff_ne, ne_eq]
        omega
      simp only [this, if_true]
      rw [if_pos h365] at m6
      exact m6
    · rw [if_neg h365] at m6
      split <;> omega
  · simp only [h2, if_false] at m6 ⊢
    exact m6

/-- Two different days never get the same date. -/
theorem civil_date_injective (z1 z2 : Int) (h : civilFromDays z1 = civilFromDays z2) : z1 = z2 := by
  have h1 := civil_date_inverts_day_count z1
  have h2 := civil_date_inverts_day_count z2
  rw [h] at h1
  rw [← h1, h2]

def atInstant (e : Event) (sec ns : Int) : Event :=
  let f := utcFields sec ns
  { e with year := f.1, month := f.2.1, day := f.2.2.1, hour := f.2.2.2.1, minute := f.2.2.2.2.1,
           second := f.2.2.2.2.2.1, nanos := f.2.2.2.2.2.2 }

/-- The hypothesis `EventCalendar` of `fields_eq_reference_partial` / `log_line_eq_reference_partial` holds of every
instant whose UTC year is 0…9999: month, day, hour, minute, second and nanosecond are always in range. -/
theorem calendar_of_instant (e : Event) (sec ns : Int)
    (hy : 0 ≤ (atInstant e sec ns).year ∧ (atInstant e sec ns).year ≤ 9999) :
    Lemmas.C20.EventCalendar (atInstant e sec ns) := by
  obtain ⟨m1, m2, d1, d2⟩ := civil_date_exists ((sec + ns / 1000000000) / 86400)
  have d31 : (civilFromDays ((sec + ns / 1000000000) / 86400)).2.2 ≤ 31 := by
    have : ∀ y m, daysInMonth y m ≤ 31 := by
      intro y m; unfold daysInMonth; split <;> (try split) <;> omega
    exact Int.le_trans d2 (this _ _)
  refine ⟨hy, ⟨m1, m2⟩, ⟨d1, d31⟩, ?_, ?_, ?_, ?_⟩ <;>
    simp only [atInstant, utcFields] <;> omega

/-- The time fields of an instant, composed: for every instant of the years 0…9999, `$time_rfc3339` is
`YYYY-MM-DDTHH:MM:SSZ` and `$time_common` is `DD/Mon/YYYY:HH:MM:SS +0000` of the civil date and clock **in UTC** —
`time_fields_utc` with its calendar hypothesis discharged by `calendar_of_instant`. -/
theorem time_fields_of_instant (e : Event) (sec ns : Int)
    (hy : 0 ≤ (atInstant e sec ns).year ∧ (atInstant e sec ns).year ≤ 9999)
    (hr : Props.C20.EventInRange (atInstant e sec ns)) (hd : 0 ≤ (atInstant e sec ns).durNs)
    (hmin : -2^63 < (atInstant e sec ns).status ∧ -2^63 < (atInstant e sec ns).contentLength ∧ -2^63 < (atInstant e sec ns).unixNano)
    (f g : Event → Outcome (List Char))
    (hf : fieldTable.lookup "$time_rfc3339" = some f) (hg : fieldTable.lookup "$time_common" = some g) :
    f (atInstant e sec ns) = .ok (Spec.refRfc3339 (atInstant e sec ns) ++ ['Z']) ∧
    ∃ r, Spec.refField (atInstant e sec ns) "$time_common" = some r ∧ g (atInstant e sec ns) = .ok r :=
  Props.C20.time_fields_utc _ hr (calendar_of_instant e sec ns hy) hd hmin f g hf hg

example : utcFields 1583020799 999999999 = (2020, 2, 29, 23, 59, 59, 999999999) := by decide +kernel
example : utcFields (-1) 0 = (1969, 12, 31, 23, 59, 59, 0) := by decide +kernel
example : civilFromDays 0 = (1970, 1, 1) ∧ civilFromDays 11016 = (2000, 2, 29) ∧ civilFromDays (-719468) = (0, 3, 1) := by decide +kernel
example : daysFromCivil 2000 2 29 = 11016 := by decide +kernel

end Fabio.Props.C20Time
