import Fabio.Props.C02
import Fabio.Model.C02Buf
import Fabio.Lemmas.C02Lines
import Fabio.Lemmas.Lit
/-!
C02 — the long-lived `tableBuffer` of the update loop (`Model/C02Buf.lean`).

The history theorems of `Props/C02.lean` are about a loop that hands `route.NewTable` the concatenated text. The real loop hands
it a buffer that survives from one iteration to the next and that `Parse` does not drain when it stops at a
syntax error. With the `Reset` in place the loop with its buffer refines `WB.step`/`WB.run` for EVERY behaviour of
`NewTable` on the buffer; without it if `NewTable` always drains the buffer, and not for one that leaves a tail
(`noReset_loses_next_valid`). The scanner part shows that the model
of `bufio.Scanner` never takes more out of the buffer than it holds, so `leftAfterParse` is the length of a real tail;
its VALUE is compared with the real `bytes.Buffer` on every case of stream `c02.buffer`.
-/
namespace Fabio.Props.C02Buf
open Fabio Fabio.Model.C02 Fabio.Model.C02Buf Fabio.Model.Parse Fabio.Model.Route

section loop
variable {T : Type}

/-- after `Reset` and the three writes the buffer holds the concatenated text, whatever it held before -/
theorem fill_string (b : Buf) (st1 : WB T) :
    ((((b.reset).writeString st1.svccfg).writeString ['\n']).writeString st1.mancfg).string = st1.nextText := rfl

/-- **One iteration, as written.** Whatever `NewTable` leaves in the buffer (`nt.rest` is arbitrary) and whatever
the buffer held when the iteration began, the locals and the active table afterwards are those of `WB.step`. -/
theorem stepB_refines_step (nt : NT T) (st : WBB T) (e : Ev) :
    (stepB true nt st e).wb = WB.step nt.build st.wb e := by
  unfold stepB WB.step
  simp only [if_true, fill_string]
  by_cases hs : (st.wb.recv e).nextText = (st.wb.recv e).lastTable
  · simp only [hs, if_true]
  · simp only [hs, if_false]
    cases nt.build (st.wb.recv e).nextText <;> rfl

theorem runB_refines_run (nt : NT T) (es : List Ev) (st : WBB T) :
    (runB true nt st es).wb = WB.run nt.build st.wb es :=
  (List.foldl_hom (·.wb) fun st e => (stepB_refines_step nt st e).symm).symm

/-- **What a rejected text leaves behind never matters.** Two runs of the loop over the same history whose
`NewTable`s agree on the result but leave different tails unread, started with different junk in the buffer, go
through the same locals and serve the same table. -/
theorem leftover_never_matters (nt nt' : NT T) (hb : nt.build = nt'.build) (st st' : WBB T) (hw : st.wb = st'.wb)
    (es : List Ev) : (runB true nt st es).wb = (runB true nt' st' es).wb := by
  rw [runB_refines_run, runB_refines_run, hb, hw]

/-- **Keeps the last good table, for the loop with its buffer**: whatever the buffer held at the start and whatever the
rejected texts left in it. -/
theorem keeps_last_good_with_buffer (nt : NT T) (t0 : T) (junk : Buf) (es : List Ev) :
    (runB true nt (WBB.init t0 junk) es).wb.active = lastGood nt.build t0 (texts es) := by
  rw [runB_refines_run]
  exact Fabio.Props.C02.keeps_last_good nt.build t0 es

/-- **The next valid configuration is applied, for the loop with its buffer**: whatever was rejected before it and
whatever those rejected texts left in the buffer. -/
theorem next_valid_applied_with_buffer (nt : NT T) (t0 : T) (junk : Buf) (es : List Ev) (e : Ev) (t : T)
    (hb : nt.build ((WB.run nt.build (WB.init t0) es).recv e).nextText = some t) :
    (runB true nt (WBB.init t0 junk) (es ++ [e])).wb.active = t := by
  rw [runB_refines_run]
  exact Fabio.Props.C02.next_valid_applied nt.build t0 es e t hb

/-- **Without the `Reset`** the loop is the same machine as long as `NewTable` drains the buffer: from an empty buffer
an iteration ends in the state of `WB.step`, the buffer empty again. -/
theorem noReset_refines_when_drained (nt : NT T) (hd : ∀ s, nt.rest s = []) (st : WBB T) (hb : st.buf = []) (e : Ev) :
    (stepB false nt st e).wb = WB.step nt.build st.wb e ∧ (stepB false nt st e).buf = [] := by
  unfold stepB WB.step
  simp only [Bool.false_eq_true, if_false, Buf.writeString, Buf.string, WB.nextText, hb, List.nil_append]
  by_cases hs : (st.wb.recv e).svccfg ++ ['\n'] ++ (st.wb.recv e).mancfg = (st.wb.recv e).lastTable
  · simp [hs]
  · simp only [hs, if_false]
    cases nt.build ((st.wb.recv e).svccfg ++ ['\n'] ++ (st.wb.recv e).mancfg) <;> simp [hd]

/-- a `NewTable` that accepts exactly the text `g` + newline and, like the real one, leaves a tail of a rejected text
unread (here: everything but its first character) -/
def toyNT : NT Nat :=
  { build := fun s => if s = "g\n".toList then some 1 else none,
    rest := fun s => if s = "g\n".toList then [] else s.drop 1 }

theorem toyNT_suffix : toyNT.RestIsSuffix := by
  intro s
  unfold toyNT
  by_cases h : s = "g\n".toList
  · exact ⟨s, by simp [h]⟩
  · exact ⟨s.take 1, by simp only [h, if_false]; exact (List.take_append_drop 1 s).symm⟩

/-- **…and wrong otherwise** (what the trial changes `seeded/C02-m4` and `seeded/C02-m10` do, in the model): there is a
`NewTable` honouring the suffix contract and a history of two updates — a rejected text, then a valid one — after which
the loop without `Reset` still serves the initial table although the last text builds: "the next valid configuration is
still applied" fails. -/
theorem noReset_loses_next_valid :
    ¬ ∀ (nt : NT Nat), nt.RestIsSuffix → ∀ es : List Ev,
        (runB false nt (WBB.init 0 []) es).wb.active = lastGood nt.build 0 (texts es) := by
  intro h
  have := h toyNT toyNT_suffix [.svc "xx".toList, .svc "g".toList]
  revert this
  decide

end loop

theorem scanLoop_off_le (cfg : ScanCfg) (data : Array Bool) (stop : Nat → Bool) : ∀ (fuel i : Nat) (s : Scan),
    s.off ≤ data.size → (scanLoop cfg data stop fuel i s).1.off ≤ data.size := by
  intro fuel
  induction fuel with
  | zero => intro i s h; simpa [scanLoop] using h
  | succ fuel ih =>
    intro i s h
    unfold scanLoop
    have h1 := (Fabio.Lemmas.C02Scan.next_off cfg data (data.size + 40) s h).2
    split
    · rename_i s' heq; rw [heq] at h1; exact h1
    · rename_i tk s' heq
      rw [heq] at h1
      split
      · exact h1
      · exact ih _ _ h1

/-- **What `Parse` takes out of the buffer is part of what was in it** — for every text, every stopping line and both
`bufio` constants: `leftAfterParse` is the length of a genuine tail. -/
theorem consumed_le (cfg : ScanCfg) (text : Str) (stop : Option Nat) : consumed cfg text stop ≤ byteLen text := by
  unfold consumed
  rw [← Fabio.Lemmas.C02Lines.nlFlags_size]
  exact scanLoop_off_le cfg _ _ _ _ _ (by simp)

open Fabio.Lemmas.C02Scan (NoNL Ok)

/-- **What one call of `Scan()` returns, with Go's constants** (4096-byte start buffer, 64 KiB token limit; any constants
`0 < startBuf ≤ maxTok`: `Lemmas.C02Scan.next_spec`), from every state the scanner can be in (`Ok`: initially, and again
after every delivered token): the token is the maximal newline-free segment at the line start `s.base`, and there is none
when that segment has 65536 bytes or more or the source is exhausted — call by call the line-level reading
(`Parse.rawLines`, `maxToken ≤ byteLen raw`) the model of `route.Parse` uses; all calls together:
`scan_delivers_exactly_the_lines`. -/
theorem scan_delivers_lines (data : Array Bool) (fuel : Nat) (s : Scan) (h : Ok goCfg data s)
    (hf : data.size - s.off + (if s.eof then 0 else 1) < fuel) :
    match Scan.next goCfg data fuel s with
    | (some (p, l), s') =>
        Ok goCfg data s' ∧ p = s.base ∧ NoNL data p (p + l) ∧ l < 65536 ∧
        ((data[p + l]? = some true ∧ s'.base = p + l + 1) ∨
         (0 < l ∧ p + l = data.size ∧ s'.base = data.size ∧ s'.eof = true))
    | (none, s') =>
        (s'.tooLong = true ∧ NoNL data s.base (s.base + 65536) ∧ s.base + 65536 ≤ data.size) ∨
        (s'.tooLong = false ∧ s.base = data.size) :=
  Fabio.Lemmas.C02Scan.next_spec goCfg data (by decide) (by decide) fuel s h hf

open Fabio.Lemmas.C02ScanAll (scanAll segs)

/-- **The scanner delivers exactly the lines.** `segs data 65536 n p` is the specification, free of buffers and chunks:
the maximal newline-free segments of the source from position `p` on, cut at the first one of 65536 bytes or more.
(General constants: `Lemmas.C02ScanAll.scanAll_eq_segs`.) -/
theorem scan_delivers_exactly_the_lines (data : Array Bool) (n : Nat) (s : Scan) (h : Ok goCfg data s)
    (hn : data.size - s.base < n) :
    (scanAll goCfg data n s).1 = (segs data 65536 n s.base).1 ∧
    (scanAll goCfg data n s).2.tooLong = (segs data 65536 n s.base).2 :=
  have h := Fabio.Lemmas.C02ScanAll.scanAll_eq_segs goCfg data (by decide) (by decide) n s h hn
  ⟨h.1, h.2.1⟩

/-- the fuel `scanLoop` hands every call is enough, whatever state the scanner is in -/
theorem scan_fuel_suffices (data : Array Bool) (s : Scan) :
    data.size - s.off + (if s.eof then 0 else 1) < data.size + 40 :=
  Fabio.Lemmas.C02Scan.fuel_suffices data s

section examples

example (cfg : ScanCfg) (data : Array Bool) : Ok cfg data {} := Fabio.Lemmas.C02Scan.Ok.init cfg data

/-- four lines, one of them empty, the last without newline: specification and scanner (4-byte start buffer) agree;
a 10-byte line with an 8-byte limit: both stop after the first line with `ErrTooLong` -/
example : segs (nlFlags "ab\ncd\n\nx".toList) 16 10 0 = ([(0,2),(3,2),(6,0),(7,1)], false) ∧
    (scanAll ⟨4, 16⟩ (nlFlags "ab\ncd\n\nx".toList) 10 {}).1 = [(0,2),(3,2),(6,0),(7,1)] := by
  simp only [toList_lit rfl]; decide +kernel
example : segs (nlFlags "ab\n0123456789\nzz".toList) 8 10 0 = ([(0,2)], true) ∧
    ((scanAll ⟨4, 8⟩ (nlFlags "ab\n0123456789\nzz".toList) 10 {}).1,
     (scanAll ⟨4, 8⟩ (nlFlags "ab\n0123456789\nzz".toList) 10 {}).2.tooLong) = ([(0,2)], true) := by
  simp only [toList_lit rfl]; decide +kernel

example :
    let d := nlFlags "ab\ncd".toList
    let r1 := Scan.next ⟨4, 16⟩ d 50 {}
    let r2 := Scan.next ⟨4, 16⟩ d 50 r1.2
    let r3 := Scan.next ⟨4, 16⟩ d 50 r2.2
    (r1.1, r2.1, r3.1, r3.2.tooLong) = (some (0, 2), some (3, 2), none, false) := by
  simp only [toList_lit rfl]; decide +kernel

/-- a loop whose `NewTable` leaves junk behind after a failure, started with junk in the buffer: fail, recover -/
example : ((runB true toyNT (WBB.init 0 "junk".toList) [.svc "xx".toList, .svc "g".toList]).wb.active,
           (runB false toyNT (WBB.init 0 []) [.svc "xx".toList, .svc "g".toList]).wb.active,
           (runB true toyNT (WBB.init 0 []) [.svc "xx".toList]).buf) = (1, 0, "x\n".toList) := by
  unfold toyNT; simp only [toList_lit rfl]; decide +kernel

example : toyNT.build ((WB.run toyNT.build (WB.init 0) [.svc "xx".toList]).recv (.svc "g".toList)).nextText = some 1 := by
  unfold toyNT; simp only [toList_lit rfl]; decide +kernel

example : (consumed ⟨4, 16⟩ "bad\nroute add".toList (some 1), consumed ⟨4, 16⟩ "bad\nroute add".toList none,
           byteLen "bad\nroute add".toList) = (4, 13, 13) := by
  simp only [toList_lit rfl]; decide +kernel

/-- a line longer than the largest buffer: the scanner gives up with the buffer full -/
example : (consumed ⟨4, 8⟩ "ab\n0123456789\nzz".toList none) = 11 := by
  simp only [toList_lit rfl]; decide +kernel

end examples

end Fabio.Props.C02Buf
