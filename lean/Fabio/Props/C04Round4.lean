import Fabio.Model.C04F64
import Fabio.Props.C04
import Fabio.Lemmas.C04TableG
import Fabio.Lemmas.C04Round
import Fabio.Lemmas.C04Arith
/-!
C04 for the code as coded: `weighTargets`, the slot rule, the ring and the route commands in an arbitrary arithmetic
`A` (`Model/C04F64.lean`). `Arith.exact` is the ℚ model of `Props/C04.lean`, `Arith.f64` is what the driver compares
with the Go code bit for bit, so the gap between float64 and ℚ is the gap between two instances of one definition.
Signs, the slot guarantees and the ring hold in every arithmetic that rounds non-negative numbers to non-negative
numbers and `0` to `0` (`weighA_nonneg`, `ring_as_coded` in `Props/C04.lean`, where the ℚ statements are their exact
instance); the slot resolution `1 + 10⁻⁶` and the round-robin share are proved for float64.
-/
namespace Fabio.Props.C04
open Fabio Fabio.Model.Route Fabio.Model.C04 Fabio.Lemmas.C04

theorem ops_exact : Ops.of Arith.exact = Ops.rat := by
  unfold Ops.of Ops.rat
  congr 1
  funext ts
  exact weighA_exact ts

theorem newTableA_exact (env : Env) (defs : List RouteDef) : newTableA Arith.exact env defs = newTable env defs := by
  unfold newTableA; rw [ops_exact, newTableG_rat]

theorem newTableWA_exact (env : Env) (defs : List (RouteDef × Bool)) :
    newTableWA Arith.exact env defs = newTableW env defs := by
  unfold newTableWA; rw [ops_exact, newTableWG_rat]

theorem every_route_weights_as_coded (env : Env) (defs : List RouteDef) (t : Table)
    (h : newTableA Arith.exact env defs = .ok t) :
    ∀ kv ∈ t, ∀ r ∈ kv.2,
      r.targets ≠ [] ∧ (∀ tg ∈ r.targets, 0 ≤ tg.weight) ∧ (r.targets.map (·.weight)).sum = 1 :=
  every_route_weights env defs t (by rw [← newTableA_exact]; exact h)

/-- `weighTargets` writes `Weight` and nothing else — in every arithmetic. -/
theorem weighA_keeps_fields (A : Arith) (ts : List Target) :
    (weighA A ts).map (fun t => { t with weight := 0 }) = ts.map (fun t => { t with weight := 0 }) := by
  rw [weighA_eq, List.map_map]
  rfl

theorem f64_rounds_nonneg : ∀ q, 0 ≤ q → 0 ≤ Arith.f64.rnd q := by
  intro q hq
  rw [f64_rnd_of_nonneg q hq]
  exact roundF64_nonneg q

theorem weighF64_nonneg (ts : List Target) : ∀ t ∈ weighA Arith.f64 ts, 0 ≤ t.weight :=
  weighA_nonneg Arith.f64 f64_rounds_nonneg ts

/-- "Fixed weights are honoured as given", exactly, in every arithmetic: when the sum the code computed triggers
no normalisation (no overflow, not above 1, not below 1 with every target fixed), a target whose requested weight
is a value of the arithmetic (`rnd fw = fw`: a float64 for `Arith.f64`) receives `fw / 1.0 / 1.0`, which rounds
nothing away. -/
theorem fixed_honoured_as_coded (A : Arith) (ts : List Target) (s : Rat)
    (hs : sumLoop A ((ts.filter (fun t => decide (0 < t.fixedWeight))).map (·.fixedWeight)) = some s)
    (hno : ¬ (1 < s ∨ (nFixed ts = ts.length ∧ s < 1)))
    (t : Target) (ht : t ∈ weighA A ts) (hf : 0 < t.fixedWeight) (hrep : A.rnd t.fixedWeight = t.fixedWeight) :
    t.weight = t.fixedWeight := by
  rw [weighA_eq, unitSum_of_some hs] at ht
  obtain ⟨x, hx, rfl⟩ := List.mem_map.mp ht
  have hfx : 0 < x.fixedWeight := hf
  have hrx : A.rnd x.fixedWeight = x.fixedWeight := hrep
  show effA A ts (1, s) x = x.fixedWeight
  rw [effA_of_fixed (nFixed_ne_zero_of_mem hx hfx) hfx, if_neg hno]
  simp only [div_one, hrx]

/-- "The remaining targets share the remainder equally", in every arithmetic: one value `dynamic` is computed and
stored in each. -/
theorem dynamic_share_equal_as_coded (A : Arith) (ts : List Target) (t u : Target)
    (ht : t ∈ weighA A ts) (hu : u ∈ weighA A ts) (hft : ¬ 0 < t.fixedWeight) (hfu : ¬ 0 < u.fixedWeight) :
    t.weight = u.weight := by
  rw [weighA_eq] at ht hu
  obtain ⟨x, _, rfl⟩ := List.mem_map.mp ht
  obtain ⟨y, _, rfl⟩ := List.mem_map.mp hu
  have hx : ¬ 0 < x.fixedWeight := hft
  have hy : ¬ 0 < y.fixedWeight := hfu
  show effA A ts _ x = effA A ts _ y
  by_cases h0 : nFixed ts = 0
  · rw [effA_of_no_fixed h0, effA_of_no_fixed h0]
  · rw [effA_of_dynamic h0 hx, effA_of_dynamic h0 hy]

theorem slotCountA_exact (w : Rat) : slotCountA Arith.exact w = slotCount w := rfl

/-- `slotCountF64` (`Model/C04Spec.lean`) is the slot rule with which the agreement check `ringAgrees` recomputes the
ring from the float64 weights Go reported -/
theorem slotCountF64_eq (w : Rat) (hw : 0 ≤ w) : slotCountF64 w = slotCountA Arith.f64 w := by
  unfold slotCountF64 slotCountA
  rw [f64_rnd_of_nonneg _ (mul_nonneg (by simp [maxSlots]) hw)]

/-- half a unit in the last place; `2⁻¹⁰⁷⁵` is the case of denormal results -/
theorem roundF64_error (q : Rat) (hq : 0 < q) :
    |roundF64 q - q| ≤ pow2 (-1075) ∨ |roundF64 q - q| ≤ q * pow2 (-53) :=
  roundF64_err q hq

theorem f64_rounds_zero : Arith.f64.rnd 0 = 0 := (f64_rnd_of_nonneg 0 le_rfl).trans roundF64_zero

theorem ring_f64 (ts : List Target) (pl : List (Int × Nat))
    (hperm : pl.Perm (entries ((weighA Arith.f64 ts).map (fun t => slotCountA Arith.f64 t.weight)))) :
    ∃ ring, ringAsCoded Arith.f64 ts pl = .ok ring ∧ (∀ s ∈ ring, s ≠ none) ∧
      ∀ i t, (weighA Arith.f64 ts)[i]? = some t →
        ring.count (some i) = (if nFixed ts = 0 then 1 else (slotCountA Arith.f64 t.weight).toNat) ∧
        (0 < t.weight → some i ∈ ring) ∧ (t.weight = 0 → nFixed ts ≠ 0 → some i ∉ ring) := by
  obtain ⟨ring, h1, _, h3, h4⟩ := ring_as_coded Arith.f64 f64_rounds_nonneg f64_rounds_zero ts pl hperm
  exact ⟨ring, h1, not_none_of_slots h3, h4⟩

/-- End to end for the code as coded: `weighA_nonneg` and `ring_as_coded` for every route of the table of every
command script (`route add` / `route del` / `route weight`, any order, through `NewTable` or `NewTableCustom`). -/
theorem every_route_as_coded (A : Arith) (hA : ∀ q, 0 ≤ q → 0 ≤ A.rnd q) (h0 : A.rnd 0 = 0)
    (env : Env) (defs : List RouteDef) (t : Table) (h : newTableA A env defs = .ok t) :
    ∀ kv ∈ t, ∀ r ∈ kv.2,
      r.targets ≠ [] ∧ (∀ tg ∈ r.targets, 0 ≤ tg.weight) ∧
      ∃ ts, r.targets = weighA A ts ∧
        ∀ pl : List (Int × Nat), pl.Perm (entries (r.targets.map (fun t => slotCountA A t.weight))) →
          ∃ ring, ringAsCoded A ts pl = .ok ring ∧ (∀ s ∈ ring, s ≠ none) ∧
            ∀ i tg, r.targets[i]? = some tg →
              ring.count (some i) = (if nFixed ts = 0 then 1 else (slotCountA A tg.weight).toNat) ∧
              (0 < tg.weight → some i ∈ ring) ∧ (tg.weight = 0 → nFixed ts ≠ 0 → some i ∉ ring) := by
  intro kv hkv r hr
  obtain ⟨hne, ts, hts⟩ := newTable_okG (Ops.of A) (weighA_ne_nil A) env defs t h kv hkv r hr
  have hts' : r.targets = weighA A ts := hts
  refine ⟨hne, ?_, ts, hts', ?_⟩
  · rw [hts']; exact weighA_nonneg A hA ts
  · intro pl hperm
    rw [hts'] at hperm ⊢
    obtain ⟨ring, h1, _, h3, h4⟩ := ring_as_coded A hA h0 ts pl hperm
    exact ⟨ring, h1, not_none_of_slots h3, h4⟩

/-- float64 — the instance the Go code is compared with bit for bit -/
theorem every_route_f64 (env : Env) (defs : List RouteDef) (t : Table)
    (h : newTableA Arith.f64 env defs = .ok t) :
    ∀ kv ∈ t, ∀ r ∈ kv.2,
      r.targets ≠ [] ∧ (∀ tg ∈ r.targets, 0 ≤ tg.weight) ∧
      ∃ ts, r.targets = weighA Arith.f64 ts ∧
        ∀ pl : List (Int × Nat), pl.Perm (entries (r.targets.map (fun t => slotCountA Arith.f64 t.weight))) →
          ∃ ring, ringAsCoded Arith.f64 ts pl = .ok ring ∧ (∀ s ∈ ring, s ≠ none) ∧
            ∀ i tg, r.targets[i]? = some tg →
              ring.count (some i) = (if nFixed ts = 0 then 1 else (slotCountA Arith.f64 tg.weight).toNat) ∧
              (0 < tg.weight → some i ∈ ring) ∧ (tg.weight = 0 → nFixed ts ≠ 0 → some i ∉ ring) :=
  every_route_as_coded Arith.f64 f64_rounds_nonneg f64_rounds_zero env defs t h

/-- Sentences 2–4 of the property for the float64 code, end to end: over a non-empty ring a full round-robin cycle
that does not cross the uint64 wrap sends target `i` exactly `nᵢ` requests, `nᵢ = 1` without fixed weights and
otherwise `|nᵢ − 10⁴·wᵢ| < 1 + 10⁻⁶` (`wᵢ` the float64 weight; `wᵢ ≤ 2` is the range of `slot_error_f64`). That the
ring is not empty is a hypothesis (`0 < ring.length`): over ℚ it follows from the weights summing to one. -/
theorem rr_share_f64 (env : Env) (defs : List RouteDef) (t : Table)
    (h : newTableA Arith.f64 env defs = .ok t) :
    ∀ kv ∈ t, ∀ r ∈ kv.2, ∃ ts, r.targets = weighA Arith.f64 ts ∧
      ∀ pl : List (Int × Nat), pl.Perm (entries (r.targets.map (fun t => slotCountA Arith.f64 t.weight))) →
        ∃ ring, ringAsCoded Arith.f64 ts pl = .ok ring ∧
          ∀ total, 0 < ring.length → total + ring.length ≤ uint64Size →
            ∃ out, rrRun ring ring.length total = .ok out ∧
              ∀ i tg, r.targets[i]? = some tg →
                (nFixed ts = 0 → out.count (some i) = 1) ∧
                (nFixed ts ≠ 0 → tg.weight ≤ 2 →
                  |((out.count (some i) : Nat) : Rat) - 10000 * tg.weight| < 1 + 1 / 1000000) ∧
                (0 < tg.weight → 0 < out.count (some i)) ∧
                (tg.weight = 0 → nFixed ts ≠ 0 → out.count (some i) = 0) := by
  intro kv hkv r hr
  obtain ⟨_, hnn, ts, hts, hring⟩ := every_route_f64 env defs t h kv hkv r hr
  refine ⟨ts, hts, fun pl hperm => ?_⟩
  obtain ⟨ring, h1, _, h3⟩ := hring pl hperm
  refine ⟨ring, h1, fun total hl hw => ?_⟩
  obtain ⟨out, ho, hc⟩ := rr_cycle_exact ring hl total hw
  refine ⟨out, ho, fun i tg hi => ?_⟩
  obtain ⟨c1, c2, c3⟩ := h3 i tg hi
  have hwn : 0 ≤ tg.weight := hnn tg (List.mem_of_getElem? hi)
  refine ⟨fun h0 => by rw [hc, c1]; simp [h0], fun hn h2 => ?_, fun hp => ?_, fun hz hn => ?_⟩
  · rw [hc, c1, if_neg hn]
    rw [toNat_cast (slotCountA_nonneg Arith.f64 f64_rounds_nonneg _ hwn)]
    exact slot_error_f64 _ hwn h2
  · rw [hc]; exact List.count_pos_iff.mpr (c2 hp)
  · rw [hc]; exact List.count_eq_zero_of_not_mem (c3 hz hn)

theorem rndPickA_refines (ring : Array (Option Nat)) (rnd : Nat → Int) :
    rndPickA ring rnd = rndPick ring.toList rnd := by
  unfold rndPickA rndPick
  simp only [Array.length_toList, Array.getElem?_toList]
  split
  · rfl
  · cases ring[(rnd ring.size).toNat]? <;> rfl

/-- Over the `N` possible results of `randIntn(N)` `rndPicker` returns `s` for exactly as many values as `s` has
slots on the ring: with a uniform source the probability of `s` is `count(s) / N`, the share a full round-robin
cycle gives it (`rr_cycle_exact`). -/
theorem rnd_uniform_share (ring : Ring) (s : Option Nat) :
    (List.range ring.length).countP (fun (k : Nat) => decide (rndPick ring (fun _ => (k : Int)) = .ok s)) = ring.count s := by
  rw [count_eq_countP_range]
  apply List.countP_congr
  intro k hk
  have hk := List.mem_range.mp hk
  rw [rndPick_const ring k hk, List.getElem?_eq_getElem hk]
  simp only [decide_eq_true_eq, Outcome.ok.injEq, Option.some.injEq]

/-- End to end for the random picker: the number of RNG values (out of the `N` equally likely ones) that select
target `i` is `nᵢ` with `|nᵢ − 10⁴·wᵢ| < 1`, and `|N − 10⁴| ≤ #targets`; without fixed weights it is one value out
of `N = n` (probability `1/n = wᵢ` exactly). -/
theorem rnd_share (ts : List Target) (hne : ts ≠ []) (pl : List (Int × Nat))
    (hperm : pl.Perm (entries (slotCounts (weigh ts)))) :
    ∃ ring, ringOf (weigh ts) pl = .ok ring ∧ 0 < ring.length ∧
      (nFixed ts = 0 → ring.length = ts.length) ∧
      (nFixed ts ≠ 0 → |((ring.length : Nat) : Rat) - 10000| ≤ (ts.length : Rat)) ∧
      ∀ i t, (weigh ts)[i]? = some t →
        let c := (List.range ring.length).countP (fun (k : Nat) => decide (rndPick ring (fun _ => (k : Int)) = .ok (some i)))
        (nFixed ts = 0 → c = 1 ∧ t.weight = 1 / (ts.length : Rat)) ∧
        (nFixed ts ≠ 0 → |((c : Nat) : Rat) - 10000 * t.weight| < 1) := by
  obtain ⟨ring, h1, h2, hlen, _, h4⟩ := ring_of_route ts hne pl hperm
  have hl : 0 < ring.length := List.length_pos_iff.mpr h2
  refine ⟨ring, h1, hl, fun h0 => ?_, fun hn => ?_, fun i t hi => ?_⟩
  · rw [hlen, if_pos h0]
  · have h0 : 0 ≤ sumInt (slotCounts (weigh ts)) := by
      rw [sumInt_eq]; exact (toNat_sum _ (slotCounts_nonneg ts)).2
    rw [hlen, if_neg hn, toNat_cast h0]; exact slots_total_near ts hne
  · exact share_of_count hi ((rnd_uniform_share ring (some i)).trans (h4 i t hi).1)

/-! Full statement that the code cannot satisfy: *every* window of `N` sequential `rrPicker` calls returns every
slot content exactly as often as it occurs on the ring. `rr_cycle_exact` proves it for windows with
`total + N ≤ 2⁶⁴`, and that hypothesis is forced: across the wrap the cursor jumps from `2⁶⁴ − 1` to `0`, and unless
`N` divides `2⁶⁴` the cycle is cut short — three targets without fixed weights, cursor `2⁶⁴ − 1`: the next three
requests go to targets 0, 0, 1 (target 2 is skipped once). `corpus/c04.rr.jsonl` replays this input on the real
`Table.Lookup`/`rrPicker` (same picks). It takes 2⁶⁴ requests on one route to get there. -/
theorem rr_cycle_not_exact_across_wrap :
    ∃ (ring : Ring) (total : Nat), 0 < ring.length ∧ total < uint64Size ∧
      ∃ out, rrRun ring ring.length total = .ok out ∧ ∃ s, out.count s ≠ ring.count s :=
  ⟨[some 0, some 1, some 2], 2^64 - 1, by decide, by decide +kernel,
   [some 0, some 0, some 1], by decide +kernel, some 2, by decide⟩

/-- 0.1, 0.3 and two dynamic targets in float64: the float weights are the nearest doubles of 1/10, 3/10 and
of (1 − (0.1 + 0.3)) / 2, not the rationals — and in exact arithmetic the same definition gives 1/10, 3/10,
3/10, 3/10 -/
example : weighW Arith.exact [1/10, 3/10, 0, 0] = [1/10, 3/10, 3/10, 3/10] := by decide +kernel
example : weighW Arith.f64 [roundF64 (1/10), roundF64 (3/10), 0, 0] =
    [roundF64 (1/10), roundF64 (3/10), roundF64 (3/10), roundF64 (3/10)] := by decide +kernel
/-- three times 1e308: the sum overflows, the weights are summed relative to the largest: a third each -/
example : weighW Arith.f64 [roundF64 (10^308), roundF64 (10^308), roundF64 (10^308)] =
    [roundF64 (1/3), roundF64 (1/3), roundF64 (1/3)] := by decide +kernel
/-- a share of 5e-324 (the smallest denormal) over two targets underflows to 0: both become dynamic -/
example : spreadW Arith.f64 (pow2 (-1074)) 2 = 0 := by decide +kernel
/-- float64 identity: 0.0001 / 10 and 0.00001 are the same double, their exact quotients differ -/
example : spreadW Arith.f64 (roundF64 (1/10000)) 10 = roundF64 (1/100000) ∧
    spreadW Arith.exact (roundF64 (1/10000)) 10 ≠ roundF64 (1/100000) := by decide +kernel
/-- 0.9 and 0.00001 in float64: the small target still gets its guaranteed slot -/
example : (weighA Arith.f64 [tg (roundF64 (9/10)), tg (roundF64 (1/100000))]).map (fun t => slotCountA Arith.f64 t.weight)
    = [9999, 1] := by decide +kernel
/-- a float64 table that exists: one route, two targets -/
example : (match newTableA Arith.f64 ⟨fun s => some s, fun _ => true⟩
    [{ cmd := .add, src := ['/'], dst := ['a'], weight := roundF64 (1/10) }, { cmd := .add, src := ['/'], dst := ['b'] }] with
    | .ok t => t.map (fun kv => kv.2.map (fun r => r.targets.map (·.weight)))
    | .error _ => []) = [[[roundF64 (1/10), roundF64 (1 - roundF64 (1/10))]]] := by decide +kernel
/-- the hypotheses of `fixed_honoured_as_coded` hold for 0.1 + 0.3 next to two dynamic targets in float64: the
float sum is below 1, not every target is fixed, and the requested weights are float64 values -/
example : (match sumLoop Arith.f64 [roundF64 (1/10), roundF64 (3/10)] with
    | some s => decide (¬ (1 < s ∨ ((2 : Nat) = 4 ∧ s < 1)))
    | none => false) = true ∧
    Arith.f64.rnd (roundF64 (1/10)) = roundF64 (1/10) := by decide +kernel
/-- 1/3 in float64: 3333 slots, within 1 + 10⁻⁶ of 3333.33… -/
example : slotCountA Arith.f64 (roundF64 (1/3)) = 3333 ∧ (0 : Rat) ≤ roundF64 (1/3) ∧ roundF64 (1/3) ≤ 2 := by decide +kernel
example : f64_rounds_nonneg (1/3) (by decide +kernel) = f64_rounds_nonneg (1/3) (by decide +kernel) := rfl
/-- ring 0 1 0 (two slots for target 0): two of the three RNG values select target 0 -/
example : (List.range 3).countP (fun (k : Nat) => decide (rndPick [some 0, some 1, some 0] (fun _ => (k : Int)) = .ok (some 0))) = 2 := by
  decide +kernel

end Fabio.Props.C04
