import Fabio.Props.C02
import Fabio.Props.C04
import Fabio.Lemmas.Lit
/-!
C02 — "never crashes", the part carried by C04's ring and picker theorems: corollaries for every table the model of
`route.NewTable` returns for ANY configuration text. Kept in its own module because it imports C04's property
module (Mathlib-backed proofs); `Props/C02.lean` stays core-only.

These are statements about the model over ℚ (effective weights are exact rationals in [0,1] that sum to 1). The
float64 side — the clamp introduced by the repair of D02 makes the computed weights land in [0,1] and the slot
counts non-negative — is exercised by `c02.nopanic` (hostile weights) and by C04's streams.
-/
namespace Fabio.Props.C02
open Fabio Fabio.Model.Route Fabio.Model.Parse Fabio.Model.C04

/-- **Ring construction never panics**, for every text that builds and every route of the resulting table, for
every order in which Go's unstable sort may leave the slot entries: the ring fill finds a free slot every
time (no endless scan, no index out of range, no negative `make`), the ring is not empty and holds no nil. -/
theorem ring_no_panic (env : Env) (pf : ParseFloat) (text : Model.C02.Text) (t : Table)
    (h : loadTable env pf text = .ok t) :
    ∀ kv ∈ t, ∀ r ∈ kv.2, ∀ pl : List (Int × Nat), pl.Perm (entries (slotCounts r.targets)) →
      ∃ ring, ringOf r.targets pl = .ok ring ∧ ring ≠ [] ∧ ∀ s ∈ ring, s ≠ none := by
  obtain ⟨defs, _, hn⟩ := no_partial_table env pf text t h
  intro kv hkv r hr pl hperm
  obtain ⟨ring, h1, h2, h3, _⟩ := Fabio.Props.C04.every_route_ring env defs t hn kv hkv r hr pl hperm
  exact ⟨ring, h1, h2, h3⟩

/-- **Neither picker panics on such a ring**: `rrPicker` for every value of the cursor (no division by zero, no
index out of range), `rndPicker` for every RNG that honours `0 ≤ randIntn n < n`. -/
theorem pickers_no_panic (env : Env) (pf : ParseFloat) (text : Model.C02.Text) (t : Table)
    (h : loadTable env pf text = .ok t) :
    ∀ kv ∈ t, ∀ r ∈ kv.2, ∀ pl : List (Int × Nat), pl.Perm (entries (slotCounts r.targets)) →
      ∃ ring, ringOf r.targets pl = .ok ring ∧
        (∀ total, ∃ s, rrPick ring total = .ok (s, (total + 1) % uint64Size)) ∧
        (∀ rnd : Nat → Int, 0 ≤ rnd ring.length ∧ rnd ring.length < ring.length → ∃ s, rndPick ring rnd = .ok s) := by
  intro kv hkv r hr pl hperm
  obtain ⟨ring, h1, h2, _⟩ := ring_no_panic env pf text t h kv hkv r hr pl hperm
  have hpos : 0 < ring.length := List.length_pos_iff.mpr h2
  refine ⟨ring, h1, fun total => ?_, fun rnd hr' => ?_⟩
  · obtain ⟨s, hs, _⟩ := Fabio.Lemmas.C04.rrPick_ok ring hpos total
    exact ⟨s, hs⟩
  · obtain ⟨s, hs, _⟩ := Fabio.Props.C04.rnd_picks_ring_slot ring rnd hr'
    exact ⟨s, hs⟩

/-- the hypotheses are satisfiable: a text with a two-target route, one weight fixed, builds a non-empty table -/
example : ∃ t, loadTable { normURL := some, globOK := fun _ => true }
    (fun s => if s = "0.1".toList then some (.fin (1/10)) else none)
    "route add a /x http://a:1/ weight 0.1\nroute add b /x http://b:1/".toList = .ok t ∧ t ≠ [] := by
  simp only [toList_lit rfl]
  refine ⟨_, rfl, ?_⟩
  decide +kernel

end Fabio.Props.C02
