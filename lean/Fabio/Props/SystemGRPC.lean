import Fabio.Props.System
import Fabio.Props.C16Compose
/-!
System-level composition for gRPC: the registry pipeline (C01 ∘ C14 ∘ C05) under the gRPC interceptor with the
real routing function (C16Compose: `intercept` over C03's `Lookup` on the synthetic request).

* `grpc_forwarded_only_to_eligible_instance` — on the service table of registry state R, every call the interceptor
  forwards goes to a backend that is the `route add` of a routing tag of an instance eligible (healthy) in R, stored under
  that tag's (host, path);
* `grpc_unhealthy_backend_never_dialled`     — the backend dialled (`w.call … = proxied k`) has such a target's URL as its
  pool key `k`: if no eligible instance advertises URL `u`, no call is proxied to pool key `u`.
-/
namespace Fabio.Props.SystemGRPC
open Fabio Fabio.Model Fabio.Model.C16 Fabio.Props.C16Compose
open Fabio.Model.Route (Env Table Target Route)
open Fabio.Model.C03 (Cfg)
open Fabio.Model.C05Spec (key newTarget)
open Fabio.Model.C01 Fabio.Model.C01Compose Fabio.Props.C01Compose
open Fabio.Model.C14 (intents wantDef)
open Fabio.Model.Parse (loadTable ParseFloat)
open Fabio.Lemmas.C14 (core)
open Fabio.Props.System (stored_target_eligible)

section
variable (env : Env) (pf : ParseFloat) (ccfg : Fabio.Model.C14.Cfg) (st : List (List Char)) (strict : Bool)
variable (checks : List Check) (catalog : List Char → List Instance)

theorem grpc_forwarded_only_to_eligible_instance (wf : WellFormed ccfg checks catalog) (t : Table)
    (hload : loadTable env pf (svcText env pf ccfg st strict checks catalog) = .ok t)
    (cfg : Cfg) (hpick : Props.C03.PickOK cfg.pick) (pp : List Char → Option (List Char)) (md : MD)
    (method p : List Char) (hp : pp method = some p) {h : List Char} {r : Route} {tg : Target}
    (hf : grpcIntercept cfg t pp md method = .forward (h, r, tg)) :
    ∃ i, Eligible st strict checks catalog i ∧
      ∃ it ∈ intents ccfg (regOf i), ∃ d u, wantDef pf it = some d ∧ env.normURL d.dst = some u ∧
        key d.src = (lowerL h, r.path) ∧ core tg = core (newTarget d u) := by
  obtain ⟨⟨_, hr, _⟩, htg⟩ := grpc_routed_to_matching_backend cfg t pp md method p hp hpick hf
  exact stored_target_eligible env pf ccfg st strict checks catalog wf hload hr htg

theorem grpc_unhealthy_backend_never_dialled (wf : WellFormed ccfg checks catalog) (w : World)
    (hload : loadTable env pf (svcText env pf ccfg st strict checks catalog) = .ok w.table)
    (cfg : Cfg) (hpick : Props.C03.PickOK cfg.pick) (pp : List Char → Option (List Char)) (md : MD)
    (method p : List Char) (dialOK : Bool) (hp : pp method = some p) (u : List Char)
    (hnone : ∀ i, Eligible st strict checks catalog i → ∀ it ∈ intents ccfg (regOf i), ∀ d,
      wantDef pf it = some d → env.normURL d.dst ≠ some u)
    {w' : World} {k : List Char} {res : GetRes}
    (hc : w.call pp (lookupKey cfg) true md method dialOK = (w', .proxied k res)) : k ≠ u := by
  obtain ⟨h, r, tg, ⟨_, hr, _⟩, htg, rfl, _⟩ :=
    grpc_call_reaches_matching_backend cfg pp w md method p dialOK hp hpick hc
  exact (stored_target_eligible env pf ccfg st strict checks catalog wf hload hr htg).url hnone

end

/-! ### non-vacuity: the two-node registry of `C01Compose`; a call with `dsthost: foo.com` reaches n1's instance -/
namespace Demo
open Fabio.Props.C14 (envW pfW cfgW)
open Fabio.Props.C01Compose (checksW catalogW stW wellFormedW)
open Fabio.Props.System.Demo (tableW tableW_of_load loadW)

example : (match grpcIntercept Fabio.Props.C16Compose.Ex.cfg tableW some [("dsthost".toList, ["foo.com".toList])]
      "/svc.A/M".toList with
    | .forward a => decide (a.2.2.url = "http://10.0.0.1:8000/".toList) | _ => false) = true := by
  rw [tableW_of_load loadW]
  simp only [toList_lit rfl]
  decide +kernel

end Demo

end Fabio.Props.SystemGRPC
