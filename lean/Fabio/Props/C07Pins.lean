import Fabio.Generated.C07
import Fabio.Props.C07Xlate
/-!
CHANGE DETECTORS for C07 (`"pins_module"` in checks/C07.json): the shape of sequential, deterministic code whose
input/output behaviour a correspondence stream compares with the model on every run. When one of these stops
building nothing is claimed broken — the streams run at the widened budget with a second seed and decide. Each
statement names the stream that carries the tie; every archived breaking change that breaks one of them is also
exposed by the named stream with a concrete input.
-/
namespace Fabio.Props.C07Pins
open Fabio Fabio.Generated.C07

def idx (k : String) : Option Nat := (serveOrder.zipIdx.find? (·.1 = k)).map (·.2)
def before (a b : String) : Bool :=
  serveOrder.count a = 1 && serveOrder.count b = 1 &&
  match idx a, idx b with
  | some i, some j => i < j
  | _, _ => false

/-- order inside the URL construction: raw path taken first, strip before prepend, `RawPath` set last; query
merge, Host override and `addHeaders` before the handler is chosen — `c07.url` (strip+prepend classes, `+enc`),
`c07.serve` (forwarding headers against the Host override) -/
theorem url_construction_order :
    before "url-build" "rawpath-init" ∧ before "url-build" "query-merge" ∧ before "rawpath-init" "strip" ∧
    before "strip" "prepend" ∧ before "prepend" "rawpath-set" ∧ before "rawpath-set" "handler-choice" ∧
    before "query-merge" "handler-choice" ∧ before "noroute-return" "host-override" ∧
    before "host-override" "handler-choice" ∧ before "noroute-return" "addHeaders" ∧
    before "addHeaders" "handler-choice" ∧ before "redirect" "url-build" := by decide +kernel

/-- the no-route branch, statement by statement — `c07.noroute` (statuses at and around both bounds, pages, HEAD) -/
theorem noroute_branch :
    noRouteEvents = ["store status = recv.Config.NoRouteStatus",
      "status < 100 || status > 999 ⊢ store status = http.StatusNotFound",
      "call w.WriteHeader(status)", "store html = noroute.GetHTML()",
      "nonempty(html) ⊢ call io.WriteString(w, html)", "return"] := rfl

/-- the returns in front of the target-URL literal — `c07.serve` (outcome class per gate) -/
theorem url_built_past_the_gates :
    gatePrefix = ["past:!(recv.Lookup == nil)", "past:!(target == nil)", "past:!(target.AccessDeniedHTTP(req))",
      "past:!(!target.Authorized(req, w, recv.AuthSchemes))",
      "past:!(target.RedirectCode != 0 && target.RedirectURL != nil)"] := rfl

/-- every store to the target URL, the escaped path, the request's Host and URL with its guards — `c07.url`
(strip × prepend × host × target query × encodings × http/websocket, `Upgrade` in mixed case), `c07.serve` -/
theorem url_construction :
    urlEvents = [
      "store turl = &url.URL{Scheme: target.URL.Scheme, Host: target.URL.Host, Path: req.URL.Path}",
      "store raw = req.URL.EscapedPath()",
      "empty(target.URL.RawQuery) || empty(req.URL.RawQuery) ⊢ store turl.RawQuery = target.URL.RawQuery + req.URL.RawQuery",
      "!(empty(target.URL.RawQuery) || empty(req.URL.RawQuery)) ⊢ store turl.RawQuery = target.URL.RawQuery + \"&\" + req.URL.RawQuery",
      "nonempty(target.StripPath) && strings.HasPrefix(req.URL.Path, target.StripPath) ⊢ store turl.Path = turl.Path[len(target.StripPath):]",
      "nonempty(target.StripPath) && strings.HasPrefix(req.URL.Path, target.StripPath) ⊢ store raw = raw[helper(raw, len(target.StripPath)):]",
      "nonempty(target.StripPath) && strings.HasPrefix(req.URL.Path, target.StripPath), !strings.HasPrefix(turl.Path, \"/\") ⊢ store turl.Path = \"/\" + turl.Path",
      "nonempty(target.StripPath) && strings.HasPrefix(req.URL.Path, target.StripPath), !strings.HasPrefix(turl.Path, \"/\") ⊢ store raw = \"/\" + raw",
      "nonempty(target.PrependPath) ⊢ store turl.Path = target.PrependPath + turl.Path",
      "nonempty(target.PrependPath) ⊢ store raw = (&url.URL{Path: target.PrependPath}).EscapedPath() + raw",
      "nonempty(target.PrependPath), !strings.HasPrefix(turl.Path, \"/\") ⊢ store turl.Path = \"/\" + turl.Path",
      "nonempty(target.PrependPath), !strings.HasPrefix(turl.Path, \"/\") ⊢ store raw = \"/\" + raw",
      "strings.HasPrefix(raw, \"/\") ⊢ store turl.RawPath = raw",
      "target.Host == \"dst\" ⊢ store req.Host = turl.Host",
      "!(target.Host == \"dst\"), nonempty(target.Host) ⊢ store req.Host = target.Host",
      "strings.EqualFold(upgrade, \"websocket\") ⊢ store req.URL = turl"] := rfl

/-- the director's stores as a list (their being the *only* effects is the obligation `director_touches_only_the_url`)
— `c07.url` (request line and Host at the upstream), `c07.body` (body and length at the upstream) -/
theorem director_stores :
    directorStores = ["store out.URL.Scheme = turl.Scheme", "store out.URL.Host = turl.Host",
      "store out.URL.Path = turl.Path", "store out.URL.RawPath = turl.RawPath",
      "store out.URL.RawQuery = turl.RawQuery"] := rfl

/-- `responseWriter.WriteHeader`: it ends with the two statements the model `RW` transcribes — the call is handed on,
the code recorded — `c07.body` (interim responses, every final status of the universe). What stands in front of them
since /repo 3162882 (C08's repair: before a final header, fabio's own response headers that `httputil.ReverseProxy`
cleared with a relayed 1xx are put back where they are missing) skips nothing — obligation `response_writer_forwards` —
and writes header names only that were in the map before the handler ran and are absent now. -/
theorem response_writer_write_header :
    (rwWriteHeaderEvents.drop (rwWriteHeaderEvents.length - 2)) = ["call recv.w.WriteHeader(code)", "store recv.code = code"] ∧
    (rwWriteHeaderEvents.take (rwWriteHeaderEvents.length - 2)).all
      (fun e => !(["call recv.w.WriteHeader(code)", "store recv.code = code", "return"].contains e)) = true :=
  ⟨rfl, by decide +kernel⟩

/-- the `Lookup` closure of `main.newHTTPProxy`, statement by statement (the obligation `main_wiring` keeps what
matters of it) — `c07.serve` drives the same `Table.Lookup` call -/
theorem main_lookup_closure :
    mainLookupEvents = ["store target = route.GetTable().Lookup(req, req.Header.Get(\"trace\"), pick, match, globCache, cfg.GlobMatchingDisabled)",
      "target == nil ⊢ call statsHandler.Noroute.Add(1)",
      "target == nil ⊢ call log.Print(\"[WARN] No route for \", req.Host, req.URL)", "return target"] := rfl

end Fabio.Props.C07Pins
