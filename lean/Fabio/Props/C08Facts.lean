import Fabio.Generated.C08
import Fabio.Model.C08
/-!
OBLIGATIONS over the facts regenerated from `/repo` on every run (`tools/factgen/c08.go`): statements the proof
chain needs and that no correspondence stream can establish by running the code. Each names the breaking
change it is there to exclude. What merely pins the shape of the sequential header code, whose input/output
behaviour the streams compare with the model on every run, lives in `C08Pins.lean`. Core only; a regenerated
constant is compared with the literal it unfolds to (`rfl`).
-/
namespace Fabio.Props.C08Facts
open Fabio Fabio.Model.C08

/-- The configuration fields of `Model.C08.Cfg`, by the name of the `config.Proxy` field each stands for. -/
def modelCfgFields : List String :=
  ["ClientIPHeader", "LocalIP", "RequestID", "STSHeader.MaxAge", "STSHeader.Preload", "STSHeader.Subdomains",
   "TLSHeader", "TLSHeaderValue"]

/-- **The model's configuration space is complete**: `addHeaders`, `addResponseHeaders` (helpers followed) and
the request-id statement of `ServeHTTP` read exactly the `config.Proxy` fields that `Model.C08.Cfg` has.
"For every header-related configuration" is quantified over `Cfg` (and, in `Props/C08Main.lean`, over the
options that fill it); the generators vary these fields only.
Excludes: a new switch read by the header code (say `cfg.TrustForwardedHeaders`) that changes what the upstream
is told — every stream would keep running with the new field at its zero value and stay green. -/
theorem model_cfg_fields_complete : Generated.C08.headerConfigFields = modelCfgFields := rfl

/-- **Every HTTP listener serves a proxy that was built with the loaded configuration, unadjusted** (`main.go`):
the one `proxy.HTTPProxy{…}` literal takes `Config` from the `Proxy` part of its configuration parameter, every
handler given to `proxy.ListenAndServeHTTP*` comes from that constructor applied to the enclosing function's
parameter, that function is started with what `config.Load` returned, and nothing in package `main` assigns to a
built proxy's `Config` or to a header field of the loaded `Proxy` configuration.
The stream `c08.main` runs the real executable with one listener of each of the three kinds that serve HTTP
(`http`, `https`, `https+tcp+sni`) and would expose a kind wired differently (seeded change m12: the TLS header
cleared on listeners without certificates — caught by inputs). What it cannot expose, and this excludes: an
adjustment that depends on something the stream does not vary (a listener option such as `pxyproto`, a fourth
listener kind, the registry backend), or a listener wired to a proxy with a partial `config.Proxy` under such a
condition. -/
theorem listeners_serve_configured_proxy :
    Generated.C08.httpProxyLiteralConfig = ["param0.Proxy"] ∧
    Generated.C08.httpListenerHandlers.all (· == "built(param)") = true ∧
    Generated.C08.httpListenerHandlers ≠ [] ∧
    Generated.C08.httpListenersStartedWith = ["config.Load"] ∧
    Generated.C08.headerConfigWritesInMain = [] :=
  ⟨rfl, by decide +kernel, List.cons_ne_nil _ _, rfl, rfl⟩

/-- **Nothing in package `proxy` forwards an HTTP request except behind `addHeaders`**: the constructors of
forwarding handlers (unexported functions returning `http.Handler`: the `httputil.ReverseProxy` wrapper and the
websocket tunnel) are used by `HTTPProxy.ServeHTTP` only; there, every construction and the one forwarding
call come after the `addHeaders` call, whose error branch ends in `return` (the exits of `Model.C08.serveHTTP`).
Excludes: a second entry point (a health or debug handler, a retry path) that proxies with the client's
headers untouched — the streams only drive `ServeHTTP`. -/
theorem forwarders_only_behind_addHeaders :
    Generated.C08.forwarderConstructorUsers = ["HTTPProxy.ServeHTTP"] ∧
    Generated.C08.forwarderConstructors.length = 2 ∧
    Generated.C08.forwardingStepsBeforeAddHeaders = 0 ∧
    1 ≤ Generated.C08.forwarderConstructionsInServeHTTP ∧
    Generated.C08.forwardCallsInServeHTTP = 1 ∧
    Generated.C08.addHeadersCalls = 1 ∧
    Generated.C08.addHeadersErrorBranchReturns = true := ⟨rfl, rfl, rfl, by decide, rfl, rfl, rfl⟩

/-- **Requests do not influence each other through the header code**: the only package-level state
`addHeaders` / `addResponseHeaders` touch are tables they read (`sharedTablesRead`), nothing in the package
assigns to, deletes from, copies into or takes the address of one of them, and the header code starts no
goroutine and defers nothing — it works on the request's own header map, sequentially, as the model does.
Excludes: a cache or a table patched at run time (a data race between concurrent requests; the streams call
the code from one goroutine at a time). -/
theorem header_code_shares_only_constant_tables :
    Generated.C08.sharedTableWrites = [] ∧
    Generated.C08.headerCodeGoStmts = 0 ∧ Generated.C08.headerCodeDeferStmts = 0 := ⟨rfl, rfl, rfl⟩

end Fabio.Props.C08Facts
