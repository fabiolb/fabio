import Fabio.Lemmas.C08Serve
import Fabio.Props.C08
/-!
C08 — the sentences of the property for **what the upstream receives from `HTTPProxy.ServeHTTP`**, for every
request and every forwarding handler (raw websocket tunnel, `httputil.ReverseProxy` with either flush interval),
not only for `addHeaders` in isolation.

The point that needs proof: the tunnel sends the header map as `addHeaders` left it, the reverse proxy appends
the peer to X-Forwarded-For itself.  `ServeHTTP` picks the tunnel by looking at `Upgrade` *after* `addHeaders`
ran, `addHeaders` decides whether to append by looking at `Upgrade` after its first two statements.
`handler_choice_agrees_with_addHeaders` shows that the two decisions are the same function of the client's
request — provided no configured header is itself called `Upgrade` (forced: `tls_header_named_upgrade_breaks_xff`
is the witness, replayed on the real proxy from `corpus/c08.proxy.jsonl`); with it exactly one of the two appends the
peer (`handler_xff_last_is_peer`). Every other sentence reaches the upstream through `serveHTTP_sent`.
-/
namespace Fabio.Props.C08Serve
open Fabio Fabio.Model.C08 Fabio.Props.C08

/-- `serveHTTP` forwards exactly what `serve` (the model the D12 theorems are stated about) produces. -/
theorem serveHTTP_serve (cfg : Cfg) (uuid : Str) (t : Route) (r : Req) (ip port : Str)
    (hred : (t.redirectCode != 0 && t.hasRedirectURL) = false)
    (hsplit : splitHostPort r.remoteAddr = some (ip, port)) :
    ∃ u, serve cfg uuid t.hostOpt t.targetHost t.strip r = some u ∧
      serveHTTP cfg uuid (some t) r =
        .forward (chooseHandler u.headers) u.host (handlerSends (chooseHandler u.headers) ip u.headers) u.resp :=
  ⟨_, Lemmas.C08.serve_eq cfg uuid t.hostOpt t.targetHost t.strip r hsplit,
    Lemmas.C08.serveHTTP_forward cfg uuid t r ip port hred hsplit⟩

theorem no_route_no_forward (cfg : Cfg) (uuid : Str) (r : Req) : serveHTTP cfg uuid none r = .noRoute := rfl

theorem redirect_no_forward (cfg : Cfg) (uuid : Str) (t : Route) (r : Req)
    (hc : t.redirectCode ≠ 0) (hu : t.hasRedirectURL = true) :
    serveHTTP cfg uuid (some t) r = .redirect t.redirectCode := by
  have : (t.redirectCode != 0 && t.hasRedirectURL) = true := by simp [hc, hu]
  simp [serveHTTP, this]

/-- The 500 exit: no handler is chosen, the upstream is not contacted. -/
theorem bad_peer_no_forward (cfg : Cfg) (uuid : Str) (t : Route) (r : Req)
    (hred : (t.redirectCode != 0 && t.hasRedirectURL) = false) (h : splitHostPort r.remoteAddr = none) :
    serveHTTP cfg uuid (some t) r = .badPeer := by
  simp [serveHTTP, hred, h]

theorem serveHTTP_cases (cfg : Cfg) (uuid : Str) (route : Option Route) (r : Req) :
    serveHTTP cfg uuid route r = .noRoute ∨ (∃ c, serveHTTP cfg uuid route r = .redirect c) ∨
    serveHTTP cfg uuid route r = .badPeer ∨
    ∃ t ip port, route = some t ∧ (t.redirectCode != 0 && t.hasRedirectURL) = false ∧
      splitHostPort r.remoteAddr = some (ip, port) := by
  cases route with
  | none => exact .inl rfl
  | some t =>
    cases hred : (t.redirectCode != 0 && t.hasRedirectURL) with
    | true => exact .inr (.inl ⟨t.redirectCode, by simp [serveHTTP, hred]⟩)
    | false =>
      cases hs : splitHostPort r.remoteAddr with
      | none => exact .inr (.inr (.inl (bad_peer_no_forward cfg uuid t r hred hs)))
      | some p => exact .inr (.inr (.inr ⟨t, p.1, p.2, rfl, hred, rfl⟩))

theorem forward_went_through_addHeaders (cfg : Cfg) (uuid : Str) (route : Option Route) (r : Req)
    (k : HandlerKind) (host : Str) (sent resp : Headers)
    (h : serveHTTP cfg uuid route r = .forward k host sent resp) :
    ∃ t ip port, route = some t ∧ splitHostPort r.remoteAddr = some (ip, port) ∧
      sent = handlerSends k ip (addHeadersIP cfg t.strip (withRequestID cfg uuid r) ip) ∧
      k = chooseHandler (addHeadersIP cfg t.strip (withRequestID cfg uuid r) ip) := by
  obtain h0 | ⟨c, h0⟩ | h0 | ⟨t, ip, port, rfl, hred, hs⟩ := serveHTTP_cases cfg uuid route r
  · rw [h0] at h; cases h
  · rw [h0] at h; cases h
  · rw [h0] at h; cases h
  · rw [Lemmas.C08.serveHTTP_forward cfg uuid t r ip port hred hs] at h
    injection h with h1 h2 h3 h4
    exact ⟨t, ip, port, rfl, hs, by rw [← h3, ← h1], h1.symm⟩

/-- **The tunnel is chosen exactly for the requests on which `addHeaders` took its websocket branch.** -/
theorem handler_choice_agrees_with_addHeaders (cfg : Cfg) (strip : Str) (r : Req) (ip : Str)
    (hc : ClientIPKeyFree cfg upgrade) (ht : TLSKeyFree cfg upgrade) :
    (chooseHandler (addHeadersIP cfg strip r ip) = .tunnel) ↔ isWebsocket r.headers = true := by
  rw [Lemmas.C08.chooseHandler_eq_tunnel, Lemmas.C08.isWebsocket_addHeadersIP cfg strip r ip hc ht]

/-- Whichever handler `ServeHTTP` picks for the map `addHeaders` made of a request, what it sends has one
X-Forwarded-For line ending in the peer: the tunnel is picked exactly when `addHeaders` appended the peer itself,
otherwise the reverse proxy appends it. -/
theorem handler_xff_last_is_peer (cfg : Cfg) (strip : Str) (r : Req) (ip : Str)
    (hcu : ClientIPKeyFree cfg upgrade) (htu : TLSKeyFree cfg upgrade)
    (hcx : ClientIPKeyFree cfg xForwardedFor) (htx : TLSKeyFree cfg xForwardedFor)
    (hnil : vals xForwardedFor r.headers ≠ some []) (hc : ',' ∉ ip) (hs : ip.head? ≠ some ' ') :
    ∃ v, entries xForwardedFor (handlerSends (chooseHandler (addHeadersIP cfg strip r ip)) ip (addHeadersIP cfg strip r ip))
      = [(xForwardedFor, [v])] ∧ lastElem v = ip := by
  rw [Lemmas.C08.handlerSends_eq]
  simp only [handler_choice_agrees_with_addHeaders cfg strip r ip hcu htu]
  cases hws : isWebsocket r.headers with
  | true => exact xff_last_is_peer cfg strip r ip hws hcu hcx htx hnil hc hs
  | false =>
    -- the reverse proxy removes hop-by-hop headers first: X-Forwarded-For is not among them
    refine xff_last_is_peer_after_reverseProxy ip _ ?_ hc hs
    rw [Lemmas.C08.vals_congr (xff_chain_survives_connection_tokens cfg strip r ip),
      Lemmas.C08.vals_congr (Lemmas.C08.addHeaders_xff_untouched_when_not_ws cfg strip r ip hws hcu hcx htx)]
    exact hnil

/-- **The upstream always learns the real peer address: it is the last element of X-Forwarded-For** — for
every routed request with a parsable peer address, websocket upgrade or not, whatever handler forwards it and
whatever X-Forwarded-For, Upgrade (any casing, list, repeated lines) and Connection headers the client sent.
Hypotheses: no configured header name is `Upgrade` or `X-Forwarded-For` (forced, see the witness below; as
client-IP header `X-Forwarded-For` is exempt by the code and allowed here); the X-Forwarded-For slice is not an
explicit nil (unreachable from the wire: "omit" convention of `net/http/httputil`); the peer address has the
shape of an address (no comma, no leading blank). `httputil.ReverseProxy` is the stated assumption
`Model.C08.reverseProxy`. -/
theorem upstream_xff_last_is_peer (cfg : Cfg) (uuid : Str) (t : Route) (r : Req) (ip port : Str)
    (hred : (t.redirectCode != 0 && t.hasRedirectURL) = false)
    (hsplit : splitHostPort r.remoteAddr = some (ip, port))
    (hcu : ClientIPKeyFree cfg upgrade) (htu : TLSKeyFree cfg upgrade)
    (hcx : ClientIPKeyFree cfg xForwardedFor) (htx : TLSKeyFree cfg xForwardedFor) (hqx : RequestIDKeyFree cfg xForwardedFor)
    (hnil : vals xForwardedFor r.headers ≠ some [])
    (hc : ',' ∉ ip) (hs : ip.head? ≠ some ' ') :
    ∃ k host sent resp v, serveHTTP cfg uuid (some t) r = .forward k host sent resp ∧
      entries xForwardedFor sent = [(xForwardedFor, [v])] ∧ lastElem v = ip := by
  obtain ⟨v, hv, hl⟩ := handler_xff_last_is_peer cfg t.strip (withRequestID cfg uuid r) ip hcu htu hcx htx
    (Lemmas.C08.vals_congr (Lemmas.C08.withRequestID_other hqx uuid r) ▸ hnil) hc hs
  exact ⟨_, _, _, _, v, Lemmas.C08.serveHTTP_forward cfg uuid t r ip port hred hsplit, hv, hl⟩

/-- **Every other header of this property reaches the upstream exactly as `addHeaders` left it**, through
every handler and for every `Connection` header the client sent. -/
theorem upstream_managed_as_addHeaders (kind : HandlerKind) (cfg : Cfg) (strip : Str) (r : Req) (ip : Str) (k : Str)
    (hk : k ∈ managedKeys cfg) (hx : k ≠ xForwardedFor) (hf : k ∉ fixedHopByHop) :
    entries k (handlerSends kind ip (addHeadersIP cfg strip r ip)) = entries k (addHeadersIP cfg strip r ip) := by
  rw [Lemmas.C08.handlerSends_eq]
  split
  · rfl
  · exact managed_headers_survive_connection_tokens cfg strip r ip k hk hx hf

/-- **What `serveHTTP` hands to the upstream**, whichever handler it picks: the Host of the route's `host=` option and,
under every managed name other than X-Forwarded-For (to which the reverse proxy appends), what `addHeaders` left
there. A sentence about the upstream is this plus the sentence about `addHeadersIP` (`Props/C08.lean`). -/
theorem serveHTTP_sent (cfg : Cfg) (uuid : Str) (t : Route) (r : Req) (ip port : Str)
    (hred : (t.redirectCode != 0 && t.hasRedirectURL) = false)
    (hsplit : splitHostPort r.remoteAddr = some (ip, port)) :
    ∃ kind sent, serveHTTP cfg uuid (some t) r =
        .forward kind (overrideHost t.hostOpt t.targetHost r.host) sent (addResponseHeaders cfg r.tls.isSome []) ∧
      ∀ k ∈ managedKeys cfg, k ≠ xForwardedFor → k ∉ fixedHopByHop →
        entries k sent = entries k (addHeadersIP cfg t.strip (withRequestID cfg uuid r) ip) :=
  ⟨_, _, Lemmas.C08.serveHTTP_forward cfg uuid t r ip port hred hsplit,
    fun k hk hx hf => upstream_managed_as_addHeaders _ cfg t.strip _ ip k hk hx hf⟩

/-- **The configured client-IP header the upstream receives is the peer address, once, whatever the client
sent** (forged copies in any casing, a `Connection` header naming it, a websocket upgrade or not). -/
theorem upstream_clientip_is_peer (cfg : Cfg) (uuid : Str) (t : Route) (r : Req) (ip port : Str)
    (hred : (t.redirectCode != 0 && t.hasRedirectURL) = false)
    (hsplit : splitHostPort r.remoteAddr = some (ip, port))
    (hne : cfg.clientIPHeader ≠ []) (hx : cfg.clientIPHeader ≠ xForwardedFor) (hr : cfg.clientIPHeader ≠ xRealIp)
    (hk : canonicalKey cfg.clientIPHeader ∉ Lemmas.C08.writtenNames) (ht : TLSKeyFree cfg (canonicalKey cfg.clientIPHeader))
    (hf : canonicalKey cfg.clientIPHeader ∉ fixedHopByHop) :
    ∃ k host sent resp, serveHTTP cfg uuid (some t) r = .forward k host sent resp ∧
      entries (canonicalKey cfg.clientIPHeader) sent = [(canonicalKey cfg.clientIPHeader, [ip])] := by
  obtain ⟨kind, sent, hs, he⟩ := serveHTTP_sent cfg uuid t r ip port hred hsplit
  refine ⟨kind, _, sent, _, hs, ?_⟩
  rw [he _ (Lemmas.C08.mem_managedKeys_cfg hne (Or.inl rfl)) (fun e => hk (by rw [e]; simp)) hf]
  exact clientip_overwritten cfg t.strip (withRequestID cfg uuid r) ip hne hx hr hk ht

/-- **The configured TLS header reaches the upstream with the configured value exactly when the client
connection used TLS, whatever the client sent**, through every handler. -/
theorem upstream_tls_header_iff_tls (cfg : Cfg) (uuid : Str) (t : Route) (r : Req) (ip port : Str)
    (hred : (t.redirectCode != 0 && t.hasRedirectURL) = false)
    (hsplit : splitHostPort r.remoteAddr = some (ip, port))
    (hne : cfg.tlsHeader ≠ []) (hcn : canonicalKey cfg.tlsHeader ≠ connection)
    (hx : canonicalKey cfg.tlsHeader ≠ xForwardedFor) (hf : canonicalKey cfg.tlsHeader ∉ fixedHopByHop) :
    ∃ k host sent resp, serveHTTP cfg uuid (some t) r = .forward k host sent resp ∧
      (r.tls.isSome = true → entries (canonicalKey cfg.tlsHeader) sent = [(canonicalKey cfg.tlsHeader, [cfg.tlsHeaderValue])]) ∧
      (r.tls.isSome = false → entries (canonicalKey cfg.tlsHeader) sent = []) := by
  obtain ⟨kind, sent, hs, he⟩ := serveHTTP_sent cfg uuid t r ip port hred hsplit
  refine ⟨kind, _, sent, _, hs, ?_⟩
  rw [he _ (Lemmas.C08.mem_managedKeys_cfg hne (Or.inr (Or.inl rfl))) hx hf]
  exact tls_header_iff_tls cfg t.strip (withRequestID cfg uuid r) ip hne hcn

/-- **X-Real-Ip at the upstream**: the peer unless the client sent a non-empty one, through every handler. -/
theorem upstream_xrealip (cfg : Cfg) (uuid : Str) (t : Route) (r : Req) (ip port : Str)
    (hred : (t.redirectCode != 0 && t.hasRedirectURL) = false)
    (hsplit : splitHostPort r.remoteAddr = some (ip, port))
    (hc : ClientIPKeyFree cfg xRealIp) (ht : TLSKeyFree cfg xRealIp) (hq : RequestIDKeyFree cfg xRealIp) :
    ∃ k host sent resp, serveHTTP cfg uuid (some t) r = .forward k host sent resp ∧
      (get1 xRealIp r.headers = [] → entries xRealIp sent = [(xRealIp, [ip])]) ∧
      (get1 xRealIp r.headers ≠ [] → entries xRealIp sent = entries xRealIp r.headers) := by
  obtain ⟨kind, sent, hs, he⟩ := serveHTTP_sent cfg uuid t r ip port hred hsplit
  refine ⟨kind, _, sent, _, hs, ?_⟩
  rw [he xRealIp (Lemmas.C08.mem_managedKeys_fixed cfg (by simp))
    (List.ne_of_not_mem_cons Lemmas.C08.xRealIp_not_later)
    (Lemmas.C08.fixed_managed_not_hopByHop xRealIp (by simp))]
  have := xrealip_unless_sent cfg t.strip (withRequestID cfg uuid r) ip hc ht
  rw [Lemmas.C08.get1_withRequestID hq, Lemmas.C08.withRequestID_other hq] at this
  exact this

/-- `serveHTTP_sent` in terms of `serve`, about which `Props/C08.lean` states X-Forwarded-Host / -Port under every
`host=` option and the request id. -/
theorem upstream_as_serve (cfg : Cfg) (uuid : Str) (t : Route) (r : Req) (ip port : Str) (k : Str)
    (hred : (t.redirectCode != 0 && t.hasRedirectURL) = false)
    (hsplit : splitHostPort r.remoteAddr = some (ip, port))
    (hk : k ∈ managedKeys cfg) (hx : k ≠ xForwardedFor) (hf : k ∉ fixedHopByHop) :
    ∃ u kind sent, serve cfg uuid t.hostOpt t.targetHost t.strip r = some u ∧
      serveHTTP cfg uuid (some t) r = .forward kind u.host sent u.resp ∧
      entries k sent = entries k u.headers :=
  let ⟨kind, sent, hs, he⟩ := serveHTTP_sent cfg uuid t r ip port hred hsplit
  ⟨_, kind, sent, Lemmas.C08.serve_eq cfg uuid _ _ _ r hsplit, hs, he k hk hx hf⟩

/-- **X-Forwarded-Host and X-Forwarded-Port at the upstream describe the host the client asked for, even when
the route rewrites Host** (D12), through every handler: the upstream's Host is the overridden one. -/
theorem upstream_xfhost_xfport (cfg : Cfg) (uuid : Str) (t : Route) (r : Req) (ip port : Str)
    (hred : (t.redirectCode != 0 && t.hasRedirectURL) = false)
    (hsplit : splitHostPort r.remoteAddr = some (ip, port))
    (hxh : get1 xForwardedHost r.headers = []) (hxp : get1 xForwardedPort r.headers = []) (hh : r.host ≠ [])
    (hqh : RequestIDKeyFree cfg xForwardedHost) (hch : ClientIPKeyFree cfg xForwardedHost) (hth : TLSKeyFree cfg xForwardedHost)
    (hqp : RequestIDKeyFree cfg xForwardedPort) (hcp : ClientIPKeyFree cfg xForwardedPort) (htp : TLSKeyFree cfg xForwardedPort) :
    ∃ kind sent resp, serveHTTP cfg uuid (some t) r =
        .forward kind (overrideHost t.hostOpt t.targetHost r.host) sent resp ∧
      entries xForwardedHost sent = [(xForwardedHost, [r.host])] ∧
      entries xForwardedPort sent = [(xForwardedPort, [localPort r.host r.tls.isSome])] := by
  obtain ⟨kind, sent, hs, he⟩ := serveHTTP_sent cfg uuid t r ip port hred hsplit
  refine ⟨kind, sent, _, hs, ?_, ?_⟩
  · rw [he xForwardedHost (Lemmas.C08.mem_managedKeys_fixed cfg (by simp)) (Lemmas.C08.forward_name_ne_xff (by simp))
      (Lemmas.C08.fixed_managed_not_hopByHop _ (by simp))]
    exact Lemmas.C08.addHeadersIP_xfhost cfg t.strip (withRequestID cfg uuid r) ip
      ((Lemmas.C08.get1_withRequestID hqh uuid r).trans hxh) hh hch hth
  · rw [he xForwardedPort (Lemmas.C08.mem_managedKeys_fixed cfg (by simp)) (Lemmas.C08.forward_name_ne_xff (by simp))
      (Lemmas.C08.fixed_managed_not_hopByHop _ (by simp))]
    exact Lemmas.C08.addHeadersIP_xfport cfg t.strip (withRequestID cfg uuid r) ip
      ((Lemmas.C08.get1_withRequestID hqp uuid r).trans hxp) hcp htp

/-- **Strict-Transport-Security is added only on TLS connections**: on a plain connection no exit and no handler of
`ServeHTTP` puts it into the response (`clientSTS` reads what `addResponseHeaders` wrote; a header the upstream sets
itself is not modelled). -/
theorem client_sts_only_on_tls (cfg : Cfg) (uuid : Str) (route : Option Route) (r : Req) (htls : r.tls = none) :
    clientSTS (serveHTTP cfg uuid route r) = [] := by
  obtain h0 | ⟨c, h0⟩ | h0 | ⟨t, ip, port, rfl, hred, hs⟩ := serveHTTP_cases cfg uuid route r
  · rw [h0]; rfl
  · rw [h0]; rfl
  · rw [h0]; rfl
  · rw [Lemmas.C08.serveHTTP_forward cfg uuid t r ip port hred hs, clientSTS, htls, Option.isSome_none,
      (sts_only_on_tls cfg []).1]
    split <;> rfl

/-- On TLS with a positive max-age every response fabio writes itself (not the tunnel's) carries it once. -/
theorem client_sts_on_tls (cfg : Cfg) (uuid : Str) (t : Route) (r : Req) (ip port : Str)
    (hred : (t.redirectCode != 0 && t.hasRedirectURL) = false)
    (hsplit : splitHostPort r.remoteAddr = some (ip, port))
    (htls : r.tls.isSome = true) (hage : cfg.stsMaxAge > 0) (hws : isWebsocket (withRequestID cfg uuid r).headers = false)
    (hcu : ClientIPKeyFree cfg upgrade) (htu : TLSKeyFree cfg upgrade) :
    clientSTS (serveHTTP cfg uuid (some t) r) = [stsValue cfg] := by
  rw [Lemmas.C08.serveHTTP_forward cfg uuid t r ip port hred hsplit]
  have hw : responseWrittenByFabio (chooseHandler (addHeadersIP cfg t.strip (withRequestID cfg uuid r) ip)) = true := by
    rw [Lemmas.C08.responseWrittenByFabio_eq]
    simp only [handler_choice_agrees_with_addHeaders cfg t.strip _ ip hcu htu, hws]
    rfl
  rw [clientSTS, if_pos hw, htls, (sts_only_on_tls cfg []).2.1 hage]
  rfl

def exUpgradeCfg : Cfg := { tlsHeader := "Upgrade".toList, tlsHeaderValue := "websocket".toList }
def exUpgradeReq : Req :=
  { headers := [], host := "foo.com".toList, remoteAddr := "1.2.3.4:5".toList, tls := some ⟨0x0303, 0xc02f⟩,
    proto := "HTTP/1.1".toList }

/-- Full statement (not provable): `upstream_xff_last_is_peer` without `TLSKeyFree cfg upgrade`.
Witness of its negation: `proxy.header.tls = Upgrade`, `proxy.header.tls.value = websocket`. On a TLS
connection `addHeaders` does not take its websocket branch (the client sent no Upgrade header), then writes
`Upgrade: websocket` as the TLS header, and `ServeHTTP` picks the tunnel: the upstream gets no
X-Forwarded-For at all. (Replayed on the real proxy: `corpus/c08.proxy.jsonl`, class `config-collision`.) -/
theorem tls_header_named_upgrade_breaks_xff :
    splitHostPort exUpgradeReq.remoteAddr = some ("1.2.3.4".toList, "5".toList) ∧
    (match serveHTTP exUpgradeCfg [] (some {}) exUpgradeReq with
     | .forward k _ sent _ => some (k, entries xForwardedFor sent)
     | _ => none) = some (.tunnel, []) := by
  unfold exUpgradeReq exUpgradeCfg xForwardedFor
  simp only [toList_lit rfl]; decide +kernel

def exRoute : Route := { hostOpt := "up.example".toList, targetHost := "10.0.0.1:9000".toList }

/-- `Upgrade: h2c, websocket` on one line: not the tunnel (neither site treats Upgrade as a list), X-Forwarded-For
still ends with the peer — through the reverse proxy; `Connection` names X-Forwarded-For and `Upgrade`. -/
def exListReq : Req :=
  { headers := ofWire [("upgrade".toList, some "h2c, websocket".toList), ("x-forwarded-for".toList, some "6.6.6.6".toList),
                       ("Connection".toList, some "Upgrade, X-Forwarded-For".toList)],
    host := "client.example:8080".toList, remoteAddr := "1.2.3.4:5555".toList, tls := none, proto := "HTTP/1.1".toList }

def sentUnder (o : Served) (k : Str) : Option (List Str) :=
  match o with
  | .forward _ _ sent _ => vals k sent
  | _ => none
def kindOf (o : Served) : Option HandlerKind :=
  match o with
  | .forward k _ _ _ => some k
  | _ => none
def hostOf (o : Served) : Str :=
  match o with
  | .forward _ h _ _ => h
  | _ => []

deriving instance DecidableEq for Served

/-- One evaluation for both requests: what an evaluation pays for is decoding the header names of the model, once per
declaration. -/
theorem serveHTTP_vectors :
    (serveHTTP exCfg "id".toList (some exRoute) exListReq =
      .forward .proxy "up.example".toList
        (hmap [("X-Forwarded-For", ["6.6.6.6, 1.2.3.4"]), ("Upgrade", ["h2c, websocket"]), ("Connection", ["Upgrade"]),
          ("Forwarded", ["for=1.2.3.4; proto=http; by=5.6.7.8; httpproto=http/1.1"]),
          ("X-Forwarded-Host", ["client.example:8080"]), ("X-Forwarded-Port", ["8080"]), ("X-Forwarded-Proto", ["http"]),
          ("X-Real-Ip", ["1.2.3.4"]), ("X-Client-Ip", ["1.2.3.4"]), ("X-Request-Id", ["id"])]) []) ∧
    (serveHTTP exCfg "id".toList (some exRoute) (exReq (some ⟨0x0303, 0xc02f⟩)) =
      .forward .tunnel "up.example".toList
        (hmap [("X-Tls", ["on"]),
          ("Forwarded", ["for=1.2.3.4; proto=wss; by=5.6.7.8; httpproto=http/1.1; tlsver=tls12; tlscipher=0xc02f"]),
          ("X-Forwarded-Host", ["client.example:8080"]), ("X-Forwarded-Port", ["8080"]), ("X-Forwarded-Proto", ["https"]),
          ("X-Forwarded-For", ["9.9.9.9, 1.2.3.4"]), ("X-Real-Ip", ["1.2.3.4"]), ("X-Client-Ip", ["1.2.3.4"]),
          ("X-Request-Id", ["id"]), ("Upgrade", ["WebSocket"])])
        (hmap [("Strict-Transport-Security", ["max-age=31536000; includeSubdomains"])])) := by
  unfold exCfg exRoute exListReq exReq exWire hmap
  simp only [List.map, toList_lit rfl]; decide +kernel

theorem serveHTTP_exListReq : serveHTTP exCfg "id".toList (some exRoute) exListReq =
    .forward .proxy "up.example".toList
      (hmap [("X-Forwarded-For", ["6.6.6.6, 1.2.3.4"]), ("Upgrade", ["h2c, websocket"]), ("Connection", ["Upgrade"]),
        ("Forwarded", ["for=1.2.3.4; proto=http; by=5.6.7.8; httpproto=http/1.1"]),
        ("X-Forwarded-Host", ["client.example:8080"]), ("X-Forwarded-Port", ["8080"]), ("X-Forwarded-Proto", ["http"]),
        ("X-Real-Ip", ["1.2.3.4"]), ("X-Client-Ip", ["1.2.3.4"]), ("X-Request-Id", ["id"])]) [] := serveHTTP_vectors.1

theorem serveHTTP_exReq_tls : serveHTTP exCfg "id".toList (some exRoute) (exReq (some ⟨0x0303, 0xc02f⟩)) =
    .forward .tunnel "up.example".toList
      (hmap [("X-Tls", ["on"]),
        ("Forwarded", ["for=1.2.3.4; proto=wss; by=5.6.7.8; httpproto=http/1.1; tlsver=tls12; tlscipher=0xc02f"]),
        ("X-Forwarded-Host", ["client.example:8080"]), ("X-Forwarded-Port", ["8080"]), ("X-Forwarded-Proto", ["https"]),
        ("X-Forwarded-For", ["9.9.9.9, 1.2.3.4"]), ("X-Real-Ip", ["1.2.3.4"]), ("X-Client-Ip", ["1.2.3.4"]),
        ("X-Request-Id", ["id"]), ("Upgrade", ["WebSocket"])])
      (hmap [("Strict-Transport-Security", ["max-age=31536000; includeSubdomains"])]) := serveHTTP_vectors.2

theorem exCfg_keyfree : ClientIPKeyFree exCfg upgrade ∧ TLSKeyFree exCfg upgrade ∧
    ClientIPKeyFree exCfg xForwardedFor ∧ TLSKeyFree exCfg xForwardedFor ∧ RequestIDKeyFree exCfg xForwardedFor := by
  unfold ClientIPKeyFree TLSKeyFree RequestIDKeyFree exCfg upgrade xForwardedFor
  simp only [toList_lit rfl]; decide +kernel

/-- `client_sts_on_tls` on `exListReq` over TLS: what is evaluated is the peer address and that the request is no
websocket upgrade. -/
theorem clientSTS_exListReq_tls :
    clientSTS (serveHTTP exCfg "id".toList (some exRoute) { exListReq with tls := some ⟨0x0303, 0xc02f⟩ })
      = ["max-age=31536000; includeSubdomains".toList] := by
  rw [← stsValue_exCfg]
  refine client_sts_on_tls exCfg _ exRoute _ "1.2.3.4".toList "5555".toList rfl ?_ rfl (by decide) ?_ exCfg_keyfree.1 exCfg_keyfree.2.1
  · unfold exListReq; simp only [toList_lit rfl]; decide +kernel
  · unfold withRequestID exCfg exListReq; simp only [toList_lit rfl]; decide +kernel

example : kindOf (serveHTTP exCfg "id".toList (some exRoute) exListReq) = some .proxy := by rw [serveHTTP_exListReq]; rfl
example : hostOf (serveHTTP exCfg "id".toList (some exRoute) exListReq) = "up.example".toList := by rw [serveHTTP_exListReq]; rfl
example : sentUnder (serveHTTP exCfg "id".toList (some exRoute) exListReq) xForwardedFor = some ["6.6.6.6, 1.2.3.4".toList] := by
  rw [serveHTTP_exListReq]; unfold sentUnder hmap xForwardedFor; simp only [List.map, toList_lit rfl]; decide +kernel
example : sentUnder (serveHTTP exCfg "id".toList (some exRoute) exListReq) "X-Client-Ip".toList = some ["1.2.3.4".toList] := by
  rw [serveHTTP_exListReq]; unfold sentUnder hmap; simp only [List.map, toList_lit rfl]; decide +kernel

example : kindOf (serveHTTP exCfg "id".toList (some exRoute) (exReq (some ⟨0x0303, 0xc02f⟩))) = some .tunnel := by
  rw [serveHTTP_exReq_tls]; rfl
example : sentUnder (serveHTTP exCfg "id".toList (some exRoute) (exReq (some ⟨0x0303, 0xc02f⟩))) xForwardedFor
    = some ["9.9.9.9, 1.2.3.4".toList] := by
  rw [serveHTTP_exReq_tls]; unfold sentUnder hmap xForwardedFor; simp only [List.map, toList_lit rfl]; decide +kernel
example : sentUnder (serveHTTP exCfg "id".toList (some exRoute) (exReq (some ⟨0x0303, 0xc02f⟩))) "X-Tls".toList
    = some ["on".toList] := by
  rw [serveHTTP_exReq_tls]; unfold sentUnder hmap; simp only [List.map, toList_lit rfl]; decide +kernel
example : clientSTS (serveHTTP exCfg "id".toList (some exRoute) (exReq (some ⟨0x0303, 0xc02f⟩))) = [] := by
  rw [serveHTTP_exReq_tls]; rfl
example : clientSTS (serveHTTP exCfg "id".toList (some exRoute) { exListReq with tls := some ⟨0x0303, 0xc02f⟩ })
    = ["max-age=31536000; includeSubdomains".toList] := clientSTS_exListReq_tls
example : chooseHandler (ofWire [("accept".toList, some "text/event-stream".toList)]) = .sse := by
  simp only [toList_lit rfl]; decide +kernel
-- the hypotheses of `upstream_xff_last_is_peer` hold for this configuration and request
example : ClientIPKeyFree exCfg upgrade ∧ TLSKeyFree exCfg upgrade ∧
    ClientIPKeyFree exCfg xForwardedFor ∧ TLSKeyFree exCfg xForwardedFor ∧ RequestIDKeyFree exCfg xForwardedFor :=
  exCfg_keyfree
example : vals xForwardedFor exListReq.headers ≠ some [] := by
  unfold exListReq xForwardedFor; simp only [toList_lit rfl]; decide +kernel
-- D12 end to end: host=up.example, the upstream is told the client's host and port
example : sentUnder (serveHTTP exCfg "id".toList (some exRoute) exListReq) xForwardedHost = some ["client.example:8080".toList] := by
  rw [serveHTTP_exListReq]; unfold sentUnder hmap xForwardedHost; simp only [List.map, toList_lit rfl]; decide +kernel
example : sentUnder (serveHTTP exCfg "id".toList (some exRoute) exListReq) xForwardedPort = some ["8080".toList] := by
  rw [serveHTTP_exListReq]; unfold sentUnder hmap xForwardedPort; simp only [List.map, toList_lit rfl]; decide +kernel
example : (match serveHTTP exCfg [] (some { exRoute with redirectCode := 301, hasRedirectURL := true }) exListReq with
    | .redirect c => c | _ => 0) = 301 := by decide +kernel
example : (match serveHTTP exCfg [] (some exRoute) { exListReq with remoteAddr := "1.2.3.4".toList } with
    | .badPeer => true | _ => false) = true := by simp only [toList_lit rfl]; decide +kernel

/-- **Whatever number of 1xx responses the upstream sends first, the final response carries what `ServeHTTP`
added** (repair `3162882`): `client_sts_only_on_tls` / `client_sts_on_tls` hold for the final response. -/
theorem client_sts_survives_informational (cfg : Cfg) (uuid : Str) (route : Option Route) (r : Req) (n : Nat) :
    clientSTSAfter n (serveHTTP cfg uuid route r) = clientSTS (serveHTTP cfg uuid route r) := by
  cases serveHTTP cfg uuid route r <;> simp only [clientSTSAfter, clientSTS, Lemmas.C08.finalResponseHeaders_eq]

/-- Witness about the code before the repair (the map as `httputil.ReverseProxy` leaves it, nothing put back):
one 103 response and the client of a TLS listener reads no Strict-Transport-Security. -/
theorem informational_response_dropped_sts :
    (entries stsName (afterInformational 1 (addResponseHeaders exCfg true []))).flatMap (·.2) = [] ∧
    (entries stsName (afterInformational 0 (addResponseHeaders exCfg true []))).flatMap (·.2) = [stsValue exCfg] := by
  refine ⟨rfl, ?_⟩
  rw [show afterInformational 0 (addResponseHeaders exCfg true []) = addResponseHeaders exCfg true [] from rfl,
    (sts_only_on_tls exCfg []).2.1 (by decide)]
  rfl

example : clientSTSAfter 2 (serveHTTP exCfg "id".toList (some exRoute) { exListReq with tls := some ⟨0x0303, 0xc02f⟩ })
    = ["max-age=31536000; includeSubdomains".toList] := by
  rw [client_sts_survives_informational]; exact clientSTS_exListReq_tls

end Fabio.Props.C08Serve
