import Fabio.Lemmas.C09
import Fabio.Lemmas.Lit
/-!
C09 — TCP, TCP+SNI and WebSocket tunnels are transparent byte streams.

`Bytes` are arbitrary, scripts (= segmentations and endings) are arbitrary, histories are arbitrary lists
of events: nothing is bounded.
-/
namespace Fabio.Props.C09
open Fabio.Model.C09 Fabio.Lemmas.C09

/-- `copyBuffer` is transparent for every segmentation of the source and every behaviour of the
destination: what the destination accepted is a prefix of the source's stream, the metrics counter counts
exactly those bytes, and unless the *destination* failed (error or short write) it is the whole stream up to
the source's EOF/error, the returned error being the source's. The loop never spins (`.stuck`). -/
theorem copy_transparent (cap : Nat) (hcap : 0 < cap) (s : Script) (w : WScript) :
    let r := copyBuffer cap s w
    r.err ≠ .stuck ∧
    r.written <+: streamOf s ∧
    r.counter = r.written.length ∧
    ((r.err = .none ∨ r.err = .read) → r.written = streamOf s ∧ r.err = .ofRd (endOf s)) ∧
    (w = [] → r.written = streamOf s) := by
  have h := copyBuffer_ok cap hcap s w
  exact ⟨h.notStuck, h.pref, h.counter, h.clean, fun hw => hw ▸ copy_full_writer cap hcap s⟩

theorem copy_segmentation_independent (cap : Nat) (hcap : 0 < cap) (s₁ s₂ : Script)
    (h : streamOf s₁ = streamOf s₂) :
    (copyBuffer cap s₁ []).written = (copyBuffer cap s₂ []).written := by
  rw [copy_full_writer cap hcap s₁, copy_full_writer cap hcap s₂, h]

example : (copyBuffer 4 [.chunk [1, 2, 3, 4, 5, 6], .chunk [7], .eof, .chunk [9]] []).written = [1, 2, 3, 4, 5, 6, 7] := by decide +kernel
example : (copyBuffer 4 [.chunk [1, 2, 3, 4, 5, 6], .err] [.full, .short 1]).written = [1, 2, 3, 4, 5] ∧
          (copyBuffer 4 [.chunk [1, 2, 3, 4, 5, 6], .err] [.full, .short 1]).err = .shortWrite := by decide +kernel

/-- The fill loop of `bufio.Reader.Peek` terminates: after `n + 1` rounds its condition is false (every `fill`
with room in the buffer adds a byte or records an error). -/
theorem bufio_peek_terminates (n : Nat) (b : BufReader) :
    let b' := BufReader.peekLoop n (n + 1) b
    ¬ (b'.buf.length < n ∧ b'.buf.length < b'.size ∧ b'.err = none) :=
  peekLoop_done n (n + 1) b (Or.inl (by omega))

/-- Nothing is lost between socket, buffer and caller across `Peek(n)` and `ReadFull(want)`. -/
theorem bufio_conserves (s : Script) (n want : Nat) :
    let b1 := ((BufReader.new s).peek n).2.2
    let r := b1.readFull want
    streamOf s = r.1 ++ r.2.2.buf ++ streamOf r.2.2.conn := by
  have hp := peek_ok n (BufReader.new s) (wf_new s _ (by decide))
  have h := (hp.trans (readFull_ok want _ hp.wf)).rest
  rw [rest_new] at h
  simpa [rest, List.append_assoc] using h.symm

/-- Plain TCP and tcp-dynamic: the upstream receives the PROXY line (if any) and then the client's stream
from its first byte, for every segmentation. -/
theorem upstream_prefix_tcp (line : Bytes) (s : Script) :
    (tcpServe line s).1 = line ++ streamOf s := by
  simp [tcpServe, copy_full_writer copyBufSize (by decide)]

/-- TCP+SNI, copying from the buffered reader (the D13 repair): unconditional. -/
theorem upstream_prefix_sni_buffered (line : Bytes) (s : Script) (routed : Bool)
    (h : (sniServe .buffered routed line s).stage = .tunnel) :
    (sniServe .buffered routed line s).upstream = line ++ streamOf s := by
  obtain ⟨tail, h1, h2⟩ := sni_split .buffered routed line s h
  rw [h2, h1]; simp [List.append_assoc]

/-- TCP+SNI, copying from the raw connection (the code before the repair): the upstream receives the
client's stream **iff** the bufio reader holds no excess after `ReadFull`. -/
theorem upstream_prefix_sni_raw_iff (line : Bytes) (s : Script) (routed : Bool)
    (h : (sniServe .rawConn routed line s).stage = .tunnel) :
    (sniServe .rawConn routed line s).upstream = line ++ streamOf s ↔
    (sniServe .rawConn routed line s).excess = [] := by
  obtain ⟨tail, h1, h2⟩ := sni_split .rawConn routed line s h
  rw [h2, h1]
  simp only [List.append_assoc, List.append_cancel_left_eq]
  exact List.self_eq_append_left

/-- The code in the current tree (`codeCopySrc` is tied to the source by `C09Facts.sni_call_order`). -/
theorem upstream_prefix_sni_code (line : Bytes) (s : Script) (routed : Bool)
    (h : (sniServe codeCopySrc routed line s).stage = .tunnel) :
    (sniServe codeCopySrc routed line s).upstream = line ++ streamOf s :=
  upstream_prefix_sni_buffered line s routed h

/-- A 10-byte ClientHello record (`16 03 01 00 05 | 01 00 00 01 | 2a`). -/
def tinyHello : Bytes := [0x16, 3, 1, 0, 5, 1, 0, 0, 1, 0x2a]

/-- D13, the witness: ClientHello and two more bytes arrive in one segment, a third byte later. Copying
from the raw connection (the code before the repair) the upstream gets the hello and the third byte; the two
bytes that travelled with the hello stay in the bufio buffer. -/
theorem sni_current_drops_excess :
    let s : Script := [.chunk (tinyHello ++ [0xAA, 0xBB]), .chunk [0xCC], .eof]
    (sniServe .rawConn true [] s).stage = .tunnel ∧
    (sniServe .rawConn true [] s).excess = [0xAA, 0xBB] ∧
    (sniServe .rawConn true [] s).upstream = tinyHello ++ [0xCC] ∧
    (sniServe .rawConn true [] s).upstream ≠ streamOf s ∧
    (sniServe .buffered true [] s).upstream = streamOf s := by
  decide +kernel

example : (sniServe .buffered true [0x50] [.chunk (tinyHello.take 3), .chunk (tinyHello.drop 3 ++ [7]), .chunk [8]]).upstream
    = [0x50] ++ tinyHello ++ [7, 8] := by decide +kernel
example : (sniServe .rawConn true [] [.chunk tinyHello, .chunk [7]]).excess = [] := by decide +kernel

/-- Whichever side finishes first has had all of its data delivered — in every mode, for every history:
a copy direction that has ended has forwarded everything its side ever sent, and the tunnel is torn down
only when (at least) one direction has ended that way. -/
theorem first_finisher_delivered (m : Mode) (pre : Bytes) (h : List Ev) :
    let s := run m (Tun.init pre) h
    (s.c2uDone = true → s.cFin = true ∧ s.upSaw = pre ++ s.cSent) ∧
    (s.u2cDone = true → s.uFin = true ∧ s.clSaw = s.uSent) ∧
    (s.torn = true → (s.cFin = true ∧ s.upSaw = pre ++ s.cSent) ∨ (s.uFin = true ∧ s.clSaw = s.uSent)) ∧
    s.upSaw <+: pre ++ s.cSent ∧ s.clSaw <+: s.uSent := by
  have hi := run_inv m pre h
  refine ⟨hi.c2u.delivered, hi.u2c.delivered, fun ht => ?_, hi.c2u.seen_prefix, hi.u2c.seen_prefix⟩
  have hr := (run_teardown m pre h).torn ht
  cases m with
  | firstEnds => exact hr.imp hi.c2u.delivered hi.u2c.delivered
  | halfClose => exact Or.inl (hi.c2u.delivered hr.1)
  | clientHalf => exact Or.inr (hi.u2c.delivered hr)

example : (run .firstEnds (Tun.init [9]) [.clientSend [1, 2], .upSend [5], .fwdC2U, .clientFin, .c2uEOF, .finish]).upSaw = [9, 1, 2]
    ∧ (run .firstEnds (Tun.init [9]) [.clientSend [1, 2], .upSend [5], .fwdC2U, .clientFin, .c2uEOF, .finish]).torn = true := by decide +kernel

/-
The property's last sentence, as a statement about the tunnel in mode `m`:

  theorem half_close_reply_delivered (pre : Bytes) (h : List Ev) :
      let s := run m (Tun.init pre) h
      quiescent m s → s.cFin = true → s.uFin = true → s.clSaw = s.uSent ∧ s.upSaw = pre ++ s.cSent

"when both sides have finished and the proxy has nothing left to do, each side has received everything the
other sent" — in particular a reply the upstream sends after it has seen the client's EOF.
It is FALSE for mode `firstEnds`, the code before the D14 repair (`half_close_reply_lost_firstEnds` and the
witness below), TRUE for mode `halfClose` (`half_close_reply_delivered_halfClose`), true for `firstEnds`
under the forced extra hypothesis that the upstream's direction is the one that ended by EOF
(`half_close_reply_delivered_partial`), and for the code's mode `clientHalf` it holds in the form of
`half_close_reply_delivered_clientHalf`.
-/

/-- D14 in general: in mode `firstEnds` (the code before the repair) the upstream sees the client's EOF only
through the teardown, so whatever it sends after having seen EOF is never delivered, whatever happens afterwards. -/
theorem half_close_reply_lost_firstEnds (pre : Bytes) (h h' : List Ev) (reply : Bytes)
    (hr : reply ≠ []) :
    let s := run .firstEnds (Tun.init pre) h
    s.upEOF = true → s.uFin = false →
    (run .firstEnds s (.upSend reply :: h')).clSaw ≠ (run .firstEnds s (.upSend reply :: h')).uSent := by
  intro s hEOF hFin
  have ht : s.torn = true := ((run_teardown .firstEnds pre h).upEOF hEOF).resolve_right (fun h => h.1 rfl)
  exact sent_after_teardown_lost .firstEnds s ht hFin (run_inv .firstEnds pre h).u2c.seen_prefix.length_le reply hr h'

/-- D14, the witness history (the one the check replays on sockets): the client sends `HELLO` and
half-closes, the upstream answers `REPLY` when it sees EOF — the client receives nothing. With the
half-close-aware mode it receives the reply. -/
theorem half_close_reply_witness :
    let hello : Bytes := [72, 69, 76, 76, 79]
    let reply : Bytes := [82, 69, 80, 76, 89]
    (scenario .firstEnds [] hello [] reply .halfClose).upSaw = hello ∧
    (scenario .firstEnds [] hello [] reply .halfClose).clSaw = [] ∧
    (scenario .firstEnds [] hello [] reply .halfClose).uSent = reply ∧
    (scenario .halfClose [] hello [] reply .halfClose).clSaw = reply := by
  decide +kernel

/-- The statement restricted to what mode `firstEnds` can deliver: if the upstream→client direction is
the one that ended by EOF (the upstream did not wait for the client's EOF before finishing), the client
has everything the upstream sent. -/
theorem half_close_reply_delivered_partial (pre : Bytes) (h : List Ev) :
    let s := run .firstEnds (Tun.init pre) h
    s.u2cDone = true → s.clSaw = s.uSent :=
  fun hd => ((first_finisher_delivered .firstEnds pre h).2.1 hd).2

/-- The full statement holds for mode `halfClose` (the symmetric repair, rejected: see
`naive_half_close_survives_shutdown`). -/
theorem half_close_reply_delivered_halfClose (pre : Bytes) (h : List Ev) :
    let s := run .halfClose (Tun.init pre) h
    quiescent .halfClose s → s.cFin = true → s.uFin = true →
    s.clSaw = s.uSent ∧ s.upSaw = pre ++ s.cSent := by
  have hff := first_finisher_delivered .halfClose pre h
  have htd := run_teardown .halfClose pre h
  simp only at hff ⊢
  generalize run .halfClose (Tun.init pre) h = s at *
  intro hq hc hu
  have hd : s.c2uDone = true ∧ s.u2cDone = true := by
    cases ht : s.torn with
    | true => exact htd.torn ht
    | false => exact ⟨quiescent_c2uDone _ s hq ht hc, quiescent_u2cDone _ s hq ht hu⟩
  exact ⟨(hff.2.1 hd.2).2, (hff.1 hd.1).2⟩

example : quiescent .halfClose (scenario .halfClose [] [1] [2] [3] .halfClose) := by decide +kernel

/-- **The property's last sentence for the repaired teardown rule** (`clientHalf`: on the client's EOF the
upstream is half-closed and the tunnel lives on until the upstream→client direction ends). For every history:
once the upstream has finished and the proxy has nothing left to do, the client has received everything the
upstream sent — in particular a reply sent after the upstream saw the client's EOF — and, if the client has
finished too, the upstream has the client's whole stream unless the upstream's direction ended (and tore the
tunnel down) before the client's did. -/
theorem half_close_reply_delivered_clientHalf (pre : Bytes) (h : List Ev) :
    let s := run .clientHalf (Tun.init pre) h
    quiescent .clientHalf s → s.uFin = true →
    s.clSaw = s.uSent ∧
    (s.cFin = true → s.upSaw = pre ++ s.cSent ∨ (s.torn = true ∧ s.c2uDone = false)) := by
  have hff := first_finisher_delivered .clientHalf pre h
  have htd := run_teardown .clientHalf pre h
  simp only at hff ⊢
  generalize run .clientHalf (Tun.init pre) h = s at *
  intro hq hu
  have du : s.u2cDone = true := by
    cases ht : s.torn with
    | true => exact htd.torn ht
    | false => exact quiescent_u2cDone _ s hq ht hu
  refine ⟨(hff.2.1 du).2, fun hc => ?_⟩
  cases ht : s.torn with
  | false => exact Or.inl (hff.1 (quiescent_c2uDone _ s hq ht hc)).2
  | true =>
    cases hd : s.c2uDone with
    | true => exact Or.inl (hff.1 hd).2
    | false => exact Or.inr ⟨rfl, rfl⟩

example : quiescent .clientHalf (scenario .clientHalf [] [1] [2] [3] .halfClose) ∧
    (scenario .clientHalf [] [1] [2] [3] .halfClose).uFin = true := by decide +kernel

/-- The half-close history on the repaired rule: the upstream has `HELLO`, the client has `REPLY`. -/
theorem half_close_reply_witness_clientHalf :
    let hello : Bytes := [72, 69, 76, 76, 79]
    let reply : Bytes := [82, 69, 80, 76, 89]
    (scenario .clientHalf [] hello [] reply .halfClose).upSaw = hello ∧
    (scenario .clientHalf [] hello [] reply .halfClose).clSaw = reply ∧
    (scenario .clientHalf [] hello [] reply .halfClose).torn = true := by
  decide +kernel

/-- In the modes the code has had — before the D14 repair and after it — the server closing the tunnel's inbound
connection (`Server.Shutdown` → `closeConns`) ends the tunnel, whatever has happened before (in particular after a
client half-close with an idle upstream), and nothing is delivered afterwards: `Server.Shutdown` bounds the lifetime
of every tunnel. That the close tears the tunnel down in these modes is how `serverClose` is defined (see there for
why); what is proved is that the torn state absorbs every later event. -/
theorem server_close_ends_tunnel (m : Mode) (hm : m = .firstEnds ∨ m = .clientHalf) (pre : Bytes) (h h' : List Ev) :
    let s := serverClose m (run m (Tun.init pre) h)
    s.torn = true ∧ (run m s h').torn = true ∧ (run m s h').clSaw = s.clSaw ∧ (run m s h').upSaw = s.upSaw := by
  intro s
  have ht : s.torn = true := by rcases hm with rfl | rfl <;> rfl
  exact ⟨ht, torn_run m h' s ht⟩

example : (serverClose .clientHalf (run .clientHalf (Tun.init []) [.clientSend [1], .fwdC2U, .clientFin, .c2uEOF])).torn = true ∧
    (run .clientHalf (Tun.init []) [.clientSend [1], .fwdC2U, .clientFin, .c2uEOF]).torn = false := by decide +kernel

/-- Why the symmetric repair (`halfClose`: propagate the EOF, wait for both directions) was rejected, on one
history (the client sends a byte, it is forwarded, the client half-closes, the copy sees the EOF; the upstream stays
idle): the server closing the inbound connection does **not** end the tunnel, whatever the proxy does afterwards —
handler and outbound socket outlive `Server.Shutdown`. For every state with the client→upstream direction ended and
an idle upstream this is `halfClose_waits_for_upstream`. -/
theorem naive_half_close_survives_shutdown (h' : List Ev) (hp : ∀ e ∈ h', e ∈ proxyEvs) :
    let s := serverClose .halfClose (run .halfClose (Tun.init []) [.clientSend [1], .fwdC2U, .clientFin, .c2uEOF])
    (run .halfClose s h').torn = false ∧ (run .halfClose s h').upSaw = [1] := by
  intro s
  exact halfClose_waits_for_upstream h' s hp (by decide) (by decide) (by decide) (by decide)

/-- The closing orders the socket streams run (`scenario`, used by the driver as the prediction): with
either side closing first after the barrier both ends have everything; with a client half-close mode
`firstEnds` (the code before the repair) loses exactly the reply, the other two modes deliver it. -/
theorem scenario_outcomes (m : Mode) (pre c u reply : Bytes) :
    ((scenario m pre c u reply .client).upSaw = pre ++ c ∧ (scenario m pre c u reply .client).clSaw = u) ∧
    ((scenario m pre c u reply .upstream).upSaw = pre ++ c ∧ (scenario m pre c u reply .upstream).clSaw = u) ∧
    (scenario .firstEnds pre c u reply .halfClose).upSaw = pre ++ c ∧
    (scenario .firstEnds pre c u reply .halfClose).clSaw = u ∧
    (scenario .halfClose pre c u reply .halfClose).clSaw = u ++ reply ∧
    (scenario .clientHalf pre c u reply .halfClose).upSaw = pre ++ c ∧
    (scenario .clientHalf pre c u reply .halfClose).clSaw = u ++ reply := by
  simp only [scenario_eq]
  refine ⟨?_, ?_, ?_⟩
  · cases m <;> simp [closeHistory, run, step]
  · cases m <;> simp [closeHistory, run, step]
  · simp [closeHistory, run, step]

/-- The closing order "client half-closes, the upstream answers and stays idle, the server closes the client
connection" (`c09.tunnel`, order `halfidle`): on the repaired rule the client has the reply, the upstream the whole
stream, and the handler has ended; the rule before the repair loses the reply; the rejected symmetric rule
delivers it but the handler does not end. -/
theorem scenario_half_idle (pre c u reply : Bytes) :
    ((scenario .clientHalf pre c u reply .halfIdle).upSaw = pre ++ c ∧
     (scenario .clientHalf pre c u reply .halfIdle).clSaw = u ++ reply ∧
     (scenario .clientHalf pre c u reply .halfIdle).torn = true) ∧
    ((scenario .firstEnds pre c u reply .halfIdle).clSaw = u ∧
     (scenario .firstEnds pre c u reply .halfIdle).torn = true) ∧
    ((scenario .halfClose pre c u reply .halfIdle).clSaw = u ++ reply ∧
     (scenario .halfClose pre c u reply .halfIdle).torn = false) := by
  simp only [scenario_eq]
  simp [closeHistory, run, step, serverClose]

/-- With the `conn` wrapper of `tcp.Server` as coded (the deadline is armed by every call) no write of a tunnel
times out unless it is itself blocked for a whole timeout, whatever the times at which the writes are issued and
from whatever state. The tunnel theorems assume that no write fails by a deadline: under `wt=` this reduces that
to "no single write blocks for a whole timeout". (`Read` under `rt=` has the same shape in `server.go` and is not
modelled.) -/
theorem conn_write_never_times_out (wt : Nat) (hwt : 0 < wt) (c : ConnW) (ws : List (Nat × Nat))
    (h : ∀ w ∈ ws, w.2 < wt) :
    ∀ ok ∈ ConnW.writes .everyCall wt c ws, ok = true := by
  refine writes_all_ok .everyCall wt (fun _ => True) (fun w => w.2 < wt) (fun c t d _ hd => ⟨?_, trivial⟩)
    ws c trivial h
  -- the deadline in force is the one this call has just armed, `t + wt`, and `d < wt`
  have h0 : wt ≠ 0 := by omega
  have hlt : t + d < t + wt := Nat.add_lt_add_left hd t
  simp only [ConnW.write, h0, if_false]
  exact decide_eq_true hlt

/-- `wt = 0` is "no timeout configured": the wrapper arms nothing. -/
theorem conn_write_no_timeout_configured (a : Arming) (c : ConnW) (hc : c.deadline = none) (ws : List (Nat × Nat)) :
    ∀ ok ∈ ConnW.writes a 0 c ws, ok = true :=
  writes_all_ok a 0 (fun c => c.deadline = none) (fun _ => True)
    (fun c t d hc _ => by simp [ConnW.write, hc]) ws c hc (fun _ _ => trivial)

example : ConnW.writes .everyCall 400 {} [(1000, 0), (1420, 399), (5000, 10)] = [true, true, true] := by decide +kernel

/-- The counter-model (seeded change m10, replayed on the real code by the class `*-timeouts`): arming "only after a
quarter of the timeout" against the remembered *deadline* lets a write that does not block at all fail, 20 ticks
after the first deadline has passed. -/
theorem lazy_arming_times_out_unblocked_write :
    ConnW.writes .lazy 400 {} [(1000, 0), (1420, 0)] = [true, false] := by decide +kernel

/-- The line `WriteProxyHeader` writes, as coded: `PROXY`, the family chosen from the *client* address
alone, client address, server address, client port, server port, CRLF. -/
theorem proxy_header_format (ca cp sa sp : List Char) :
    proxyHeader ca cp sa sp =
      "PROXY ".toList ++ (if isIPv4Text ca then "TCP4".toList else "TCP6".toList) ++
      " ".toList ++ ca ++ " ".toList ++ sa ++ " ".toList ++ cp ++ " ".toList ++ sp ++ "\r\n".toList ∧
    (proxyHeader ca cp sa sp).length = ca.length + sa.length + cp.length + sp.length + 16 := by
  unfold proxyHeader
  -- either family tag has four characters
  simp only [toList_lit rfl, true_and, List.length_append, apply_ite List.length, List.length_cons,
    List.length_nil, ite_self]
  omega

example : String.ofList (proxyHeader "1.2.3.4".toList "5555".toList "10.0.0.1".toList "7000".toList)
    = "PROXY TCP4 1.2.3.4 10.0.0.1 5555 7000\r\n" := by
  apply String.toList_injective
  unfold proxyHeader; simp only [toList_lit rfl]; decide +kernel
example : String.ofList (proxyHeader "2001:db8::1".toList "9".toList "::1".toList "443".toList)
    = "PROXY TCP6 2001:db8::1 ::1 9 443\r\n" := by
  apply String.toList_injective
  unfold proxyHeader; simp only [toList_lit rfl]; decide +kernel
example : isIPv4Text "256.1.1.1".toList = false ∧ isIPv4Text "01.1.1.1".toList = false ∧ isIPv4Text "0.0.0.0".toList = true := by
  simp only [toList_lit rfl]; decide +kernel

end Fabio.Props.C09
