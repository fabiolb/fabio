import Fabio.Model.C12Parse
import Fabio.Model.C12Htpasswd
import Fabio.Lemmas.C12Auth
import Fabio.Lemmas.C12Htpasswd
import Fabio.Lemmas.Lit
import Fabio.Props.C12Auth
/-!
C12 — "the route's authentication scheme accepts the credentials", down to the text of the htpasswd file:
which line of the file decides, what a plain-text line accepts, and that nothing but a matching line of the file
opens a route that names a scheme. For every `H` (what the library's hash parsers make of a hashed encoding).
-/
namespace Fabio.Props.C12Htpasswd
open Fabio Fabio.Model.C12 Fabio.Lemmas.C12

/-- A later line for the same user replaces the earlier ones: the entry of `u` is the last accepted line for `u`,
whatever stands before it. -/
theorem last_line_wins (pre post : List (List Char × (List Char → Bool))) (u : List Char) (m : List Char → Bool)
    (hpost : ∀ e ∈ post, e.1 ≠ u) : htLookup (pre ++ (u, m) :: post) u = some m := by
  unfold htLookup
  have hnone : post.reverse.find? (fun e => e.1 == u) = none := by
    rw [List.find?_eq_none]
    intro e he
    have := hpost e (by simpa using he)
    simpa using this
  simp [List.reverse_append, List.find?_append, hnone]

/-- An accepted attempt was accepted by the matcher of some accepted line of that user. -/
theorem htMatch_sound (es : List (List Char × (List Char → Bool))) (u pw : List Char) (h : htMatch es u pw = true) :
    ∃ m, (u, m) ∈ es ∧ m pw = true := by
  unfold htMatch at h
  cases hl : htLookup es u with
  | none => simp [hl] at h
  | some m => exact ⟨m, htLookup_mem hl, by simpa [hl] using h⟩

/-- A user without an accepted line is refused, whatever the password. -/
theorem unknown_user_refused (es : List (List Char × (List Char → Bool))) (u pw : List Char)
    (h : ∀ e ∈ es, e.1 ≠ u) : htMatch es u pw = false := by
  refine Bool.of_not_eq_true fun hm => ?_
  obtain ⟨m, hmem, _⟩ := htMatch_sound es u pw hm
  exact absurd rfl (h (u, m) hmem)

/-- A line that yields an entry is, after trimming, `user:encoding` with the FIRST colon as separator. -/
theorem entry_line_shape (raw u e : List Char) (h : parseHtLine raw = .entry u e) :
    trimSpace raw = u ++ ':' :: e ∧ ∀ c ∈ u, c ≠ ':' := by
  unfold parseHtLine at h
  simp only at h
  split at h
  · cases h
  · split at h
    · cases h
    · rename_i hc
      cases h
      exact cut_some ':' _ _ _ hc

/-- What a plain-text line accepts: its text, or its text without a leading `{PLAIN}`. -/
theorem plain_line_accepts (enc pw : List Char) (h : plainMatches enc pw = true) :
    enc = pw ∨ enc = "{PLAIN}".toList ++ pw := by
  simp only [plainMatches, Bool.or_eq_true, beq_iff_eq] at h
  exact h.imp Eq.symm Eq.symm

/-- Credentials are accepted only if the file has a line `user:encoding` (after trimming, first colon) for exactly
that user whose matcher accepts the password — for a plain-text line: the encoding is the password, or `{PLAIN}`
followed by it. Blank lines, lines without colon and lines whose hashed encoding the library rejects accept nobody. -/
theorem accepted_needs_matching_line (H : List Char → Option (List Char → Bool)) (text : List Char)
    (cred : Option (List Char × List Char)) (h : fileVerdict H text cred = true) :
    ∃ u p, cred = some (u, p) ∧ ∃ raw ∈ splitOn '\n' text, ∃ e, trimSpace raw = u ++ ':' :: e ∧ (∀ c ∈ u, c ≠ ':') ∧
      ∃ m, matcherOf H e = some m ∧ m p = true ∧ (isHashed e = false → e = p ∨ e = "{PLAIN}".toList ++ p) := by
  rcases cred with _ | ⟨u, p⟩
  · cases h
  refine ⟨u, p, rfl, ?_⟩
  simp only [fileVerdict] at h
  obtain ⟨m, hmem, hm⟩ := htMatch_sound _ u p h
  simp only [htEntries, List.mem_filterMap] at hmem
  obtain ⟨raw, hraw, hline⟩ := hmem
  cases hp : parseHtLine raw with
  | blank => simp [hp] at hline
  | bad => simp [hp] at hline
  | entry u' e =>
    simp only [hp, Option.map_eq_some_iff, Prod.mk.injEq] at hline
    obtain ⟨m', hm', rfl, rfl⟩ := hline
    obtain ⟨hshape, hcolon⟩ := entry_line_shape raw u' e hp
    refine ⟨raw, hraw, e, hshape, hcolon, m', hm', hm, ?_⟩
    intro hplain
    simp only [matcherOf, hplain, Bool.false_eq_true, ↓reduceIte, Option.some.injEq] at hm'
    subst hm'
    exact plain_line_accepts e p hm

/-- No credentials, an empty file (the refresh clears the credentials when the file disappears): nobody passes. -/
theorem no_file_no_access (H : List Char → Option (List Char → Bool)) (c : Option (List Char × List Char)) :
    fileVerdict H [] c = false ∧ ∀ text, fileVerdict H text none = false :=
  ⟨by cases c <;> rfl, fun _ => rfl⟩

/-- The whole authentication sentence over texts: a request passes a route that names a scheme only if the scheme is
registered and the file of the scheme holds a line for the user of the request's first `Authorization` line whose
matcher accepts the password of that line. -/
theorem authorized_needs_line (H : List Char → Option (List Char → Bool)) (scheme : List Char)
    (schemes : List (List Char × List Char)) (r : Req) (h : authorizedFile H scheme schemes r = true) :
    scheme = [] ∨ ∃ text u p, schemes.lookup scheme = some text ∧
      parseBasicAuth (headerGet hAuthorization r.headers) = some (u, p) ∧
      ∃ raw ∈ splitOn '\n' text, ∃ e, trimSpace raw = u ++ ':' :: e ∧
        ∃ m, matcherOf H e = some m ∧ m p = true ∧ (isHashed e = false → e = p ∨ e = "{PLAIN}".toList ++ p) := by
  refine ((authorized_basic_iff (fileVerdict H) scheme schemes r).mp h).imp_right fun ⟨text, hk, hv⟩ => ?_
  obtain ⟨u, p, hc, raw, hraw, e, hshape, _, hm⟩ := accepted_needs_matching_line H text _ hv
  exact ⟨text, u, p, hk, hc, raw, hraw, e, hshape, hm⟩

/-- … and a connection to an upstream is attempted only for such a request (and one the rules admit: the access half
is `forwarded_only_if`). -/
theorem forwarded_needs_line (P : Parsers) (H : List Char → Option (List Char → Bool))
    (schemes : List (List Char × List Char)) (lk : Nat → Option TargetM) (alive : Nat → Bool) (remote : List Char)
    (r : Req) (u : Nat) (h : (serveReqFile P H schemes lk alive remote r).attempted = some u) :
    ∃ t, lk 0 = some t ∧ t.up = u ∧ accessDeniedHTTP P t.rules remote (headerValues hXFF r.headers) = false ∧
      (t.scheme = [] ∨ ∃ text us pw, schemes.lookup t.scheme = some text ∧
        parseBasicAuth (headerGet hAuthorization r.headers) = some (us, pw) ∧
        ∃ raw ∈ splitOn '\n' text, ∃ e, trimSpace raw = us ++ ':' :: e ∧
          ∃ m, matcherOf H e = some m ∧ m pw = true ∧ (isHashed e = false → e = pw ∨ e = "{PLAIN}".toList ++ pw)) := by
  obtain ⟨t, hl, hu, hd, ha, _⟩ := Props.C12Serve.attempted_is_checked_http P lk alive remote _ _ u h
  exact ⟨t, hl, hu, hd, authorized_needs_line H t.scheme schemes r ha⟩

/-- Over histories of attempts and reloads of the file *text* on one scheme instance: the verdict on an attempt is
`fileVerdict` of the text in force — valid logins, failures, repeats and reloads before it do not matter. -/
theorem file_history_irrelevant (H : List Char → Option (List Char → Bool)) (t1 t2 : List Char) (h1 h2 : List AuthOpF)
    (c : Option (List Char × List Char)) (hf : fileAfterF t1 h1 = fileAfterF t2 h2) :
    (runAuthF H t1 (h1 ++ [.attempt c])).getLast? = (runAuthF H t2 (h2 ++ [.attempt c])).getLast? ∧
    (runAuthF H t1 (h1 ++ [.attempt c])).getLast? = some (fileVerdict H (fileAfterF t1 h1) c) := by
  rw [runAuthF_append_attempt, runAuthF_append_attempt, hf]
  simp

section examples

private def noHash : List Char → Option (List Char → Bool) := fun _ => none
private def file1 : List Char := "alice:secret\n\n  bob:hunter2 \r\nnocolon\nalice:changed\ncarol:{PLAIN}pa55\nx:{SHA}!!\n:empty\ndave:a:b".toList

private theorem file1_entries : htEntries noHash file1 =
    [("alice".toList, plainMatches "secret".toList), ("bob".toList, plainMatches "hunter2".toList),
     ("alice".toList, plainMatches "changed".toList), ("carol".toList, plainMatches "{PLAIN}pa55".toList),
     ([], plainMatches "empty".toList), ("dave".toList, plainMatches "a:b".toList)] := by
  unfold file1; simp only [toList_lit rfl]; rfl

example : (htEntries noHash file1).map (·.1) = ["alice", "bob", "alice", "carol", "", "dave"].map String.toList := by
  rw [file1_entries]; simp only [List.map, toList_lit rfl]
-- the second line of alice replaced the first
example : fileVerdict noHash file1 (some ("alice".toList, "changed".toList)) = true := by
  rw [fileVerdict, file1_entries]; simp only [toList_lit rfl]; decide +kernel
example : fileVerdict noHash file1 (some ("alice".toList, "secret".toList)) = false := by
  rw [fileVerdict, file1_entries]; simp only [toList_lit rfl]; decide +kernel
-- trimmed line, CR at the end
example : fileVerdict noHash file1 (some ("bob".toList, "hunter2".toList)) = true := by
  rw [fileVerdict, file1_entries]; simp only [toList_lit rfl]; decide +kernel
-- nginx's {PLAIN}: both spellings of the password pass
example : fileVerdict noHash file1 (some ("carol".toList, "pa55".toList)) = true := by
  rw [fileVerdict, file1_entries]; simp only [toList_lit rfl]; decide +kernel
example : fileVerdict noHash file1 (some ("carol".toList, "{PLAIN}pa55".toList)) = true := by
  rw [fileVerdict, file1_entries]; simp only [toList_lit rfl]; decide +kernel
-- a hashed line the library rejects accepts nobody, the line without colon is no user
example : fileVerdict noHash file1 (some ("x".toList, "{SHA}!!".toList)) = false := by
  rw [fileVerdict, file1_entries]; simp only [toList_lit rfl]; decide +kernel
example : fileVerdict noHash file1 (some ("nocolon".toList, [])) = false := by
  rw [fileVerdict, file1_entries]; simp only [toList_lit rfl]; decide +kernel
-- empty user name, password with a colon
example : fileVerdict noHash file1 (some ([], "empty".toList)) = true := by
  rw [fileVerdict, file1_entries]; simp only [toList_lit rfl]; decide +kernel
example : fileVerdict noHash file1 (some ("dave".toList, "a:b".toList)) = true := by
  rw [fileVerdict, file1_entries]; simp only [toList_lit rfl]; decide +kernel
example : fileVerdict noHash (renderSecrets [("a".toList, "bc".toList), ("ab".toList, "c".toList)]) (some ("ab".toList, "c".toList)) = true := by
  simp only [toList_lit rfl]; decide +kernel
-- the header is read back by the round-trip theorem, the scheme found by `known_scheme_decides`
example : authorizedFile noHash "basic".toList [("basic".toList, file1)]
    { headers := [(hAuthorization, basicHeader "alice".toList "changed".toList)] } = true := by
  simp only [toList_lit rfl]
  rw [authorizedFile, basicAuthOf_eq, headerGet_head, Props.C12Auth.basic_header_roundtrip _ _ (by decide) (by decide),
    Props.C12.known_scheme_decides _ _ _ file1 (by decide) rfl, fileVerdict, file1_entries]
  simp only [toList_lit rfl]; decide +kernel
example : authorizedFile noHash "basic".toList [("basic".toList, file1)]
    { headers := [(hAuthorization, basicHeader "alice".toList "secret".toList)] } = false := by
  simp only [toList_lit rfl]
  rw [authorizedFile, basicAuthOf_eq, headerGet_head, Props.C12Auth.basic_header_roundtrip _ _ (by decide) (by decide),
    Props.C12.known_scheme_decides _ _ _ file1 (by decide) rfl, fileVerdict, file1_entries]
  simp only [toList_lit rfl]; decide +kernel
example : runAuthF noHash "a:bc\n".toList [.attempt (some ("a".toList, "bc".toList)), .attempt (some ("ab".toList, "c".toList)),
    .reload "a:bc\na:x\n".toList, .attempt (some ("a".toList, "bc".toList)), .reload [], .attempt (some ("a".toList, "x".toList))]
    = [true, false, false, false] := by
  simp only [toList_lit rfl]; decide +kernel
end examples

end Fabio.Props.C12Htpasswd
