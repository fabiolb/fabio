import Fabio.Props.C03
import Fabio.Model.C03Fold
/-!
C03 — "within a host the longest matching path wins" for the prefix and iprefix matchers, for **every** case
folding: the statement needs nothing of the folding function but that it maps rune by rune and that the order
of a host's routes (`Routes.Less`) and the matcher (`iPrefixMatcher`) use the same one. `strings.ToLower` is
such a function (`unicode.ToLower` per rune), so the ASCII restriction of `longest_path_wins` (`lowerL`) is not
a restriction of the statement. The other direction is shown on a witness: order folded ASCII-only, matcher
folded with `unicode.ToLower` (the seeded change m12 of `design/C03.md`) — the shorter path wins.
-/
namespace Fabio.Props.C03Fold
open Fabio Fabio.Model.Route Fabio.Model.C03 Fabio.Model.C03Fold Fabio.Lemmas.C03 Fabio.Props.C03

def SortedBy (f : Str → Str) (ps : List Str) : Prop := ps.Pairwise (fun a b => pathLtBy f a b = false)

theorem insPath_eq (f : Str → Str) : insPath f = insBy (fun a b => pathLtBy f b a) := by
  funext x l
  induction l with
  | nil => rfl
  | cons y ys ih => simp [insPath, insBy, ih]

theorem sortPaths_eq (f : Str → Str) : sortPaths f = sortBy (fun a b => pathLtBy f b a) := by
  funext ps; rw [sortPaths, insPath_eq]; rfl

theorem sortPaths_sorted_permutation (f : Str → Str) (ps : List Str) :
    SortedBy f (sortPaths f ps) ∧ (sortPaths f ps).Perm ps := by
  rw [sortPaths_eq]
  exact ⟨sortBy_pairwise ((lexBy_strict strLt_strict strLt_strict).flipOn id) ps, sortBy_perm _ ps⟩

/-- `g` any map on runes, the host's paths sorted by `Routes.Less` with
`g` as folding, a matcher that implies "the folded route path is a prefix of the folded request path": the
first match in table order is a longest match (length in runes; every rune map keeps it). -/
theorem first_match_is_longest_any_fold (g : Char → Char) {m : Str → Str → Bool} {uri : Str}
    (hm : ∀ p, m uri p = true → p.map g <+: uri.map g)
    {ps : List Str} (hs : SortedBy (List.map g) ps) {p : Str} (hres : firstMatch m uri ps = some p)
    {q : Str} (hq : q ∈ ps) (hmq : m uri q = true) : q.length ≤ p.length :=
  find_longest id (fun _ => List.length_map g) hm hs hres hq hmq

/-- Prefix and iprefix matchers: whatever rune map `g` the code folds with —
`unicode.ToLower` in the tree — as long as `Routes.Less` and `iPrefixMatcher` use the same: of the paths of
one host, sorted as `NewTable` leaves them, the scan answers with a longest matching path. -/
theorem longest_path_wins_any_fold (g : Char → Char) (pg : Str → Str → Bool) (kind : MatcherKind)
    (hkind : kind ≠ .glob) (paths : List Str) (uri : Str) {p : Str}
    (hres : firstMatch (pathMatchBy (List.map g) pg kind) uri (sortPaths (List.map g) paths) = some p)
    {q : Str} (hq : q ∈ paths) (hmq : pathMatchBy (List.map g) pg kind uri q = true) : q.length ≤ p.length :=
  first_match_is_longest_any_fold g (fun p hp => pathMatchBy_fold_prefix g pg hkind uri p hp)
    (sortPaths_sorted_permutation _ paths).1 hres
    ((sortPaths_sorted_permutation (List.map g) paths).2.mem_iff.2 hq) hmq

/-- no candidate is lost by sorting -/
theorem first_match_complete (m : Str → Str → Bool) (f : Str → Str) (paths : List Str) (uri : Str)
    {q : Str} (hq : q ∈ paths) (hmq : m uri q = true) : (firstMatch m uri (sortPaths f paths)).isSome = true := by
  unfold firstMatch
  rw [List.find?_isSome]
  exact ⟨q, (sortPaths_sorted_permutation f paths).2.mem_iff.2 hq, hmq⟩

/-- `lowerU` folds rune by rune, so `longest_path_wins_any_fold` speaks of it with `g := lowerRune` -/
theorem lowerU_eq_map : lowerU = List.map lowerRune := rfl

-- `unicode.ToLower` on the modelled alphabets
example : String.ofList (lowerU "/CAFÉ/Äpfel/МОСКВА/ΩΣ/İK".toList) = "/café/äpfel/москва/ωσ/ik" := by
  simp only [toList_lit rfl]; decide +kernel
-- the tree: order and matcher fold alike — the longer path is in front and answers
example : (sortPaths lowerU ["/café".toList, "/".toList, "/CAFÉ/menu".toList]).map String.ofList = ["/CAFÉ/menu", "/café", "/"] := by
  simp only [toList_lit rfl]; decide +kernel
example : (firstMatch (pathMatchBy lowerU globLib .iprefix) "/café/menu/today".toList
    (sortPaths lowerU ["/café".toList, "/".toList, "/CAFÉ/menu".toList])).map String.ofList = some "/CAFÉ/menu" := by
  simp only [toList_lit rfl]; decide +kernel
example : ∀ q ∈ ["/café".toList, "/".toList, "/CAFÉ/menu".toList],
    pathMatchBy lowerU globLib .iprefix "/café/menu/today".toList q = true → q.length ≤ "/CAFÉ/menu".toList.length :=
  fun q hq hm => longest_path_wins_any_fold lowerRune globLib .iprefix (by decide) _ _ (p := "/CAFÉ/menu".toList)
    (by simp only [toList_lit rfl]; decide +kernel) hq hm

/-- Order folded with the ASCII map (`lowerL`), matcher with
`unicode.ToLower`: `/café` is sorted in front of `/CAFÉ/menu` (É, U+00C9, is below é, U+00E9) and answers a
request that the longer path matches as well. -/
theorem mixed_fold_breaks_longest_path :
    ∃ paths uri p q, firstMatch (pathMatchBy lowerU globLib .iprefix) uri (sortPaths lowerL paths) = some p ∧
      q ∈ paths ∧ pathMatchBy lowerU globLib .iprefix uri q = true ∧ p.length < q.length :=
  ⟨["/café".toList, "/CAFÉ/menu".toList], "/café/menu/today".toList, "/café".toList, "/CAFÉ/menu".toList,
    by simp only [toList_lit rfl]; decide +kernel, by decide, by simp only [toList_lit rfl]; decide +kernel,
    by simp only [toList_lit rfl]; decide +kernel⟩

end Fabio.Props.C03Fold
