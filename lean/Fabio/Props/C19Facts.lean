import Fabio.Generated.C19
import Fabio.Model.C19Load
import Fabio.Lemmas.C19
/-!
C19 — obligations over the facts regenerated from `/repo` on every run (`tools/factgen/c19.go`).
They tie the model of `Fabio.Model.C19` to the source: which variable `SetConfig` assigns, which option feeds
which transport field, who builds transports and in which order `main` runs, and the error handler's table.
-/
namespace Fabio.Props.C19Facts
open Fabio Fabio.Model.C19

/-- the binding factgen reports for the left-hand side of the assignment in `SetConfig` -/
def lhsOfFact : String → Option Lhs
  | "packageVar" => some .packageVar
  | "param" => some .parameter
  | _ => none

/-- `SetConfig` has one parameter and its body is exactly one store: the parameter into the package-level
variable. (Before the repair of D23 the fact read `["param<-param"]`: `cfg = cfg` with `cfg` the parameter.) -/
theorem setConfig_assigns_package_variable :
    Generated.C19.setConfigParams = 1 ∧ Generated.C19.setConfigStores = ["packageVar<-param"] := ⟨rfl, rfl⟩

/-- The variable it assigns is the one `NewTransport` reads, initialised to the zero configuration (`Cell.init`). -/
theorem setConfig_assigns_the_cell_NewTransport_reads :
    Generated.C19.setConfigLhsName = Generated.C19.cellVarName ∧ Generated.C19.cellInitIsZeroConfig = true := ⟨rfl, rfl⟩

/-- Hence the source's `SetConfig` is the model's `setConfig`, and `transport_uses_config` is about the source. -/
theorem source_setConfig_is_model :
    ∀ lhs, lhsOfFact Generated.C19.setConfigLhs = some lhs →
      ∀ s cfg tls, Carries cfg (newTransport (setConfigWith lhs s cfg) tls) := by
  intro lhs h
  obtain rfl : Lhs.packageVar = lhs := Option.some.inj h
  exact fun s cfg tls => Lemmas.C19.newTransport_carries ⟨cfg⟩ tls

/-- the option → field pairing the model's `newTransport` encodes -/
def modelFields : List (String × String) :=
  [("Dial=net.Dialer.Dial:KeepAlive", "Proxy.KeepAliveTimeout"), ("Dial=net.Dialer.Dial:Timeout", "Proxy.DialTimeout"),
   ("IdleConnTimeout", "Proxy.IdleConnTimeout"), ("MaxIdleConnsPerHost", "Proxy.MaxConn"),
   ("ResponseHeaderTimeout", "Proxy.ResponseHeaderTimeout"), ("TLSClientConfig", "$param")]

/-- `NewTransport` is straight-line code returning an `http.Transport` whose fields — followed through hoisted
locals and extracted straight-line helpers to the expressions that define them — are fed exactly as in the model. -/
theorem newTransport_reads_the_five_options :
    Generated.C19.newTransportShape = "straight-line" ∧ Generated.C19.transportFields = modelFields := ⟨rfl, rfl⟩

/-- The only builders of transports in the repository are the three call sites of the model (two in package main,
one in package route), each with the TLS argument the model gives it; `SetConfig` is called from `main` alone. -/
theorem transports_are_built_in_three_places :
    Generated.C19.newTransportCallSitePackages = ["main", "main", "route"] ∧
    Generated.C19.setConfigCallers = ["main.main"] ∧
    Generated.C19.transportImporters = ["main", "route"] := ⟨rfl, rfl, rfl⟩

theorem transport_call_arguments :
    Generated.C19.newTransportArgs =
      [("main", "InsecureTransport", "&tls.Config{InsecureSkipVerify: true}"),
       ("main", "Transport", "nil"),
       ("route", "Transport", "&tls.Config{InsecureSkipVerify: .TLSSkipVerify, ServerName: .Host}")] := rfl

/-- The order fact: `SetConfig(cfg)` is an unconditional top-level statement of `main`, its argument is what
`config.Load` returned, and nothing that runs before it — no earlier statement of `main`, no `init` of package
main — can reach `NewTransport` (no fabio package used before it imports `transport`, directly or not). -/
theorem main_sets_config_before_anything_is_built :
    Generated.C19.mainSetConfigStmt = "top-level-unconditional" ∧
    Generated.C19.mainSetConfigArg = Generated.C19.mainLoadVar ∧ Generated.C19.mainLoadVar ≠ "" ∧
    Generated.C19.mainPkgsBeforeSetConfigReachingTransport = [] ∧
    Generated.C19.mainLocalFuncsBeforeSetConfig = [] ∧
    Generated.C19.mainInitFuncs = [] := ⟨rfl, rfl, by decide, rfl, rfl, rfl⟩

/-- `main` as an event list: its `mainSetConfigIndex` statements before `SetConfig` enter the model as events `other`
(that they build nothing is `main_sets_config_before_anything_is_built`, which this statement does not use); such
a prefix meets the hypothesis `hpre` of `Props.C19.all_transports_use_config`. -/
theorem main_prefix_builds_nothing :
    ∀ e ∈ List.replicate Generated.C19.mainSetConfigIndex Ev.other, e.builds = false ∧ e.isSet = false := by
  intro e he
  rw [List.eq_of_mem_replicate he]
  exact ⟨rfl, rfl⟩

/-- the path of conditions that selects each class in `httpProxyErrorHandler` -/
def classPath : Err → String
  | .netTimeout => "/net.Error/Timeout"
  | .netOther => "/net.Error/!Timeout"
  | .eof => "/!net.Error/io.EOF"
  | .canceled => "/!net.Error/!io.EOF/context.Canceled"
  | .other => "-"

/-- The handler's decision table is the model's `errorStatus`: 504 exactly under `net.Error` ∧ `Timeout()`. -/
theorem error_handler_table_is_model :
    ∀ e, errorStatus e = ((Generated.C19.errorHandlerTable.lookup (classPath e)).getD Generated.C19.errorHandlerDefault) := by
  -- one evaluation for the five classes: the keys of the table are decoded once
  have all : ∀ e ∈ [Err.netTimeout, .netOther, .eof, .canceled, .other], errorStatus e =
      ((Generated.C19.errorHandlerTable.lookup (classPath e)).getD Generated.C19.errorHandlerDefault) := by
    decide +kernel
  intro e; cases e <;> exact all _ (by simp)

theorem error_handler_table_has_no_other_rows : Generated.C19.errorHandlerTable.length = 4 := rfl

/-- The function analysed above *is* the `ErrorHandler` of the one `httputil.ReverseProxy` literal of package proxy
(it is found through that literal, not by name), it writes the status it computed, and the literal's `Transport`
is a parameter of the function that builds it. -/
theorem error_handler_is_installed :
    Generated.C19.errorHandlerWritesStatusVar = true ∧
    Generated.C19.reverseProxyHasErrorHandler = true ∧
    Generated.C19.reverseProxyTransportIsParam = true := ⟨rfl, rfl, rfl⟩

/-- No `http.Transport` is constructed or copied (`&http.Transport{…}`, `.Clone()`) in the packages on the request
path — proxy, proxy/gzip, route, main —: the only constructor is `transport.NewTransport`. -/
theorem no_transport_is_built_or_copied_outside_NewTransport :
    Generated.C19.transportConstructionsOnRequestPath = [] := rfl

/-- Variables of `ServeHTTP` are named by role: `recv` the receiver, `target` the local assigned from
`recv.Lookup(…)`, `tr` the value handed to the reverse-proxy constructor as its transport parameter, `h` the variable
whose `ServeHTTP` is finally called. `tr` is only ever assigned the proxy's `Transport`/`InsecureTransport` or the
target's `Transport` (return expressions of an extracted helper count), every reverse-proxy constructor call
receives `tr`, and `h` is only assigned the websocket tunnel (`local#1`), the reverse proxy and the gzip wrapper:
the model's `handlerFor`. Which of the three candidates is selected when is not checked here: every candidate
carries the configuration (`selected_transport_uses_config`), and the streams exercise the rule (a wrong choice
fails the TLS upstreams). -/
theorem serveHTTP_handlers_get_the_selected_transport :
    Generated.C19.serveHTTPRolesFound = true ∧
    Generated.C19.serveHTTPTransportSources = ["recv.InsecureTransport", "recv.Transport", "target.Transport"] ∧
    Generated.C19.serveHTTPHandlerTransportArgs = ["tr", "tr"] ∧
    Generated.C19.serveHTTPHandlerAssignments =
      ["local#1", "local#1", "reverseProxy", "reverseProxy", "gzip.NewGzipHandler"] := ⟨rfl, rfl, rfl, rfl⟩

/-- `ServeHTTP` passes on the request it received: no `context.With*`, no `WithContext`, no deadline or timeout
handler in `ServeHTTP`, the unexported helpers it calls, or the error handler, the request parameter is never
rebound, and it is the argument of `h.ServeHTTP` — the model's `requestDeadline = none`. -/
theorem serveHTTP_keeps_the_request_context :
    Generated.C19.serveHTTPContextDerivations = [] ∧
    Generated.C19.serveHTTPRequestRebinds = [] ∧
    Generated.C19.serveHTTPServeArgs = ["req"] ∧
    requestDeadline = none := ⟨rfl, rfl, rfl, rfl⟩

/-- The `http.ResponseWriter` `ServeHTTP` hands the handler is either the server's own writer or a wrapper of
package proxy around it whose `WriteHeader` passes every call on, unconditionally, before anything else can
happen — the model's `RW.writeHeader` (`guard = false`). The streams run informational responses 102/103
followed by a stall; this obligation excludes a writer that drops calls depending on a code or on headers they do
not generate (100 Continue, a particular `Link` value). `Props.C19.first_call_only_writer_loses_504` says what
dropping does. -/
theorem responseWriter_passes_every_WriteHeader_through :
    Generated.C19.serveHTTPWriterWriteHeader = "every-call-passed-through" ∧
    RW.writeHeader = RW.writeHeaderWith false := ⟨rfl, rfl⟩

/-- `config/default.go` gives the five options the values the model's `Cfg.defaults` has. -/
theorem defaults_are_model :
    Generated.C19.defaultFiveUnevaluated = [] ∧
    Generated.C19.defaultFive =
      [("DialTimeout", Cfg.defaults.dialTimeout), ("ResponseHeaderTimeout", Cfg.defaults.responseHeaderTimeout),
       ("KeepAliveTimeout", Cfg.defaults.keepAliveTimeout), ("IdleConnTimeout", Cfg.defaults.idleConnTimeout),
       ("MaxConn", Cfg.defaults.maxConn)] := ⟨rfl, rfl⟩

/-- Between the flag parser and `transport.SetConfig` nothing stores into the five options: package config and
package main contain no assignment to `….Proxy.{DialTimeout, ResponseHeaderTimeout, KeepAliveTimeout,
IdleConnTimeout, MaxConn}` and take their address only to register them as flags — so `load`'s result is what
`SetConfig` receives. (The stream `c19.load` runs listener read/write/idle timeouts, the global read/write
timeouts, flush intervals and registry timeouts around the five; this obligation excludes an adjustment that
depends on an option the stream does not generate.) -/
theorem load_does_not_rewrite_the_five_options :
    Generated.C19.configWritesToTheFive = [] ∧
    Generated.C19.fiveFlagNames.length = 5 := ⟨rfl, rfl⟩

end Fabio.Props.C19Facts
