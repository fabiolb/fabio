import Fabio.Lemmas.C02Custom
import Fabio.Lemmas.RouteParse
import Fabio.Lemmas.Lit
/-!
C02 — table replacement is atomic, keeps the last good table, never crashes.

The table type `T`, the pure lookup `lookupPure : T → Req → Ans`, the number `k req` of internal steps of a
lookup and the table constructor `build : Text → Option T` are PARAMETERS of the concurrency and history
theorems; section `build` instantiates `build` with the model of `route.NewTable` (`Parse.loadTable`).

What the theorems do not say: that Go's `atomic.Value` is one micro-step (trusted semantics of
`sync/atomic`), that a published table is never written again (fact `lookupWrites` of C06 + race detector,
stream `c02.swap`), and that the real `NewTable`/`Lookup` cannot panic (see `build_total` and the stream
`c02.nopanic`).
-/
namespace Fabio.Props.C02
open Fabio Fabio.Model.C02 Fabio.Lemmas.C02

section cell
variable {T Req Ans : Type}

/-- **Linearizability of lookups.** Under every schedule of any readers and writers (`SetTable(nil)` included),
every completed lookup was answered from ONE table — entry `r.idx` of the history of the cell's contents —
never from a mixture. (`r.idx` is recorded by the load step: see `lookup_answered_from_table_at_load`.) -/
theorem lookup_linearizable (lk : Lk T Req Ans) (t0 : T) (ths : List (Thread T Req Ans))
    (hfresh : ∀ th ∈ ths, th.fresh = true) (sch : List Nat) :
    ∀ th ∈ (Sys.run lk sch (Sys.start t0 ths)).threads, ∀ r ∈ th.results,
      ∃ t, (Sys.run lk sch (Sys.start t0 ths)).cell.hist[r.idx]? = some t ∧ r.ans = lk.lookupPure t r.req :=
  fun th hth => ((Inv.run sch (Inv.start lk t0 ths hfresh)).1.thr th hth).results.1

/-- **That table is the cell's content at the reader's load step** (`s` is the state after any prefix, step `i`
the load for `req`): whatever runs afterwards — stores, other readers, the reader's own internal steps — the
reader's next result, once it exists, is computed on that content and tagged with its index in the history. -/
theorem lookup_answered_from_table_at_load (lk : Lk T Req Ans) (s : Sys T Req Ans) (i : Nat) (req : Req)
    (todo : List Req) (done : List (Result Req Ans))
    (hload : s.threads[i]? = some (.reader (req :: todo) none done)) (post : List Nat) :
    ∃ th, (Sys.run lk post (s.stepAt lk i)).threads[i]? = some th ∧
      (th.results.length ≤ done.length ∨
       th.results[done.length]? = some { req := req, idx := s.cell.hist.length - 1, ans := lk.lookupPure s.cell.val req }) := by
  have h0 : ∃ th, (s.stepAt lk i).threads[i]? = some th ∧
      Fut lk { req := req, snap := s.cell.val, idx := s.cell.hist.length - 1, left := lk.k req } done th := by
    refine ⟨(Thread.step lk s.cell (.reader (req :: todo) none done)).2, ?_, Or.inl ⟨todo, lk.k req, ?_⟩⟩
    · rw [stepAt_threads, if_pos rfl, hload]; rfl
    · simp [Thread.step, Cell.load]
  obtain ⟨th, hth, hf⟩ := Fut.run lk i post _ h0
  refine ⟨th, hth, ?_⟩
  rcases hf with ⟨todo', n, rfl⟩ | ⟨todo', cur, more, rfl⟩
  · left; simp [Thread.results]
  · right; simp [Thread.results, answerOf]

/-- `readers_see_initial_or_stored` with the table named as entry `r.idx` of the history. -/
theorem lookup_from_initial_or_stored_entry (lk : Lk T Req Ans) (t0 : T) (ths : List (Thread T Req Ans))
    (hfresh : ∀ th ∈ ths, th.fresh = true) (sch : List Nat) :
    ∀ th ∈ (Sys.run lk sch (Sys.start t0 ths)).threads, ∀ r ∈ th.results,
      ∃ t, (t = t0 ∨ t ∈ ths.flatMap Thread.stores) ∧ (Sys.run lk sch (Sys.start t0 ths)).cell.hist[r.idx]? = some t ∧
        r.ans = lk.lookupPure t r.req := by
  intro th hth r hr
  have inv := (Inv.run sch (Inv.start lk t0 ths hfresh)).1
  obtain ⟨t, ht, ha⟩ := lookup_linearizable lk t0 ths hfresh sch th hth r hr
  exact ⟨t, inv.mem t (List.mem_of_getElem? ht), ht, ha⟩

/-- The table a lookup was answered from is the initial table or one a writer passed to `SetTable`. -/
theorem readers_see_initial_or_stored (lk : Lk T Req Ans) (t0 : T) (ths : List (Thread T Req Ans))
    (hfresh : ∀ th ∈ ths, th.fresh = true) (sch : List Nat) :
    ∀ th ∈ (Sys.run lk sch (Sys.start t0 ths)).threads, ∀ r ∈ th.results,
      ∃ t, (t = t0 ∨ t ∈ ths.flatMap Thread.stores) ∧ r.ans = lk.lookupPure t r.req :=
  fun th hth r hr =>
    let ⟨t, hm, _, ha⟩ := lookup_from_initial_or_stored_entry lk t0 ths hfresh sch th hth r hr
    ⟨t, hm, ha⟩

/-- A reader never goes back in time: the tables behind its successive lookups appear in store order. -/
theorem reader_loads_monotone (lk : Lk T Req Ans) (t0 : T) (ths : List (Thread T Req Ans))
    (hfresh : ∀ th ∈ ths, th.fresh = true) (sch : List Nat) :
    ∀ th ∈ (Sys.run lk sch (Sys.start t0 ths)).threads, List.Pairwise (· ≤ ·) (th.results.map (·.idx)) :=
  fun th hth => ((Inv.run sch (Inv.start lk t0 ths hfresh)).1.thr th hth).results.2

/-- So an index denotes the same table at load time and at the end. -/
theorem history_is_append_only (lk : Lk T Req Ans) (t0 : T) (ths : List (Thread T Req Ans))
    (hfresh : ∀ th ∈ ths, th.fresh = true) (pre post : List Nat) :
    ∃ l, (Sys.run lk (pre ++ post) (Sys.start t0 ths)).cell.hist = (Sys.run lk pre (Sys.start t0 ths)).cell.hist ++ l := by
  rw [run_append]
  exact (Inv.run post (Inv.run pre (Inv.start lk t0 ths hfresh)).1).2

/-- A load reads the complete table of the latest store (or the initial one), nothing in between. -/
theorem cell_holds_latest_store (lk : Lk T Req Ans) (t0 : T) (ths : List (Thread T Req Ans))
    (hfresh : ∀ th ∈ ths, th.fresh = true) (sch : List Nat) :
    (Sys.run lk sch (Sys.start t0 ths)).cell.hist.getLast? = some (Sys.run lk sch (Sys.start t0 ths)).cell.val := by
  have h := (Inv.run sch (Inv.start lk t0 ths hfresh)).1.cell
  unfold CellOk at h
  rw [List.getLast?_eq_getElem?]; exact h

theorem setTable_nil_ignored (c : Cell T) : c.setTable none = c := rfl

end cell

section wb
variable {T : Type}

/-- **Keeps the last good table**: the table of the LAST event whose concatenated text
(`svccfg + "\n" + mancfg` at that event) built; the initial table if none built. -/
theorem keeps_last_good (build : Text → Option T) (t0 : T) (es : List Ev) :
    (WB.run build (WB.init t0) es).active = lastGood build t0 (texts es) :=
  run_active build es (WB.init t0) (WBInv.init build t0)

/-- **The next valid configuration is applied**, whatever failed (or was skipped) before it. -/
theorem next_valid_applied (build : Text → Option T) (t0 : T) (es : List Ev) (e : Ev) (t : T)
    (hb : build ((WB.run build (WB.init t0) es).recv e).nextText = some t) :
    (WB.run build (WB.init t0) (es ++ [e])).active = t := by
  rw [run_snoc_active build _ (WBInv.init build t0), hb]
  rfl

/-- **An invalid configuration changes nothing**: the previously active table keeps serving. -/
theorem invalid_keeps_previous (build : Text → Option T) (t0 : T) (es : List Ev) (e : Ev)
    (hb : build ((WB.run build (WB.init t0) es).recv e).nextText = none) :
    (WB.run build (WB.init t0) (es ++ [e])).active = (WB.run build (WB.init t0) es).active := by
  rw [run_snoc_active build _ (WBInv.init build t0), hb]
  rfl

/-- The `nextTable == lastTable` shortcut is harmless: the loop with it and the loop that always rebuilds go
through the same states. (`lastTable` is only ever the text the active table was built from; the initial
`""` can never equal a concatenation, which contains `"\n"`.) -/
theorem unchanged_text_skipped_is_harmless (build : Text → Option T) (t0 : T) (es : List Ev) :
    WB.run build (WB.init t0) es = WB.runNoSkip build (WB.init t0) es := by
  suffices h : ∀ st, WBInv build st → WB.run build st es = WB.runNoSkip build st es from h _ (WBInv.init build t0)
  induction es with
  | nil => intro st _; rfl
  | cons e es ih =>
    intro st inv
    simp only [WB.run, WB.runNoSkip, List.foldl_cons]
    rw [← step_eq_noSkip build st e inv]
    exact ih _ (step_active build st e inv).2

/-- Delivering the same update twice is the same as delivering it once (used by stream `c02.history`, which
sends every event twice: the second send returns only when the loop has finished the first). -/
theorem event_idempotent (build : Text → Option T) (st : WB T) (e : Ev) :
    WB.step build (WB.step build st e) e = WB.step build st e := by
  rw [step_eq build st e]
  cases hi : WB.installed build st e with
  | none =>
    -- nothing installed: the second delivery meets the same test and the same `build`
    rw [step_eq, installed_recv, hi, recv_recv]
  | some t =>
    -- installed: the text is now the remembered one, the second delivery is skipped
    have hr' : ({ st.recv e with active := t, lastTable := (st.recv e).nextText } : WB T).recv e =
        { st.recv e with active := t, lastTable := (st.recv e).nextText } := by cases e <;> rfl
    rw [step_eq, installed_eq_none_iff.2 (.inl (by rw [hr']; rfl)), hr']

/-- The last entry of the per-event trace (the trace is what the driver compares with the real loop) is the last-good
specification of the history. -/
theorem trace_last (build : Text → Option T) (t0 : T) (es : List Ev) (e : Ev) :
    (WB.trace build (WB.init t0) (es ++ [e])).getLast? = some (lastGood build t0 (texts (es ++ [e]))) := by
  rw [← keeps_last_good]
  suffices h : ∀ st : WB T, (WB.trace build st (es ++ [e])).getLast? = some (WB.run build st (es ++ [e])).active from h _
  induction es with
  | nil => intro st; simp [WB.trace, WB.run]
  | cons x xs ih =>
    intro st
    have hne : WB.trace build (WB.step build st x) (xs ++ [e]) ≠ [] := by
      cases xs <;> simp [WB.trace]
    simp only [List.cons_append, WB.trace, WB.run, List.foldl_cons]
    rw [List.getLast?_cons_of_ne_nil hne]
    exact ih _

end wb

section custom
variable {T D : Type}

/-- `route.SetTable(nil)` keeps the active table (the custom backend relies on it). -/
theorem setTable_nil_keeps_active (a : T) : setTable a none = a := rfl

/-- A poll that fails at any stage — transport, decoding, a `null` document, a definition list that does not
build — leaves the active table in place (with the repaired `NewTableCustom`). -/
theorem custom_error_keeps_table (buildDefs : D → Option T) (a : T) :
    customStep (newTableCustom buildDefs) a .httpError = .ok a ∧
    customStep (newTableCustom buildDefs) a .decodeError = .ok a ∧
    customStep (newTableCustom buildDefs) a .null = .ok a ∧
    ∀ ds, buildDefs ds = none → customStep (newTableCustom buildDefs) a (.defs ds) = .ok a := by
  refine ⟨rfl, rfl, rfl, fun ds h => ?_⟩
  rw [Fabio.Lemmas.C02Custom.customStep_eq, Fabio.Lemmas.C02Custom.pollStep, h]; rfl

/-- A definition list that builds is installed, whatever came before. -/
theorem custom_valid_applied (buildDefs : D → Option T) (a : T) (ds : D) (t : T) (h : buildDefs ds = some t) :
    customStep (newTableCustom buildDefs) a (.defs ds) = .ok t := by
  rw [Fabio.Lemmas.C02Custom.customStep_eq, Fabio.Lemmas.C02Custom.pollStep, h]; rfl

/-- No sequence of polls makes the (repaired) poll loop panic. -/
theorem custom_never_panics (buildDefs : D → Option T) (ps : List (Poll D)) :
    ∀ a, ∃ a', customRun (newTableCustom buildDefs) a ps = .ok a' :=
  fun a => ⟨_, Fabio.Lemmas.C02Custom.customRun_eq_calls buildDefs ps a⟩

/-- D27 as found: with the unrepaired `NewTableCustom` the document `null` panics the polling goroutine —
whatever the active table, after any number of good polls. (Replayed on the real code from
`corpus/c02.custom.jsonl`; repaired by the `fix:` commit listed in `checks/C02.findings.json`.) -/
theorem custom_null_panicked_before_repair (buildDefs : D → Option T) (a : T) :
    (customStep (newTableCustomOld buildDefs) a .null).isPanic = true := rfl

end custom

section build
open Fabio.Model.Route Fabio.Model.Parse

def buildText (env : Env) (pf : ParseFloat) (text : Text) : Option Table := (loadTable env pf text).toOption

/-- True by construction: `loadTable` is a total Lean function (weights are rationals, so no overflow). It shows
that the *algorithm* has no undefined case for any text and any `ParseFloat`/`url.Parse`/`glob.Compile` behaviour;
it does NOT by itself show that the Go code cannot panic (float64 overflow, slice indexing, `MustCompile`). That
claim is carried by (i) the correspondence of the real `NewTable` and `Lookup` with this total model on hostile
inputs (`c02.nopanic`, outcome ∈ {table, error, panic}), (ii) the panic-point facts `panic_point_guards` and
`parse_events` in `Props/C02Pins.lean`, (iii) the ring/picker theorems of C04. -/
theorem build_total (env : Env) (pf : ParseFloat) (text : Text) :
    (∃ t, loadTable env pf text = .ok t) ∨ (∃ e, loadTable env pf text = .error e) := by
  cases h : loadTable env pf text with
  | ok t => exact Or.inl ⟨t, rfl⟩
  | error e => exact Or.inr ⟨e, rfl⟩

/-- A failing command yields an error and NO table (never a partial one): the only table `loadTable` can
return is the one built from *all* commands. -/
theorem no_partial_table (env : Env) (pf : ParseFloat) (text : Text) (t : Table)
    (h : loadTable env pf text = .ok t) :
    ∃ defs, parse pf text = .ok defs ∧ newTable env defs = .ok t :=
  (Fabio.Lemmas.Route.loadTable_ok_iff env pf text t).1 h

theorem keeps_last_good_newTable (env : Env) (pf : ParseFloat) (es : List Ev) :
    (WB.run (buildText env pf) (WB.init ([] : Table)) es).active = lastGood (buildText env pf) [] (texts es) :=
  keeps_last_good _ _ es

/-
No `lookup_no_panic` is stated: C03's model `C03.Lookup` is a total function into `Option`, with a host pattern that does not
compile (or whose `Match` panics inside gobwas/glob — repair of D33) matching nothing; there is no `Outcome.panic`
in its signature to exclude. The Go-side claim is carried by `c02.nopanic` (every built
table is looked up with all matchers and pickers) and the facts `panic_point_guards` /
`no_recover_is_relied_upon`.
-/

end build

section examples

def exLk : Lk Nat Nat (Nat × Nat) := { lookupPure := fun t r => (t, r), k := fun r => r % 3 }

def exThreads : List (Thread Nat Nat (Nat × Nat)) :=
  [.reader [1, 2, 5] none [], .writer [some 10, none, some 20], .reader [7, 8] none []]

example : ∀ th ∈ exThreads, th.fresh = true := by decide +kernel

/-- an interleaving in which reader 0 loads before the first store (and answers after it) and after the last,
reader 2 between the stores and after them; the writer's `SetTable(nil)` leaves no trace -/
def exSched : List Nat := [0, 1, 0, 0, 2, 1, 1, 0, 0, 0, 0, 2, 2, 0, 0, 0, 2, 2, 2, 2, 0, 0, 0, 0]

example : ((Sys.run exLk exSched (Sys.start 0 exThreads)).threads.map Thread.results) =
    [[⟨1, 0, (0, 1)⟩, ⟨2, 2, (20, 2)⟩, ⟨5, 2, (20, 5)⟩], [], [⟨7, 1, (10, 7)⟩, ⟨8, 2, (20, 8)⟩]] := by decide +kernel

example : (Sys.run exLk exSched (Sys.start 0 exThreads)).cell.hist = [0, 10, 20] := by decide +kernel

def exBuild : Text → Option Text := fun s => if s.contains '!' then none else some s

def exEvents : List Ev := [.svc "a".toList, .man "!".toList, .svc "b".toList, .man "m".toList, .man "m".toList, .svc "!".toList]

example : WB.trace exBuild (WB.init []) exEvents =
    ["a\n".toList, "a\n".toList, "a\n".toList, "b\nm".toList, "b\nm".toList, "b\nm".toList] := by
  unfold exEvents; simp only [toList_lit rfl]; decide +kernel

example : texts exEvents = ["a\n".toList, "a\n!".toList, "b\n!".toList, "b\nm".toList, "b\nm".toList, "!\nm".toList] := by
  unfold exEvents; simp only [toList_lit rfl]; decide +kernel

example : lastGood exBuild [] (texts exEvents) = "b\nm".toList := by
  unfold exEvents; simp only [toList_lit rfl]; decide +kernel

/-- hypothesis of `next_valid_applied` after two failures -/
example : exBuild ((WB.run exBuild (WB.init []) (exEvents.take 3)).recv (.man "m".toList)).nextText = some "b\nm".toList := by
  unfold exEvents; simp only [toList_lit rfl]; decide +kernel

/-- hypothesis of `invalid_keeps_previous` -/
example : exBuild ((WB.run exBuild (WB.init []) (exEvents.take 1)).recv (.man "!".toList)).nextText = none := by
  unfold exEvents; simp only [toList_lit rfl]; decide +kernel

def exPolls : List (Poll Nat) := [.defs 3, .null, .decodeError, .defs 0, .defs 4]
def exBuildDefs : Nat → Option Nat := fun n => if n = 0 then none else some (n * 10)

example : customTrace (newTableCustom exBuildDefs) 1 exPolls = [some 30, some 30, some 30, some 30, some 40] := by decide +kernel
example : customTrace (newTableCustomOld exBuildDefs) 1 exPolls = [some 30, none, none, none, none] := by decide +kernel

end examples

end Fabio.Props.C02
