import Fabio.Model.C12Parse
import Fabio.Lemmas.C12
import Fabio.Lemmas.Lit
/-!
C12 — access rules and route authentication gate every request: property theorems.

All statements about rule texts and peers hold for **every** `Parsers` (whatever `ParseIP`, `ParseCIDR`,
`SplitHostPort` do); the concrete parsers (`Parse.goParsers`) appear only as the witness of `unrepaired_widens` and in
the examples.
-/
namespace Fabio.Props.C12
open Fabio Fabio.Model.C12 Fabio.Lemmas.C12

/-- An IPv4 block (`a.b.c.d/n`, stored with a 4-byte number and mask) contains exactly the addresses that are
IPv4 after Go's unmapping and share the leading `n` bits. -/
theorem contains_v4_iff (nn ones : Nat) (ip : IP) (hn : nn < 2^32) (ho : ones ≤ 32) (hip : ip.wf) :
    (IPNet.contains { ip := { v6 := false, val := nn }, bits := 32, ones := ones } ip = true) ↔
      ∃ v, ip.to4 = some v ∧ nn >>> (32 - ones) = v >>> (32 - ones) :=
  contains_number4 _ nn ones ip rfl hn ho hip

/-- An IPv6 block (16-byte number outside `::ffff:0:0/96`) contains exactly the addresses that are *not*
IPv4 after unmapping and share the leading `n` bits; an IPv4 peer is never inside an IPv6 block. -/
theorem contains_v6_iff (nn ones : Nat) (ip : IP) (hn : nn < 2^128) (ho : ones ≤ 128) (hip : ip.wf)
    (h6 : (IP.to4 { v6 := true, val := nn }) = none) :
    (IPNet.contains { ip := { v6 := true, val := nn }, bits := 128, ones := ones } ip = true) ↔
      ip.to4 = none ∧ nn >>> (128 - ones) = ip.val >>> (128 - ones) :=
  contains_number16 _ nn ones ip (by simp only [IPNet.numberAndMask, h6]; rfl) hn ho hip

/-- An IPv4-mapped block (`::ffff:a.b.c.d/n` with `n ≥ 96`, stored by `ParseCIDR` with a 16-byte number inside
`::ffff:0:0/96` and a 16-byte mask) is the IPv4 block `a.b.c.d/(n-96)`: Go cuts number and mask to their last four
bytes. -/
theorem contains_mapped_iff (nn ones : Nat) (ip : IP) (hn : nn < 2^32) (h1 : 96 ≤ ones) (h2 : ones ≤ 128)
    (hip : ip.wf) :
    (IPNet.contains { ip := { v6 := true, val := 0xffff <<< 32 + nn }, bits := 128, ones := ones } ip = true) ↔
      ∃ v, ip.to4 = some v ∧ nn >>> (128 - ones) = v >>> (128 - ones) := by
  have hnm : IPNet.numberAndMask { ip := { v6 := true, val := 0xffff <<< 32 + nn }, bits := 128, ones := ones } =
      some (false, nn, cidrMask (ones - 96) 32) := by
    simp only [IPNet.numberAndMask, to4_mapped nn hn, cidrMask_low32 ones h1 h2]
    rfl
  have hsub : 32 - (ones - 96) = 128 - ones := by omega
  rw [← hsub]
  exact contains_number4 _ nn (ones - 96) ip hnm hn (by omega) hip

/-- An allow list admits only addresses inside one of its blocks. -/
theorem allow_admits_only_inside (r : Rules) (bs : List IPNet) (ip : IP)
    (ha : r.allow = some bs) (h : denyByIP r (some ip) = false) : ∃ b ∈ bs, b.contains ip = true :=
  (not_denied_inside_outside h).1 bs ha

/-- … and it admits every address inside one of its blocks (the list is not stricter than written). -/
theorem allow_admits_inside (r : Rules) (bs : List IPNet) (ip : IP) (b : IPNet)
    (ha : r.allow = some bs) (hb : b ∈ bs) (hc : b.contains ip = true) : denyByIP r (some ip) = false := by
  simpa [denyByIP_allow ha] using ⟨b, hb, hc⟩

/-- A deny list rejects every address inside one of its blocks. -/
theorem deny_rejects_inside (r : Rules) (bs : List IPNet) (ip : IP) (b : IPNet)
    (ha : r.allow = none) (hd : r.deny = some bs) (hb : b ∈ bs) (hc : b.contains ip = true) :
    denyByIP r (some ip) = true := by
  simpa [denyByIP_deny ha hd] using ⟨b, hb, hc⟩

theorem deny_rejects_only_inside (r : Rules) (bs : List IPNet) (ip : IP)
    (ha : r.allow = none) (hd : r.deny = some bs) (h : denyByIP r (some ip) = true) :
    ∃ b ∈ bs, b.contains ip = true := by
  simpa [denyByIP_deny ha hd] using h

/-- No rules: nobody is denied ("empty means unrestricted"). -/
theorem no_rules_admits (P : Parsers) (r : Rules) (he : r.isEmpty = true) (remote : List Char)
    (xff : List (List Char)) (p : TCPPeer) :
    accessDeniedHTTP P r remote xff = false ∧ accessDeniedTCP r p = false :=
  ⟨(accessDeniedHTTP_false_iff P r remote xff).mpr (.inl he), by simp [accessDeniedTCP, he]⟩

/-- A request that is admitted while rules exist has a peer address that could be split, parsed and passed
the rules. -/
theorem http_admitted_peer_checked (P : Parsers) (r : Rules) (remote : List Char) (xff : List (List Char))
    (hr : r.isEmpty = false) (h : accessDeniedHTTP P r remote xff = false) :
    ∃ host ip, P.splitHostPort remote = some host ∧ P.parseIP (stripZone host) = some ip ∧
      denyByIP r (some ip) = false := by
  obtain ⟨host, ip, hs, hp, hd, _⟩ := ((accessDeniedHTTP_false_iff P r remote xff).mp h).checked hr
  exact ⟨host, ip, hs, hp, hd⟩

/-- Every element of every X-Forwarded-For header line that is an address and differs from the peer host is
subject to the same rules as the peer: if the request is admitted, each of them passed `denyByIP`. -/
theorem xff_every_element_checked (P : Parsers) (r : Rules) (remote host : List Char)
    (xff : List (List Char)) (hr : r.isEmpty = false) (hs : P.splitHostPort remote = some host)
    (h : accessDeniedHTTP P r remote xff = false) :
    ∀ line ∈ xff, ∀ x ∈ splitOn ',' line, trimSpace x ≠ host →
      ∀ ip, P.parseIP (stripZone (trimSpace x)) = some ip → denyByIP r (some ip) = false := by
  obtain ⟨host', _, hs', _, _, hx⟩ := ((accessDeniedHTTP_false_iff P r remote xff).mp h).checked hr
  cases hs.symm.trans hs'; exact hx

/-- Combined with the allow list: on an admitted request every such element lies inside an allow block. -/
theorem xff_allow_inside (P : Parsers) (r : Rules) (bs : List IPNet) (remote host : List Char)
    (xff : List (List Char)) (ha : r.allow = some bs) (hs : P.splitHostPort remote = some host)
    (h : accessDeniedHTTP P r remote xff = false) :
    ∀ line ∈ xff, ∀ x ∈ splitOn ',' line, trimSpace x ≠ host →
      ∀ ip, P.parseIP (stripZone (trimSpace x)) = some ip → ∃ b ∈ bs, b.contains ip = true := by
  intro line hl x hx hne ip hp
  have hr : r.isEmpty = false := by simp [Rules.isEmpty, ha]
  exact allow_admits_only_inside r bs ip ha (xff_every_element_checked P r remote host xff hr hs h line hl x hx hne ip hp)

/-- Rules exist and the peer address cannot be determined (RemoteAddr does not split, or the host is not an
address even after cutting an IPv6 zone): denied. (Before the repair of D16b both cases were admitted.) -/
theorem unparsable_peer_fails_closed (P : Parsers) (r : Rules) (remote : List Char) (xff : List (List Char))
    (hr : r.isEmpty = false)
    (hbad : P.splitHostPort remote = none ∨
            ∃ host, P.splitHostPort remote = some host ∧ P.parseIP (stripZone host) = none) :
    accessDeniedHTTP P r remote xff = true := by
  refine Bool.of_not_eq_false fun h => ?_
  obtain ⟨host, ip, hs, hp, _⟩ := ((accessDeniedHTTP_false_iff P r remote xff).mp h).checked hr
  rcases hbad with h1 | ⟨host', h1, h2⟩
  · rw [hs] at h1; cases h1
  · cases hs.symm.trans h1
    rw [hp] at h2; cases h2

theorem unparsable_peer_fails_closed_tcp (r : Rules) (hr : r.isEmpty = false) :
    accessDeniedTCP r .notTCP = true ∧ accessDeniedTCP r (.addr none) = true := by
  simp [accessDeniedTCP, hr, denyByIP_none hr]

/-- `stripZone` cuts the zone off a zone-scoped address `s%z`. `accessDeniedHTTP` applies it to the peer host and to every
forwarded element before `parseIP` reads them, so the zone does not reach the decision. -/
theorem zone_is_ignored (s z : List Char) (hs : ∀ c ∈ s, c ≠ '%') :
    stripZone (s ++ '%' :: z) = s := by
  rw [stripZone, List.takeWhile_append_of_pos (by simpa using hs)]
  simp

/-- `parseAccessRule` appends: what was in the map before stays (this is the partial state an error leaves). -/
theorem parseItems_prefix (P : Parsers) (cs : List (List Char)) (acc : List IPNet) :
    ∃ more, (parseItems P cs acc).1 = acc ++ more :=
  (parseItems_appends P cs acc).imp fun _ h => h.1

/-- If processing the options fails — whatever the reason and wherever in the list — the target denies every
request and every connection: peer, header and zone do not matter. -/
theorem unparsable_rule_never_widens (P : Parsers) (allow deny : List Char) (e : RuleErr)
    (h : (processAccessRules P allow deny).2 = some e) :
    (∀ remote xff, accessDeniedHTTP P (processAccessRules P allow deny).1 remote xff = true) ∧
    (∀ p, accessDeniedTCP (processAccessRules P allow deny).1 p = true) := by
  rw [processAccessRules_error h]
  exact ⟨accessDeniedHTTP_denyAll P, accessDeniedTCP_denyAll⟩

theorem allow_and_deny_together_denies (P : Parsers) (allow deny : List Char)
    (ha : allow ≠ []) (hd : deny ≠ []) :
    processAccessRules P allow deny = (Rules.denyAll, some .both) := by
  simp [processAccessRules, processRaw, ha, hd]

/-- When the loop of `parseAccessRule` ends without an error the map holds one block per item. -/
theorem parseItems_ok_length (P : Parsers) (cs : List (List Char)) (acc : List IPNet)
    (h : (parseItems P cs acc).2 = none) : (parseItems P cs acc).1.length = acc.length + cs.length := by
  obtain ⟨more, h1, h2⟩ := parseItems_appends P cs acc
  rw [h1, List.length_append, h2 h]

/-- The behaviour before the repair of D16 (`processRaw`: the error is only logged and the partial map is
used) does widen access: there are options whose processing fails and which then admit every request. -/
theorem unrepaired_widens :
    ∃ (P : Parsers) (allow : List Char) (e : RuleErr), (processRaw P allow []).2 = some e ∧
      ∀ remote xff, accessDeniedHTTP P (processRaw P allow []).1 remote xff = false := by
  have h : processRaw Parse.goParsers "ip:10.0.0.0/33".toList [] = ({}, some .badCIDR) := by
    simp only [toList_lit rfl]; decide +kernel
  exact ⟨Parse.goParsers, _, .badCIDR, by rw [h], fun _ _ => by rw [h]; rfl⟩

/-- A route that names a scheme which is not registered rejects every request. -/
theorem unknown_scheme_rejects {σ} (scheme : List Char) (schemes : List (List Char × σ)) (verdict : σ → Bool)
    (hne : scheme ≠ []) (hu : schemes.lookup scheme = none) : authorized scheme schemes verdict = false := by
  simp [authorized, hne, hu]

/-- A route without `auth=` needs no credentials. -/
theorem no_scheme_admits {σ} (schemes : List (List Char × σ)) (verdict : σ → Bool) :
    authorized [] schemes verdict = true := by
  simp [authorized]

theorem known_scheme_decides {σ} (scheme : List Char) (schemes : List (List Char × σ)) (verdict : σ → Bool)
    (s : σ) (hne : scheme ≠ []) (hk : schemes.lookup scheme = some s) :
    authorized scheme schemes verdict = verdict s := by
  simp [authorized, hne, hk]

/-- Basic authentication without credentials, or with a password that is not the stored one, is refused. -/
theorem basic_requires_matching_secret (secrets : List (List Char × List Char))
    (cred : Option (List Char × List Char)) (h : basicVerdict secrets cred = true) :
    ∃ u p, cred = some (u, p) ∧ secrets.lookup u = some p :=
  (basicVerdict_iff secrets cred).mp h

/-- The decision on a request depends only on that request's credentials and the htpasswd file in force:
whatever happened on the scheme instance before (valid logins, failed attempts, repeated attempts, reloads),
two histories that leave the same file in force judge the next attempt alike, namely by `basicVerdict`. -/
theorem auth_decision_depends_only_on_attempt (s1 s2 : List (List Char × List Char)) (h1 h2 : List AuthOp)
    (c : Option (List Char × List Char)) (hf : fileAfter s1 h1 = fileAfter s2 h2) :
    (runAuth s1 (h1 ++ [.attempt c])).getLast? = (runAuth s2 (h2 ++ [.attempt c])).getLast? ∧
    (runAuth s1 (h1 ++ [.attempt c])).getLast? = some (basicVerdict (fileAfter s1 h1) c) := by
  rw [runAuth_append_attempt, runAuth_append_attempt, hf]
  simp

/-- In particular a pair that is not in the file is refused even directly after a valid login whose user and
password concatenate to the same text. -/
theorem colliding_pair_refused (secrets : List (List Char × List Char)) (h : List AuthOp)
    (u p : List Char) (hn : (fileAfter secrets h).lookup u ≠ some p) :
    (runAuth secrets (h ++ [.attempt (some (u, p))])).getLast? = some false := by
  rw [(auth_decision_depends_only_on_attempt secrets secrets h h _ rfl).2]
  simp [basicVerdict, hn]

/-- Whatever statement `t` is: if lookup, access check and authentication all stand before the first `t` in the statement
order, then `t` takes effect only for a request that found a route, was not denied and was authorized. -/
theorem gate_before (env : Env) (t : Step) (ss : List Step) (c : Bool)
    (ho : orderedBefore t [.lookup, .access, .auth] ss = true) (h : fired env ss c t) :
    env.found = true ∧ env.denied = false ∧ env.authorized = true := by
  have hp := reached_passed_gates ho h
  exact ⟨hp .lookup (by simp), by simpa [passes] using hp .access (by simp), hp .auth (by simp)⟩

/-- At `t = upstream`: an upstream is contacted only for a request that found a route, was not denied and was authorized.
The statement orders of `ServeHTTP` and of the gRPC interceptor are regenerated from the source and fed to this theorem in
`C12Facts` (those of the three `ServeTCP` to `gate_before_upstream_tcp`). -/
theorem gate_before_upstream (env : Env) (ss : List Step)
    (ho : gateOrdered [.lookup, .access, .auth] ss = true) (h : (runGate env ss false).2 = true) :
    env.found = true ∧ env.denied = false ∧ env.authorized = true :=
  gate_before env .upstream ss false ho h

/-- At `t = redirect`: a route with `redirect=` is answered by fabio itself, and a request receives the redirect (status 3xx
and the Location of the protected destination) only if it found the route, was not denied and was authorized — a refused
request gets 403/401, never 3xx. -/
theorem gate_before_redirect (env : Env) (ss : List Step) (c : Bool)
    (ho : redirectOrdered [.lookup, .access, .auth] ss = true) (h : (runGate env ss c).1 = .redirected) :
    env.found = true ∧ env.denied = false ∧ env.authorized = true :=
  gate_before env .redirect ss c ho h

/-- A redirect route passes the `redirect` statement, which stands before the upstream contact, for no request. -/
theorem redirect_route_no_upstream (env : Env) (hr : env.redirect = true) :
    (runGate env [.lookup, .access, .auth, .redirect, .upstream] false).2 = false :=
  Bool.of_not_eq_true fun h => by
    simpa [passes, hr] using reached_passed_gates (t := .upstream) (gates := [.redirect]) rfl h .redirect (by simp)

/-- The TCP proxies have no authentication step: lookup and access check precede the dial. -/
theorem gate_before_upstream_tcp (env : Env) (ss : List Step)
    (ho : gateOrdered [.lookup, .access] ss = true) (h : (runGate env ss false).2 = true) :
    env.found = true ∧ env.denied = false := by
  have hp := reached_passed_gates (t := .upstream) ho h
  exact ⟨hp .lookup (by simp), by simpa [passes] using hp .access (by simp)⟩

/-- A denied or unauthorized request gets 403 resp. 401 in the coded order, and no upstream is contacted (the `false`). -/
theorem denied_gets_403 (env : Env) (hf : env.found = true) (hd : env.denied = true) :
    runGate env [.lookup, .access, .auth, .redirect, .upstream] false = (.forbidden, false) := by
  simp [runGate, hf, hd]

theorem unauthorized_gets_401 (env : Env) (hf : env.found = true) (hd : env.denied = false)
    (ha : env.authorized = false) :
    runGate env [.lookup, .access, .auth, .redirect, .upstream] false = (.unauthorized, false) := by
  simp [runGate, hf, hd, ha]

section examples
open Parse

private def rulesOf (a d : String) : Rules := (processAccessRules goParsers a.toList d.toList).1

-- `rw [rulesOf]`, not `unfold`: unfolded definitionally, the kernel is left to compare `rulesOf …` with a projection,
-- which it does by running the parse on the literals as they stand.
example : accessDeniedHTTP goParsers (rulesOf "ip:10.0.0.0/8,ip:fe80::/10" "") "10.1.2.3:80".toList [] = false := by
  rw [rulesOf]; simp only [toList_lit rfl]; decide +kernel
-- the mapped peer is judged as IPv4
example : accessDeniedHTTP goParsers (rulesOf "ip:10.0.0.0/8" "") "[::ffff:10.1.2.3]:80".toList [] = false := by
  rw [rulesOf]; simp only [toList_lit rfl]; decide +kernel
example : accessDeniedHTTP goParsers (rulesOf "ip:10.0.0.0/8" "") "9.9.9.9:80".toList [] = true := by
  rw [rulesOf]; simp only [toList_lit rfl]; decide +kernel
-- zone-scoped peers are judged by their address (D16b)
example : accessDeniedHTTP goParsers (rulesOf "ip:fe80::/10" "") "[2001::1%eth0]:1".toList [] = true := by
  rw [rulesOf]; simp only [toList_lit rfl]; decide +kernel
example : accessDeniedHTTP goParsers (rulesOf "ip:fe80::/10" "") "[fe80::1%eth0]:1".toList [] = false := by
  rw [rulesOf]; simp only [toList_lit rfl]; decide +kernel
-- X-Forwarded-For: a later element, and an element on a second header line, are checked
example : accessDeniedHTTP goParsers (rulesOf "ip:10.0.0.0/8" "") "10.1.2.3:80".toList ["10.2.2.2, 9.9.9.9".toList] = true := by
  rw [rulesOf]; simp only [toList_lit rfl]; decide +kernel
example : accessDeniedHTTP goParsers (rulesOf "ip:10.0.0.0/8" "") "10.1.2.3:80".toList ["10.2.2.2".toList, "9.9.9.9".toList] = true := by
  rw [rulesOf]; simp only [toList_lit rfl]; decide +kernel
example : accessDeniedHTTP goParsers (rulesOf "" "ip:9.9.9.0/24") "10.1.2.3:80".toList ["10.2.2.2 , 10.1.2.3,garbage".toList] = false := by
  rw [rulesOf]; simp only [toList_lit rfl]; decide +kernel
example : accessDeniedTCP (rulesOf "" "ip:1.2.3.4") (.addr (some ⟨false, 0x01020304⟩)) = true := by
  rw [rulesOf]; simp only [toList_lit rfl]; decide +kernel
example : accessDeniedTCP (rulesOf "" "ip:1.2.3.4") (.addr (some ⟨false, 0x01020305⟩)) = false := by
  rw [rulesOf]; simp only [toList_lit rfl]; decide +kernel
-- malformed options deny everybody (D16)
example : (processAccessRules goParsers "ip:10.0.0.0/33".toList []).2 = some .badCIDR := by
  simp only [toList_lit rfl]; decide +kernel
example : (processAccessRules goParsers "foo:1.2.3.4".toList []).2 = some .unknownType := by
  simp only [toList_lit rfl]; decide +kernel
example : (processAccessRules goParsers [] "ip:bad,ip:1.2.3.4".toList).2 = some .badIP := by
  simp only [toList_lit rfl]; decide +kernel
example : (processAccessRules goParsers "1.2.3.4".toList []).2 = some .noColon := by
  simp only [toList_lit rfl]; decide +kernel
example : accessDeniedHTTP goParsers (rulesOf "ip:10.0.0.0/33" "") "10.1.2.3:80".toList [] = true := by
  rw [rulesOf]; simp only [toList_lit rfl]; decide +kernel
-- the partial state `parseAccessRule` leaves: the first block is in the map when the second item fails
example : (parseItems goParsers (splitOn ',' "ip:1.2.3.4,ip:bad".toList) []).1.length = 1 := by
  simp only [toList_lit rfl]; decide +kernel
-- hypotheses of the containment theorems are satisfiable
example : IPNet.contains ⟨⟨false, 0x0a000000⟩, 32, 8⟩ ⟨true, 0xffff0a010203⟩ = true := by decide +kernel
example : IPNet.contains ⟨⟨true, 0xfe80 <<< 112⟩, 128, 10⟩ ⟨true, (0xfe80 <<< 112) + 1⟩ = true := by decide +kernel
example : IPNet.contains ⟨⟨true, 0⟩, 128, 0⟩ ⟨false, 0x01020304⟩ = false := by decide +kernel
-- the mapped block ::ffff:1.2.3.0/120 is 1.2.3.0/24, as the parser stores it and as the theorem states it
example : parseCIDR "::ffff:1.2.3.0/120".toList = some ⟨⟨true, 0xffff <<< 32 + 0x01020300⟩, 128, 120⟩ := by
  simp only [toList_lit rfl]; decide +kernel
example : IPNet.contains ⟨⟨true, 0xffff <<< 32 + 0x01020300⟩, 128, 120⟩ ⟨false, 0x01020304⟩ = true := by decide +kernel
example : IPNet.contains ⟨⟨true, 0xffff <<< 32 + 0x01020300⟩, 128, 120⟩ ⟨true, 0xffff01020399⟩ = true := by decide +kernel
example : IPNet.contains ⟨⟨true, 0xffff <<< 32 + 0x01020300⟩, 128, 120⟩ ⟨false, 0x01020404⟩ = false := by decide +kernel
example : authorized "nope".toList [("basic".toList, ())] (fun _ => true) = false := by
  simp only [toList_lit rfl]; decide +kernel
example : authorized "basic".toList [("basic".toList, ())] (fun _ => basicVerdict [("u".toList, "p".toList)] (some ("u".toList, "p".toList))) = true := by
  simp only [toList_lit rfl]; decide +kernel
example : gateOrdered [.lookup, .access, .auth] [.lookup, .access, .auth, .redirect, .upstream] = true := by decide +kernel
example : redirectOrdered [.lookup, .access, .auth] [.lookup, .access, .auth, .redirect, .upstream] = true := by decide +kernel
example : redirectOrdered [.lookup, .access, .auth] [.lookup, .redirect, .access, .auth, .upstream] = false := by decide +kernel
example : (runGate ⟨true, false, true, true⟩ [.lookup, .access, .auth, .redirect, .upstream] false) = (.redirected, false) := by decide +kernel
example : (runGate ⟨true, true, true, true⟩ [.lookup, .redirect, .access, .auth, .upstream] false) = (.redirected, false) := by decide +kernel
example : gateOrdered [.lookup, .access] [.lookup, .upstream, .access] = false := by decide +kernel
example : (runGate ⟨true, false, true, false⟩ [.lookup, .access, .auth, .redirect, .upstream] false) = (.served, true) := by decide +kernel
-- a/bc logs in, then ab/c — the same text when user and password are concatenated — is refused
example : runAuth [("a".toList, "bc".toList)] [.attempt (some ("a".toList, "bc".toList)), .attempt (some ("ab".toList, "c".toList)),
    .attempt (some ([], "abc".toList)), .reload [("ab".toList, "c".toList)], .attempt (some ("ab".toList, "c".toList)),
    .attempt (some ("a".toList, "bc".toList))] = [true, false, false, true, false] := by
  simp only [toList_lit rfl]; decide +kernel
end examples

end Fabio.Props.C12
