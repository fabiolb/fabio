import Fabio.Generated.C15
/-! C15 — change detectors (HOWTO "Obligations versus change detectors"): the *shape* of `FlagSet.ParseFlags`, which is
sequential, deterministic code whose input/output behaviour the stream `c15.sources` compares with the model on every
run (every flag × every ordered source pair: precedence; mixed-case and `ı`/`ſ` variable names: name folding; duplicate
and decoy entries: last entry wins).  When this module stops building the check claims nothing broken by that alone: it
runs every stream at five times the budget with a second seed, so a rewrite of `ParseFlags` that preserves its behaviour
ends with exit 0 and a change of behaviour is for `c15.sources` to expose. -/
namespace Fabio.Props.C15Pins
open Fabio.Generated.C15

/-- `ParseFlags`: command line first, the environment map, marking what the command line set, and per flag:
skip if set, environment (prefixes in list order), then properties. -/
theorem parse_order :
    parseOrder = ["cmdline", "env-map", "mark-cmdline-set", "skip-if-set", "env", "props"] := rfl

/-- the environment-variable name is `ToUpper(prefix + Replace(name, ".", "_"))`, looked up in a map keyed by
`ToUpper(entry name)` (recognised by callee names and argument literals, not by variable names) -/
theorem env_name_mangling : envNameUpperCased = true ∧ envNameDotsReplaced = true ∧ envKeyUpperCased = true := ⟨rfl, rfl, rfl⟩

end Fabio.Props.C15Pins
