import Fabio.Generated.C01
import Fabio.Model.C01
/-!
CHANGE DETECTORS for C01 (`"pins_module"` in checks/C01.json): the guarded-action lists of sequential, deterministic
code whose input/output behaviour a correspondence stream compares with the model on every run. When one of these
stops building nothing is claimed broken — the streams run at the widened budget with a second seed and decide. A
behaviour-preserving refactoring of this code (buffer idiom vs. concatenation, a hand-written loop vs. `slices.Contains`,
inlined locals) ends with exit 0. Tie carried by: `c01.passing` (passingServices, its helpers, checksWithTagPrefix —
every run compares the real functions with the model and with `HealthyAt`), `c01.pipeline` (serviceConfig under
scripted lookup failures, watchKV under index anomalies, the `watchBackend` loop: text order, skip-if-unchanged,
last good table). What no stream can establish stays in `Props/C01Facts.lean`.
-/
namespace Fabio.Props.C01Pins
open Fabio Fabio.Model.C01

/-- `passingServices` (v0 result, v1 outer element, v2 total, v3 passing, v4 inner element; p0 checks, p1 statuses,
p2 strict; helper0 = isServiceCheck, helper1 = hasStatus): only service checks are considered; the inner loop runs
over the *same* list; on the same node: a check of the same service id counts (and counts as passing when its
status is accepted); then, in this order, critical serfHealth / `_node_maintenance` with any status / critical
`_service_maintenance:<id of the outer element>` leave the outer iteration; the element is appended iff
`passing != 0` and (not strict or total == passing). This is the model's `inner` / `keep`. -/
theorem passing_services_shape :
    Generated.C01.passingServicesActions =
      ["range p0",
       "> helper0(v1) => range p0",
       ">> v1.Node == v4.Node & v1.ServiceID == v4.ServiceID => v2++",
       ">> v1.Node == v4.Node & v1.ServiceID == v4.ServiceID & helper1(v4, p1) => v3++",
       ">> v1.Node == v4.Node & \"serfHealth\" == v4.CheckID & \"critical\" == v4.Status => continue L0",
       ">> v1.Node == v4.Node & \"serfHealth\" != v4.CheckID & \"_node_maintenance\" == v4.CheckID => continue L0",
       ">> v1.Node == v4.Node & \"serfHealth\" == v4.CheckID & \"critical\" != v4.Status & \"_node_maintenance\" == v4.CheckID => continue L0",
       ">> v1.Node == v4.Node & \"serfHealth\" != v4.CheckID & \"_node_maintenance\" != v4.CheckID & \"_service_maintenance:\" + v1.ServiceID == v4.CheckID & \"critical\" == v4.Status => continue L0",
       "> helper0(v1) & 0 != v3 & !p2 => v0 = append(v0, v1)",
       "> helper0(v1) & 0 != v3 & p2 & v2 == v3 => v0 = append(v0, v1)",
       "return v0"] :=
  rfl

/-- `isServiceCheck` (helper0) and `hasStatus` (helper1) -/
theorem passing_helpers_shape :
    Generated.C01.passingHelperCount = 2 ∧
    Generated.C01.passingHelper0Actions =
      ["return \"\" != p0.ServiceID & \"serfHealth\" != p0.CheckID & \"_node_maintenance\" != p0.CheckID & !(strings.HasPrefix(p0.CheckID, \"_service_maintenance:\"))"] ∧
    Generated.C01.passingHelper1Actions = ["range p1",
       "> p0.Status == v0 => return true",
       "return false"] :=
  ⟨rfl, rfl, rfl⟩

/-- `checksWithTagPrefix` (p0 prefix, p1 checks, v0 result, v1 element, v2 tag): serf / node-maintenance /
`_service_maintenance…` checks are appended unconditionally, any other check once if one of its tags, trimmed as
`routecmd.build` trims it (repair of D27), has the prefix -/
theorem filter_shape :
    Generated.C01.checksWithTagPrefixActions =
      ["range p1",
       "> \"serfHealth\" == v1.CheckID => v0 = append(v0, v1)",
       "> \"serfHealth\" != v1.CheckID & \"_node_maintenance\" == v1.CheckID => v0 = append(v0, v1)",
       "> \"serfHealth\" != v1.CheckID & \"_node_maintenance\" != v1.CheckID & strings.HasPrefix(v1.CheckID, \"_service_maintenance\") => v0 = append(v0, v1)",
       "> \"serfHealth\" != v1.CheckID & \"_node_maintenance\" != v1.CheckID & !(strings.HasPrefix(v1.CheckID, \"_service_maintenance\")) => range v1.ServiceTags",
       ">> strings.HasPrefix(strings.TrimSpace(v2), p0) => v0 = append(v0, v1)",
       ">> strings.HasPrefix(strings.TrimSpace(v2), p0) => break",
       "return v0"] :=
  rfl

/-- the lookup function (`serviceConfig`; p0 service name, p1 passing set, r0 result): nothing for the empty name or
an empty set; the catalog is asked for *that name*; **on a lookup error it returns nil**; otherwise the commands built
in this call for the entries whose key is in the set (model: `joinedF`) -/
theorem service_config_nil_on_lookup_error :
    Generated.C01.lookupActions =
      ["\"\" == p0 => return nil",
       "\"\" != p0 & 0 == len(p1) => return nil",
       "\"\" != p0 & 0 != len(p1) => Service#0, _, Service#2 := recv.f0.Catalog().Service(p0, \"\", v0)",
       "\"\" != p0 & 0 != len(p1) & Service#2 != nil => return nil",
       "\"\" != p0 & 0 != len(p1) & Service#2 == nil => range Service#0",
       "> v3 => r0 = append(r0, build#0...)",
       "\"\" != p0 & 0 != len(p1) & Service#2 == nil => return r0"] :=
  rfl

/-- `watchKV` (p2 channel, v0 remembered index, v1 remembered value, helper0 = listKV called with the remembered
index as wait index): on an error pause; otherwise publish and remember iff the value or the index differs — a
*change* test, no ordering comparison on the index (an index that goes backwards is a change like any other).
`Watch` only stores the index, it never compares it. -/
theorem watchers_only_test_for_change :
    Generated.C01.watchKVActions =
      ["for",
       "> helper0#0, helper0#1, helper0#2 := helper0(p0, p1, v0, p3, p4, p5)",
       "> helper0#2 != nil => call time.Sleep(time.Second)",
       "> helper0#2 == nil & helper0#0 != v1 => send p2 <- helper0#0",
       "> helper0#2 == nil & helper0#0 == v1 & helper0#1 != v0 => send p2 <- helper0#0",
       "> helper0#2 == nil & helper0#0 != v1 => v1, v0 = helper0#0, helper0#1",
       "> helper0#2 == nil & helper0#0 == v1 & helper0#1 != v0 => v1, v0 = helper0#0, helper0#1"] ∧
    Generated.C01.watchIndexWrites = ["v0 = State#1.LastIndex"] ∧
    Generated.C01.watchIndexConds = [] :=
  ⟨rfl, rfl, rfl⟩

/-- `watchBackend` (v0 nextTable, v1 lastTable, v2 svccfg, v3 mancfg, v6 the buffer): receive one event; service
text, "\n", manual text; skip when equal to the remembered text; `NewTable`; only if it succeeded `SetTable` and
then `lastTable = nextTable`. (That `SetTable` is called nowhere else in the function is
`C01Facts.set_table_called_once`.) -/
theorem watch_backend_loop_shape :
    Generated.C01.watchBackendLoop =
      ["select v2 = <-v7 | v3 = <-WatchManual#0",
       "call v6.Reset()",
       "call v6.WriteString(v2)",
       "call v6.WriteString(\"\\n\")",
       "call v6.WriteString(v3)",
       "v0 = v6.String()",
       "v0 != v1 => NewTable#0, v8 := route.NewTable(v6)",
       "v0 != v1 & nil == v8 => call route.SetTable(NewTable#0)",
       "v0 != v1 & nil == v8 => v1 = v0"] :=
  rfl

end Fabio.Props.C01Pins
