import Fabio.Generated.C06
import Fabio.Model.C06
/-!
C06 — change detectors (not obligations): the SHAPE of sequential code whose behaviour a stream compares with the
model on every run.  When one of them stops building the check claims nothing broken; it runs every stream at the
widened budget with a second seed.
-/
namespace Fabio.Props.C06Pins
open Fabio Fabio.Model.C06 Fabio.Generated.C06

/-- The accesses of `GlobCache.Get` in source order are the statement list of the model's `gRecheck :: slowPath`
(append branch first, then the eviction).  A behaviour-preserving reshaping of the critical section (if/else instead
of early return, one shared `Store` after the branches) changes this list; `c06.globcache` compares map keys, ring,
head and count after every call, `c06.glob-race` the bounds under the mutex while lookups are in flight. -/
theorem globcache_statement_order :
    globGetUnlocked = getRepairedUnlocked ∧ globGetLocked = getRepairedLocked := ⟨rfl, rfl⟩

end Fabio.Props.C06Pins
