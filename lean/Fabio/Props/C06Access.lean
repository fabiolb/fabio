import Fabio.Lemmas.C06Access
/-!
C06 — the published table is only read: target and access decision depend on the request and the table alone.

`TState` holds the ring of a route and the rule list of a target as SHARED memory next to the core state of
`Model/C06.lean`; requests read them one element per micro-step (`ringRead`, `scanBegin`/`scanIter`), interleaved
with any core micro-steps (`liftCore`: picks, cache, redirect, table replacement) and with the readers of the
published table (`tableRead`: `Table.Dump`, `Table.String`, the admin API).  Every `∀ sch` is over ALL schedules.
That the code has no other kind of step on this memory is the regenerated obligation
`C06Facts.lookup_writes_pinned` / `published_table_readers_analysed`.
-/
namespace Fabio.Props.C06Access
open Fabio.Model.C06 Fabio.Lemmas.C06

/-- **The published table is read-only, and what a request reads is what was published.**  Any number of goroutines
made of `TableStep`s, any schedule: ring and rules are unchanged; every target handed out is the one the published
ring holds at the index the picker produced; every completed scan of the rule list found a matching block iff the
published list contains one for that address — whatever other requests, lookups, table replacements and readers
did in between. -/
theorem published_table_any_schedule (ring0 : List Nat) (rules0 : List Block) (ts : List TTh) (s : TState)
    (sch : List Nat) (hsteps : ∀ t ∈ ts, ∀ f ∈ t.steps, TableStep f)
    (hs : s.ring = ring0 ∧ s.rules = rules0) (hJ : ∀ t ∈ ts, TLocalInv ring0 rules0 t.loc) :
    let r := run sch ts s
    r.1.ring = ring0 ∧ r.1.rules = rules0 ∧
    ∀ t ∈ r.2, (∀ e ∈ t.loc.targets, e.2 = ring0[e.1]?.getD 0) ∧
               (∀ e ∈ t.loc.scans, e.2 = rules0.any (·.contains e.1)) := by
  obtain ⟨⟨hring, hrules⟩, hloc⟩ := table_inv ring0 rules0 sch ts s hsteps hs hJ
  exact ⟨hring, hrules, fun t ht => (hloc t ht).2⟩

/-- **The access decision depends only on the request and the table.**  For an allow list the address is denied iff
the scan found no block, for a deny list iff it found one — and by `published_table_any_schedule` the scan's result
is a function of the address and the published list: the decision every request observes is `denyByIP` of the
published rules, under every interleaving. -/
theorem access_decision_any_schedule (rules0 : List Block) (ts : List TTh) (s : TState) (sch : List Nat)
    (hsteps : ∀ t ∈ ts, ∀ f ∈ t.steps, TableStep f) (hs : s.rules = rules0)
    (hJ : ∀ t ∈ ts, TLocalInv s.ring rules0 t.loc) :
    ∀ t ∈ (run sch ts s).2, ∀ e ∈ t.loc.scans,
      denyByIP (.allow rules0) (some e.1) = !e.2 ∧ denyByIP (.deny rules0) (some e.1) = e.2 := by
  intro t ht e he
  have h := ((published_table_any_schedule s.ring rules0 ts s sch hsteps ⟨rfl, hs⟩ hJ).2.2 t ht).2 e he
  simp only [denyByIP, h, and_self]

/-- **End to end: whole requests on a published table, any interleaving.**  Goroutine `i` serves the requests of the
clients `ass[i]`, each one the atomic pick, the plain read of the ring slot and the element-by-element scan of the
target's rule list (`requestThread`); next to them any number of readers of the published table (`readerThread`:
`Dump`, `String`, the admin API).  For EVERY schedule (also one that stops half-way), from any core state `s`:
ring and rules are what was published; the ring indices handed out are exactly `{c, …, c+K-1} mod N` for the `K`
picks performed (so every target gets its exact share: `target_share_on_published_table`); every target read is the
one the published ring holds at the index its request was handed; every completed scan decided by the published
rules alone. -/
theorem requests_on_published_table (ring0 : List Nat) (hN : 0 < ring0.length) (rules0 : List Block)
    (ass : List (List Addr)) (readers : List Nat) (s : State) (sch : List Nat) :
    let N := ring0.length
    let ts := ass.map (requestThread N rules0.length) ++ readers.map readerThread
    let r := run sch (ts.map STh.toT) { core := s, ring := ring0, rules := rules0 }
    let K := r.1.core.total - s.total
    r.1.ring = ring0 ∧ r.1.rules = rules0 ∧ s.total ≤ r.1.core.total ∧
    (allPicksT r.2).Perm ((List.range' s.total K).map (· % N)) ∧
    (∀ t ∈ r.2, (∀ e ∈ t.loc.targets, e.2 = ring0[e.1]?.getD 0) ∧
                (∀ e ∈ t.loc.scans, e.2 = rules0.any (·.contains e.1))) ∧
    K ≤ (ass.map List.length).sum ∧ (finished r.2 = true → K = (ass.map List.length).sum) := by
  intro N ts r K
  have hzero : (readers.map (fun _ => 0)).sum = 0 := by rw [List.map_const', List.sum_replicate_nat, Nat.mul_zero]
  -- on the core state the goroutines are pickers (a reader is a picker with no picks)
  have hproj : ts.map STh.proj = (ass.map List.length ++ readers.map (fun _ => 0)).map (rrThreadRepaired N) := by
    simp only [ts, List.map_append, List.map_map]
    congr 1
    · exact List.map_congr_left fun as _ => requestThread_proj N rules0.length as
    · exact List.map_congr_left fun k _ => readerThread_proj N k
  have h := rr_on_published_table ring0 hN rules0 ts _ hproj (forall_mem_requests_readers N _ ass readers
    (fun _ => tLocalInv_init ring0 rules0) (fun _ => tLocalInv_init ring0 rules0)) s sch
  simp only [List.sum_append, hzero, Nat.add_zero] at h
  obtain ⟨hring, hrules, hc, hperm, hloc, hK⟩ := h
  exact ⟨hring, hrules, hc, hperm, fun t ht => (hloc t ht).2, hK⟩

/-- **Each target its exact share, end to end.**  In the setting of `requests_on_published_table`, once every goroutine
has finished: the number of times target `tg` was actually READ from the shared ring and handed to a request equals
`targetShare ring0 c K tg` — its exact share of the `K` lookups performed — for every schedule.  What links the
indices handed out to the reads: every index a goroutine is handed is read from the ring by its very next table
operation (`Lemmas.C06.Linked`). -/
theorem target_share_on_published_table (ring0 : List Nat) (hN : 0 < ring0.length) (rules0 : List Block)
    (ass : List (List Addr)) (readers : List Nat) (s : State) (sch : List Nat) (tg : Nat) :
    let N := ring0.length
    let ts := ass.map (requestThread N rules0.length) ++ readers.map readerThread
    let r := run sch (ts.map STh.toT) { core := s, ring := ring0, rules := rules0 }
    let K := r.1.core.total - s.total
    finished r.2 = true →
      ((allTargetsT r.2).map (·.2)).count tg = targetShare ring0 s.total K tg := by
  intro N ts r K hfin
  obtain ⟨_, _, _, hperm, hpub, _, _⟩ := requests_on_published_table ring0 hN rules0 ass readers s sch
  obtain ⟨_, ts', e1, hl, _⟩ := run_syn Linked linked_step sch ts { core := s, ring := ring0, rules := rules0 }
    (forall_mem_requests_readers N _ ass readers (linked_request N _ hN) linked_reader)
  have e1' : r.2 = ts'.map STh.toT := e1
  -- the indices handed out are the indices read (linkage), and every read saw the published ring
  have hA : allPicksT r.2 = (allTargetsT r.2).map (·.1) := e1' ▸ allPicksT_of_linked ts' hl (e1' ▸ hfin)
  have hB : (allTargetsT r.2).map (·.2) = (allPicksT r.2).map (fun i => ring0[i]?.getD 0) := by
    rw [hA, List.map_map]
    apply List.map_congr_left
    intro e he
    obtain ⟨t, ht, het⟩ := List.mem_flatMap.mp he
    exact (hpub t ht).1 e het
  rw [hB, targetShare_eq]
  exact count_of_perm_residues _ _ tg hperm

theorem scan_alone (rules0 : List Block) (a : Addr) (ring : List Nat) :
    let r := run (List.replicate (rules0.length + 2) 0) [mkTThread (scanProg a rules0.length)] { ring := ring, rules := rules0 }
    ∀ t ∈ r.2, ∀ e ∈ t.loc.scans, e.2 = rules0.any (·.contains e.1) := by
  intro r t ht
  refine ((published_table_any_schedule ring rules0 _ _ _ ?_ ⟨rfl, rfl⟩ ?_).2.2 t ht).2
  · intro t ht
    rw [List.mem_singleton.mp ht]
    exact scanProg_steps a rules0.length
  · intro t ht
    simp only [List.mem_singleton] at ht
    subst ht
    exact tLocalInv_init ring rules0

/-- **A self-organising rule list breaks it** (seeded change m11, the form an independent author wrote): the block
that decided a request is swapped to the front of the SHARED list.  Two clients of the second block of an allow
list `[A, B]`: the first has passed index 0 when the second one matches `B` at index 1 and swaps; the first now
reads `A` again at index 1, reaches the end, and is denied although `B` contains it.  (The swap is even modelled as
one uninterrupted step.) -/
theorem access_promote_crosstalk :
    let bA : Block := ⟨8, 0x10, 4⟩
    let bB : Block := ⟨8, 0x20, 4⟩
    let x : Addr := ⟨8, 0x21⟩
    let y : Addr := ⟨8, 0x22⟩
    ∃ sch : List Nat,
      let r := run sch [mkTThread (scanProgPromote x 2), mkTThread (scanProgPromote y 2)] { rules := [bA, bB] }
      finished r.2 = true ∧ (outputs r).map (·.scans) = [[(x, false)], [(y, true)]] ∧
      [bA, bB].any (·.contains x) = true ∧ denyByIP (.allow [bA, bB]) (some x) = false ∧ r.1.rules = [bB, bA] :=
  ⟨[0, 0, 1, 1, 1, 0, 0, 1, 0, 1], by decide +kernel⟩

/-- **A reader that sorts the target slice in place breaks the share** (seeded change m12): for a route without
fixed weights the slice is the ring.  One goroutine picks three times on the ring `[2, 0, 1]` (one whole cycle: each
target exactly once); a reader sorts the ring after the first pick: target 2 is handed out twice, target 0 never —
with atomics only, without any data race between the picks. -/
theorem dump_sort_loses_share :
    ∃ sch : List Nat,
      let r := run sch [mkTThread (pickTarget 3 ++ pickTarget 3 ++ pickTarget 3), mkTThread [dumpSort]] { ring := [2, 0, 1] }
      finished r.2 = true ∧ r.1.core.total = 3 ∧
      (outputs r).map (fun l => l.targets.map (·.2)) = [[2, 1, 2], []] ∧ r.1.ring = [0, 1, 2] :=
  ⟨[0, 0, 1, 0, 0, 0, 0], by decide +kernel⟩

/-- The hypotheses of `published_table_any_schedule` are met by whole requests (pick, slot read, scan of the rule
list) next to a goroutine replacing the table and a reader. -/
example (sch : List Nat) (a b : Addr) :
    let rules0 : List Block := [⟨32, 167772160, 8⟩, ⟨32, 3232235520, 16⟩]
    let ts := [mkTThread (pickTarget 3 ++ scanProg a 2), mkTThread (scanProg b 2 ++ pickTarget 3),
               mkTThread [liftCore (tblSet 1), tableRead, liftCore (tblSet 2)]]
    (run sch ts { ring := [2, 0, 1], rules := rules0 }).1.ring = [2, 0, 1] := by
  intro rules0 ts
  refine (published_table_any_schedule [2, 0, 1] rules0 ts _ sch ?_ ⟨rfl, rfl⟩ ?_).1
  · intro t ht f hf
    simp only [ts, List.mem_cons, List.mem_nil_iff, or_false] at ht
    rcases ht with rfl | rfl | rfl
    · exact (List.mem_append.mp hf).elim (pickTarget_steps 3 f) (scanProg_steps a 2 f)
    · exact (List.mem_append.mp hf).elim (scanProg_steps b 2 f) (pickTarget_steps 3 f)
    · simp only [mkTThread, List.mem_cons, List.mem_nil_iff, or_false] at hf
      rcases hf with rfl | rfl | rfl
      · exact .core _
      · exact .read
      · exact .core _
  · intro t ht
    simp only [ts, List.mem_cons, List.mem_nil_iff, or_false] at ht
    rcases ht with h | h | h <;> subst h <;> exact tLocalInv_init _ _

/-- `a` is 10.1.2.3, in 10/8; `b` is 198.51.100.9, in no block -/
example :
    let rules0 : List Block := [⟨32, 167772160, 8⟩, ⟨32, 3232235520, 16⟩]
    let a : Addr := ⟨32, 167838211⟩
    let b : Addr := ⟨32, 3325256713⟩
    let ts := [mkTThread (pickTarget 3 ++ scanProg a 2), mkTThread (pickTarget 3 ++ scanProg b 2)]
    let r := run ((List.replicate 6 [0, 1]).flatten) ts { ring := [2, 0, 1], rules := rules0 }
    finished r.2 = true ∧ (outputs r).map (·.targets) = [[(0, 2)], [(1, 0)]] ∧
      (outputs r).map (·.scans) = [[(a, true)], [(b, false)]] ∧
      accessDenied (.allow rules0) { remote := some a } = false ∧
      accessDenied (.allow rules0) { remote := some b } = true ∧
      accessDenied (.deny rules0) { remote := some b, xff := [(false, some a)] } = true := by
  decide +kernel

example (sch : List Nat) (a b : Addr) :
    let ts := [requestThread 3 2 [a, b], requestThread 3 2 [b], readerThread 2]
    let r := run sch (ts.map STh.toT)
      { core := { total := 7 }, ring := [2, 0, 1], rules := [⟨32, 167772160, 8⟩, ⟨32, 3232235520, 16⟩] }
    r.1.ring = [2, 0, 1] ∧ (allPicksT r.2).Perm ((List.range' 7 (r.1.core.total - 7)).map (· % 3)) := by
  intro ts r
  have h := requests_on_published_table [2, 0, 1] (by decide) [⟨32, 167772160, 8⟩, ⟨32, 3232235520, 16⟩]
    [[a, b], [b]] [2] { total := 7 } sch
  exact ⟨h.1, h.2.2.2.1⟩

example :
    let a : Addr := ⟨32, 167838211⟩
    let b : Addr := ⟨32, 3325256713⟩
    let ts := [requestThread 3 2 [a, b], requestThread 3 2 [b], readerThread 2]
    let r := run ((List.replicate 12 [0, 1, 2]).flatten) (ts.map STh.toT)
      { core := { total := 7 }, ring := [2, 0, 1], rules := [⟨32, 167772160, 8⟩, ⟨32, 3232235520, 16⟩] }
    finished r.2 = true ∧ r.1.core.total = 10 ∧
      (outputs r).map (·.targets) = [[(1, 0), (0, 2)], [(2, 1)], []] ∧
      (outputs r).map (·.scans) = [[(a, true), (b, false)], [(b, false)], []] := by
  decide +kernel

example (sch : List Nat) (a b : Addr) :
    let ts := [requestThread 3 2 [a, b], requestThread 3 2 [b], readerThread 2]
    let r := run sch (ts.map STh.toT)
      { core := { total := 7 }, ring := [2, 0, 1], rules := [⟨32, 167772160, 8⟩, ⟨32, 3232235520, 16⟩] }
    finished r.2 = true → ((allTargetsT r.2).map (·.2)).count 0 = 1 := by
  intro ts r hfin
  have hK := (requests_on_published_table [2, 0, 1] (by decide) [⟨32, 167772160, 8⟩, ⟨32, 3232235520, 16⟩]
    [[a, b], [b]] [2] { total := 7 } sch).2.2.2.2.2.2 hfin
  have h := target_share_on_published_table [2, 0, 1] (by decide) [⟨32, 167772160, 8⟩, ⟨32, 3232235520, 16⟩]
    [[a, b], [b]] [2] { total := 7 } sch 0 hfin
  simp only [] at hK h
  rw [hK] at h
  have e : targetShare [2, 0, 1] 7 (List.map List.length [[a, b], [b]]).sum 0 = 1 := by
    show targetShare [2, 0, 1] 7 3 0 = 1
    decide +kernel
  exact h.trans e

end Fabio.Props.C06Access
