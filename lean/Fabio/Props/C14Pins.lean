import Fabio.Generated.C14
import Fabio.Model.C14
import Fabio.Lemmas.Lit
/-!
CHANGE DETECTORS for C14 (`"pins_module"` in checks/C14.json): the shape of the sequential, deterministic pipeline
`routecmd.build → parseURLPrefixTag → denotes` and of `makeConfig`'s join, whose input/output behaviour the
correspondence streams compare with the model on every run. When one of these stops building nothing is claimed
broken — the streams run at the widened budget with a second seed and decide: a behaviour-preserving refactoring
(extracting `wantedRouteDef`, `strings.Cut` for `SplitN(…, 2)`, merging two guards with `||`, a package-level
`expandEnv` for the closure) ends with exit 0, a breaking change is exposed by the named stream with a concrete
input.

Streams that carry the tie: options, destination, weight, tags, quoting, validation — `c14.build` (per command: the
real `route.Parse`/`NewTable`, the intended definition) and `c14.poison`/`c14.history`/`c14.watch` (joined text,
table); `parseURLPrefixTag`, `os.Expand`, the variable `DC` — `c14.expand` and the `ptags` column of `c14.build`.
-/
namespace Fabio.Props.C14Pins
open Fabio Fabio.Generated.C14 Fabio.Model.C14

def sub (req l : List String) : Bool := req.all (fun s => l.contains s)

/-- Comparing `String`s makes the kernel encode both literals as byte arrays; the inclusions below are therefore
evaluated on lists of characters, which the literals unfold to in one step. -/
theorem sub_eq_chars (req l : List String) :
    sub req l = (req.map String.toList).all (fun s => (l.map String.toList).contains s) := by
  unfold sub
  rw [List.all_map]
  exact congrArg req.all (funext (contains_toList l))

/-- what each option does first: the destination by protocol (no trailing slash), the weight text after
`weight=`, the redirect value after `redirect=` split on "," — as `Model.C14.optStep` -/
theorem option_effects :
    optionEffects = ["_ == \"proto=grpc\" => _ = \"grpc://\" + _", "_ == \"proto=grpcs\" => _ = \"grpcs://\" + _",
      "_ == \"proto=https\" => _ = \"https://\" + _", "_ == \"proto=tcp\" => _ = \"tcp://\" + _",
      "strings.HasPrefix(_, \"redirect=\") => _ := strings.Split(strings.TrimPrefix(_, \"redirect=\"), \",\")",
      "strings.HasPrefix(_, \"weight=\") => _ = strings.TrimPrefix(_, \"weight=\")"] := rfl

theorem model_keywords :
    sub [String.ofList kProtoTcp, String.ofList kProtoHttps, String.ofList kProtoGrpcs, String.ofList kProtoGrpc,
      String.ofList kWeightEq, String.ofList kRedirectEq] pipelineLiterals = true := by
  rw [sub_eq_chars]
  unfold pipelineLiterals kProtoTcp kProtoHttps kProtoGrpcs kProtoGrpc kWeightEq kRedirectEq
  simp only [List.map_cons, List.map_nil, toList_lit rfl]; decide +kernel

/-- the literals of the emitted line (tags and options **raw** between double quotes), the five destination
schemes, the separators, the `redirect=%s` option, the variable `DC`, the join with "\n" -/
theorem line_literals :
    sub ["route add ", " ", " weight ", " tags \"", " opts \"", "\"", ",", "http://", "/", "tcp://", "https://",
      "grpcs://", "grpc://", "redirect=%s", ":", "=", "DC", "\n", ".local", "darwin"] pipelineLiterals = true := by
  rw [sub_eq_chars]
  unfold pipelineLiterals
  simp only [List.map_cons, List.map_nil, toList_lit rfl]; decide +kernel

/-- options are split with `strings.Fields`, tags trimmed with `strings.TrimSpace`, tags joined with ",", options
with " ", commands with "\n" after a reverse sort; host and port joined by `net.JoinHostPort(_, strconv.Itoa(_))`;
the redirect value split on ","; `parseURLPrefixTag` trims, splits once at " " and once at "/", tests ":" and "/",
lower-cases the expanded host and expands with `os.Expand` -/
theorem pipeline_calls :
    sub ["strings.Fields(_)", "strings.TrimSpace(_)", "strings.TrimSpace(_[len(_):])", "strings.Join(_, \",\")",
      "strings.Join(_, \" \")", "strings.Join(_, \"\\n\")", "sort.Sort(sort.Reverse(sort.StringSlice(_)))",
      "net.JoinHostPort(_, strconv.Itoa(_))", "strings.Split(strings.TrimPrefix(_, \"redirect=\"), \",\")",
      "fmt.Sprintf(\"redirect=%s\", _[0])", "strings.SplitN(_, \" \", 2)", "strings.SplitN(_, \"/\", 2)",
      "strings.HasPrefix(_, \":\")", "strings.Contains(_, \"/\")", "strings.HasPrefix(_, _)",
      "strings.ToLower(_(_))", "os.Expand(_, func)"] pipelineCalls = true := by
  rw [sub_eq_chars]
  unfold pipelineCalls
  simp only [List.map_cons, List.map_nil, toList_lit rfl]; decide +kernel

/-- tags and options are not written with `strconv.Quote` / `%q` (the grammar `"[^"]*"` knows no escapes) -/
theorem no_go_quoting : goQuotingCalls = [] := rfl

/-- the guards the model mirrors (without polarity): the tag partition and `parseURLPrefixTag`'s prefix test, the
address fallback / weight clause (`_ == ""`), the redirect arity and the two-way splits (`len(_) == 2`), the
optional clauses (`len(_) == 0`), `serviceConfig`'s empty-name guard, the darwin-only `.local` suffix (outside the
model: the harness runs on linux) -/
theorem pipeline_guards :
    sub ["strings.HasPrefix(_, _)", "_ == \"\"", "len(_) == 2", "len(_) == 0", "_ == \"\" || len(_) == 0",
      "strings.HasPrefix(_, \":\")", "strings.Contains(_, \"/\")",
      "runtime.GOOS == \"darwin\" && !strings.Contains(_, \".\") && !strings.HasSuffix(_, \".local\")",
      "_ == \"proto=tcp\"", "_ == \"proto=https\"", "_ == \"proto=grpcs\"", "_ == \"proto=grpc\"",
      "strings.HasPrefix(_, \"weight=\")", "strings.HasPrefix(_, \"redirect=\")"] pipelineConds = true := by
  rw [sub_eq_chars]
  unfold pipelineConds
  simp only [List.map_cons, List.map_nil, toList_lit rfl]; decide +kernel

/-- the repair of D19. In `build` (helpers inlined), between the assembly of a command and the append to the result,
the weight is read with `strconv.ParseFloat`, the command goes through `route.Parse`, the one definition is compared
with `reflect.DeepEqual`, a table is built with `route.NewTable` — each followed by a conditional exit — and only
then the command is emitted (`Model.C14.denotes`, `Model.C14.build`) -/
theorem validation_before_emit :
    validationOrder = ["call strconv.ParseFloat", "exit", "call route.Parse", "exit", "call reflect.DeepEqual", "exit",
      "call route.NewTable", "exit", "emit"] := rfl

/-- parser and table each get the command text in a buffer of their own (`route.Parse` drains its buffer), the
comparison is between the parsed definition and the intended one, the weight is a 64-bit float, the intended
options are split at the first "=" -/
theorem validator_calls :
    sub ["route.Parse(bytes.NewBufferString(_))", "route.NewTable(bytes.NewBufferString(_))",
      "reflect.DeepEqual(_[0], _)", "strconv.ParseFloat(_, 64)", "strings.SplitN(_, \"=\", 2)"] pipelineCalls = true ∧
    sub ["len(_) != 1 || !reflect.DeepEqual(_[0], _)", "_ == nil"] pipelineConds = true := by
  rw [sub_eq_chars, sub_eq_chars]
  unfold pipelineCalls pipelineConds
  simp only [List.map_cons, List.map_nil, toList_lit rfl]; decide +kernel

/-- `parseURLPrefixTag`'s results: not a routing tag / bad syntax; the `:port` and no-slash forms verbatim; host
lower-cased and expanded, path expanded -/
theorem parse_tag_returns :
    parseTagReturns = ["return \"\", \"\", false", "return \"\", \"\", false", "return _, _, true", "return _, _, true",
      "return strings.ToLower(_(_)) + \"/\" + _(_), _, true"] := rfl

theorem env_keys : envKeys = ["DC"] := rfl

end Fabio.Props.C14Pins
