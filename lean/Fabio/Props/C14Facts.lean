import Fabio.Generated.C14
import Fabio.Model.C14
/-!
C14 — obligations over the facts regenerated from `/repo` on every run: only what no stream can establish by
running the code. That nothing is remembered between two calls of `makeConfig` (a memo keyed by anything but the full
current entry shows only on the histories that hit it), that `makeConfig` answers whatever a service yields (a
skipped send on a failed catalog lookup: the fake never fails), and where an iteration of `watchBackend` can end
before `route.SetTable` (an exit on `Register`'s error: the scripted backend never fails). The shape of the pipeline
`build → parseURLPrefixTag → denotes`, whose input/output behaviour the streams compare with the model on every run,
is pinned by the change detectors of `Props/C14Pins.lean`.

The extractor (`tools/factgen/c14.go`) works on the *normalised* source (package constants inlined, literal
concatenations folded, `switch` = if-chain) and on the *inlined* walk from `ServiceMonitor.makeConfig` through
`serviceConfig`, `routecmd.build` and every unexported helper they call; locals, parameters and receivers are
printed as `_`, unexported field/method names selected from a variable are not printed, conditions are taken
without polarity. The obligations pin meaning — what the monitor and `routecmd` hold and read, that no method writes
through its receiver, that every goroutine of `makeConfig` answers, where an iteration of the loop can end — not the
spelling of statements or the names of locals and unexported helpers, nor the function or file a statement lives in.
-/
namespace Fabio.Props.C14Facts
open Fabio Fabio.Generated.C14 Fabio.Model.C14

def sub (req l : List String) : Bool := req.all (fun s => l.contains s)

/-- `ServiceMonitor` holds an API client, the configuration, a string and a bool — nothing that could remember an
earlier catalog state; `routecmd` holds the catalog entry, a string and a string map -/
theorem monitor_fields :
    monitorFieldTypes = ["*api.Client", "*config.Consul", "bool", "string"] ∧
    routecmdFieldTypes = ["*api.CatalogService", "map[string]string", "string"] := ⟨rfl, rfl⟩

/-- no method of `ServiceMonitor` or `routecmd` assigns through its receiver; the package has no package-level
variable -/
theorem monitor_is_stateless : receiverWrites = [] ∧ packageVars = [] := ⟨rfl, rfl⟩

/-- what the pipeline reads: of the monitor the client's catalog, the query options, the number of parallel
lookups, the tag prefix and the datacenter string; of a catalog entry / health check exactly the fields
`Model.C14.Reg` carries (name, service address, node address, port, tags) plus node and service id (the join of
C01) — `CreateIndex`/`ModifyIndex` and the like are not consulted -/
theorem reads_only_current_state :
    monitorReads = ["(*api.Client).Catalog", "(*config.Consul).AllowStale", "(*config.Consul).RequireConsistent",
      "(*config.Consul).ServiceMonitors", "(*config.Consul).TagPrefix", "(string)"] ∧
    entryFieldsRead = ["Address", "Node", "ServiceAddress", "ServiceID", "ServiceName", "ServicePort",
      "ServiceTags"] := ⟨rfl, rfl⟩

/-- The goroutine `makeConfig` starts per service takes the semaphore, sends its result and releases the semaphore —
straight-line code (no branch, no early exit, two sends: semaphore and result; a `defer` for the release is fine), so
a service that yields no command (every routing tag dropped, empty name, a failed catalog lookup) still answers; and
the collector receives once per element of the collection the goroutines were started from. Otherwise `makeConfig`
never returns, `Watch` never sends again and the routes of ALL services stay frozen. The streams see that for
dropped registrations (`update-blocked:makeConfig`); a failed catalog lookup never happens against the fake. -/
theorem make_config_always_answers :
    (makeConfigWorker.all (fun e => e != "branch" && e != "exit") &&
      (makeConfigWorker.filter (· == "send")).length == 2 && collectorAwaitsEverySpawned) = true := by decide +kernel

/-- In the loop of `watchBackend` that builds the table (unexported helpers of package main followed: the update
stage may live in a function of its own), from the alias reader to the installation of the table an iteration can
end in one place only: after `route.NewTable` (its error). What happens in front of `route.ParseAliases` (the
unchanged-text test) depends on the text alone and is the business of stream `c14.watch`. Neither the verdict of the
alias reader nor the outcome of the registration decides whether the table of the current catalog is installed
(`Model.C14Watch.step`; `watch_installs_current` has no hypothesis on either). An exit on `Register`'s error is
invisible to stream `c14.watch`: its scripted backend never fails. -/
theorem watch_loop_exits :
    watchUpdateStage = ["call route.ParseAliases", "call registry.Default.Register", "call route.NewTable", "exit",
      "call route.SetTable"] := rfl

end Fabio.Props.C14Facts
