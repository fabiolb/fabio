import Fabio.Lemmas.C16RaceEnv
/-!
C16 — racing callers while the cleanup loop runs (`Model/C16RaceEnv.lean`): any number of callers, any
schedule in which their micro-steps are interleaved with any number of cleanup iterations against arbitrary
tables, any starting pool.  What survives of `Props/C16Race.lean` when the pool is cleaned under the callers'
feet is the statement the property needs: **nothing stays open that nobody will close.**
-/
namespace Fabio.Props.C16RaceEnv
open Fabio.Model.Route (Str)
open Fabio.Model.C16 Fabio.Model.C16.RaceEnv Fabio.Lemmas.C16 Fabio.Lemmas.C16Race Fabio.Lemmas.C16RaceEnv
open Fabio.Model.C16.Race (TState isDone)

def reach (p0 : Pool) (next0 n : Nat) (k : Str) (es : List Ev) : EState := run k (start p0 next0 n) es

theorem reach_inv (p0 : Pool) (next0 n : Nat) (k : Str) (es : List Ev) : J2 next0 k (reach p0 next0 n k es) :=
  j2_run next0 k _ es (j2_start p0 next0 n k)

/-- **No orphan, whatever the cleanup loop does meanwhile.** At every moment of every schedule every connection
dialled in the race is the live pooled connection of the key, or was closed by `Set`, or was handed to the
closer by a cleanup that found its backend gone, or is still held by its dialler before its `Set`. -/
theorem race_with_cleanup_no_orphans (p0 : Pool) (next0 n : Nat) (k : Str) (es : List Ev) :
    orphans next0 (reach p0 next0 n k es) = [] := by
  have inv := reach_inv p0 next0 n k es
  unfold orphans
  rw [List.filter_eq_nil_iff]
  intro i hi hb
  simp only [Bool.and_eq_true, decide_eq_true_eq, Bool.not_eq_true'] at hb
  obtain ⟨⟨⟨⟨h0, hpool⟩, hclosed⟩, hhanded⟩, hheld⟩ := hb
  rcases accounted_iff.mp (inv.acct i h0 (List.mem_range.mp hi)) with a | a
  · rcases a.seen with h | h | h
    · rw [h] at hpool; cases hpool
    · rw [h] at hclosed; cases hclosed
    · rw [h] at hheld; cases hheld
  · have : (reach p0 next0 n k es).handed.contains i = true := by simpa using a
    rw [this] at hhanded; cases hhanded

/-- still at most one dial per caller -/
theorem race_with_cleanup_bounds (p0 : Pool) (next0 n : Nat) (k : Str) (es : List Ev) :
    next0 ≤ (reach p0 next0 n k es).next ∧ (reach p0 next0 n k es).next ≤ next0 + n := by
  have inv := reach_inv p0 next0 n k es
  refine ⟨inv.mono, ?_⟩
  have hl : (reach p0 next0 n k es).ts.length = n := by
    unfold reach; rw [Lemmas.C16RaceEnv.run_length]; simp [start]
  have := inv.budget
  rw [hl] at this; omega

/-- once all callers have returned, every connection of the race is pooled and live, closed, or with the closer -/
theorem race_with_cleanup_done (p0 : Pool) (next0 n : Nat) (k : Str) (es : List Ev)
    (hd : (reach p0 next0 n k es).ts.all isDone = true) :
    ∀ i, next0 ≤ i → i < (reach p0 next0 n k es).next →
      (∃ c, (reach p0 next0 n k es).pool.find k = some c ∧ c.id = i ∧ c.shut = false) ∨
      i ∈ (reach p0 next0 n k es).closed ∨ i ∈ (reach p0 next0 n k es).handed := by
  intro i h0 h1
  rcases accounted_iff.mp ((reach_inv p0 next0 n k es).acct i h0 h1) with a | a
  · exact (a.of_allDone hd).imp_right .inl
  · exact .inr (.inr a)

/-- caller 0 stores connection 0; a cleanup that sees a table without the backend hands it to the closer; caller
1, which had dialled meanwhile, stores connection 1 (the backend is back in the table by the next cleanup, which
keeps it); caller 2 reuses it -/
example :
    let K := "grpc://a".toList
    let s := reach [] 0 3 K [.thread 0, .thread 0, .thread 1, .thread 1, .thread 0, .cleanup [], .thread 1,
                             .cleanup [K], .thread 2]
    s.pool = [(K, { id := 1 })] ∧ s.handed = [0] ∧ s.closed = [] ∧ s.next = 2 ∧
    s.ts = [.done (.dialled 0), .done (.dialled 1), .done (.reused 1)] ∧ orphans 0 s = [] := by decide +kernel

end Fabio.Props.C16RaceEnv
