import Fabio.Generated.C20
import Fabio.Model.C20Spec
import Fabio.Model.C20Log
import Fabio.Lemmas.Lit
/-!
OBLIGATIONS over the facts regenerated from `/repo` on every run (`tools/factgen/c20.go`): statements the proof
chain needs and that no correspondence stream can establish by running the code. Each names the breaking
change it is there to exclude and is stated over the weakest syntactic observation that still excludes it.
Pins of sequential code that the streams compare with the model on every run live in `C20Pins.lean`
(change detectors).
-/
namespace Fabio.Props.C20Facts
open Fabio Fabio.Model.C20

/-- The domain of the property ("every format string over the documented fields") is read from the package
comment of logger/logger.go: it lists `$header.<name>` and exactly the fields the specification renders.
Excludes: a field documented (and implemented) that the model, the specification and therefore every
generator does not know. No stream reads comments. -/
theorem documented_fields_pinned :
    Generated.C20.docFields = "$header.<name>" :: Spec.documentedFields := rfl

/-- Every documented field exists in the table (the only undocumented one is `$upstream_service`).
Excludes: a documented field removed from / never added to the `fields` map (a valid documented format would
be refused at start-up). -/
theorem documented_fields_known :
    Spec.documentedFields.all (Generated.C20.fieldNames.contains ·) = true ∧
    Generated.C20.fieldNames.filter (fun n => !Spec.documentedFields.contains n) = ["$upstream_service"] := by
  rw [all_contains_toList, filter_not_contains_toList]
  unfold Spec.documentedFields Generated.C20.fieldNames
  simp only [List.map, toList_lit rfl]
  decide +kernel

/-- "Logging never alters the request or the response": no field function (helpers followed) assigns through
the event or calls a mutating method (`Set`, `Add`, `Del`, `Read`, `Close`, …) on a value reached through it.
Excludes: e.g. `e.Request.Header.Del("Authorization")` before rendering, or draining `e.Request.Body` —
the render stream compares only the request fields it generated. -/
theorem renderers_read_only : Generated.C20.rendererWritesToEvent = [] := rfl

/-- which micro-step of the `Log` model an event of `Log` stands for (events are named by method / callee,
`Pool.*` = on a package-level `sync.Pool`; helpers are followed) -/
def opOfCall : String → Option Model.C20Log.Op
  | "Pool.Get" => some .get
  | "render" => some .render
  | "Lock" => some .lock
  | "Write" => some .write
  | "Unlock" => some .unlock
  | "Pool.Put" => some .put
  | _ => none

/-- `Log` performs get, render, lock, write, unlock, put in the order of the model's `goodProg` — in particular
`Pool.Put` comes after `Write`; the bytes handed to the writer are `Bytes()` of the buffer, with no `Reset`, render,
`Pool.Put` or `Pool.Get` between the `Bytes()` and the `Write` (events in evaluation order, unexported helpers and
methods followed with their parameters bound to the arguments); nothing is deferred or spawned. This is the hypothesis
of `log_lines_intact_any_schedule`.
Excludes: handing the pooled buffer back before the line is written (seeded change m4), writing outside the
mutex, an asynchronous write: orders under concurrency that a stream can only hit by luck. -/
theorem log_call_order_pinned :
    Generated.C20.logCalls.filterMap opOfCall = Model.C20Log.goodProg ∧
    Generated.C20.logWriteArg = "Bytes() of a buffer, untouched until the Write" ∧
    Generated.C20.logUsesDeferOrGo = false := ⟨by decide +kernel, rfl, rfl⟩

/-- The hand-written formatters (`atoi`, `hostport`, `lex`, `i32toa`, `uint16base16`, `uuid.ToString`) assign to
nothing but their own locals: no package-level variable and no local that merely aliases a package-level
slice or map (helpers followed). They run on many request goroutines at once; the theorems about them are
about one call.
Excludes: a shared scratch buffer or template (seeded change m8: `b := template` with a package-level
`[]byte`), which is correct for every single call and wrong only under an interleaving. -/
theorem formatters_write_only_locals : Generated.C20.formatterSharedWrites = [] := rfl

/-- `main.go` (no harness runs it): the function that builds the `proxy.HTTPProxy` literal passes the result of
`logger.New(w, format)` as `Logger`, `format` being the configured access format with the two names `common` /
`combined` replaced by the constants of the same name; it sets neither `UUID` nor `Time`, so the request id
on the request path is `uuid.NewUUID` (`ToString` of the generator's value: `uuid_text_injective`,
`uuid_format`) and `End` is `time.Now()`.
Excludes: the two aliases swapped or pointing at another format, a logger other than the verified one (or one
built from another format string) put into the proxy, a home-made id function in place of the UUID formatter. -/
theorem main_wiring :
    Generated.C20.mainFormatAliases = ["combined=CombinedFormat", "common=CommonFormat"] ∧
    Generated.C20.mainLoggerFromNew = true ∧
    Generated.C20.mainProxyKeys.contains "Logger" = true ∧
    Generated.C20.mainProxyKeys.contains "UUID" = false ∧ Generated.C20.mainProxyKeys.contains "Time" = false := by
  refine ⟨rfl, rfl, ?_⟩
  simp only [contains_toList, Generated.C20.mainProxyKeys, List.map, toList_lit rfl]
  decide +kernel

end Fabio.Props.C20Facts
