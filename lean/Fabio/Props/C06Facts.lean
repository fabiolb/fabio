import Fabio.Generated.C06
import Fabio.Model.C06
/-!
C06 — obligations over the facts regenerated from `/repo` on every run.  They pin the micro-step lists of
`Model/C06.lean` (the programs the theorems of `Props/C06.lean` are about) to what the code does now:
a separate read of the cursor, a slow path outside the lock, a new store on the lookup path or a write through
the target in `ServeHTTP` breaks one of them.

Where an obligation says that names occur in a regenerated list, the proof rewrites `contains` to the disjunction of
equalities and closes the one that reads `x = x`: evaluating `==` on two different string literals decodes both, on
every comparison.  Obligations that need a name to be ABSENT (`filter`, a kind other than `metrics`) are evaluated.
-/
namespace Fabio.Props.C06Facts
open Fabio Fabio.Model.C06 Fabio.Generated.C06

/-- `rrPicker` is `pickRepaired`: one atomic add on `Route.total`, no other read of it, and the ring index is
computed from the value the add returns. -/
theorem rr_is_single_fetch_add :
    rrAccesses = pickRepairedAccesses ∧ rrPlainReadsOfTotal = 0 ∧ rrAtomicOps = 1 ∧
    rrIndexFromAtomicResult = true := ⟨rfl, rfl, rfl, rfl⟩

def globMutations : List String := ["m.Store", "m.Delete", "write l", "write h", "write n"]

/-- the accesses of `GlobCache.Get` the model knows (no `LoadOrStore`, `Swap`, `Range`, …) -/
def globKnownAccesses : List String :=
  ["m.Load", "m.Store", "m.Delete", "read l", "read h", "read n", "write l", "write h", "write n"]

/-- **The slow path of `GlobCache.Get` is one critical section** (`gSlowLocked` of the model), stated as a relation
between the accesses and the lock, not as a spelled-out list: the struct has a mutex; `Get` takes it and defers the
unlock; BEFORE the lock there is nothing but the fast-path `m.Load` (no access to `l`/`h`/`n`, no mutation of the map);
UNDER the lock the first access is the re-check `m.Load` (two goroutines that missed the same pattern must not both
insert it), every access is one the model knows, and all the bookkeeping (`Store`, `Delete`, ring, head, count) is
there; nothing of the cache is touched after a helper released the lock; no other function touches `l/h/n/m`.
The ORDER of the statements inside the critical section is not part of the obligation (one micro-step for every
other goroutine; what the statements compute is compared call by call by `c06.globcache`): it is pinned by the
change detector `Props/C06Pins.lean`. -/
theorem globcache_slow_path_is_locked :
    globHasMutex = true ∧ globGetLocks = true ∧ globGetUnlockDeferred = true ∧
    globGetUnlocked.all (fun e => e == "m.Load") = true ∧
    globGetLocked.head? = some "m.Load" ∧
    globGetLocked.all (fun e => globKnownAccesses.contains e) = true ∧
    globMutations.all (fun e => globGetLocked.contains e) = true ∧
    globGetAfterUnlock = [] ∧
    globOtherAccessors = [] := by decide +kernel

/-- The shared writes on the lookup path are exactly the model's: the atomic cursor add and the cache
bookkeeping under the lock.  Collected over everything reachable inside package `route` from `Table.Lookup`,
`Table.LookupHost`, the pickers and matchers, and the `Target` methods `ServeHTTP` calls
(`AccessDeniedHTTP`, `Authorized`): every assignment / `++` / `delete` / atomic op whose destination is memory
of an in-package type or a package-level variable, and every call of a method that is not known to be
read-only on a receiver rooted in such memory — directly, through a local alias (`c := target.cache;
c.Store(…)`), or through a pointer field of a shallow per-request copy.  Only a field of the per-request copy
itself, or memory the function freshly allocated on it, counts as `copy` and is excluded.  A new cache, counter,
`sync.Once`, `atomic.Value` or `sync.Map` consulted on the lookup path breaks this obligation. -/
theorem lookup_writes_pinned :
    lookupWriteKinds.filter (fun w => w.1 != "copy") = lookupSharedWrites := by decide +kernel

/-- **Everybody who reads the published table is inside the analysed reach** (that the reach writes nothing but the
cursor and the cache is `lookup_writes_pinned`).  The write set above is collected not only from the
lookup entry points but from every exported method of `Table`, `Route` and `Target` that a file of another
package of the repository calls (found by name in the files importing package `route`: `main.go` logs
`t.Dump()` right after `route.SetTable(t)`, the admin API prints `route.GetTable().String()`, the TCP and gRPC
proxies ask `AccessDeniedTCP` / `AccessDeniedAddr`) — these run concurrently with lookups on the same table.
Writes are followed through parameters (a slice of shared memory handed to a helper: `promote(rules, i)`) and
into foreign functions that mutate their argument (`sort.SliceStable(r.Targets, …)`, `copy`, `append` on a shared
slice).  This discharges, for package `route` and its callers' entry points, the assumption "ring, rules and
target fields are immutable once the table is published": the scan of the external callers found the lookup
entry point and all the readers it found are inside the analysed reach. -/
theorem published_table_readers_analysed :
    publishedReaders.contains "Table.Lookup" = true ∧
    publishedReaders.all (fun m => lookupReach.contains m) = true := by
  simp only [publishedReaders, lookupReach, List.all_cons, List.all_nil, List.contains_eq_mem, List.mem_cons, eq_self,
    true_or, or_true, decide_true, Bool.and_self, and_self]

/-- `HTTPProxy.ServeHTTP` assigns nothing through the target it was handed; the only `Target` methods it calls
are on the analysed lookup path; the only other methods it calls through the target that are not read-only are on
fields whose type is a metrics handle (the response-time histogram); what it does through references it takes out
of the target (`tr := t.Transport`) is followed by the alias tracking of `no_other_package_writes_to_the_table`, which
analyses all of package `proxy`. -/
theorem proxy_does_not_write_target :
    proxyTargetWrites = [] ∧ proxyTargetMethods.all (fun m => lookupReach.contains m) = true ∧
    proxyTargetCalls = [] := by
  refine ⟨rfl, ?_, rfl⟩
  simp only [proxyTargetMethods, lookupReach, List.all_cons, List.all_nil, List.contains_eq_mem, List.mem_cons, eq_self,
    true_or, or_true, decide_true, Bool.and_self]

/-- The function registered as `route.Picker["rnd"]` is the model's `rndPick`: whatever helpers it goes through, it draws
from math/rand's process-wide generator through the package's TOP-LEVEL functions only (which are safe for
concurrent use: the generator sits behind its own lock) — the package holds no generator of its own
(`*rand.Rand`, `rand.Source`: not safe for concurrent use), and `rand` is math/rand. -/
theorem rnd_uses_locked_generator :
    routeOwnGenerators = [] ∧ routeRandImports = ["math/rand"] ∧
    rndPickerCalls.contains "rand.Intn" = true ∧
    rndPickerCalls.all (fun c => ["len", "rand.Intn", "rand.Seed", "var:sync.Once.Do", "time.Now", "time.Now().UnixNano"].contains c) = true := by
  refine ⟨rfl, rfl, ?_⟩
  simp only [rndPickerCalls, List.all_cons, List.all_nil, List.contains_eq_mem, List.mem_cons, eq_self,
    true_or, or_true, decide_true, Bool.and_self, and_self]

/-- **No other package writes to a table.**  Every package of the repository that imports `route` (`main`, `proxy`,
`proxy/tcp`, `admin/api`, …) is type-checked with the checked package `route` served to its imports, so that
`route.Target` and its fields resolve there; in ALL of their functions the writes to memory of `route`'s types
(assignments through a target/route/table, `++`, `delete`, atomic ops, non-read-only method calls on receivers rooted
there — also through locals and parameters —, foreign mutating calls) are collected.  The only ones are method
calls on fields whose declared TYPE is a metrics handle (`Timer gkm.Histogram`, `RxCounter`/`TxCounter gkm.Counter`:
internally synchronised counters, no routing input) — classified by the type of the field, not by a list of names,
so that a counter used at a new place is not a new kind of write.  Together with
`lookup_writes_pinned` this is "ring, rules and target fields are immutable once the table is published" as an
obligation over the whole repository instead of an assumption. -/
theorem no_other_package_writes_to_the_table :
    externalTableWrites.all (fun w => w.1 == "metrics") = true := by decide +kernel

/-- **The active table is fetched once per lookup** (`tblSnap`, the first micro-step of the model's lookup): every
call of `Table.Lookup` / `Table.LookupHost` in `main.go`, `proxy/` and `proxy/tcp/` has `route.GetTable()` itself as
its receiver — no table captured outside the request path keeps answering after it was replaced.  (The harness
wires its own `HTTPProxy.Lookup`; no stream runs main.go's closures.) -/
theorem lookups_fetch_the_active_table :
    tableLookupReceivers ≠ [] ∧ tableLookupReceivers.all (fun r => r == "route.GetTable()") = true := by
  simp only [tableLookupReceivers, List.all_cons, List.all_nil, beq_self_eq_true, Bool.and_self, ne_eq, reduceCtorEq,
    not_false_eq_true, and_self]

/-- The functions the write set was collected from still include the anchors of the property (exported entry
points by name, the two strategies by their role in `route.Picker`). -/
theorem lookup_reach_covers_anchors :
    ["GlobCache.Get", "Table.Lookup", "Table.LookupHost", "Target.BuildRedirectURL"].all
      (fun f => lookupReach.contains f) = true ∧ pickersInReach = true := by
  refine ⟨?_, rfl⟩
  simp only [lookupReach, List.all_cons, List.all_nil, List.contains_eq_mem, List.mem_cons, eq_self,
    true_or, or_true, decide_true, Bool.and_self]

end Fabio.Props.C06Facts
