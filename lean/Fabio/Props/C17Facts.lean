import Fabio.Generated.C17
import Fabio.Model.C17
import Fabio.Lemmas.Lit
/-!
Obligations over the facts regenerated from `/repo` on every run: what the proof chain for
`proxy/gzip/gzip_handler.go` needs and no correspondence stream can establish by running the code — the state the
responses of one process share, who may touch the request, the program order of a handler on the writer pool (the
hypothesis of `writer_exclusively_owned`), the optional interfaces the writer offers to any handler, and the
wiring in `main.go` that no harness executes. The shape of the sequential code is pinned in `C17Pins.lean`.

The facts are ordered, guarded events `guard && guard => what` of the exported entry points, produced by
`tools/factgen/c17.go` (read its header): unexported helpers inlined, identifiers printed by role (`recv`, `p0`…,
`c0`/`c1` = the handler closure's writer/request, `F[type]` = an unexported field, `V[type]` = an unexported
package variable).
-/
namespace Fabio.Props.C17Facts
open Fabio Fabio.Model.C17
open Fabio.Generated.C17

/-- An event as `tools/factgen/c17.go` ships it read back into its parts: kind `defer`/`call` with receiver, method and
canonical arguments; `store` with `recv` = left-hand side and `args` = [right-hand side]; `return` with `args` = results. -/
structure Ev where
  guards : List String
  kind : String
  recv : String
  name : String
  args : List String
deriving DecidableEq

def Ev.of (t : List String × String × String × String × List String) : Ev :=
  { guards := t.1, kind := t.2.1, recv := t.2.2.1, name := t.2.2.2.1, args := t.2.2.2.2 }

def handlerEvs : List Ev := handlerEvents.map Ev.of
def writeHeaderEvs : List Ev := writeHeaderEvents.map Ev.of
def closeEvs : List Ev := closeEvents.map Ev.of

def before (l : List Ev) (a b : Ev → Bool) : Bool :=
  match l.findIdx? a, l.findIdx? b with
  | some i, some j => decide (i < j)
  | _, _ => false

/-- The package has two package-level variables: the `[]string` of refused Accept types and the writer pool.
No function stores to (or takes the address of) either, the only methods called on them are the pool's
`Get`/`Put`, and the handler closure stores to no variable of the enclosing `NewGzipHandler`. So the pool is the
only thing two responses of one process share — the premise of `history_independent`. -/
theorem package_state_is_the_pool :
    pkgVarTypes = ["[]string", "sync.Pool"] ∧ pkgVarStores = [] ∧
    pkgVarCalls = ["V[sync.Pool].Get", "V[sync.Pool].Put"] ∧ handlerSharedStores = [] := ⟨rfl, rfl, rfl, rfl⟩

/-- The handler only READS the request — its method, `Header.Get`, `Header.Values` — and hands it on: no store through it,
no other method on it or its header map (`Del`, `Set`, `Clone`, `WithContext` …). The reverse proxy and the
transport therefore see the client's own `Accept-Encoding`; without it the transport would ask for gzip itself and
decode encoded upstream responses behind the writer's back (`request_forwarded_unchanged`). The stream
`c17.proxy` shows this for the headers it generates; the statement is about every header. -/
theorem request_read_only :
    requestStores = [] ∧
    requestUses.all (fun u => ["c1", "c1.Method", "c1.Header.Get(", "c1.Header.Values("].contains u) = true :=
  ⟨rfl, by decide +kernel⟩

def deferred : List Ev := handlerEvs.filter (fun e => e.kind == "defer")

/-- `Close` is deferred exactly once per request, on a writer that wraps the incoming one, BEFORE the wrapped
handler runs on that same writer and under the same condition; every other call of the wrapped handler gets the
bare writer. (So a handler `Put`s at most once, after everything it wrote — also when the wrapped handler panics.) -/
theorem close_deferred_once_before_serving :
    (match deferred with
     | [d] =>
       d.name == "Close" && d.args == [] &&
       isPrefix "NewGzipResponseWriter(c0,".toList d.recv.toList &&
       before handlerEvs (· == d)
         (fun e => e.guards == d.guards && e.kind == "call" && e.name == "ServeHTTP" && e.args == [d.recv, "c1"]) &&
       (handlerEvs.filter (fun e => e.name == "ServeHTTP")).all
         (fun e => e.kind == "call" && ((e.guards == d.guards && e.args == [d.recv, "c1"]) || e.args == ["c0", "c1"]))
     | _ => false) = true := by
  simp only [toList_lit rfl]
  decide +kernel

def isGet (e : Ev) : Bool :=
  e.args == ["V[sync.Pool].Get().(*gzip.Writer)"] || (e.recv == "V[sync.Pool]" && e.name == "Get")

/-- `Get` is reachable from `WriteHeader` only and `Put` from `Close` only, one call site each; inside
`WriteHeader` the `Get` is guarded by "no writer selected yet", its result goes into the writer's gzip field, and
later under the same guards that field is selected as the writer — so a handler that holds a pooled writer never
takes a second one. -/
theorem get_only_when_undecided :
    poolGetIn = ["WriteHeader"] ∧ poolPutIn = ["Close"] ∧
    (match writeHeaderEvs.filter isGet with
     | [g] =>
       g.guards.contains "recv.F[io.Writer] == nil" && g.kind == "store" && g.recv == "recv.F[*gzip.Writer]" &&
       before writeHeaderEvs (· == g)
         (fun e => e.guards == g.guards && e.kind == "store" && e.recv == "recv.F[io.Writer]" && e.args == [g.recv])
     | _ => false) = true := ⟨rfl, rfl, by decide +kernel⟩

/-- `Close` closes the gzip writer (which flushes it to the response) and only THEN puts it back, once, and what
it puts back is the field the `Get` went into: a writer in the pool is never still being written by the response
that returned it. After the `Put` the field is cleared, under the same guard that all of `Close` runs under ("the
field is set"): `Close` is exported, and a second call must not `Put` the writer a second time (`served_trace` says
one `Put` per response; before the repair b9247b5 a second `Close` put it in twice and two responses in flight
shared it). -/
theorem close_then_put :
    (before closeEvs
       (fun e => e.kind == "call" && e.recv == "V[sync.Pool]" && e.name == "Put" && e.args == ["recv.F[*gzip.Writer]"])
       (fun e => e.kind == "store" && e.recv == "recv.F[*gzip.Writer]" && e.args == ["nil"]) &&
     (closeEvs.filter (fun e => e.kind == "store")).all (fun e => e.recv == "recv.F[*gzip.Writer]" && e.args == ["nil"])) = true ∧
    (before closeEvs
       (fun e => e.kind == "call" && e.recv == "recv.F[*gzip.Writer]" && e.name == "Close")
       (fun e => e.kind == "call" && e.recv == "V[sync.Pool]" && e.name == "Put" && e.args == ["recv.F[*gzip.Writer]"]) &&
     (closeEvs.filter (fun e => e.name == "Put")).length == 1 &&
     closeEvs.all (fun e => e.guards == ["recv.F[*gzip.Writer] != nil"])) = true := by decide +kernel

/-- The method set of `*GzipResponseWriter` that matters for interface satisfaction: the exported declared methods
plus what the embedded *interface* `http.ResponseWriter` promotes (`Header`, `Write`, `WriteHeader`). In particular
no `Flush`, `FlushError`, `Unwrap`, `ReadFrom`, `Push`: a handler's assertion to `http.Flusher` fails and
`http.NewResponseController(w).Flush()` reports "not supported", which is what the model's `fl` step says; any of
these methods would reach the underlying writer without the decision having been taken. The streams ask the
`Flusher`/`ResponseController` questions only. -/
theorem writer_method_set :
    writerMethods = ["Close", "Hijack", "Write", "WriteHeader"] ∧
    writerEmbedded = ["http.ResponseWriter"] := ⟨rfl, rfl⟩

/-- `main.go` builds the proxy with the `Proxy` part of the loaded configuration (so `proxy.gzip.contenttype`
arrives at `HTTPProxy.ServeHTTP`) and with `transport.NewTransport(nil)` — the transport the stream `c17.proxy`
builds the same way. -/
theorem main_wires_config_and_transport :
    mainProxyConfig = ["param[*config.Config].Proxy"] ∧
    mainProxyTransport = ["transport.NewTransport(nil)"] := ⟨rfl, rfl⟩

/-- nothing above is vacuous: the events exist -/
example : deferred.length = 1 ∧ (writeHeaderEvs.filter isGet).length = 1 ∧ closeEvs.length = 3 := by decide +kernel

end Fabio.Props.C17Facts
