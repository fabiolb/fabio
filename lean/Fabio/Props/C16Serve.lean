import Fabio.Lemmas.C16Serve
import Fabio.Lemmas.Lit
/-!
C16 — theorems about the glue around interceptor and pool (`Model/C16Serve.lean`): the gates between
lookup and handler, the director, the transport credentials `newConnection` chooses, one proxy per listener,
the message limits.  Parameters as in `Props/C16.lean`; `lookup` answers with what the dialler reads of
the chosen target (`Tgt`), `gate` is `Stream`'s access/auth decision (property C12).
-/
namespace Fabio.Props.C16Serve
open Fabio.Model.Route (Str Table)
open Fabio.Model.C16 Fabio.Model.C16.Serve Fabio.Lemmas.C16 Fabio.Lemmas.C16Serve

/-- `Stream` answers `PermissionDenied` when the target's access rules deny the peer — whatever the auth scheme
says —, `Unauthenticated` when they let it in and the auth scheme rejects the call, and lets the call through
exactly when the rules let the peer in and the scheme accepts. -/
theorem gate_order (denied : Tgt → Bool) (auth : Tgt → MD → Bool) (t : Tgt) (md : MD) :
    (denied t = true → gateOf denied auth t md = some codePermissionDenied) ∧
    (denied t = false → auth t md = false → gateOf denied auth t md = some codeUnauthenticated) ∧
    (gateOf denied auth t md = none ↔ denied t = false ∧ auth t md = true) := by
  unfold gateOf
  cases denied t <;> cases auth t md <;> simp

/-- A call the gates reject is answered by the interceptor with the gate's status; director, pool and dialler
are not reached: the listener's whole state is unchanged. -/
theorem gate_rejects_no_backend (pp : Str → Option Str) (lookup : Table → Str → Str → Option Tgt) (gate : Gate)
    (lw : LWorld) (hasMD : Bool) (md : MD) (method : Str) (d : Bool) (t : Tgt) (code : Nat)
    (hf : intercept pp (lookup lw.w.table) hasMD md method = .forward t) (hg : gate t md = some code) :
    lw.call pp lookup gate hasMD md method d = (lw, .status code) := by
  simp only [LWorld.call, hf, hg]

/-- Whenever the interceptor answers by itself (`Internal`, `NotFound`, a gate's status) nothing changed. -/
theorem status_means_untouched (pp : Str → Option Str) (lookup : Table → Str → Str → Option Tgt) (gate : Gate)
    (lw : LWorld) (hasMD : Bool) (md : MD) (method : Str) (d : Bool) (code : Nat)
    (h : (lw.call pp lookup gate hasMD md method d).2 = .status code) :
    (lw.call pp lookup gate hasMD md method d).1 = lw := by
  have hc := calls pp lookup gate lw hasMD md method d
  generalize lw.call pp lookup gate hasMD md method d = r at hc h ⊢
  cases hc <;> first | rfl | cases h

/-- the lookup seen by the pool model of `Props/C16.lean`: the key of the chosen target -/
def keyLookup (lookup : Table → Str → Str → Option Tgt) : Table → Str → Str → Option Str :=
  fun tb h p => (lookup tb h p).map (·.key)

/-- **Refinement.** With the gates open, a listener's pool world moves exactly as `World.call` of
`Props/C16.lean` says (so `pool_reuse`, `reuse_until_removed`, `first_call_then_reuse`, `pool_inv`, … hold
for every listener), and the caller-visible result is the same. -/
theorem call_refines_world_call (pp : Str → Option Str) (lookup : Table → Str → Str → Option Tgt) (gate : Gate)
    (lw : LWorld) (hasMD : Bool) (md : MD) (method : Str) (d : Bool) (hopen : ∀ t, gate t md = none) :
    (lw.call pp lookup gate hasMD md method d).1.w = (lw.w.call pp (keyLookup lookup) hasMD md method d).1 ∧
    (match (lw.call pp lookup gate hasMD md method d).2 with
     | .status c => (lw.w.call pp (keyLookup lookup) hasMD md method d).2 = .status c
     | .proxied k r _ => (lw.w.call pp (keyLookup lookup) hasMD md method d).2 = .proxied k r) := by
  have hk : intercept pp (keyLookup lookup lw.w.table) hasMD md method = _ :=
    intercept_map Tgt.key pp (lookup lw.w.table) hasMD md method
  rw [call_eq, hk]
  have hc := calls pp lookup gate lw hasMD md method d
  generalize lw.call pp lookup gate hasMD md method d = r at hc ⊢
  cases hc with
  | internal hi | notFound hi => rw [hi]; exact ⟨rfl, rfl⟩
  | gated t _ _ hg => rw [hopen t] at hg; cases hg
  | reused t c hi _ hf hs => rw [hi]; dsimp only; rw [get_hit lw.w t.key d c hf hs]; exact ⟨rfl, rfl⟩
  | dialled t hi _ hm hd => subst hd; rw [hi]; dsimp only; rw [get_miss_ok lw.w t.key hm]; exact ⟨rfl, rfl⟩
  | failed t hi _ hm hd => subst hd; rw [hi]; dsimp only; rw [get_miss_err lw.w t.key hm]; exact ⟨rfl, rfl⟩

/-- The director asks the pool only for the target the interceptor stored, and only when the context carries
metadata; its two error paths do not reach the pool. -/
theorem director_reaches_pool_iff (hasMD : Bool) (target : Option Tgt) (k : Str) :
    director hasMD target = .pool k ↔ hasMD = true ∧ ∃ t, target = some t ∧ t.key = k := by
  unfold director
  cases hasMD <;> cases target <;> simp

/-- TLS is dialled exactly for a `grpcs` target by a director that was given a TLS configuration, and then with
the target's own server name and skip-verify flag. -/
theorem dial_tls_iff (hasCert : Bool) (t : Tgt) (sn : Str) (sk : Bool) :
    dialSecurity hasCert t = .tls sn sk ↔ t.grpcs = true ∧ hasCert = true ∧ sn = t.serverName ∧ sk = t.skipVerify := by
  unfold dialSecurity
  cases t.grpcs <;> cases hasCert <;> simp [eq_comm]

/-- A target of any other scheme is dialled in clear text on every listener; its TLS options play no part. -/
theorem plain_target_insecure (hasCert : Bool) (t : Tgt) (h : t.grpcs = false) :
    dialSecurity hasCert t = .insecure := by
  simp [dialSecurity, h]

/-- A plain backend behind a non-`grpcs` target is always reached. -/
theorem plain_backend_reached (host : Str) (hasCert : Bool) (t : Tgt) (h : t.grpcs = false) :
    handshake host (dialSecurity hasCert t) .plain = true := by
  rw [plain_target_insecure hasCert t h]; rfl

/-
The statement one would like — "a `grpcs` target whose certificate its route options accept is reached" — does
not hold on a listener without a certificate source: `newConnection` dials TLS only `&& p.tlscfg != nil`.
-/
/-- **Partial** (forced hypothesis: the listener has a certificate source). A TLS backend behind a `grpcs`
target is reached when the route says `tlsskipverify=true` or the certificate is trusted and valid for the
configured server name (the dialled host when none is configured). -/
theorem grpcs_backend_reached_partial (host : Str) (hasCert : Bool) (t : Tgt) (names : List Str) (trusted : Bool)
    (hcert : hasCert = true) (hs : t.grpcs = true)
    (hv : t.skipVerify = true ∨ (trusted = true ∧ names.contains (if t.serverName.isEmpty then host else t.serverName) = true)) :
    handshake host (dialSecurity hasCert t) (.tls names trusted) = true := by
  subst hcert
  simp only [dialSecurity, hs, Bool.and_self, if_true, handshake]
  rcases hv with h | ⟨h1, h2⟩
  · simp [h]
  · rw [h1, h2]; simp

/-- The excluded point: on a listener **without** a certificate source no TLS backend is ever reached
through a `grpcs` target, whatever the route options (recorded finding; replayed from `corpus/c16.serve.jsonl`). -/
theorem grpcs_on_listener_without_certificate_unreachable (host : Str) (t : Tgt) (names : List Str) (trusted : Bool)
    (_hs : t.grpcs = true) :
    handshake host (dialSecurity false t) (.tls names trusted) = false := by
  simp [dialSecurity, handshake]

/-- Every listener's director is built from that listener's own TLS configuration. -/
theorem start_own_certificate (ls : List Bool) (i : Nat) :
    (Proxy.start ls)[i]? = ls[i]?.map fun c => ({ hasCert := c } : LWorld) := by
  simp [Proxy.start]

/-- A call on listener `i` leaves every other listener's pool, dial log and credentials alone. -/
theorem call_other_listener_untouched (pp : Str → Option Str) (lookup : Table → Str → Str → Option Tgt) (gate : Gate)
    (p : Proxy) (i j : Nat) (hasMD : Bool) (md : MD) (method : Str) (d : Bool) (h : j ≠ i) :
    (p.call pp lookup gate i hasMD md method d).1[j]? = p[j]? := by
  unfold Proxy.call
  cases hi : p[i]? with
  | none => rfl
  | some lw => simp [List.getElem?_set_ne (Ne.symm h)]

theorem call_own_listener (pp : Str → Option Str) (lookup : Table → Str → Str → Option Tgt) (gate : Gate)
    (p : Proxy) (i : Nat) (lw : LWorld) (hasMD : Bool) (md : MD) (method : Str) (d : Bool) (hi : p[i]? = some lw) :
    (p.call pp lookup gate i hasMD md method d).1[i]? = some (lw.call pp lookup gate hasMD md method d).1 ∧
    (p.call pp lookup gate i hasMD md method d).2 = some (lw.call pp lookup gate hasMD md method d).2 := by
  have hlt : i < p.length := by
    rcases Nat.lt_or_ge i p.length with h | h
    · exact h
    · rw [List.getElem?_eq_none h] at hi; cases hi
  unfold Proxy.call
  simp [hi, List.getElem?_set_self hlt]

/-- The credentials a call rides on, as an invariant of a listener: `secs` has one entry per dial, and every pooled
connection was dialled with the credentials `optsOf` assigns to its key. -/
def LInv (optsOf : Str → Tgt) (lw : LWorld) : Prop :=
  lw.secs.length = lw.w.next ∧
  (∀ kc ∈ lw.w.pool, kc.2.id < lw.w.next) ∧
  (∀ kc ∈ lw.w.pool, lw.secs[kc.2.id]? = some (dialSecurity lw.hasCert (optsOf kc.1)))

theorem linv_start (optsOf : Str → Tgt) (c : Bool) : LInv optsOf { hasCert := c } := by
  refine ⟨rfl, ?_, ?_⟩ <;> intro kc h <;> cases h

/-- "the options are a function of the URL": every target the table can answer with is `optsOf` of its key -/
def OptionsByKey (lookup : Table → Str → Str → Option Tgt) (optsOf : Str → Tgt) : Prop :=
  ∀ tb h p t, lookup tb h p = some t → t = optsOf t.key

theorem forward_by_key {pp : Str → Option Str} {lookup : Table → Str → Str → Option Tgt} {optsOf : Str → Tgt}
    (hdet : OptionsByKey lookup optsOf) {tb : Table} {hasMD : Bool} {md : MD} {method : Str} {t : Tgt}
    (hf : intercept pp (lookup tb) hasMD md method = .forward t) : t = optsOf t.key :=
  have ⟨_, _, hl⟩ := forward_is_lookup_answer hf
  hdet _ _ _ _ hl

theorem linv_call (pp : Str → Option Str) (lookup : Table → Str → Str → Option Tgt) (gate : Gate) (optsOf : Str → Tgt)
    (hdet : OptionsByKey lookup optsOf) (lw : LWorld) (hasMD : Bool) (md : MD) (method : Str) (d : Bool)
    (h : LInv optsOf lw) : LInv optsOf (lw.call pp lookup gate hasMD md method d).1 := by
  have hc := calls pp lookup gate lw hasMD md method d
  generalize lw.call pp lookup gate hasMD md method d = r at hc ⊢
  cases hc with
  | dialled t hi =>
    have ht := forward_by_key hdet hi
    obtain ⟨hlen, hid, hsec⟩ := h
    refine ⟨by simp [hlen], ?_, ?_⟩
    · exact ids_put hid t.key
    · intro kc hm
      rcases mem_put hm with hm | hm
      · subst hm
        simp only
        rw [← hlen, List.getElem?_concat_length, ← ht]
      · simp only
        have hlt : kc.2.id < lw.secs.length := by rw [hlen]; exact hid kc hm
        rw [List.getElem?_append_left hlt]
        exact hsec kc hm
  | _ => exact h

/-- shutdown, table change and cleanup at once: every entry of the new pool has key and id of an old one -/
theorem linv_pool_shrinks (optsOf : Str → Tgt) (lw : LWorld) (pool' : Pool) (tb : Table)
    (hsub : ∀ kc ∈ pool', ∃ kc0 ∈ lw.w.pool, kc.1 = kc0.1 ∧ kc.2.id = kc0.2.id)
    (h : LInv optsOf lw) : LInv optsOf { lw with w := { lw.w with pool := pool', table := tb } } := by
  obtain ⟨hlen, hid, hsec⟩ := h
  refine ⟨hlen, ?_, ?_⟩
  · intro kc hm
    obtain ⟨kc0, hm0, _, e2⟩ := hsub kc hm
    simp only; rw [e2]; exact hid kc0 hm0
  · intro kc hm
    obtain ⟨kc0, hm0, e1, e2⟩ := hsub kc hm
    simp only; rw [e1, e2]; exact hsec kc0 hm0

theorem linv_shut (optsOf : Str → Tgt) (lw : LWorld) (k : Str) (h : LInv optsOf lw) :
    LInv optsOf { lw with w := { lw.w with pool := lw.w.pool.shutKey k } } :=
  linv_pool_shrinks optsOf lw _ lw.w.table (fun _ hm => mem_shutKey hm) h

theorem linv_cleanup (optsOf : Str → Tgt) (lw : LWorld) (h : LInv optsOf lw) :
    LInv optsOf { lw with w := { lw.w with pool := lw.w.pool.cleanup (tableURLs lw.w.table) } } :=
  linv_pool_shrinks optsOf lw _ lw.w.table (fun kc hm => ⟨kc, (mem_cleanup.mp hm).1, rfl, rfl⟩) h

theorem linv_setTable (optsOf : Str → Tgt) (lw : LWorld) (tb : Table) (h : LInv optsOf lw) :
    LInv optsOf { lw with w := { lw.w with table := tb } } :=
  linv_pool_shrinks optsOf lw lw.w.pool tb (fun kc hm => ⟨kc, hm, rfl, rfl⟩) h

/-
The statement one would like — "a call rides on a connection dialled with its own target's TLS options" — does
not hold in general: the pool key is `URL.String()`, the options are not part of it.
-/
/-- **Partial** (forced hypothesis `OptionsByKey`: no two targets with the same URL carry different TLS
options). Under the invariant `LInv` — kept by start-up, every call, shutdown, table change and cleanup
(`linv_start`, `linv_call`, `linv_shut`, `linv_setTable`, `linv_cleanup`) — a call that gets a connection, freshly
dialled or pooled, rides on one that was dialled with its own target's server name and skip-verify flag, chosen by its
own listener's certificate source. -/
theorem rides_on_own_options_partial (pp : Str → Option Str) (lookup : Table → Str → Str → Option Tgt) (gate : Gate)
    (optsOf : Str → Tgt) (hdet : OptionsByKey lookup optsOf) (lw : LWorld) (hasMD : Bool) (md : MD) (method : Str)
    (d : Bool) (t : Tgt) (k : Str) (r : GetRes) (s : Option Security) (i : Nat)
    (hinv : LInv optsOf lw)
    (hf : intercept pp (lookup lw.w.table) hasMD md method = .forward t)
    (hr : (lw.call pp lookup gate hasMD md method d).2 = .proxied k r s) (hc : r.conn? = some i) :
    k = t.key ∧ s = some (dialSecurity lw.hasCert t) := by
  have ht := forward_by_key hdet hf
  obtain ⟨hlen, hid, hsec⟩ := hinv
  have h := calls pp lookup gate lw hasMD md method d
  generalize lw.call pp lookup gate hasMD md method d = r' at h hr
  cases h with
  | internal hi | notFound hi | gated _ _ hi => cases hr
  | reused t' c hi _ hfind =>
    rw [hi] at hf; cases hf; cases hr
    refine ⟨rfl, ?_⟩
    have := hsec (t.key, c) (find_mem hfind)
    simp only at this
    rw [this, ← ht]
  | dialled t' hi =>
    rw [hi] at hf; cases hf; cases hr
    exact ⟨rfl, by rw [← hlen, List.getElem?_concat_length]⟩
  | failed => cases hr; cases hc

/-- A pooled connection is handed out as it is: the state does not change and the credentials are those of
the call that dialled it, not of this call's target. -/
theorem reused_keeps_dial_credentials (pp : Str → Option Str) (lookup : Table → Str → Str → Option Tgt) (gate : Gate)
    (lw : LWorld) (hasMD : Bool) (md : MD) (method : Str) (d : Bool) (k : Str) (i : Nat) (s : Option Security)
    (hr : (lw.call pp lookup gate hasMD md method d).2 = .proxied k (.reused i) s) :
    (lw.call pp lookup gate hasMD md method d).1 = lw ∧ s = lw.secs[i]? := by
  have h := calls pp lookup gate lw hasMD md method d
  generalize lw.call pp lookup gate hasMD md method d = r at h hr ⊢
  cases h <;> cases hr
  exact ⟨rfl, rfl⟩

/-- A call's messages pass iff every caller message is within rx and every backend message within rx and tx. -/
theorem limits_iff (l : Limits) (req rep : List Nat) :
    l.allOK req rep = true ↔ (∀ n ∈ req, n ≤ l.rx) ∧ (∀ n ∈ rep, n ≤ l.rx ∧ n ≤ l.tx) := by
  simp [Limits.allOK, Limits.reqOK, Limits.repOK, List.all_eq_true]

/-- When the connection comes up and the messages are within the limits the caller gets the backend's status. -/
theorem outcome_transparent (host : Str) (l : Limits) (sec : Security) (b : Backend) (req rep : List Nat) (code : Nat)
    (hh : handshake host sec b = true) (hl : l.allOK req rep = true) : outcome host l sec b req rep code = code := by
  simp [outcome, hh, hl]

def exA : Tgt := { key := "grpcs://10.0.0.1:443".toList, grpcs := true, serverName := "other.test".toList }
def exB : Tgt := { key := "grpcs://10.0.0.1:443".toList, grpcs := true, serverName := "backend.test".toList }
def exPlain : Tgt := { key := "grpc://10.0.0.2:80".toList }

/-- two routes to one URL with different `grpcservername` (this is what `OptionsByKey` excludes) -/
def exLookup : Table → Str → Str → Option Tgt := fun _ _ p =>
  if "/a".toList.isPrefixOf p then some exA else if "/b".toList.isPrefixOf p then some exB
  else if "/p".toList.isPrefixOf p then some exPlain else none

def open_ : Gate := fun _ _ => none

example : gateOf (fun _ => false) (fun _ _ => true) exA [] = none := by decide +kernel
example : gateOf (fun _ => true) (fun _ _ => true) exA [] = some codePermissionDenied := by decide +kernel
example : dialSecurity true exB = .tls "backend.test".toList false := by decide +kernel
example : dialSecurity false exB = .insecure := by decide +kernel
example : handshake "10.0.0.1".toList (dialSecurity true exB) (.tls ["backend.test".toList] true) = true := by decide +kernel
example : (Limits.allOK { rx := 3000, tx := 700 } [1500, 3000] [700]) = true ∧
          (Limits.allOK { rx := 3000, tx := 700 } [3001] []) = false ∧
          (Limits.allOK { rx := 3000, tx := 700 } [] [701]) = false := by decide +kernel

/-- `LInv` and `OptionsByKey` are satisfiable together on a listener that has dialled (non-vacuity of
`rides_on_own_options_partial`): one target per URL. -/
example :
    let lk : Table → Str → Str → Option Tgt := fun _ _ _ => some exB
    OptionsByKey lk (fun _ => exB) ∧
    LInv (fun _ => exB) (({ hasCert := true } : LWorld).call some lk open_ true [] "/b/M".toList true).1 := by
  refine ⟨?_, ?_⟩
  · intro tb h p t ht; simp at ht; exact ht.symm
  · exact linv_call some _ open_ _ (by intro tb h p t ht; simp at ht; exact ht.symm) _ _ _ _ _ (linv_start _ true)

/-- **The excluded point of `rides_on_own_options_partial`** (recorded finding; replayed from
`corpus/c16.serve.jsonl`): `/a` dials the URL with server name `other.test`; the later call to `/b`, whose own
route says `backend.test`, gets that pooled connection — and with a backend whose certificate is valid for
`backend.test` only, it fails although its own options would have reached the backend. -/
theorem pooled_connection_keeps_another_routes_options :
    let l0 : LWorld := { hasCert := true }
    let l1 := (l0.call some exLookup open_ true [] "/a/M".toList true).1
    let r := (l1.call some exLookup open_ true [] "/b/M".toList true).2
    r = .proxied exB.key (.reused 0) (some (.tls "other.test".toList false)) ∧
    handshake "10.0.0.1".toList (.tls "other.test".toList false) (.tls ["backend.test".toList] true) = false ∧
    handshake "10.0.0.1".toList (dialSecurity true exB) (.tls ["backend.test".toList] true) = true := by
  unfold exLookup exA exB exPlain; simp only [toList_lit rfl]; decide +kernel

/-- per-listener wiring: the same `grpcs` route is dialled with TLS on the listener that has a certificate
source and in clear text on the one that has none, whichever is called first -/
example :
    let p0 := Proxy.start [false, true]
    let r1 := p0.call some exLookup open_ 0 true [] "/b/M".toList true
    let r2 := r1.1.call some exLookup open_ 1 true [] "/b/M".toList true
    r1.2 = some (.proxied exB.key (.dialled 0) (some .insecure)) ∧
    r2.2 = some (.proxied exB.key (.dialled 0) (some (.tls "backend.test".toList false))) := by
  unfold exLookup exA exB exPlain; simp only [toList_lit rfl]; decide +kernel

end Fabio.Props.C16Serve
