import Fabio.Props.C02
import Fabio.Props.C03
import Fabio.Props.C04
import Fabio.Model.C02Compose
import Fabio.Lemmas.C02Custom
import Fabio.Lemmas.Lit
/-!
C02 — composition: the parameters of the theorems of `Props/C02.lean` instantiated with the models of the other
properties — `build := Parse.loadTable` (C05's `route.NewTable`), `buildDefs := Route.newTable`
(`route.NewTableCustom`), `lookupPure := Model.C03.Lookup` with C04's `rrPicker`/`rndPicker` on the ring of the
matched route — and the end-to-end corollaries.

The update loop and the cell are connected through `WB.installs`: the list of tables the loop passes to
`route.SetTable` over a history is the program of the one writer thread of the cell machine (the
`watchBackend` goroutine); readers are the request goroutines.
-/
namespace Fabio.Props.C02Compose
open Fabio Fabio.Model.Route Fabio.Model.Parse Fabio.Model.C02 Fabio.Model.C02Compose Fabio.Lemmas.C02
open Fabio.Model.C04 (ringOf entries slotCounts rrPick rndPick uint64Size)

def Installed (env : Env) (pf : ParseFloat) (es : List Ev) (T : Table) : Prop :=
  T = [] ∨ ∃ text ∈ texts es, loadTable env pf text = .ok T

def system (env : Env) (pf : ParseFloat) (es : List Ev)
    (rs : List (Thread Table Model.C03.Req (Option (Str × Route × Target)))) :
    Sys Table Model.C03.Req (Option (Str × Route × Target)) :=
  Sys.start [] (rs ++ [.writer ((WB.installs (build env pf) (WB.init []) es).map some)])

def Readers (rs : List (Thread Table Model.C03.Req (Option (Str × Route × Target)))) : Prop :=
  ∀ th ∈ rs, ∃ todo, th = .reader todo none []

/-- the placement is a possible result of Go's (unstable) sort of the slot entries; the RNG honours the contract of
`rand.Intn` -/
def PickValid (pe : PickEnv) (r : Route) : Prop :=
  (pe.placement r).Perm (entries (slotCounts r.targets)) ∧
  ∀ n, 0 < n → 0 ≤ pe.randIntn r n ∧ pe.randIntn r n < n

theorem build_some_iff (env : Env) (pf : ParseFloat) (text : Text) (t : Table) :
    build env pf text = some t ↔ loadTable env pf text = .ok t :=
  Lemmas.Route.toOption_eq_some_iff

theorem buildDefs_some_iff (env : Env) (ds : List RouteDef) (t : Table) :
    buildDefs env ds = some t ↔ newTable env ds = .ok t :=
  Lemmas.Route.toOption_eq_some_iff

theorem pickFn_ok (pe : PickEnv) : C03.PickOK (pickFn pe) := by
  intro r hne
  have hhead : r.targets.headD noTarget ∈ r.targets := C03.pickOK_headD noTarget r hne
  unfold pickFn
  split
  · rename_i i _
    cases hi : r.targets[i]? with
    | none => simpa using hhead
    | some t => simpa using List.mem_of_getElem? hi
  · exact hhead

/-- C03 `lookup_sound` for the composed lookup, whose picker returns a target of the route (`pickFn_ok`) -/
theorem lookupPure_sound (le : LookupEnv) (t : Table) (req : Model.C03.Req) {h : Str} {route : Route} {tg : Target}
    (hl : lookupPure le t req = some (h, route, tg)) :
    (h = [] ∨ C03.HostMatches (le.cfg req) t req h) ∧ route ∈ t.get (lowerL h) ∧
      (le.cfg req).pathMatch req.path route.path = true ∧ tg ∈ route.targets :=
  C03.lookup_sound (le.cfg req) t req (pickFn_ok le.pe) hl

/-- **End to end, history + concurrency**, for any history of service/manual updates, any request goroutines and
any interleaving of them with the update loop:
(a) every lookup is answered as `Model.C03.Lookup` on ONE table of the cell's history, the initial empty table or
`loadTable` of the concatenated text after one of the events — never a mixture, never a text that failed to load;
(b) once the update loop has processed the whole history, the cell holds `loadTable` of the LAST concatenated
text that loads (the empty table if none does). -/
theorem serving_table_is_last_good_config (env : Env) (pf : ParseFloat) (le : LookupEnv) (k : Model.C03.Req → Nat)
    (es : List Ev) (rs : List (Thread Table Model.C03.Req (Option (Str × Route × Target)))) (hr : Readers rs)
    (sch : List Nat) :
    (∀ th ∈ (Sys.run (lk le k) sch (system env pf es rs)).threads, ∀ r ∈ th.results,
      ∃ T, (Sys.run (lk le k) sch (system env pf es rs)).cell.hist[r.idx]? = some T ∧ Installed env pf es T ∧
        r.ans = Model.C03.Lookup (le.cfg r.req) T r.req) ∧
    ((∃ th, (Sys.run (lk le k) sch (system env pf es rs)).threads[rs.length]? = some th ∧ th.finished = true) →
      (Sys.run (lk le k) sch (system env pf es rs)).cell.val = lastGood (build env pf) [] (texts es)) := by
  obtain ⟨ha, hb⟩ := one_writer_system (lk le k) [] ((WB.installs (build env pf) (WB.init []) es).map some) rs hr sch
  refine ⟨fun th hth r hrr => ?_, fun hfin => ?_⟩
  · obtain ⟨T, hT, hmem, hans⟩ := ha th hth r hrr
    refine ⟨T, hT, hmem.imp_right fun h => ?_, hans⟩
    obtain ⟨text, hm, hbt⟩ := installs_mem (build env pf) es (WB.init []) T (by simpa using h)
    exact ⟨text, hm, (build_some_iff env pf text T).1 hbt⟩
  · rw [← Fabio.Props.C02.keeps_last_good, ← installs_last (build env pf) es (WB.init [])]
    exact hb hfin

/-- (b) for a request: when the update loop is done, a request goroutine that loads the table now gets — whatever
runs afterwards — the answer `Model.C03.Lookup` gives on the last good configuration. -/
theorem lookup_after_last_update_uses_last_good_config (env : Env) (pf : ParseFloat) (le : LookupEnv)
    (k : Model.C03.Req → Nat) (es : List Ev) (rs : List (Thread Table Model.C03.Req (Option (Str × Route × Target))))
    (hr : Readers rs) (pre : List Nat) (i : Nat) (req : Model.C03.Req) (todo : List Model.C03.Req)
    (done : List (Result Model.C03.Req (Option (Str × Route × Target))))
    (hfin : ∃ th, (Sys.run (lk le k) pre (system env pf es rs)).threads[rs.length]? = some th ∧ th.finished = true)
    (hload : (Sys.run (lk le k) pre (system env pf es rs)).threads[i]? = some (.reader (req :: todo) none done))
    (post : List Nat) :
    ∃ th, (Sys.run (lk le k) post ((Sys.run (lk le k) pre (system env pf es rs)).stepAt (lk le k) i)).threads[i]? = some th ∧
      (th.results.length ≤ done.length ∨
       ∃ idx, th.results[done.length]? = some (Result.mk req idx
          (Model.C03.Lookup (le.cfg req) (lastGood (build env pf) [] (texts es)) req))) := by
  obtain ⟨th, hth, h⟩ := Fabio.Props.C02.lookup_answered_from_table_at_load (lk le k) _ i req todo done hload post
  refine ⟨th, hth, ?_⟩
  rcases h with h | h
  · exact Or.inl h
  · right
    rw [(serving_table_is_last_good_config env pf le k es rs hr pre).2 hfin] at h
    exact ⟨_, h⟩

/-- **Linearizability + C03 `lookup_sound`.** Host key, route and target of every answer of every concurrent
lookup all come from ONE installed configuration `T` (the table the reader loaded) — never a mixture of two. -/
theorem every_answer_is_sound_for_some_installed_config (env : Env) (pf : ParseFloat) (le : LookupEnv)
    (k : Model.C03.Req → Nat) (es : List Ev) (rs : List (Thread Table Model.C03.Req (Option (Str × Route × Target))))
    (hr : Readers rs) (sch : List Nat) :
    ∀ th ∈ (Sys.run (lk le k) sch (system env pf es rs)).threads, ∀ r ∈ th.results,
      ∀ h route tg, r.ans = some (h, route, tg) →
      ∃ T, Installed env pf es T ∧ (Sys.run (lk le k) sch (system env pf es rs)).cell.hist[r.idx]? = some T ∧
        (h = [] ∨ C03.HostMatches (le.cfg r.req) T r.req h) ∧ route ∈ T.get (lowerL h) ∧
        (le.cfg r.req).pathMatch r.req.path route.path = true ∧ tg ∈ route.targets := by
  intro th hth r hrr h route tg hans
  obtain ⟨T, hT, hinst, ha⟩ := (serving_table_is_last_good_config env pf le k es rs hr sch).1 th hth r hrr
  exact ⟨T, hinst, hT, lookupPure_sound le T r.req (ha.symm.trans hans)⟩

/-- **The picker is defined on every route of every table the constructors return**: the ring fill does not
panic, the picked slot is not nil and indexes a target; so `pickFn`'s fallback is never taken there. -/
theorem pick_defined_on_every_route (env : Env) (defs : List RouteDef) (t : Table) (h : newTable env defs = .ok t)
    (pe : PickEnv) : ∀ kv ∈ t, ∀ r ∈ kv.2, PickValid pe r →
      ∃ i tg, pickO pe r = .ok (some i) ∧ r.targets[i]? = some tg ∧ pickFn pe r = tg := by
  intro kv hkv r hr ⟨hpl, hrnd⟩
  obtain ⟨ts, hne, hts⟩ := Fabio.Props.C04.route_weighed env defs t h kv hkv r hr
  -- every slot of the ring holds an index into the targets: conjunct four of `ring_of_route`
  obtain ⟨ring, h1, h2, _, h3, _⟩ := Fabio.Props.C04.ring_of_route ts hne (pe.placement r) (hts ▸ hpl)
  rw [← hts] at h1
  have hpos : 0 < ring.length := List.length_pos_iff.mpr h2
  have hslot : ∃ s, pickO pe r = .ok s ∧ s ∈ ring := by
    unfold pickO
    rw [h1]
    simp only
    by_cases hrr : pe.rr = true
    · obtain ⟨s, hs, hg⟩ := Fabio.Lemmas.C04.rrPick_ok ring hpos (pe.cursor r)
      exact ⟨s, by simp [hrr, hs, Outcome.map], List.mem_of_getElem? hg⟩
    · obtain ⟨s, hs, hm⟩ := Fabio.Props.C04.rnd_picks_ring_slot ring (pe.randIntn r) (hrnd _ hpos)
      exact ⟨s, by simp [hrr, hs], hm⟩
  obtain ⟨s, hs, hm⟩ := hslot
  obtain ⟨i, hi, rfl⟩ := h3 s hm
  rw [← Fabio.Lemmas.Route.weigh_length ts, ← hts] at hi
  refine ⟨i, r.targets[i], hs, List.getElem?_eq_getElem hi, ?_⟩
  unfold pickFn
  rw [hs]
  simp [List.getElem?_eq_getElem hi]

/-- **No panic, end to end.** For EVERY configuration text (any characters, any
`ParseFloat`/`url.Parse`/`glob.Compile` behaviour): `loadTable` returns an error or a table (never a panic,
never a partial table), and on every route of that table, for every admissible picker environment, ring
construction, `rrPicker` and `rndPicker` reach no `Outcome.panic` and return a target of the route; `Model.C03.Lookup`
with that picker is then a total function of (table, request), so host matching, path matching and picking
produce an answer for every request.

Which Go panic points this covers, and how:
* **in the model, by theorem** — `weighTargets`: `make([]*Target, usedSlots)` with a negative length, the ring
  scan `for targets[next] != nil` running off the ring or forever, `usedSlots / s.n`, `% usedSlots`
  (`Model.C04.fillRing`/`fill`/`placeK`/`findFree` return `Outcome.panic` there; `ring_no_panic`);
  `rrPicker`: `% uint64(len(wTargets))` with an empty ring and the index; `rndPicker`: the index; a nil slot
  handed to the proxy (`pick_defined_on_every_route`); `NewTable` returning a partial table (`no_partial_table`).
  All over exact rationals: the effective weights are in [0,1] and sum to 1 (`C04.every_route_weights`).
* **in the model, by construction (totality of the Lean functions)** — the scanner loop, the three command
  parsers (`FindStringSubmatch` group indexing is a total tokenizer), `hostpath`'s `SplitN` indexing,
  `Table.lookup`'s `n == 0`/`n == 1` shortcuts, `matchingHosts`/`sortHostsReverseHostPort`, `ReverseHostPort`
  (`net.SplitHostPort` modelled in full), `normalizeHost`'s slicing.
* **only by facts + the no-panic search, NOT by a theorem** — the float64 arithmetic (overflow to ±Inf/NaN,
  `int(float)` of a huge value: facts `panic_point_guards` for the non-finite guard, stream `c02.nopanic` with
  hostile weights, C04's float-vs-ℚ comparison); the third-party calls taken as parameters: `glob.Compile`
  /`Match` (`env.globOK`, `cfg.globMatch`: the D33 guard `globMatch` and the absence of `MustCompile` are
  held by `no_recover_is_relied_upon` / `panic_point_guards`), `url.Parse`, `strconv.ParseFloat`, the regexes;
  option parsing of targets (`strip`, `redirect`, `allow`/`deny`: owned by C12/C13 and exercised by
  `c02.nopanic`); `BuildRedirectURL` (C13); the nil definition list of `NewTableCustom` (fact
  `newTableCustom_events`, theorem `custom_no_panic_end_to_end` for the repaired model). -/
theorem no_panic_end_to_end (env : Env) (pf : ParseFloat) (text : Text) :
    (∃ e, loadTable env pf text = .error e) ∨
    ∃ t, loadTable env pf text = .ok t ∧
      (∃ defs, parse pf text = .ok defs ∧ newTable env defs = .ok t) ∧
      (∀ pe : PickEnv, ∀ kv ∈ t, ∀ r ∈ kv.2, PickValid pe r →
        ∃ i tg, pickO pe r = .ok (some i) ∧ r.targets[i]? = some tg ∧ pickFn pe r = tg) ∧
      (∀ (le : LookupEnv) (req : Model.C03.Req) h route tg, lookupPure le t req = some (h, route, tg) → tg ∈ route.targets) := by
  rcases Fabio.Props.C02.build_total env pf text with ⟨t, ht⟩ | ⟨e, he⟩
  · right
    obtain ⟨defs, hp, hn⟩ := Fabio.Props.C02.no_partial_table env pf text t ht
    refine ⟨t, ht, ⟨defs, hp, hn⟩, fun pe => pick_defined_on_every_route env defs t hn pe, ?_⟩
    intro le req h route tg hl
    exact (lookupPure_sound le t req hl).2.2.2
  · exact Or.inl ⟨e, he⟩

def lastGoodDoc (env : Env) (a : Table) (ps : List (Poll (List RouteDef))) : Table :=
  ps.foldl (fun a p => match p with
    | .defs ds => (buildDefs env ds).getD a
    | _ => a) a

theorem lastGoodPoll_eq (env : Env) (ps : List (Poll (List RouteDef))) (a : Table) :
    Model.C02Custom.lastGoodPoll (buildDefs env) a ps = lastGoodDoc env a ps := by
  -- the two step functions are different `match` expressions: equal on each `Poll`, not by unfolding
  unfold Model.C02Custom.lastGoodPoll lastGoodDoc
  congr 1
  funext a p
  cases p <;> rfl

theorem calls_fold_lastGoodDoc (env : Env) (ps : List (Poll (List RouteDef))) (a : Table) :
    (Model.C02Custom.calls (buildDefs env) ps).foldl setTable a = lastGoodDoc env a ps := by
  rw [Fabio.Lemmas.C02Custom.calls_fold_lastGood, lastGoodPoll_eq]

/-- **Custom backend, history.** After any sequence of polls the (repaired) poll loop has not panicked and the
serving table is `newTable` of the last document that builds. -/
theorem custom_serving_table_is_last_good_document (env : Env) (ps : List (Poll (List RouteDef))) :
    ∀ a : Table, customRun (newTableCustom (buildDefs env)) a ps = .ok (lastGoodDoc env a ps) := by
  intro a
  rw [Fabio.Lemmas.C02Custom.customRun_eq_calls, calls_fold_lastGoodDoc]

theorem lastGoodDoc_is_built (env : Env) (ps : List (Poll (List RouteDef))) : ∀ a : Table,
    (a = [] ∨ ∃ ds, newTable env ds = .ok a) →
    (lastGoodDoc env a ps = [] ∨ ∃ ds, newTable env ds = .ok (lastGoodDoc env a ps)) := by
  intro a h
  rw [← lastGoodPoll_eq]
  rcases Fabio.Lemmas.C02Custom.lastGoodPoll_mem (buildDefs env) ps a with h' | ⟨ds, _, h'⟩
  · rw [h']; exact h
  · exact Or.inr ⟨ds, (buildDefs_some_iff env ds _).1 h'⟩

/-- **Custom backend, no panic end to end + soundness.** For every poll history (transport errors, decode
errors, `null`, any definition lists): the poll loop returns normally; on every route of the serving table
the picker is defined (no panic, a target of the route); and every answer of a lookup on it is sound for that
one table. -/
theorem custom_no_panic_end_to_end (env : Env) (ps : List (Poll (List RouteDef))) :
    ∃ t, customRun (newTableCustom (buildDefs env)) ([] : Table) ps = .ok t ∧
      (∀ pe : PickEnv, ∀ kv ∈ t, ∀ r ∈ kv.2, PickValid pe r →
        ∃ i tg, pickO pe r = .ok (some i) ∧ r.targets[i]? = some tg ∧ pickFn pe r = tg) ∧
      (∀ (le : LookupEnv) (req : Model.C03.Req) h route tg, lookupPure le t req = some (h, route, tg) →
        (h = [] ∨ C03.HostMatches (le.cfg req) t req h) ∧ route ∈ t.get (lowerL h) ∧
        (le.cfg req).pathMatch req.path route.path = true ∧ tg ∈ route.targets) := by
  refine ⟨_, custom_serving_table_is_last_good_document env ps [], ?_, ?_⟩
  · intro pe kv hkv
    rcases lastGoodDoc_is_built env ps [] (Or.inl rfl) with h | ⟨ds, h⟩
    · rw [h] at hkv; cases hkv
    · exact pick_defined_on_every_route env ds _ h pe kv hkv
  · intro le req h route tg hl
    exact lookupPure_sound le _ req hl

end Fabio.Props.C02Compose

namespace Fabio.Props.C02Compose.Ex
open Fabio Fabio.Model.Route Fabio.Model.Parse Fabio.Model.C02 Fabio.Model.C02Compose Fabio.Props.C02Compose

def env : Env := { normURL := some, globOK := fun _ => true }
def pf : ParseFloat := fun s => if s = "0.25".toList then some (.fin (1/4)) else none

def textA : Text := "route add a foo.com/x http://a:1/\nroute add b foo.com/x http://b:1/\nroute add c /w http://c:1/ weight 0.25\nroute add d /w http://d:1/".toList

/-- service text, a manual text that breaks the configuration, a repaired manual text -/
def events : List Ev := [.svc textA, .man "route add".toList, .man "route add d /y http://d:1/".toList]

def pe : PickEnv :=
  { rr := true, placement := fun r => Model.C04.entries (Model.C04.slotCounts r.targets), cursor := fun _ => 7,
    randIntn := fun _ _ => 0 }

def le : LookupEnv :=
  { base := { globMatch := fun p s => p == s, pathMatch := fun uri p => p.isPrefixOf uri, pick := pickFn pe },
    skipOf := fun _ _ => false, pe := pe }

def req : Model.C03.Req := { host := "FOO.com".toList, tls := false, path := "/x/1".toList }

/-- One evaluation for the three examples that build the tables of `events`: what an evaluation pays for is decoding the
keywords of the parser, once per declaration. -/
theorem events_vectors :
    (WB.installs (build env pf) (WB.init []) events).length = 2 ∧
    (texts events).map (fun t => (build env pf t).isSome) = [true, false, true] ∧
    (lookupPure le (lastGood (build env pf) [] (texts events)) req).map (fun a => (a.1, a.2.1.path, a.2.2.service)) =
      some ("foo.com".toList, "/x".toList, "b".toList) := by
  unfold events textA pf req; simp only [toList_lit rfl]; decide +kernel

/-- the history installs two tables (events 1 and 3), the broken one in between installs nothing -/
example : (WB.installs (build env pf) (WB.init []) events).length = 2 := events_vectors.1

example : (texts events).map (fun t => (build env pf t).isSome) = [true, false, true] := events_vectors.2.1

example : ∀ r, PickValid pe r := fun r => ⟨List.Perm.refl _, fun n hn => ⟨Int.le_refl 0, by show (0 : Int) < n; omega⟩⟩

example : (lookupPure le (lastGood (build env pf) [] (texts events)) req).map (fun a => (a.1, a.2.1.path, a.2.2.service)) =
    some ("foo.com".toList, "/x".toList, "b".toList) := events_vectors.2.2

def readers : List (Thread Table Model.C03.Req (Option (Str × Route × Target))) := [.reader [req, req] none []]
example : Readers readers := by intro th h; simp [readers] at h; exact ⟨_, h⟩

/-- custom backend: a document, `null`, a document that does not build, a new document -/
def doc1 : List RouteDef := [{ cmd := .add, service := "a".toList, src := "/x".toList, dst := "http://a:1/".toList }]
def doc2 : List RouteDef := [{ cmd := .weight, service := "zz".toList, src := "/nomatch".toList, weight := 1/2 }]
def doc3 : List RouteDef := [{ cmd := .add, service := "b".toList, src := "/y".toList, dst := "http://b:1/".toList }]

example : (lastGoodDoc env [] [.defs doc1, .null, .defs doc2, .decodeError]).map (·.1) = [[]] ∧
    (buildDefs env doc2) = none ∧
    ((lastGoodDoc env [] [.defs doc1, .null, .defs doc2, .defs doc3]).get []).map (·.path) = ["/y".toList] := by
  unfold doc1 doc2 doc3; simp only [toList_lit rfl]; decide +kernel

end Fabio.Props.C02Compose.Ex
