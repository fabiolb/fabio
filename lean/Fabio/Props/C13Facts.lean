import Fabio.Generated.C13
import Fabio.Model.C13
/-!
OBLIGATIONS over the facts regenerated from `/repo` on every run (C13): what the proof chain needs and no stream
can establish by running the code — the write set on the request path (the schedule theorem
`redirect_depends_only_on_request` is about per-request copies; a store through the shared `*Target` or its shared
`*url.URL` is a data race that shows only under some interleavings) and the order "redirect branch before anything
that dials or runs an upstream handler" (`no upstream is contacted`: the instrumented upstream of `c13.http`
counts the hits on *itself*; a dial elsewhere that is followed by the redirect anyway is invisible to a client).

The shape of the sequential, deterministic code is pinned in `Props/C13Pins.lean` as change detectors.

The extractor (`tools/factgen/c13.go`) works on the normalised AST, names variables by role (`recv`, `p0`, `p1`, …,
`copy` for `v := *x`, `call:<callee>`), follows calls into functions of the same package and treats a local pointer
assigned from a fresh `&T{…}` and then stored into a field as an alias of that field — so the facts below do not change
under renamed locals or parameters, extracted/inlined helpers, named constants, if ↔ switch, or filling in the new URL
through a local pointer.
-/
namespace Fabio.Props.C13Facts
open Fabio Fabio.Model.C13 Fabio.Generated.C13

/-- `BuildRedirectURL` first assigns a freshly allocated `url.URL` to the receiver's `RedirectURL` and every
other store of the function (helpers included) goes through that field: the per-request copy of the target shares
`URL`, `Opts`, … with the table's target, so a store anywhere else would be a write to shared routing state.
Breaking change no stream exposes reliably: re-using the URL allocated for an earlier request (seeded m1). -/
theorem build_stores_only_the_fresh_url :
    buildAllocatesFreshURLFirst = true ∧ buildStoresOutsideFreshURL = [] :=
  ⟨rfl, rfl⟩

/-- No store through the shared `*Target` on the request path (D08 repaired): `BuildRedirectURL` is invoked on
a per-request copy and on nothing else, every field store of `Lookup` (and of what it calls on the target) goes to
that copy or to the request, `ServeHTTP` stores nothing through the target. -/
theorem no_shared_target_store_on_request_path :
    lookupBuildReceivers.all (· == "copy") = true ∧ lookupBuildReceivers ≠ [] ∧
    lookupStoresNotPerRequest = [] ∧ serveStoresThroughTarget = [] :=
  ⟨by decide, by decide, rfl, rfl⟩

/-- `ServeHTTP`: the lookup comes before the redirect branch, the branch ends in `return`, and nothing that runs
an upstream handler or dials (`ServeHTTP`, `RoundTrip`, `Dial*`, `Do`; helpers inlined) is called up to and
including it; the upstream handler is run after it (`no upstream is contacted`). -/
theorem serve_redirect_precedes_upstream :
    serveLookupBeforeRedirect = true ∧ serveRedirectReturns = true ∧ serveHandlerCalledAfterRedirect = true ∧
    serveUpstreamCallsUpToRedirect = [] :=
  ⟨rfl, rfl, rfl, rfl⟩

end Fabio.Props.C13Facts
