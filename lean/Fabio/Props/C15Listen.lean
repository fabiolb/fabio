import Fabio.Model.C15Listen
import Fabio.Lemmas.Basic
import Fabio.Props.C15
/-!
C15 — "a configuration that is accepted can be run", for listeners: an entry of `proxy.addr` / `ui.addr` that
`parseListen` accepts carries a protocol that `main.startServers` has a `case` for (its `default:` branch ends
the process with "Invalid protocol"), and an address.  `handled` is the list of case literals of that switch; the
inclusion `acceptedProtos ⊆ handled` is an obligation over the regenerated facts (`C15Facts.listen_protos_handled`).
-/
namespace Fabio.Props.C15Listen
open Fabio Fabio.Model.C15 Fabio.Lemmas.C15

theorem parseListenM_ok (E : ListenEnv) (cfg : Map) (l : LListen) (h : parseListenM E cfg = .ok l) :
    (addrKeys cfg).length ≤ 1 ∧ (∀ kv ∈ cfg, keyBad E kv.1 kv.2 = false) ∧ addrOfCfg E cfg ≠ [] ∧
    ¬ (csOf cfg ≠ [] ∧ (!csProtos.contains (protoOf cfg)) = true) ∧
    ¬ (csOf cfg = [] ∧ (protoOf cfg = "https".toList ∨ protoOf cfg = "grpcs".toList)) ∧
    l = { addr := addrOfCfg E cfg, proto := protoOf cfg, cs := csOf cfg } := by
  unfold parseListenM at h
  -- a test that succeeds returns an error; in the last branch each test has failed, which is the claim
  repeat' split at h
  all_goals first
    | (cases h; done)
    | (injection h with h
       exact ⟨by omega, fun kv hkv => by simpa using List.find?_eq_none.mp ‹_› kv hkv, ‹_›, ‹_›, ‹_›, h.symm⟩)

/-- the protocol passed `proto`'s own check, or it is one of the two defaults -/
theorem protoOf_mem (E : ListenEnv) (cfg : Map) (hall : ∀ kv ∈ cfg, keyBad E kv.1 kv.2 = false) :
    protoOf cfg ∈ acceptedProtos := by
  unfold protoOf
  cases hp : cfg.get "proto".toList with
  | some v =>
    have hb := hall _ (mem_of_lookup hp)
    simp only [keyBad, toList_lit rfl] at hb
    simpa using hb
  | none =>
    unfold acceptedProtos
    simp only [toList_lit rfl]
    split <;> decide

/-- **The protocol of an accepted listener is one of the nine accepted names, spelled exactly** — whatever the
other keys are, whatever the external parsers answer, in whichever order the keys come. -/
theorem accepted_listener_proto (E : ListenEnv) (cfg : Map) (l : LListen) (h : parseListenM E cfg = .ok l) :
    l.proto ∈ acceptedProtos := by
  obtain ⟨_, hall, _, _, _, rfl⟩ := parseListenM_ok E cfg l h
  exact protoOf_mem E cfg hall

theorem accepted_listener_addr (E : ListenEnv) (cfg : Map) (l : LListen) (h : parseListenM E cfg = .ok l) :
    l.addr ≠ [] := by
  obtain ⟨_, _, ha, _, _, rfl⟩ := parseListenM_ok E cfg l h
  exact ha

theorem accepted_tls_listener_has_cs (E : ListenEnv) (cfg : Map) (l : LListen) (h : parseListenM E cfg = .ok l)
    (hp : l.proto = "https".toList ∨ l.proto = "grpcs".toList) : l.cs ≠ [] := by
  obtain ⟨_, _, _, _, hn, rfl⟩ := parseListenM_ok E cfg l h
  exact fun hc => hn ⟨hc, hp⟩

/-- **The address of an accepted listener does not depend on the order in which the keys are visited**: at most
one of the two address keys is present (with both, Go's map iteration order used to decide — D15-3). -/
theorem accepted_listener_addr_unambiguous (E : ListenEnv) (cfg : Map) (l : LListen)
    (h : parseListenM E cfg = .ok l) : (addrKeys cfg).length ≤ 1 :=
  (parseListenM_ok E cfg l h).1

/-- **An accepted listener can be started**: if every accepted protocol name has a case in `startServers`, the
switch never reaches its fatal default for a listener that `load` let through. -/
theorem accepted_listener_startable (E : ListenEnv) (handled : List Str)
    (hsub : ∀ p ∈ acceptedProtos, p ∈ handled) (cfg : Map) (l : LListen) (h : parseListenM E cfg = .ok l) :
    startable handled l = true := by
  simp only [startable, List.contains_eq_mem, decide_eq_true_eq]
  exact hsub _ (accepted_listener_proto E cfg l h)

theorem parseListenersM_ok (E : ListenEnv) (ms : List Map) (ls : List LListen) (h : parseListenersM E ms = .ok ls) :
    ∀ l ∈ ls, ∃ m, parseListenM E m = .ok l := by
  induction ms generalizing ls with
  | nil => cases h; simp
  | cons m t ih =>
    simp only [parseListenersM] at h
    split at h
    · cases h
    · split at h
      · cases h
      · cases h
        exact List.forall_mem_cons.mpr ⟨⟨m, ‹_›⟩, ih _ ‹_›⟩

theorem accepted_listener_runnable (E : ListenEnv) (handled : List Str)
    (hsub : ∀ p ∈ acceptedProtos, p ∈ handled) (cfg : Map) (l : LListen) (h : parseListenM E cfg = .ok l) :
    startable handled l = true ∧ l.addr ≠ [] :=
  ⟨accepted_listener_startable E handled hsub cfg l h, accepted_listener_addr E cfg l h⟩

theorem accepted_listeners_startable (E : ListenEnv) (handled : List Str)
    (hsub : ∀ p ∈ acceptedProtos, p ∈ handled) (ms : List Map) (ls : List LListen)
    (h : parseListenersM E ms = .ok ls) : ∀ l ∈ ls, startable handled l = true ∧ l.addr ≠ [] := fun l hl =>
  (parseListenersM_ok E ms ls h l hl).elim fun m hm => accepted_listener_runnable E handled hsub m l hm

theorem listenersOf_ok (unq : Str → Option Str) (X : ListenExt) (vals : List Resolved) (ls : List LListen)
    (ui : Option LListen) (h : listenersOf unq X vals = .ok (ls, ui)) :
    ∀ l, l ∈ ls ∨ ui = some l → ∃ m, parseListenM (listenEnvOf unq X vals) m = .ok l := by
  unfold listenersOf at h
  simp only at h
  split at h
  · cases h
  rename_i u hu
  split at h
  · split at h
    · cases h
    rename_i hls
    cases h
    rintro l (hl | rfl)
    · exact parseListenersM_ok _ _ _ hls l hl
    split at hu
    · cases hu
    split at hu
    · rename_i m _
      cases hm : parseListenM (listenEnvOf unq X vals) m with
      | error e => rw [hm] at hu; cases hu
      | ok l' => rw [hm] at hu; cases hu; exact ⟨m, hm⟩
    · cases hu
  · cases h

/-- **An accepted configuration can be run, as far as its listeners go** (end to end: command line after
tokenisation, environment block, prefixes, properties → `load` with the listener rules of `parseListen` in place →
`main.startServers`): if `load` accepts, then `cfg.Listen` and `cfg.UI.Listen` are well-defined, every proxy
listener has an address and a protocol that `startServers` has a case for, and so has the UI listener when
`ui.addr` is not empty. -/
theorem accepted_config_listeners_startable (unq : Str → Option Str) (atoi : Str → Int) (X : ListenExt)
    (rest : List Resolved → Option Err) (flags : List (Str × Str)) (s : Sources) (handled : List Str)
    (hsub : ∀ p ∈ acceptedProtos, p ∈ handled) (cfg : Cfg)
    (h : loadModel unq atoi (listenExtra unq X rest) flags s = .ok (.ok cfg)) :
    ∃ ls ui, listenersOf unq X cfg.values = .ok (ls, ui) ∧
      (∀ l ∈ ls, startable handled l = true ∧ l.addr ≠ []) ∧
      (∀ l, ui = some l → startable handled l = true ∧ l.addr ≠ []) := by
  have hex := (loadModel_accepted unq atoi _ flags s cfg h).1
  unfold listenExtra at hex
  generalize cfg.values = vals at hex ⊢
  cases hl : listenersOf unq X vals with
  | error e => rw [hl] at hex; cases hex
  | ok r =>
    have hok := fun l hl' => (listenersOf_ok unq X vals r.1 r.2 hl l hl').elim fun m hm =>
      accepted_listener_runnable _ handled hsub m l hm
    exact ⟨r.1, r.2, rfl, fun l hl' => hok l (.inl hl'), fun l e => hok l (.inr e)⟩

/-- the inclusion is needed: with a switch that lacks a case, an accepted listener reaches the fatal default -/
theorem missing_case_not_startable :
    startable ["http".toList, "https".toList] { addr := ":1".toList, proto := "grpc".toList, cs := [] } = false := by
  simp only [toList_lit rfl]; decide +kernel

section Examples
def envEx : ListenEnv :=
  { addrOf := fun a => some a, fieldOK := fun _ v => v = "1s".toList, csNames := ["mycs".toList] }
def extEx : ListenExt := { addrOf := fun a => some a, fieldOK := fun _ v => v = "1s".toList }
def flagsEx : List (Str × Str) :=
  [("proxy.strategy".toList, "rnd".toList), ("proxy.matcher".toList, "prefix".toList),
   ("ui.access".toList, "rw".toList), ("ui.addr".toList, ":9998".toList), ("proxy.addr".toList, ":9999".toList),
   ("proxy.cs".toList, []), ("glob.cache.size".toList, "1000".toList)]
def atoiEx (s : Str) : Int := (atoiDec s).getD 0

/-- One evaluation for the examples below, which are its projections: an evaluation decodes the string constants of the
model once per declaration. -/
theorem listen_vectors :
    parseListenM envEx [([], ":1234".toList)] = .ok { addr := ":1234".toList, proto := "http".toList, cs := [] } ∧
    parseListenM envEx [([], ":1".toList), ("cs".toList, "mycs".toList)] =
      .ok { addr := ":1".toList, proto := "https".toList, cs := "mycs".toList } ∧
    parseListenM envEx [("cs".toList, "mycs".toList), ([], ":1".toList), ("proto".toList, "tcp".toList)] =
      parseListenM envEx [("proto".toList, "tcp".toList), ("cs".toList, "mycs".toList), ([], ":1".toList)] ∧
    parseListenM envEx [([], ":1".toList), ("proto".toList, "HTTP".toList)] = .error (.field "proto".toList) ∧
    parseListenM envEx [([], ":1".toList), ("proto".toList, "http ".toList)] = .error (.field "proto".toList) ∧
    parseListenM envEx [([], ":1".toList), ("proto".toList, "https".toList)] = .error .protoNeedsCs ∧
    parseListenM envEx [([], ":1".toList), ("proto".toList, "grpc".toList), ("cs".toList, "mycs".toList)] =
      .error .csNeedsTLSProto ∧
    parseListenM envEx [("proto".toList, "tcp".toList)] = .error .needAddr ∧
    parseListenM envEx [([], ":1".toList), ("addr".toList, ":2".toList)] = .error .twoAddrs ∧
    parseListenM envEx [([], ":1".toList), ("rt".toList, "x".toList)] = .error (.field "rt".toList) ∧
    ((loadModel unquote atoiEx (listenExtra unquote extEx (fun _ => none)) flagsEx
      { cmd := [("proxy.addr".toList, ":1;cs=a,:2;proto=grpc".toList), ("proxy.cs".toList, "cs=a;type=file".toList)],
        environ := [], prefixes := [], props := none }).map (·.map (fun c => listenersOf unquote extEx c.values)))
      = .ok (.ok (.ok ([{ addr := ":1".toList, proto := "https".toList, cs := "a".toList },
                        { addr := ":2".toList, proto := "grpc".toList, cs := [] }],
                       some { addr := ":9998".toList, proto := "http".toList, cs := [] }))) ∧
    ((loadModel unquote atoiEx (listenExtra unquote extEx (fun _ => none)) flagsEx
      { cmd := [], environ := ["fabio_proxy_addr=:1;proto=HTTP".toList], prefixes := ["FABIO_".toList, []], props := none }).map
        (·.map (fun _ => ()))) = .ok (.error (.other "listener".toList)) ∧
    parseListenersM envEx [[([], ":1".toList)], [([], ":2".toList), ("proto".toList, "grpc".toList)]] =
      .ok [{ addr := ":1".toList, proto := "http".toList, cs := [] }, { addr := ":2".toList, proto := "grpc".toList, cs := [] }] := by
  unfold envEx flagsEx; simp only [toList_lit rfl]; decide +kernel

example : parseListenM envEx [([], ":1234".toList)] = .ok { addr := ":1234".toList, proto := "http".toList, cs := [] } := listen_vectors.1
example : parseListenM envEx [([], ":1".toList), ("cs".toList, "mycs".toList)] =
    .ok { addr := ":1".toList, proto := "https".toList, cs := "mycs".toList } := listen_vectors.2.1
/-- the order of `cs` and `proto` does not matter -/
example : parseListenM envEx [("cs".toList, "mycs".toList), ([], ":1".toList), ("proto".toList, "tcp".toList)] =
    parseListenM envEx [("proto".toList, "tcp".toList), ("cs".toList, "mycs".toList), ([], ":1".toList)] := listen_vectors.2.2.1
/-- protocol names are case-sensitive and not trimmed: what `startServers` could not start is rejected -/
example : parseListenM envEx [([], ":1".toList), ("proto".toList, "HTTP".toList)] = .error (.field "proto".toList) := listen_vectors.2.2.2.1
example : parseListenM envEx [([], ":1".toList), ("proto".toList, "http ".toList)] = .error (.field "proto".toList) := listen_vectors.2.2.2.2.1
example : parseListenM envEx [([], ":1".toList), ("proto".toList, "https".toList)] = .error .protoNeedsCs := listen_vectors.2.2.2.2.2.1
example : parseListenM envEx [([], ":1".toList), ("proto".toList, "grpc".toList), ("cs".toList, "mycs".toList)] =
    .error .csNeedsTLSProto := listen_vectors.2.2.2.2.2.2.1
example : parseListenM envEx [("proto".toList, "tcp".toList)] = .error .needAddr := listen_vectors.2.2.2.2.2.2.2.1
example : parseListenM envEx [([], ":1".toList), ("addr".toList, ":2".toList)] = .error .twoAddrs := listen_vectors.2.2.2.2.2.2.2.2.1
example : parseListenM envEx [([], ":1".toList), ("rt".toList, "x".toList)] = .error (.field "rt".toList) := listen_vectors.2.2.2.2.2.2.2.2.2.1
/-- through `load`: a default configuration with two proxy listeners and a certificate source is accepted, its
listeners are what `listenersOf` says; one upper-case protocol name makes `load` reject the configuration -/
example : ((loadModel unquote atoiEx (listenExtra unquote extEx (fun _ => none)) flagsEx
    { cmd := [("proxy.addr".toList, ":1;cs=a,:2;proto=grpc".toList), ("proxy.cs".toList, "cs=a;type=file".toList)],
      environ := [], prefixes := [], props := none }).map (·.map (fun c => listenersOf unquote extEx c.values)))
    = .ok (.ok (.ok ([{ addr := ":1".toList, proto := "https".toList, cs := "a".toList },
                      { addr := ":2".toList, proto := "grpc".toList, cs := [] }],
                     some { addr := ":9998".toList, proto := "http".toList, cs := [] }))) := listen_vectors.2.2.2.2.2.2.2.2.2.2.1
example : ((loadModel unquote atoiEx (listenExtra unquote extEx (fun _ => none)) flagsEx
    { cmd := [], environ := ["fabio_proxy_addr=:1;proto=HTTP".toList], prefixes := ["FABIO_".toList, []], props := none }).map
      (·.map (fun _ => ()))) = .ok (.error (.other "listener".toList)) := listen_vectors.2.2.2.2.2.2.2.2.2.2.2.1

example : parseListenersM envEx [[([], ":1".toList)], [([], ":2".toList), ("proto".toList, "grpc".toList)]] =
    .ok [{ addr := ":1".toList, proto := "http".toList, cs := [] }, { addr := ":2".toList, proto := "grpc".toList, cs := [] }] :=
  listen_vectors.2.2.2.2.2.2.2.2.2.2.2.2
end Examples

end Fabio.Props.C15Listen
