import Fabio.Lemmas.C16Race
/-!
C16 — any number of callers racing for one backend's connection (`Model/C16Race.lean`).

`Props/C16.lean: race_outcomes` evaluates the 64 schedules of two callers.  Here: `n` callers, `n` arbitrary, any
schedule of any length, any pool to start from — by invariant (`Lemmas/C16Race.lean: J`), for the repaired
`Set`.  The stream `c16.race` runs 2–8 real goroutines against the real pool.
-/
namespace Fabio.Props.C16Race
open Fabio.Model.Route (Str)
open Fabio.Model.C16 Fabio.Model.C16.RaceN Fabio.Lemmas.C16 Fabio.Lemmas.C16Race
open Fabio.Model.C16.Race (TState isDone)

def reach (p0 : Pool) (next0 n : Nat) (k : Str) (sched : List Nat) : NState :=
  run true k (start p0 next0 n) sched

theorem reach_inv (p0 : Pool) (next0 n : Nat) (k : Str) (sched : List Nat)
    (hp : ∀ c, p0.find k = some c → c.id < next0) : J p0 next0 k (reach p0 next0 n k sched) :=
  j_run p0 next0 k _ sched (j_start p0 next0 n k hp)

/-- **No connection is left open outside the pool — for any number of concurrent callers, at every moment of
every schedule.** Every connection dialled in the race is the live pooled connection of the key, or has been
closed by `Set`, or is still held by the caller that dialled it and has its `Set` before it. -/
theorem raceN_no_orphans (p0 : Pool) (next0 n : Nat) (k : Str) (sched : List Nat)
    (hp : ∀ c, p0.find k = some c → c.id < next0) :
    orphans next0 (reach p0 next0 n k sched) = [] := by
  have inv := reach_inv p0 next0 n k sched hp
  unfold orphans
  rw [List.filter_eq_nil_iff]
  intro i hi hb
  simp only [Bool.and_eq_true, decide_eq_true_eq, Bool.not_eq_true'] at hb
  obtain ⟨⟨⟨h0, hpool⟩, hclosed⟩, hheld⟩ := hb
  rcases Acct.seen (inv.acct i h0 (List.mem_range.mp hi)) with h | h | h
  · rw [h] at hpool; cases hpool
  · rw [h] at hclosed; cases hclosed
  · rw [h] at hheld; cases hheld

/-- **Every caller that has returned holds the one live pooled connection**; in particular any two of them hold
the same one. -/
theorem raceN_all_share_the_pooled_connection (p0 : Pool) (next0 n : Nat) (k : Str) (sched : List Nat)
    (hp : ∀ c, p0.find k = some c → c.id < next0) :
    (∀ (j : Nat) (r : GetRes), (reach p0 next0 n k sched).ts[j]? = some (TState.done r) →
      ∃ c, (reach p0 next0 n k sched).pool.find k = some c ∧ c.shut = false ∧ r.conn? = some c.id) ∧
    (∀ (j j' : Nat) (r r' : GetRes), (reach p0 next0 n k sched).ts[j]? = some (TState.done r) →
      (reach p0 next0 n k sched).ts[j']? = some (TState.done r') → r.conn? = r'.conn? ∧ r.conn?.isSome = true) := by
  have inv := reach_inv p0 next0 n k sched hp
  refine ⟨inv.done, ?_⟩
  intro j j' r r' h h'
  obtain ⟨c, hc, _, e⟩ := inv.done j r h
  obtain ⟨c', hc', _, e'⟩ := inv.done j' r' h'
  rw [hc] at hc'; injection hc' with hc'; subst hc'
  exact ⟨e.trans e'.symm, by rw [e]; rfl⟩

/-- At most one dial per caller, the other keys of the pool are not touched, and pooled ids stay below the
dial counter. -/
theorem raceN_bounds (p0 : Pool) (next0 n : Nat) (k : Str) (sched : List Nat)
    (hp : ∀ c, p0.find k = some c → c.id < next0) :
    next0 ≤ (reach p0 next0 n k sched).next ∧ (reach p0 next0 n k sched).next ≤ next0 + n ∧
    (∀ k', k' ≠ k → (reach p0 next0 n k sched).pool.find k' = p0.find k') ∧
    (∀ c, (reach p0 next0 n k sched).pool.find k = some c → c.id < (reach p0 next0 n k sched).next) := by
  have inv := reach_inv p0 next0 n k sched hp
  refine ⟨inv.mono, ?_, inv.others, inv.pooled⟩
  have hl : (reach p0 next0 n k sched).ts.length = n := by
    unfold reach; rw [run_length]; simp [start]
  have := inv.budget
  rw [hl] at this; omega

/-- **Once all callers have returned**, every connection dialled in the race except the pooled one has been
closed: the backend is served by one connection, and when it leaves the table the cleanup finds and closes
that one (`dropped_once_removed`) — nothing else is open. -/
theorem raceN_done_all_but_one_closed (p0 : Pool) (next0 n : Nat) (k : Str) (sched : List Nat)
    (hp : ∀ c, p0.find k = some c → c.id < next0) (hd : allDone (reach p0 next0 n k sched) = true) :
    ∀ i, next0 ≤ i → i < (reach p0 next0 n k sched).next →
      (∃ c, (reach p0 next0 n k sched).pool.find k = some c ∧ c.id = i ∧ c.shut = false) ∨
      i ∈ (reach p0 next0 n k sched).closed :=
  fun i h0 h1 => Acct.of_allDone hd ((reach_inv p0 next0 n k sched hp).acct i h0 h1)

/-- all three callers dial before any of them stores -/
example :
    let s := reach [] 0 3 "k".toList [0, 1, 2, 0, 1, 2, 0, 1, 2]
    allDone s = true ∧ s.pool = [("k".toList, { id := 0 })] ∧ s.closed = [1, 2] ∧ s.next = 3 ∧
    s.ts = [.done (.dialled 0), .done (.reused 0), .done (.reused 0)] ∧ orphans 0 s = [] := by decide +kernel

example :
    let p0 : Pool := [("k".toList, { id := 0, shut := true }), ("other".toList, { id := 1 })]
    let s := reach p0 2 5 "k".toList [4, 4, 0, 1, 0, 3, 4, 1, 2, 0, 1, 3, 3, 7, 2]
    allDone s = true ∧ s.pool.find "k".toList = some { id := 2 } ∧ s.pool.find "other".toList = some { id := 1 } ∧
    s.closed = [3, 4, 5] ∧ orphans 2 s = [] := by decide +kernel

/-- with the original unconditional `Set` the statement fails for three callers as it does for two
(`Props/C16.lean: race_unfixed_orphan`): two connections stay open outside the pool -/
example :
    let s := run false "k".toList (start [] 0 3) [0, 1, 2, 0, 1, 2, 0, 1, 2]
    allDone s = true ∧ orphans 0 s = [0, 1] := by decide +kernel

end Fabio.Props.C16Race
