import Fabio.Props.C09Compose
import Fabio.Props.C03
import Fabio.Props.C12
import Fabio.Props.ServeHTTP
import Fabio.Props.System
/-!
System-level composition for the **tcp+sni** path: `SNIProxy.ServeTCP` as ONE function over the route
table, with every stage being the owning property's model —

  bufio `Peek(9)` / `ReadFull` (C09) → `clientHelloBufferSize`, `readServerName` (C10) → `Table.LookupHost` (C03) →
  `Target.AccessDeniedTCP` (C12, rules as `addTarget` leaves them) → dial → optional PROXY line → hello → copy (C09).

`sniSystem` is the composed model, in the statement order of `proxy/tcp/sni_proxy.go`: lookup, access, dial.
-/
namespace Fabio.Props.SystemTCP
open Fabio Fabio.Model Fabio.Model.C09 Fabio.Model.C09Compose
open Fabio.Model.Route (Table Target Route)
open Fabio.Model.C10 (Hello WellFormed FitsRecord sniOf record)

/-- what the tcp+sni proxy needs of the configuration: the picker, the address parsers `ProcessAccessRules` uses,
and the PROXY header a target asks for (`[]` without `pxyproto`) -/
structure Cfg where
  pick : Route → Target
  http : ServeHTTP.Cfg                 -- only `parsers` is read: the rules are the ones the HTTP path enforces
  proxyLine : Target → Bytes

/-- the server name as the string handed to `Lookup` -/
def nameStr (nm : Bytes) : List Char := ServeHTTP.chars nm

/-- `t := p.Lookup(host); if t == nil → return; if t.AccessDeniedTCP(in) → return` -/
def gate (cfg : Cfg) (t : Table) (peer : C12.TCPPeer) (nm : Bytes) : Option Target :=
  match C03.LookupHost cfg.pick t (nameStr nm) with
  | some (_, tg) => if C12.accessDeniedTCP (ServeHTTP.rulesOf cfg.http tg) peer then none else some tg
  | none => none

/-- the bytes `io.ReadFull` returns do not depend on routing (same device as `C09Compose.sniProxy`) -/
def helloOf (script : Script) : Bytes := (sniServe codeCopySrc true [] script).hello

/-- `SNIProxy.ServeTCP` over the route table -/
def sniSystem (cfg : Cfg) (t : Table) (peer : C12.TCPPeer) (script : Script) : SniRes :=
  match (lookedUp (helloOf script)).bind (gate cfg t peer) with
  | some tg => sniServe codeCopySrc true (cfg.proxyLine tg) script
  | none => sniServe codeCopySrc false [] script

/-- `sniSystem` is C09Compose's `sniProxy`: its table says yes to the names `gate` lets through, its PROXY line is that
of the target `gate` yields for the name in the hello -/
theorem sniSystem_eq_sniProxy (cfg : Cfg) (t : Table) (peer : C12.TCPPeer) (script : Script) :
    sniSystem cfg t peer script = sniProxy codeCopySrc (fun nm => (gate cfg t peer nm).isSome)
      ((((lookedUp (helloOf script)).bind (gate cfg t peer)).map cfg.proxyLine).getD []) script := by
  rw [Lemmas.C09Compose.sniProxy_eq, ← Lemmas.C09.sniServe_hello_eq codeCopySrc true [], ← helloOf]
  unfold sniSystem routedBy
  cases lookedUp (helloOf script) with
  | none => rfl
  | some nm =>
    rw [Option.bind_some]
    show _ = sniServe codeCopySrc (gate cfg t peer nm).isSome (((gate cfg t peer nm).map cfg.proxyLine).getD []) script
    cases gate cfg t peer nm <;> rfl

theorem sniSystem_cases (cfg : Cfg) (t : Table) (peer : C12.TCPPeer) (script : Script) :
    sniSystem cfg t peer script = sniServe codeCopySrc false [] script ∨
    ∃ nm ro tg, lookedUp (helloOf script) = some nm ∧ C03.LookupHost cfg.pick t (nameStr nm) = some (ro, tg) ∧
      C12.accessDeniedTCP (ServeHTTP.rulesOf cfg.http tg) peer = false ∧
      sniSystem cfg t peer script = sniServe codeCopySrc true (cfg.proxyLine tg) script := by
  cases hl : lookedUp (helloOf script) with
  | none => left; unfold sniSystem; rw [hl]; rfl
  | some nm =>
    cases hk : C03.LookupHost cfg.pick t (nameStr nm) with
    | none => left; unfold sniSystem gate; rw [hl]; simp only [Option.bind_some, hk]
    | some rt =>
      obtain ⟨ro, tg⟩ := rt
      cases hd : C12.accessDeniedTCP (ServeHTTP.rulesOf cfg.http tg) peer with
      | true => left; unfold sniSystem gate; rw [hl]; simp only [Option.bind_some, hk, hd, if_true]
      | false =>
        refine .inr ⟨nm, ro, tg, rfl, hk, hd, ?_⟩
        unfold sniSystem gate; rw [hl]; simp only [Option.bind_some, hk, hd, Bool.false_eq_true, if_false]

/-- A connection is tunnelled ONLY IF a server name was extracted from the buffered record, `LookupHost` found a route
stored under exactly that (lower-cased) name, the target's access rules admitted the peer, and then the upstream received
the target's PROXY line (if any) followed by the client's stream from its first byte (`line ++ streamOf script`). -/
theorem sni_tunnel_only_if (cfg : Cfg) (t : Table) (peer : C12.TCPPeer) (script : Script)
    (ht : (sniSystem cfg t peer script).stage = .tunnel) :
    ∃ nm ro tg, lookedUp (sniSystem cfg t peer script).hello = some nm ∧ nm ≠ [] ∧
      C03.LookupHost cfg.pick t (nameStr nm) = some (ro, tg) ∧
      ro ∈ t.get (lowerL (nameStr nm)) ∧ (tg ∈ ro.targets ∨ tg = cfg.pick ro) ∧
      C12.accessDeniedTCP (ServeHTTP.rulesOf cfg.http tg) peer = false ∧
      (sniSystem cfg t peer script).upstream = cfg.proxyLine tg ++ streamOf script := by
  rcases sniSystem_cases cfg t peer script with hsys | ⟨nm, ro, tg, hl, hk, hd, hsys⟩
  · rw [hsys] at ht
    exact absurd ht (Lemmas.C09.not_routed_no_tunnel _ _ _).1
  · rw [hsys] at ht ⊢
    obtain ⟨_, _, _, _, _, _, hpick⟩ := Fabio.Lemmas.C03.lookupRoutes_some hk
    refine ⟨nm, ro, tg, ?_, (Lemmas.C09Compose.lookedUp_eq_some_iff.1 hl).2, hk,
      (Props.C03.lookuphost_exact cfg.pick t _ hk).1, hpick, hd, Props.C09.upstream_prefix_sni_code _ script true ht⟩
    rw [Lemmas.C09.sniServe_hello_eq, ← Lemmas.C09.sniServe_hello_eq codeCopySrc true []]
    exact hl

/-- If whatever `LookupHost` finds for the extracted name denies the peer (or its address is unknown), nothing is written
upstream. `sni_denied_contacts_nobody` (every target the table can answer with, under any name, denies the peer) and
`sni_unrouted_contacts_nobody` (the table answers no name at all) are the two instances that do not mention the hello. -/
theorem sni_refused_contacts_nobody (cfg : Cfg) (t : Table) (peer : C12.TCPPeer) (script : Script)
    (href : ∀ nm ro tg, lookedUp (helloOf script) = some nm → C03.LookupHost cfg.pick t (nameStr nm) = some (ro, tg) →
      C12.accessDeniedTCP (ServeHTTP.rulesOf cfg.http tg) peer = true) :
    (sniSystem cfg t peer script).stage ≠ .tunnel ∧ (sniSystem cfg t peer script).upstream = [] := by
  rcases sniSystem_cases cfg t peer script with hsys | ⟨nm, ro, tg, hl, hk, hd, _⟩
  · rw [hsys]; exact Lemmas.C09.not_routed_no_tunnel codeCopySrc [] script
  · rw [href nm ro tg hl hk] at hd; cases hd

theorem sni_denied_contacts_nobody (cfg : Cfg) (t : Table) (peer : C12.TCPPeer) (script : Script)
    (hden : ∀ nm ro tg, C03.LookupHost cfg.pick t (nameStr nm) = some (ro, tg) →
      C12.accessDeniedTCP (ServeHTTP.rulesOf cfg.http tg) peer = true) :
    (sniSystem cfg t peer script).stage ≠ .tunnel ∧ (sniSystem cfg t peer script).upstream = [] :=
  sni_refused_contacts_nobody cfg t peer script fun nm ro tg _ hk => hden nm ro tg hk

theorem sni_unrouted_contacts_nobody (cfg : Cfg) (t : Table) (peer : C12.TCPPeer) (script : Script)
    (hno : ∀ nm, C03.LookupHost cfg.pick t (nameStr nm) = none) :
    (sniSystem cfg t peer script).stage ≠ .tunnel ∧ (sniSystem cfg t peer script).upstream = [] :=
  sni_refused_contacts_nobody cfg t peer script fun nm _ _ _ hk => nomatch (hno nm).symm.trans hk

/-- Every well-formed ClientHello `h` that fits a record and names a host for which the
table has a route whose target admits the peer; every continuation `s`; every script carrying `record h ++ s`
(any segmentation, any ending): the connection is tunnelled to that target, the name looked up is exactly
`sniOf h`, and the upstream receives the target's PROXY line (if any), the record, the continuation. -/
theorem sni_system_end_to_end (cfg : Cfg) (t : Table) (peer : C12.TCPPeer)
    (vMaj vMin : UInt8) (h : Hello) (hw : WellFormed h) (hf : FitsRecord h) (hne : sniOf h ≠ [])
    (ro : Route) (tg : Target) (hk : C03.LookupHost cfg.pick t (nameStr (sniOf h)) = some (ro, tg))
    (hadm : C12.accessDeniedTCP (ServeHTTP.rulesOf cfg.http tg) peer = false)
    (s : Bytes) (script : Script) (hs : streamOf script = record vMaj vMin h ++ s) :
    let r := sniSystem cfg t peer script
    r.stage = .tunnel ∧ r.hello = record vMaj vMin h ∧ lookedUp r.hello = some (sniOf h) ∧
      r.upstream = cfg.proxyLine tg ++ record vMaj vMin h ++ s := by
  have hg : gate cfg t peer (sniOf h) = some tg := by
    unfold gate; rw [hk]; simp only [hadm, Bool.false_eq_true, if_false]
  obtain ⟨hst, hhello, hlook, _, hup⟩ := Props.C09Compose.sni_end_to_end vMaj vMin h hw hf
    (fun nm => (gate cfg t peer nm).isSome) hne (by rw [hg]; rfl) (cfg.proxyLine tg) s script hs
  have hl : lookedUp (helloOf script) = some (sniOf h) := by
    rw [Lemmas.C09Compose.sniProxy_eq, Lemmas.C09.sniServe_hello_eq] at hlook
    rw [helloOf, Lemmas.C09.sniServe_hello_eq]
    exact hlook
  simp only
  rw [sniSystem_eq_sniProxy, hl, Option.bind_some, hg]
  exact ⟨hst, hhello, hlook, hup⟩

/-! ### … and behind the registry pipeline (C01 ∘ C14 ∘ C05): only healthy instances are dialled -/
section
open Fabio.Model.Route (Env)
open Fabio.Model.C05Spec (key newTarget)
open Fabio.Model.C01 Fabio.Model.C01Compose Fabio.Props.C01Compose
open Fabio.Model.C14 (intents wantDef)
open Fabio.Model.Parse (loadTable ParseFloat)
open Fabio.Lemmas.C14 (core)
variable (env : Env) (pf : ParseFloat) (ccfg : Fabio.Model.C14.Cfg) (st : List (List Char)) (strict : Bool)
variable (checks : List Check) (catalog : List Char → List Instance)

/-- On the service table of registry state R: a tcp+sni connection is
tunnelled only to a target that is the `route add` of a routing tag of an instance eligible (healthy) in R, stored
under the server name the client sent (lower-cased), whose access rules admitted the peer. -/
theorem sni_tunnelled_only_to_eligible_instance (wf : WellFormed ccfg checks catalog) (t : Table)
    (hload : loadTable env pf (svcText env pf ccfg st strict checks catalog) = .ok t)
    (cfg : Cfg) (hpick : Props.C03.PickOK cfg.pick) (peer : C12.TCPPeer) (script : Script)
    (ht : (sniSystem cfg t peer script).stage = .tunnel) :
    ∃ nm ro tg, lookedUp (sniSystem cfg t peer script).hello = some nm ∧
      C03.LookupHost cfg.pick t (nameStr nm) = some (ro, tg) ∧
      C12.accessDeniedTCP (ServeHTTP.rulesOf cfg.http tg) peer = false ∧
      (sniSystem cfg t peer script).upstream = cfg.proxyLine tg ++ streamOf script ∧
      ∃ i, Eligible st strict checks catalog i ∧
        ∃ it ∈ intents ccfg (regOf i), ∃ d u, wantDef pf it = some d ∧ env.normURL d.dst = some u ∧
          key d.src = (lowerL (nameStr nm), ro.path) ∧ core tg = core (newTarget d u) := by
  obtain ⟨nm, ro, tg, hl, _, hk, hro, _, hadm, hup⟩ := sni_tunnel_only_if cfg t peer script ht
  exact ⟨nm, ro, tg, hl, hk, hadm, hup, Props.System.stored_target_eligible env pf ccfg st strict checks catalog wf hload hro
    (Props.C03.lookupRoutes_mem hpick hk).2.2⟩

end

/-! ### non-vacuity: C10's `exHello` ("example.com") against a table with an allow rule -/
namespace Demo
open Fabio.Props.C10 (exHello exName)

def tgW : Target :=
  { service := "tls".toList, tags := [], opts := [("allow".toList, "ip:10.0.0.0/8".toList), ("pxyproto".toList, "true".toList)],
    url := "tcp://10.9.9.9:443".toList, fixedWeight := 0 }

def tableW : Table := [("example.com".toList, [{ host := "example.com".toList, path := "/".toList, targets := [tgW] }])]

def cfgW : Cfg :=
  { pick := fun r => match r.targets with | x :: _ => x | [] => tgW,
    http := Props.ServeHTTP.Demo.cfg,
    proxyLine := fun tg => if (tg.opts.lookup "pxyproto".toList) = some "true".toList then "PROXY TCP4 10.1.2.3 10.0.0.1 5555 443\r\n".toUTF8.toList else [] }

def inside : C12.TCPPeer := .addr (C12.Parse.goParsers.parseIP "10.1.2.3".toList)
def outside : C12.TCPPeer := .addr (C12.Parse.goParsers.parseIP "192.168.0.7".toList)

/-- what `sni_system_end_to_end` asks of table and peer, evaluated once: the route found for `exHello`'s name, and its
access rules on both peers -/
theorem gateW : sniOf exHello ≠ [] ∧
    C03.LookupHost cfgW.pick tableW (nameStr (sniOf exHello)) =
      some ({ host := "example.com".toList, path := "/".toList, targets := [tgW] }, tgW) ∧
    C12.accessDeniedTCP (ServeHTTP.rulesOf cfgW.http tgW) inside = false ∧
    C12.accessDeniedTCP (ServeHTTP.rulesOf cfgW.http tgW) outside = true := by
  simp only [cfgW, tableW, tgW, inside, outside, Props.ServeHTTP.Demo.cfg, toList_lit rfl]
  decide +kernel

/-- hello split across two segments, trailing bytes with its tail: admitted peer ⇒ tunnel with PROXY line, hello, rest -/
example :
    let rec_ := record 3 1 exHello
    let script : Script := [.chunk (rec_.take 40), .chunk (rec_.drop 40 ++ [0xAA, 0xBB]), .chunk [0xCC], .eof]
    (sniSystem cfgW tableW inside script).stage = .tunnel ∧
    (sniSystem cfgW tableW inside script).upstream = cfgW.proxyLine tgW ++ rec_ ++ [0xAA, 0xBB, 0xCC] := by
  intro rec_ script
  have h := sni_system_end_to_end cfgW tableW inside 3 1 exHello Props.C10.exHello_wf Props.C10.exHello_fits gateW.1 _ _
    gateW.2.1 gateW.2.2.1 [0xAA, 0xBB, 0xCC] script (by
      simp only [script, rec_, streamOf, List.append_nil, List.append_assoc]
      rw [← List.append_assoc, List.take_append_drop]; rfl)
  exact ⟨h.1, h.2.2.2⟩

/-- the same hello from a peer outside the allow block: nothing is written upstream -/
example : (sniSystem cfgW tableW outside [.chunk (record 3 1 exHello ++ [7, 8]), .chunk [9]]).stage = .noRoute ∧
    (sniSystem cfgW tableW outside [.chunk (record 3 1 exHello ++ [7, 8]), .chunk [9]]).upstream = [] := by
  simp only [cfgW, tableW, tgW, outside, Props.ServeHTTP.Demo.cfg, toList_lit rfl]
  decide +kernel

/-- the hypotheses of `sni_system_end_to_end` hold here -/
example : WellFormed exHello ∧ FitsRecord exHello ∧ sniOf exHello ≠ [] ∧
    (C03.LookupHost cfgW.pick tableW (nameStr (sniOf exHello))).isSome = true ∧
    C12.accessDeniedTCP (ServeHTTP.rulesOf cfgW.http tgW) inside = false ∧
    C12.accessDeniedTCP (ServeHTTP.rulesOf cfgW.http tgW) outside = true :=
  ⟨Props.C10.exHello_wf, Props.C10.exHello_fits, gateW.1, by rw [gateW.2.1]; rfl, gateW.2.2⟩

end Demo

end Fabio.Props.SystemTCP
