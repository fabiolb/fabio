import Fabio.Generated.C05
import Fabio.Model.Parse
/-!
C05 — OBLIGATIONS over the facts regenerated from `/repo` on every run (`tools/factgen/c05.go`): statements the
proof chain needs and that no correspondence stream can establish by running the code. Each names the breaking
change it is there to exclude. Everything that merely pins the shape of sequential code whose input/output
behaviour a stream compares with the model on every run lives in `C05Pins.lean` (change detectors).

The table commands, the rendering, `ParseAliases`, the option handling and the admin endpoint are sequential,
deterministic code driven in-process by the six streams: nothing about them is an obligation. Two things remain.
-/
namespace Fabio.Props.C05Facts
open Fabio Fabio.Generated.C05 Fabio.Model.Parse

/-- The regular expressions the tokenizer of `Model/Parse.lean` re-expresses, one per tokenizer function:
`isComment`, `isBlank`, the three dispatch heads (`head kAdd|kDel|kWeight`), `matchAdd`, `matchDel`,
`matchDelSvcTags`, `matchDelTags`, `matchWeightSvc`, `matchWeightSrc` (flexible-space replacement applied). The
argument that Go's leftmost-first backtracking has at most one successful path on them — every `\s+`/`\S+` is
followed by something of the other class, every optional group starts with `\s+` and a distinct keyword — was made
for exactly these sources. -/
def grammarSources : List String :=
  ["match:^(#|//)", "match:^\\s*$",
   "match:^route\\s+add", "match:^route\\s+del", "match:^route\\s+weight",
   "find:^route\\s+add\\s+(\\S+)\\s+(\\S+)\\s+(\\S+)(\\s+weight\\s+(\\S+))?(\\s+tags\\s+\"([^\"]*)\")?(\\s+opts\\s+\"([^\"]*)\")?$",
   "find:^route\\s+del\\s+(\\S+)(\\s+(\\S+)(\\s+(\\S+))?)?$",
   "find:^route\\s+del\\s+(\\S+)\\s+tags\\s+\"([^\"]*)\"$",
   "find:^route\\s+del\\s+tags\\s+\"([^\"]*)\"$",
   "find:^route\\s+weight\\s+(\\S+)\\s+(\\S+)\\s+weight\\s+(\\S+)(\\s+tags\\s+\"([^\"]*)\")?$",
   "find:^route\\s+weight\\s+(\\S+)\\s+weight\\s+(\\S+)\\s+tags\\s+\"([^\"]*)\"$"]

/-- `Parse` (the three command parsers followed, the compile helper evaluated) consults exactly the regular
expressions the tokenizer stands for — as a set; the order in which they are tried is a change detector.
Excludes: an edit to a regular expression. A regular expression denotes an infinite language of which the
streams see a sample: `[^"]*` → `.*?`, `(\S+)` → `([^\s"]+)` for one token, `\s+` → `\s*` before a keyword differ
from the pinned sources only on lines (a quote inside a token, a token that ends in a keyword) the generators
draw rarely or never, and the equivalence argument above would no longer be about the code. -/
theorem grammar_regexes_pinned :
    regexSources.all (grammarSources.contains ·) = true ∧ grammarSources.all (regexSources.contains ·) = true := by
  -- each source is found by syntactic identity (`beq_self_eq_true`): comparing two string literals by evaluation
  -- decodes both
  unfold regexSources grammarSources
  simp only [List.all_cons, List.all_nil, List.contains_cons, List.contains_nil, beq_self_eq_true, Bool.true_or,
    Bool.or_true, Bool.and_true, and_self]

/-- `Parse` carries no state from line to line: at most three variables live across iterations (the current
definition, the line counter, the scanner — besides the named results), the only `continue` is guarded by the
comment / blank-line regular expressions alone, and at most one `append` exists (the line's definition to the
result). This is what `parseLines` (a map over the lines) assumes.
Excludes: any memory of earlier lines — e.g. skipping a `route add` line byte-identical to an earlier one ("add is
idempotent") is wrong only after an intervening `del`/`weight` of that target, a coincidence random texts rarely
contain; the next such state may key on something else. -/
theorem parse_stateless :
    parseLoopCarriedVars ≤ 3 ∧ parseContinues ≤ 1 ∧
    parseContinueGuards.all (["g.MatchString(_) || g.MatchString(_)"].contains ·) = true ∧
    parseAppends.length ≤ 1 := by
  refine ⟨by decide, by decide, ?_, by decide⟩
  unfold parseContinueGuards
  simp only [List.all_cons, List.all_nil, List.contains_cons, List.contains_nil, beq_self_eq_true, Bool.true_or,
    Bool.and_true]

end Fabio.Props.C05Facts
