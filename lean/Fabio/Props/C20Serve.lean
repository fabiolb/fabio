import Fabio.Props.C20
import Fabio.Lemmas.C20Url
import Fabio.Lemmas.C20Serve
/-!
C20, second module: the URL fields against `net/url`, the event `ServeHTTP` hands to the logger, the two
headers whose value goes through the hand-written formatters, request ids.

Models: `Model/C20Url.lean` (net/url's `String`, `RequestURI`, `EscapedPath`), `Model/C20Serve.lean`
(`ServeHTTP` as far as the access log is concerned), `Model/C20Capture.lean`. Strings are byte strings
(`List Nat`, bytes `< 256`: `wellFormed`).
-/
namespace Fabio.Props.C20Serve
open Fabio Fabio.Model.C20Url Fabio.Model.C20Serve Fabio.Model.C20Capture

/-- Percent-encoding loses nothing: decoding `escape s` gives `s` back, in every mode `String()` uses. -/
theorem escape_roundtrip (mode : Mode) (s : Bytes) (wf : wellFormed s) : unescape (escape s mode) = some s :=
  Lemmas.C20Url.unescape_escape mode s wf

/-- The path that is logged decodes to the `Path` of the URL — whether `EscapedPath` keeps the client's own
encoding (`RawPath`) or encodes `Path` itself. -/
theorem logged_path_decodes (u : URL) (wf : wellFormed u.path) : unescape (escapedPath u) = some u.path := by
  rcases Lemmas.C20Url.escapedPath_cases u with ⟨h, _, hu⟩ | ⟨h, hp⟩ | h <;> rw [h]
  · exact hu
  · rw [hp]; decide
  · exact Lemmas.C20Url.unescape_escape .path u.path wf

/-- It consists of unreserved characters, `$ & + , / : ; = @ ! ' ( ) * [ ]` and `%` only. -/
theorem logged_path_alphabet (u : URL) (wf : wellFormed u.path) (wfr : wellFormed u.rawPath) :
    ∀ c ∈ escapedPath u, pathSafe c = true := by
  rcases Lemmas.C20Url.escapedPath_cases u with ⟨h, hv, _⟩ | ⟨h, _⟩ | h <;> rw [h]
  · exact Lemmas.C20Url.validEncoded_safe _ wfr hv
  · decide
  · exact Lemmas.C20Url.escape_path_safe _ wf

/-- No request path can put a blank, a quote, a backslash, a control byte, a newline, a byte above 126, a `?` or
a `#` into the path part of a URL field: it cannot break the log line or move the start of the query. -/
theorem logged_path_cannot_break_the_line (u : URL) (wf : wellFormed u.path) (wfr : wellFormed u.rawPath) :
    ∀ c ∈ escapedPath u, 33 ≤ c ∧ c ≤ 126 ∧ c ≠ 34 ∧ c ≠ 63 ∧ c ≠ 35 ∧ c ≠ 92 := by
  intro c hc
  exact Lemmas.C20Url.pathSafe_printable c (logged_path_alphabet u wf wfr c hc)

/-- `RequestURI()` of a URL without an opaque part: the escaped path (`/` for the empty one), then `?query`
if there is a query or the client sent an empty one. -/
theorem request_uri_shape (u : URL) (h : u.opaq = []) :
    requestURI u = (if escapedPath u = [] then [47] else escapedPath u) ++ queryPart u := by
  simp [requestURI, h]

/-- For a URL with scheme, host, absolute path and query only (`ProxyForm`, a hypothesis here), `String()` is
`scheme://` + the escaped host + `RequestURI()`: `$upstream_request_url` against `$upstream_request_uri`. -/
theorem url_is_authority_plus_request_uri (u : URL) (h : Lemmas.C20Url.ProxyForm u) :
    urlString u = u.scheme ++ [58, 47, 47] ++ escape u.host .host ++ requestURI u := by
  have hp : escapedPath u ≠ [] := by
    intro hn; have := h.absPath; rw [hn] at this; simp at this
  have hs0 : (u.scheme ++ [58] : Bytes) ≠ [] := by simp
  rw [request_uri_shape u h.opaq]
  simp [urlString, authority, h.scheme, h.host, h.opaq, h.user, h.fragment, h.absPath, hp]

example : urlString { scheme := b "http", host := b "foo.com", path := b "/docs/annual report.pdf", rawQuery := b "q=1" }
    = b "http://foo.com/docs/annual%20report.pdf?q=1" := by
  simp only [b, toList_lit rfl]
  decide +kernel
example : escapedPath { path := b "/a/b c", rawPath := b "/a%2Fb%20c" } = b "/a%2Fb%20c" := by
  simp only [b, toList_lit rfl]
  decide +kernel
example : escapedPath { path := b "/a/b", rawPath := b "/x" } = b "/a/b" := by      -- RawPath of another path: ignored
  simp only [b, toList_lit rfl]
  decide +kernel
example : requestURI { path := b "/foo", forceQuery := true } = b "/foo?" := by
  simp only [b, toList_lit rfl]
  decide +kernel
example : unescape (b "/caf%C3%A9") = some (b "/caf" ++ [195, 169]) := by
  simp only [b, toList_lit rfl]
  decide +kernel
example : Lemmas.C20Url.ProxyForm { scheme := b "http", host := b "h", path := b "/x y" } :=
  ⟨by decide +kernel, by decide +kernel, rfl, rfl, rfl, by decide +kernel⟩

/-- An event is built exactly when the request was handed to the upstream handler — a route was found, it is
neither denied, unauthorized nor a redirect, the remote address has a port — and that handler wrote a status. -/
theorem event_iff_handled (cfg : Cfg) (r : Req) (t : Target) (id : Bytes) (ops : List RWOp) :
    (∃ e, serveOps cfg r (some t) id ops = .logged e) ↔
      (t.denied = false ∧ t.authorized = true ∧ t.redirect = false ∧ splitHostPortOk r.remoteAddr = true ∧
        ((statuses ops).getLast?).getD 0 ≠ 0) := by
  simp only [Lemmas.C20Serve.serveOps_logged_iff, ← (Lemmas.C20Capture.captureRun_spec true ops).2.2, exists_and_left,
    exists_eq, and_true]

theorem no_route_no_event (cfg : Cfg) (r : Req) (id : Bytes) (ops : List RWOp) :
    serveOps cfg r none id ops = .noRoute := by simp [serveOps]

/-- What the event says about the response is what the client connection got: the status of the last
`WriteHeader` the handler made (every one of them was passed on) and the bytes the connection accepted. -/
theorem event_status_and_size (cfg : Cfg) (r : Req) (t : Target) (id : Bytes) (ops : List RWOp) (e : LogEvent)
    (h : serveOps cfg r (some t) id ops = .logged e) :
    e.status = ((statuses ops).getLast?).getD 0 ∧ e.size = accepted ops ∧
    (captureRun true ops).forwarded = visible true ops := by
  rw [Lemmas.C20Serve.logged_eq cfg r t id ops e h]
  have := Lemmas.C20Capture.captureRun_spec true ops
  exact ⟨this.2.2, this.2.1, this.1⟩

/-- Through the reverse proxy: the upstream's final status (not an informational one before it) and the length
of its body. -/
theorem event_of_upstream_response (cfg : Cfg) (r : Req) (t : Target) (id : Bytes) (info : List Nat) (st : Nat)
    (chunks : List Nat) (e : LogEvent) (h : serve cfg r (some t) id (.response info st chunks) = .logged e) :
    e.status = st ∧ e.size = chunks.sum := by
  have := event_status_and_size cfg r t id _ e h
  rw [Lemmas.C20Serve.statuses_upstream, Lemmas.C20Serve.accepted_upstream] at this
  exact ⟨this.1, this.2.1⟩

/-- After a transport error: the error handler's status and no body. -/
theorem event_of_upstream_error (cfg : Cfg) (r : Req) (t : Target) (id : Bytes) (err : UpErr) (e : LogEvent)
    (h : serve cfg r (some t) id (.error err) = .logged e) : e.status = errStatus err ∧ e.size = 0 := by
  have := event_status_and_size cfg r t id _ e h
  simpa [upstreamOps, statuses, accepted] using And.intro this.1 this.2.1

/-- The request URL of the event is the client's: host, path, the client's encoding of the path, query and
"empty query" as they arrived; the upstream address is the host of the very URL logged as upstream URL. -/
theorem event_urls (cfg : Cfg) (r : Req) (t : Target) (id : Bytes) (ops : List RWOp) (e : LogEvent)
    (h : serveOps cfg r (some t) id ops = .logged e) :
    e.requestURL.host = r.host ∧ e.requestURL.path = r.url.path ∧ e.requestURL.rawPath = r.url.rawPath ∧
    e.requestURL.forceQuery = r.url.forceQuery ∧ e.requestURL.rawQuery = r.url.rawQuery ∧
    e.upstreamAddr = e.upstreamURL.host ∧ e.upstreamURL.host = t.host ∧ e.upstreamURL.scheme = t.scheme ∧
    e.upstreamService = t.service := by
  rw [Lemmas.C20Serve.logged_eq cfg r t id ops e h]
  simp [Lemmas.C20Serve.theEvent, requestURL, targetURL]

/-- With a request id header configured the event's request carries the id that was generated for it. -/
theorem event_request_id (cfg : Cfg) (r : Req) (t : Target) (id : Bytes) (ops : List RWOp) (e : LogEvent)
    (hid : cfg.requestID ≠ []) (h : serveOps cfg r (some t) id ops = .logged e) :
    hget e.header (canonKey true cfg.requestID) = id := by
  rw [Lemmas.C20Serve.logged_eq cfg r t id ops e h]
  simp [Lemmas.C20Serve.theEvent, withRequestID, hid, Lemmas.C20Serve.hget_hset]

example : ∃ e, serve {} { remoteAddr := b "1.2.3.4:5", host := b "foo.com", url := { path := b "/a/b", rawPath := b "/a%2Fb" } }
    (some { scheme := b "http", host := b "backend" }) [] (.response [103] 404 [13]) = .logged e ∧
    e.status = 404 ∧ e.size = 13 ∧ e.upstreamAddr = b "backend" ∧ urlString e.requestURL = b "http://foo.com/a%2Fb" ∧
    requestURI e.upstreamURL = b "/a%2Fb" := by
  simp only [b, toList_lit rfl]
  exact ⟨_, rfl, by decide +kernel⟩
example : serve {} { remoteAddr := b "1.2.3.4" } (some {}) [] (.response [] 200 []) = .badRemote := by decide +kernel

/-!
"Logging never … alters the response" includes how the response ENDS. When the upstream connection breaks after the
header and part of the body have been relayed, `httputil.ReverseProxy` gives up with `panic(http.ErrAbortHandler)`;
net/http then tears the client connection down, which is the only way the client can tell a cut body from a whole
one (a chunked body would otherwise be closed with a regular last chunk). The timing / metrics / logging code that
`ServeHTTP` runs around the handler must let that abort through. -/

/-- A request that reaches the handler and whose upstream breaks mid-body ends aborted — never as a completed
request, whatever the logger and the format are — and a request that is answered by the proxy itself is answered
exactly as with any other upstream behaviour. -/
theorem cut_upstream_aborts (cfg : Cfg) (r : Req) (t : Option Target) (id : Bytes) (info : List Nat) (st : Nat) (chunks : List Nat) :
    (reachedHandler (serveOps cfg r t id (upstreamOps (.cut info st chunks))) = true →
      serve cfg r t id (.cut info st chunks) = .aborted) ∧
    (reachedHandler (serveOps cfg r t id (upstreamOps (.cut info st chunks))) = false →
      serve cfg r t id (.cut info st chunks) = serve cfg r t id (.response info st chunks)) := by
  constructor
  · intro h; simp [serve, h]
  · intro h
    have e : upstreamOps (.cut info st chunks) = upstreamOps (.response info st chunks) := rfl
    simp only [serve, h]
    simp [e]

/-- No event (hence no line claiming a completed request) is ever built for a cut response. -/
theorem cut_upstream_never_logged (cfg : Cfg) (r : Req) (t : Option Target) (id : Bytes) (info : List Nat) (st : Nat)
    (chunks : List Nat) (e : LogEvent) : serve cfg r t id (.cut info st chunks) ≠ .logged e := by
  simp only [serve]
  generalize serveOps cfg r t id (upstreamOps (.cut info st chunks)) = x
  cases x <;> simp [reachedHandler]

example : serve {} { remoteAddr := b "1.2.3.4:5", host := b "foo.com", url := { path := b "/a" } }
    (some { scheme := b "http", host := b "backend" }) [] (.cut [] 200 [13]) = .aborted := by
  simp only [b, toList_lit rfl]
  decide +kernel
example : serve {} { remoteAddr := b "1.2.3.4:5" } none [] (.cut [] 200 [13]) = .noRoute := by decide +kernel

example : splitHostPortOk (b "[::1]:80") = true ∧ splitHostPortOk (b "::1") = false ∧ splitHostPortOk (b "a:b:c") = false := by
  simp only [b, toList_lit rfl]
  decide +kernel

/-- `Strict-Transport-Security`: `max-age=` + the decimal digits (`Nat.repr`) of the configured max-age — of the
largest int32 when the configured `int` is larger —, then the directives. Never a sign, never a wrapped number. -/
theorem sts_value (cfg : Cfg) (h : 0 < cfg.stsMaxAge) :
    stsHeader true cfg = some (.ok ("max-age=".toList ++ (Nat.repr (min cfg.stsMaxAge 2147483647).toNat).toList ++
      (if cfg.stsSubdomains then "; includeSubdomains".toList else []) ++ (if cfg.stsPreload then "; preload".toList else []))) := by
  open Fabio.Model.C20 in
  unfold stsHeader
  have hc : (true = true ∧ cfg.stsMaxAge > 0) := ⟨rfl, h⟩
  rw [if_pos hc]
  have hn : (if cfg.stsMaxAge > 2147483647 then (2147483647 : Int) else cfg.stsMaxAge) = min cfg.stsMaxAge 2147483647 := by
    split <;> omega
  have hpos : ¬ (min cfg.stsMaxAge 2147483647 < 0) := by omega
  simp only [hn]
  rw [Props.C20.i32toa_eq_decimal _ (by omega) (by omega)]
  simp only [Outcome.map, Spec.itoa, Spec.decimal, hpos, if_false, List.nil_append, Spec.zpad]
  have hab : (min cfg.stsMaxAge 2147483647).natAbs = (min cfg.stsMaxAge 2147483647).toNat := by omega
  rw [hab, Nat.zero_sub, Nat.toList_repr]
  rfl

/-- Before the repair (e4a57ff) the value went through `int32(maxAge)`: the statement above without the `min`
is false for the code as it was, e.g. 3000000000 ↦ `max-age=-1294967296`. Kept as the replayed corpus case of
`c20.serve`. -/
example : stsHeader true { stsMaxAge := 3000000000, stsSubdomains := true } = some (.ok "max-age=2147483647; includeSubdomains".toList) := by
  simp only [stsHeader, ↓reduceIte, toList_lit rfl]
  decide +kernel
example : stsHeader true { stsMaxAge := 31536000 } = some (.ok "max-age=31536000".toList) := by
  simp only [toList_lit rfl]
  decide +kernel
example : stsHeader false { stsMaxAge := 31536000 } = none := by decide +kernel

/-- the TLS parameters of `Forwarded`: a name from the table for SSL 3.0 … TLS 1.2, otherwise `0x` + four hex
digits (`Nat.toDigits 16`), for every uint16 version and cipher suite -/
theorem forwarded_tls_value (t : TLSState) (hv : t.version < 65536) (hc : t.cipher < 65536) :
    forwardedTLS t = .ok (
      (if t.version > 0 then "; tlsver=".toList ++ (match tlsverName t.version with
          | some n => n | none => Model.C20.Spec.hex4 t.version) else []) ++
      (if t.cipher ≠ 0 then "; tlscipher=".toList ++ Model.C20.Spec.hex4 t.cipher else [])) := by
  unfold forwardedTLS
  rw [Props.C20.uint16base16_eq_hex4 _ hv, Props.C20.uint16base16_eq_hex4 _ hc]
  cases hn : tlsverName t.version <;> by_cases h1 : t.version > 0 <;> by_cases h2 : t.cipher ≠ 0 <;>
    simp [h1, h2, Outcome.bind, Outcome.map]

example : forwardedTLS { version := 0x0304, cipher := 0x1301 } = .ok "; tlsver=0x0304; tlscipher=0x1301".toList := by
  unfold forwardedTLS tlsverName Model.C20.uint16base16 Model.C20.digit16
  simp only [toList_lit rfl]
  decide +kernel
example : forwardedTLS { version := 0x0303, cipher := 0 } = .ok "; tlsver=tls12".toList := by
  simp only [forwardedTLS, tlsverName, toList_lit rfl]
  decide +kernel

/-- `uuid.ToString` is injective on the 16 bytes it prints: two generator values that differ there give two
different request ids (`uuid.NewUUID` = `ToString(generator.Next())`; fastuuid changes the first 8 bytes from
one call to the next). -/
theorem uuid_text_injective (u v : List UInt8) (hu : u.length = 24) (hv : v.length = 24)
    (h : Model.C20.uuidToString u = Model.C20.uuidToString v) : u.take 16 = v.take 16 := by
  open Lemmas.C20 in
  rw [uuidToString_eq_layout u (by omega), uuidToString_eq_layout v (by omega)] at h
  apply List.ext_getElem (by simp [hu, hv])
  intro k h1 _
  have hk : k < 16 := by simp at h1; omega
  have := layout_char_inj u v (by injection h) k hk
  simpa [List.getD, List.getElem?_eq_getElem, show k < u.length by omega, show k < v.length by omega] using this

example : Model.C20.uuidToString ((List.range 24).map UInt8.ofNat) ≠ Model.C20.uuidToString (1 :: (List.range 23).map fun k => UInt8.ofNat (k + 1)) :=
  fun h => absurd (uuid_text_injective _ _ rfl rfl h) (by decide)

/-- Request ids never repeat within 2^64 requests: `uuid.NewUUID` renders the generator's counter (first eight
bytes, little endian) and the constant rest of its seed, and two different counter values give two different
texts. -/
theorem request_ids_distinct (seed : List UInt8) (hs : seed.length = 24) (x y : Nat)
    (hx : x < 18446744073709551616) (hy : y < 18446744073709551616) (hne : x ≠ y) :
    newUUID seed x ≠ newUUID seed y := by
  intro h
  unfold newUUID at h
  rw [Nat.mod_eq_of_lt hx, Nat.mod_eq_of_lt hy] at h
  have hl : ∀ z, (le64 z ++ seed.drop 8).length = 24 := by intro z; simp [le64, hs]
  have := uuid_text_injective _ _ (hl x) (hl y) h
  have h8 := congrArg (List.take 8) this
  simp [List.take_take, le64] at h8
  apply hne
  apply Lemmas.C20Serve.le64_inj x y hx hy
  simp [le64, h8]

example : newUUID ((List.range 24).map UInt8.ofNat) 0x0807060504030201 = .ok "01020304-0506-0708-0809-0a0b0c0d0e0f".toList := by
  rw [newUUID, Props.C20.uuid_format _ rfl]
  simp only [toList_lit rfl]
  decide +kernel

end Fabio.Props.C20Serve
