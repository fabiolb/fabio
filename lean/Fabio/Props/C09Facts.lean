import Fabio.Generated.C09
import Fabio.Model.C09
/-! Obligations over the facts regenerated from `/repo` on every run: the constants, event orders and call
arguments the C09 model silently depends on. The facts are events and roles, not source text
(`tools/factgen/c09.go`): the AST is normalised, same-package calls and local closures are followed, and variables
are named by role — `client` (the handler's connection), `upstream` (from the dial call), `bufreader` (from
`bufio.NewReader*`), `header` (result of `Peek`), `hello` (the buffer given to `io.ReadFull`), `hsbuf` (the
websocket handshake buffer) — so that renaming locals, extracting helpers or if ↔ switch leave them unchanged. -/
namespace Fabio.Props.C09Facts
open Fabio Fabio.Model.C09

/-- `copyBuffer` allocates `32*1024` bytes; the model's `copyBufSize` is that number. -/
theorem copy_buffer_size : Generated.C09.copyBufBytes = copyBufSize := rfl

/-- The copy loop: one loop; `Read` into the buffer, `Write` of exactly the bytes read, the counter gets the
bytes written; the tests the model has (byte counts, write error, short write, read error, EOF), the byte
count examined before the read error; the errors it can return are the write error, `io.ErrShortWrite` and
the read error. -/
theorem copy_loop_shape :
    Generated.C09.copyLoops = 1 ∧
    Generated.C09.copyCalls = ["src.Read(buf)", "dst.Write(buf[:nr])", "counter.Add(float64(nw))"] ∧
    Generated.C09.copyTests =
      ["cmp(counter,nil)", "cmp(er,io.EOF)", "cmp(er,nil)", "cmp(ew,nil)", "cmp(nr,nw)", "nr > 0", "nw > 0"] ∧
    Generated.C09.copyTestOrder = ["nr", "nw", "counter", "ew", "nr", "er"] ∧
    Generated.C09.copyResults = ["er", "ew", "io.ErrShortWrite"] :=
  ⟨rfl, rfl, rfl, rfl, rfl⟩

/-- `SNIProxy.ServeTCP`: a default-size `bufio.Reader` over the client connection, `Peek(9)`, the size from
the peeked header, `io.ReadFull` through the same reader, the parser on `hello[5:]`, lookup, dial, PROXY line
(which writes to the upstream), the hello, then the two concurrent copies — the client→upstream one reading
from the buffered reader (`codeCopySrc`); each reports on the error channel when it ends, the client→upstream
one after `CloseWrite` on the upstream and a wait for the client connection's `Done()` (see
`tunnel_teardown_mode`) — and one receive from the error channel. No other event. -/
theorem sni_call_order :
    Generated.C09.sniEvents =
      ["bufreader(client)", "peek(9)", "size(header)", "readfull(bufreader)", "parse(hello[5:])", "lookup",
       "dial", "proxyheader(upstream,client)", "write(upstream,other)", "write(upstream,hello)",
       "go copy client<-upstream", "go send",
       "go copy upstream<-bufreader", "upstream.CloseWrite()", "go wait(client.Done)", "go send", "recv"] ∧
    codeCopySrc = .buffered :=
  ⟨rfl, rfl⟩

/-- Plain TCP and tcp-dynamic: lookup(s) → dial → PROXY line → the two concurrent copies on the raw
connections → one receive; the websocket handler: hijack → dial → request relayed → handshake read (1024
bytes, 1 s read deadline) relayed to the client and checked for the `HTTP/1.1 101` prefix → deadline cleared →
the two concurrent copies → one receive. -/
theorem tcp_call_order :
    Generated.C09.tcpEvents =
      ["lookup", "dial", "proxyheader(upstream,client)", "write(upstream,other)",
       "go copy client<-upstream", "go send",
       "go copy upstream<-client", "upstream.CloseWrite()", "go wait(client.Done)", "go send", "recv"] ∧
    Generated.C09.dynEvents =
      ["lookup", "lookup", "dial", "proxyheader(upstream,client)", "write(upstream,other)",
       "go copy client<-upstream", "go send",
       "go copy upstream<-client", "upstream.CloseWrite()", "go wait(client.Done)", "go send", "recv"] ∧
    Generated.C09.wsEvents =
      ["hijack", "dial", "writeto(upstream)", "upstream.SetReadDeadline(now+d)", "read(upstream,1024)",
       "write(client,hsbuf)", "hasprefix(hsbuf,[]byte(\"HTTP/1.1 101\"))", "upstream.SetReadDeadline(zero)",
       "go copy upstream<-client", "upstream.CloseWrite()", "go return", "go send",
       "go copy client<-upstream", "go send", "recv"] :=
  ⟨rfl, rfl, rfl⟩

/-- The teardown rule of all four tunnels is mode `clientHalf` of the tunnel machine (`codeMode`): the error
channel has room for both results and the handler receives **once**; the upstream→client goroutine reports when its
copy ends; the client→upstream goroutine, when its copy has ended, calls `CloseWrite` on the upstream connection and
— in the tcp handlers — waits for the client connection's `Done()` before it reports (`upstream.CloseWrite()`,
`go wait(client.Done)`, `go send` in `sni_call_order`/`tcp_call_order`), in the websocket handler ends without
reporting (`go return` before its `go send`). So a client EOF alone never ends the tunnel: the receive is fed by the
end of the upstream→client direction, by an error, or — tcp handlers — by the client connection being closed
(`serverClose`). -/
theorem tunnel_teardown_mode :
    (Generated.C09.tcpErrcCap = 2 ∧ Generated.C09.tcpErrcReceives = 1) ∧
    (Generated.C09.sniErrcCap = 2 ∧ Generated.C09.sniErrcReceives = 1) ∧
    (Generated.C09.dynErrcCap = 2 ∧ Generated.C09.dynErrcReceives = 1) ∧
    (Generated.C09.wsErrcCap = 2 ∧ Generated.C09.wsErrcReceives = 1) ∧
    codeMode = .clientHalf :=
  ⟨⟨rfl, rfl⟩, ⟨rfl, rfl⟩, ⟨rfl, rfl⟩, ⟨rfl, rfl⟩, rfl⟩

/-- Who writes a PROXY line: the three tcp handlers (event `proxyheader` above; `dynWritesProxyHeader` is the
model's constant for tcp-dynamic), not the websocket handler. -/
theorem proxy_header_writers :
    Generated.C09.tcpWritesProxyHeader = true ∧ Generated.C09.sniWritesProxyHeader = true ∧
    Generated.C09.dynWritesProxyHeader = dynWritesProxyHeader ∧ Generated.C09.wsWritesProxyHeader = false :=
  ⟨rfl, rfl, rfl, rfl⟩

/-- `WriteProxyHeader` builds the line from these parts in this order, the family from the client
address alone, the addresses from the client connection's `RemoteAddr()` / `LocalAddr()` (the set of
`SplitHostPort` arguments, sorted; unexported helpers `WriteProxyHeader` calls are followed with their parameters
standing for the arguments). -/
theorem proxy_header_parts :
    Generated.C09.pxyHeaderParts =
      ["lit:PROXY ", "family", "lit: ", "clientAddr", "lit: ", "serverAddr", "lit: ", "clientPort", "lit: ",
       "serverPort", "lit:\r\n"] ∧
    Generated.C09.pxyFamily = ["TCP4 if net.ParseIP(clientAddr).To4() != nil", "TCP6 otherwise"] ∧
    Generated.C09.pxySplitArgs = ["client.LocalAddr().String()", "client.RemoteAddr().String()"] :=
  ⟨rfl, rfl, rfl⟩

/-- The socket contract the tunnel machine assumes (orderly close, writes without deadline) is not
disturbed by the code: these are all the socket-option, deadline and half-close calls (`SetLinger`,
`Set*Deadline`, `SetNoDelay`, `SetKeepAlive*`, `Set*Buffer`, `CloseWrite`, `CloseRead`) on every path from the
handlers — `copyBuffer` has none, the handlers only the `CloseWrite` on the upstream connection that passes the
client's EOF on (see `tunnel_teardown_mode`), the websocket handler besides that only bounds its handshake read
and clears that deadline before the copy phase — and the connection wrapper `Server.Serve` puts around accepted
connections sets per-call deadlines only under a configured `ReadTimeout`/`WriteTimeout`. -/
theorem no_socket_options_in_tunnel_handlers :
    Generated.C09.tcpSockOpts = ["upstream.CloseWrite()"] ∧ Generated.C09.sniSockOpts = ["upstream.CloseWrite()"] ∧
    Generated.C09.dynSockOpts = ["upstream.CloseWrite()"] ∧
    Generated.C09.copySockOpts = [] ∧ tunnelHandlersTouchSocketOptions = false ∧
    Generated.C09.wsSockOpts =
      ["upstream.SetReadDeadline(now+d)", "upstream.SetReadDeadline(zero)", "upstream.CloseWrite()"] ∧
    Generated.C09.serverSockOpts =
      ["Read: SetReadDeadline(now+recv.ReadTimeout) if recv.ReadTimeout > 0",
       "SetDeadline: SetDeadline(p0)", "SetReadDeadline: SetReadDeadline(p0)", "SetWriteDeadline: SetWriteDeadline(p0)",
       "Write: SetWriteDeadline(now+recv.WriteTimeout) if recv.WriteTimeout > 0"] :=
  ⟨rfl, rfl, rfl, rfl, rfl, rfl, rfl⟩

end Fabio.Props.C09Facts
