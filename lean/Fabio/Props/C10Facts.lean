import Fabio.Generated.C10
import Fabio.Model.C10
/-! Obligations over the facts regenerated from `/repo` on every run: what the proof chain needs and no stream can
establish by running the code, the data flow of `ServeTCP` (which reader is peeked, which is read, what is parsed,
that the lookup comes last). The shape of the two pure functions `clientHelloBufferSize` and `unmarshal` is what the
streams compare with the model on every run; its pins are change detectors, in `Props/C10Xlate.lean` (HOWTO,
"Obligations versus change detectors"). -/
namespace Fabio.Props.C10Facts
open Fabio Fabio.Model

/-- `Peek(9)` is the model's `peekLen`; `readServerName(buf[5:])` skips the record header. -/
theorem peek_pinned :
    Generated.C10.peekArg = C10.peekLen ∧ Generated.C10.recHdrSkip = C10.recHdrLen := ⟨rfl, rfl⟩

/-- `sni_reads_exact` at the code level, as data flow by role: ServeTCP wraps its connection in a
`bufio.Reader`, peeks 9 bytes, sizes the buffer with `clientHelloBufferSize` of exactly those, reads exactly
that many bytes with `io.ReadFull` from the same reader into that buffer, parses `buf[5:]` and only then looks
the resulting host up (this is `Model.C10.sniRoute`); `readServerName` hands its argument unchanged to the
parser. -/
theorem sni_reads_exact_calls : Generated.C10.serveTCPFlow =
    ["reader=bufio.NewReader(p0)", "hdr=reader.Peek(9)", "size=clientHelloBufferSize(hdr)", "buf=make([]byte,size)",
     "io.ReadFull(reader,buf)", "host=readServerName(buf[5:])", "_.Lookup(host)"] ∧
    Generated.C10.readServerNamePassesArgument = true := ⟨rfl, rfl⟩

end Fabio.Props.C10Facts
