import Fabio.Generated.C17
import Fabio.Model.C17
/-!
CHANGE DETECTORS for C17 (`"pins_module"` in checks/C17.json): the shape of the sequential, deterministic code of
`proxy/gzip/gzip_handler.go` whose input/output behaviour the correspondence streams compare with the model on
every run. When one of these stops building nothing is claimed broken — the streams run at the widened budget and
decide. Each statement names the streams that carry the tie. (The traces are canonical — see
`tools/factgen/c17.go` — so renaming, extracting/inlining unexported helpers, if/else ↔ switch ↔ early return
leave them unchanged.)
-/
namespace Fabio.Props.C17Pins
open Fabio Fabio.Model.C17
open Fabio.Generated.C17 Fabio.Xlate

/-- the header names, encodings and separators the model uses occur as literals — `c17.resp` (header names in
every casing, Accept/Accept-Encoding universes) -/
theorem literals_present :
    [hVary, hAccept, hAcceptEncoding, hContentEncoding, hContentType, hContentLength, encGzip,
     ",", ";", "=", "q", "Q", "text/event-stream"].all (fun l => stringLiterals.contains l) = true := by decide +kernel

/-- every header-name literal is already canonical, so the direct map index `Header()["Content-Type"]` in `Write`
and `Header().Get/Set/Del` talk about the same key — `c17.resp` (Content-Type set under `content-type`,
`CONTENT-TYPE`, then an implicit write) -/
theorem literals_canonical :
    (stringLiterals.filter (fun l => isPrefix "Accept".toList l.toList || isPrefix "Content-".toList l.toList ||
        l == "Vary")).all
      (fun k => canonKey k == k) = true := by decide +kernel

/-- the handler (`@2` = `acceptsGzip`) — `c17.resp` (HEAD, refused/absent Accept-Encoding), `c17.proxy` -/
theorem handler_trace_pinned :
    handlerTrace = ["c0.Header().Add(\"Vary\", \"Accept-Encoding\")",
      "@2 && c1.Method != http.MethodHead => defer NewGzipResponseWriter(c0, p1).Close()",
      "@2 && c1.Method != http.MethodHead => p0.ServeHTTP(NewGzipResponseWriter(c0, p1), c1)",
      "(!@2 || c1.Method == http.MethodHead) => p0.ServeHTTP(c0, c1)"] := by rfl

/-- `acceptsGzip` (`@2`, with `zeroWeight` = `@1`), `bodyAllowedForStatus` (`@3`) and `isCompressable` (`@4`) as
inlined — `c17.resp`, `c17.seq` (expressions that look at content type parameters), `c17.proxy` -/
theorem helpers_pinned :
    inlinedDefs = ["@1 = {range strings.Split(strings.Cut(elem(strings.Split(c1.Header.Get(\"Accept-Encoding\"), \",\")), \";\")#1, \";\") => strings.TrimSpace(strings.Cut(elem(strings.Split(strings.Cut(elem(strings.Split(c1.Header.Get(\"Accept-Encoding\"), \",\")), \";\")#1, \";\")), \"=\")#0); range strings.Split(strings.Cut(elem(strings.Split(c1.Header.Get(\"Accept-Encoding\"), \",\")), \";\")#1, \";\") && (strings.TrimSpace(strings.Cut(elem(strings.Split(strings.Cut(elem(strings.Split(c1.Header.Get(\"Accept-Encoding\"), \",\")), \";\")#1, \";\")), \"=\")#0) == \"q\" || strings.TrimSpace(strings.Cut(elem(strings.Split(strings.Cut(elem(strings.Split(c1.Header.Get(\"Accept-Encoding\"), \",\")), \";\")#1, \";\")), \"=\")#0) == \"Q\") => return strconv.ParseFloat(strings.TrimSpace(strings.Cut(elem(strings.Split(strings.Cut(elem(strings.Split(c1.Header.Get(\"Accept-Encoding\"), \",\")), \";\")#1, \";\")), \"=\")#1), 64)#1 == nil && strconv.ParseFloat(strings.TrimSpace(strings.Cut(elem(strings.Split(strings.Cut(elem(strings.Split(c1.Header.Get(\"Accept-Encoding\"), \",\")), \";\")#1, \";\")), \"=\")#1), 64)#0 == 0; return false}",
      "@2 = {range []string{\"text/event-stream\"} && strings.Contains(c1.Header.Get(\"Accept\"), elem([]string{\"text/event-stream\"})) => return false; range strings.Split(c1.Header.Get(\"Accept-Encoding\"), \",\") && strings.TrimSpace(strings.Cut(elem(strings.Split(c1.Header.Get(\"Accept-Encoding\"), \",\")), \";\")#0) == \"gzip\" => return !@1; return false}",
      "@3 = {return p0 != http.StatusNoContent && p0 != http.StatusNotModified}",
      "@4 = {recv.Header().Get(\"Content-Encoding\") == \"\" => return recv.F[*regexp.Regexp].MatchString(recv.Header().Get(\"Content-Type\")); recv.Header().Get(\"Content-Encoding\") != \"\" => return false}"] := by rfl

/-- `WriteHeader` (`recv.F[io.Writer] == nil` = undecided) — `c17.resp` (late calls, 1xx scripts, stale
Content-Length), `c17.seq`/`c17.pool` (a recycled writer that was not reset writes into the previous response) -/
theorem writeHeader_trace_pinned :
    writeHeaderTrace = ["p0 >= 100 && p0 <= 199 => recv.ResponseWriter.WriteHeader(p0)",
      "(p0 < 100 || p0 > 199) && recv.F[io.Writer] == nil && @3 && @4 => recv.Header().Del(\"Content-Length\")",
      "(p0 < 100 || p0 > 199) && recv.F[io.Writer] == nil && @3 && @4 => recv.Header().Set(\"Content-Encoding\", \"gzip\")",
      "(p0 < 100 || p0 > 199) && recv.F[io.Writer] == nil && @3 && @4 => recv.F[*gzip.Writer] = V[sync.Pool].Get().(*gzip.Writer)",
      "(p0 < 100 || p0 > 199) && recv.F[io.Writer] == nil && @3 && @4 => recv.F[*gzip.Writer].Reset(recv.ResponseWriter)",
      "(p0 < 100 || p0 > 199) && recv.F[io.Writer] == nil && @3 && @4 => recv.F[io.Writer] = recv.F[*gzip.Writer]",
      "(p0 < 100 || p0 > 199) && recv.F[io.Writer] == nil && (!@3 || !@4) => recv.F[io.Writer] = recv.ResponseWriter",
      "(p0 < 100 || p0 > 199) => recv.ResponseWriter.WriteHeader(p0)"] := by rfl

/-- `Write`: the sniffed Content-Type is filled in when the map has no such key (presence, not value) — `c17.resp`
(implicit writes with absent, empty and valueless Content-Type) -/
theorem write_trace_pinned :
    writeTrace = ["recv.F[io.Writer] == nil && !recv.Header()[\"Content-Type\"]#1 => recv.Header().Set(\"Content-Type\", http.DetectContentType(p0))",
      "recv.F[io.Writer] == nil => recv.WriteHeader(http.StatusOK)",
      "return recv.F[io.Writer].Write(p0)"] := by rfl

/-- `Close` as written (the order Close-then-Put is an obligation: `C17Facts.close_then_put`) — `c17.resp`,
`c17.pool` -/
theorem close_trace_pinned :
    closeTrace = ["recv.F[*gzip.Writer] != nil => recv.F[*gzip.Writer].Close()",
      "recv.F[*gzip.Writer] != nil => V[sync.Pool].Put(recv.F[*gzip.Writer])",
      "recv.F[*gzip.Writer] != nil => recv.F[*gzip.Writer] = nil"] := by rfl

/-- the writer's fields are stored to under `WriteHeader` only — and the gzip field is cleared by `Close` —, and their
types — `c17.resp` (decided once), `c17.fault` (a handler that calls `Close` itself) -/
theorem decision_stores_pinned :
    fieldStores = ["WriteHeader: F[*gzip.Writer]", "WriteHeader: F[io.Writer]", "WriteHeader: F[io.Writer]", "Close: F[*gzip.Writer]"] ∧
    writerFieldTypes = ["*gzip.Writer", "*regexp.Regexp", "io.Writer"] := ⟨rfl, rfl⟩

/-- the proxy installs the handler exactly when an expression is configured, with that expression — `c17.proxy`
(real `HTTPProxy.ServeHTTP` with and without the option, through the real `config.Load`) -/
theorem proxy_wraps_when_configured :
    proxyWrap = ["recv.Config.GZIPContentTypes != nil => gzip.NewGzipHandler(_, recv.Config.GZIPContentTypes)"] := by rfl

/-- the expression the streams use most is the documented one; the built-in default is "off" — `c17.proxy`
(empty option value) -/
theorem doc_pattern_pinned :
    docPattern = "^(text/.*|application/(javascript|json|font-woff|xml)|.*\\+(json|xml))(;.*)?$" ∧
    defaultSetsGzipPattern = false := ⟨rfl, rfl⟩

/-!
`Fabio.Generated.C17.XBodyAllowed` is produced on every run by the Go→Lean translator (`tools/factgen/xlate.go`) from
the current `proxy/gzip/gzip_handler.go`: it IS what `bodyAllowedForStatus` says now, and is proved equal — for every
status code — to the model's `bodyAllowedForStatus`. The streams carry the tie as well (`c17.resp`, `c17.proxy`:
statuses 204/304 and the others), hence a change detector. (`acceptsGzip`/`zeroWeight` are outside the translator's
subset: `strings.Split/Cut/TrimSpace/Contains`, `range` over a `[]string` result, `strconv.ParseFloat`, methods of
`http.Header`.) -/

/-- the translated source function was inside the translator's subset (no stub) -/
theorem bodyAllowed_in_subset : XBodyAllowed.translated = true := rfl

/-- For every status code the translated `bodyAllowedForStatus` returns — without panic —
what the model's function returns. -/
theorem bodyAllowed_translated (code : Nat) :
    XBodyAllowed.run { p0 := Int.ofNat code } = .ok (bodyAllowedForStatus code, { p0 := Int.ofNat code }) := by
  simp only [XBodyAllowed.run, Xlate.run, XBodyAllowed.body, Xlate.ret, bodyAllowedForStatus]
  congr 2
  -- comparing the status with a literal gives the same answer over `Int` as over `Nat`
  have hne : ∀ n : Nat, (Int.ofNat code != (n : Int)) = (code != n) := by
    intro n
    simp only [bne, Int.ofNat_eq_natCast]
    congr 1
    exact decide_eq_decide.mpr Int.ofNat_inj
  rw [show (204 : Int) = ((204 : Nat) : Int) from rfl, show (304 : Int) = ((304 : Nat) : Int) from rfl, hne, hne]

example : XBodyAllowed.run { p0 := 204 } = .ok (false, { p0 := 204 }) := bodyAllowed_translated 204
example : XBodyAllowed.run { p0 := 304 } = .ok (false, { p0 := 304 }) := bodyAllowed_translated 304
example : XBodyAllowed.run { p0 := 200 } = .ok (true, { p0 := 200 }) := bodyAllowed_translated 200

end Fabio.Props.C17Pins
