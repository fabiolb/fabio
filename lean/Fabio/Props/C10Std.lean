import Fabio.Model.C10Std
import Fabio.Lemmas.C10Std
import Fabio.Props.C10
/-!
C10 — agreement with a standard TLS server **for every byte string**, and the rest of `ServeTCP`.

`Props/C10.lean` states the first sentence of the property over the abstract `Hello` and its RFC encoding. Here
the other side of that sentence ("the name a standard TLS server receives from the same bytes") is a model of its
own (`Model/C10Std.lean`: `frame`, `stdName`, `stdServerName`, `stdRoute`, written over a vector reader in the
style of crypto/tls's parser), and the statements quantify over byte strings: whatever bytes a standard server
accepts as a ClientHello with name `n`, fabio's parser returns `n` for, and the proxy routes by `n`.
-/
namespace Fabio.Props.C10Std
open Fabio Fabio.Model.C10

/-- For every byte string that `frame` can take apart (all length-prefixed vectors nest exactly), fabio's
`unmarshal` is `fabioView` of the parts: same name, or the same rejection. -/
theorem unmarshal_factors (b : Bytes) (rh : RawHello) (h : frame b = some rh) : unmarshal b = fabioView rh :=
  Lemmas.C10.unmarshal_frame_some b rh h

/-
"It is rejected instead", read as "whatever a standard TLS server refuses, fabio refuses", is FALSE for the code
(`malformed_accepted_exception_*` below): inside a `server_name` extension fabio stops at the first `host_name`
and does not look at the rest of the list, it does not refuse duplicate extensions, empty names or a trailing dot.

theorem malformed_rejected_full (b : Bytes) (h : stdServerName 255 b = none) :
    readServerName b = .ok ([], false)
-/

/-- Malformed *framing* is rejected: a byte string whose vectors do not nest exactly (truncated anywhere but
behind the compression methods, a length that runs past its container, trailing bytes, an odd cipher-suite
vector, a dangling extension header, …) is refused by `readServerName` — whatever precedes the damage, in
particular a complete `server_name` extension. The hypothesis is the one the code forces: the damage must
concern the framing, not the inside of an extension body. -/
theorem malformed_rejected_partial (b : Bytes) (h : frame b = none) : readServerName b = .ok ([], false) :=
  Lemmas.C10.readServerName_of_reject (Lemmas.C10.unmarshal_frame_none b h)

/-- The same as a statement about what is accepted: every byte string fabio accepts is an exactly framed
ClientHello with a session id of at most 32 bytes, and the name is the lenient reading of its extensions. -/
theorem accepted_is_framed (b name : Bytes) (h : readServerName b = .ok (name, true)) :
    ∃ rh, frame b = some rh ∧ rh.sessionId.length ≤ 32 ∧ viewExts rh.extensions = .ok name := by
  have hu := Lemmas.C10.unmarshal_of_accepted h
  cases hf : frame b with
  | none =>
    have := Lemmas.C10.unmarshal_frame_none b hf
    rw [hu] at this; cases this
  | some rh =>
    have hv := Lemmas.C10.unmarshal_frame_some b rh hf
    rw [hu] at hv
    by_cases hs : rh.sessionId.length ≤ 32
    · rw [Lemmas.C10.fabioView_of_sid hs] at hv
      exact ⟨rh, rfl, hs, hv.symm⟩
    · rw [Lemmas.C10.fabioView_long (by omega)] at hv
      cases hv

/-- `frame` loses nothing: the parts it returns, written out again with their length prefixes
(`Lemmas.C10.reassemble`: fixed part, 8-bit session-id vector, 16-bit cipher-suite vector, 8-bit compression
vector, optional 16-bit extension block of `type, 16-bit body` entries), are the message, byte for byte; so every
byte string fabio accepts *is* such a concatenation (`accepted_is_reassembled`). -/
theorem framed_is_reassembled (b : Bytes) (rh : RawHello) (h : frame b = some rh) :
    Lemmas.C10.reassemble rh = b :=
  (Lemmas.C10.frame_iff.mp h).1

theorem accepted_is_reassembled (b name : Bytes) (h : readServerName b = .ok (name, true)) :
    ∃ rh, Lemmas.C10.reassemble rh = b ∧ rh.sessionId.length ≤ 32 ∧ viewExts rh.extensions = .ok name := by
  obtain ⟨rh, hf, hs, hv⟩ := accepted_is_framed b name h
  exact ⟨rh, framed_is_reassembled b rh hf, hs, hv⟩

/-- For **every byte string**: if the strict reader (RFC 5246/6066/8446: exact framing, session id ≤ 32,
extension types pairwise distinct, `server_name` with a non-empty list of non-empty names, at most one
`host_name`, no trailing dot) accepts it with server name `name` — `""` when there is no `server_name`
extension or no extension block —, then `readServerName` returns `(name, true)`. -/
theorem std_accepts_agree (b name : Bytes) (h : stdServerName 32 b = some name) :
    readServerName b = .ok (name, true) := by
  obtain ⟨rh, hf, hs⟩ := Lemmas.C10.stdServerName_some h
  exact Lemmas.C10.readServerName_of_ok
    (Lemmas.C10.std_agree_of_sid 32 b name rh hf hs (Lemmas.C10.stdName_sid _ _ _ hs))

/-- crypto/tls's own reading (`maxSid = 255`: its `unmarshal` does not bound the session id): for every byte
string it accepts with name `name`, fabio returns the same name — or the session id is longer than 32 bytes and
fabio rejects. That is the only disagreement on input the TLS stack accepts; such a hello is not well-formed
(RFC 5246 §7.4.1.2 `SessionID<0..32>`). -/
theorem tls_accepts_agree (b name : Bytes) (h : stdServerName 255 b = some name) :
    readServerName b = .ok (name, true) ∨
      (∃ rh, frame b = some rh ∧ 32 < rh.sessionId.length ∧ readServerName b = .ok ([], false)) := by
  obtain ⟨rh, hf, h⟩ := Lemmas.C10.stdServerName_some h
  by_cases hs : rh.sessionId.length ≤ 32
  · left
    exact Lemmas.C10.readServerName_of_ok (Lemmas.C10.std_agree_of_sid 255 b name rh hf h hs)
  · right
    refine ⟨rh, hf, by omega, ?_⟩
    have hv := Lemmas.C10.unmarshal_frame_some b rh hf
    rw [Lemmas.C10.fabioView_long (by omega)] at hv
    exact Lemmas.C10.readServerName_of_reject (by rw [hv]; rfl)

/-- At the proxy, for **every byte stream**: if a standard server accepts the client's first flight (one
handshake record of 1..16384 bytes, fully present, holding a complete ClientHello the strict reader accepts)
with server name `name`, the start of `ServeTCP` arrives at exactly that name. -/
theorem std_route_agree (s name : Bytes) (h : stdRoute s = some name) : sniRoute s = .ok name := by
  unfold stdRoute at h
  cases hm : firstMessage maxRecordLen s with
  | none => rw [hm] at h; cases h
  | some msg =>
    rw [hm] at h
    obtain ⟨rh, hf, hs⟩ := Lemmas.C10.stdServerName_some h
    exact Lemmas.C10.sniRoute_of_message _ s msg name rh hm hf hs (Lemmas.C10.stdName_sid _ _ _ hs)

/-- The same with crypto/tls's reading of the message (`stdServerName 255`: no bound on the session id, the
bodies of the other extensions opaque): if the first record holds a complete message which that reading accepts
with name `name`, and the session id has at most the 32 bytes RFC 5246 allows, `ServeTCP` arrives at `name`. -/
theorem tls_route_agree (s msg name : Bytes) (rh : RawHello) (hm : firstMessage maxRecordLen s = some msg)
    (hf : frame msg = some rh) (h : stdServerName 255 msg = some name) (hsid : rh.sessionId.length ≤ 32) :
    sniRoute s = .ok name := by
  rw [Lemmas.C10.stdServerName_of_frame hf] at h
  exact Lemmas.C10.sniRoute_of_message 255 s msg name rh hm hf h hsid

/-- The strict reader is not vacuous: it accepts the encoding of **every** well-formed hello (extension lists
of any length and sizes), with the hello's server name. Together with `std_accepts_agree` this is a second
route to `Props.C10.parse_encode`. -/
theorem std_encode (h : Hello) (hw : WellFormed h) : stdServerName 32 (encode h) = some (sniOf h) :=
  (Lemmas.C10.stdServerName_of_frame (Lemmas.C10.frame_encode h hw)).trans (Lemmas.C10.stdName_encode h hw)

/-- A standard server in front of the client's first flight (one record carrying a well-formed hello that fits it,
followed by anything) reads the hello's server name. -/
theorem std_route_record (vMaj vMin : UInt8) (h : Hello) (hw : WellFormed h) (hf : FitsRecord h) (rest : Bytes) :
    stdRoute (record vMaj vMin h ++ rest) = some (sniOf h) := by
  unfold stdRoute
  rw [Lemmas.C10.firstMessage_record vMaj vMin h hf rest]
  exact std_encode h hw

/-- **Truncated input, for every framed byte string** (not only the encodings of well-formed hellos), every bound on
the session id and every cut: a strict prefix is refused by the standard reader and by fabio alike, except the prefix that
ends behind the compression methods (`Lemmas.C10.cutOf`), which both read as the same message without its extension
block. -/
theorem truncated_framed (m : Nat) (b : Bytes) (rh : RawHello) (h : frame b = some rh) (k : Nat) (hk : k < b.length) :
    (k ≠ Lemmas.C10.cutOf rh →
      stdServerName m (b.take k) = none ∧ readServerName (b.take k) = .ok ([], false)) ∧
    (k = Lemmas.C10.cutOf rh →
      stdServerName m (b.take k) = stdName m { rh with extensions := none } ∧
      unmarshal (b.take k) = fabioView { rh with extensions := none }) := by
  have hp := Lemmas.C10.frame_prefix h k hk
  have hu := Lemmas.C10.unmarshal_prefix h k hk
  constructor
  · intro hne
    rw [if_neg hne] at hp hu
    exact ⟨by unfold stdServerName; rw [hp], Lemmas.C10.readServerName_of_reject hu⟩
  · intro he
    rw [if_pos he] at hp hu
    exact ⟨Lemmas.C10.stdServerName_of_frame hp, hu⟩

/-- **Truncated input: fabio and a standard server agree at every cut.** For a well-formed hello and every strict
prefix of its encoding, either both refuse it, or the cut is the one behind the compression methods and both read
it as a complete hello without extensions (name `""`) — the exception of `Props.C10.truncation_exception` is not
a disagreement with the TLS stack. -/
theorem truncation_agreement (h : Hello) (hw : WellFormed h) (k : Nat) (hk : k < (encode h).length) :
    (stdServerName 32 ((encode h).take k) = none ∧ readServerName ((encode h).take k) = .ok ([], false)) ∨
    (k = cutAfterCompression h ∧ stdServerName 32 ((encode h).take k) = some [] ∧
      readServerName ((encode h).take k) = .ok ([], true)) := by
  have ht := truncated_framed 32 _ _ (Lemmas.C10.frame_encode h hw) k hk
  rw [Lemmas.C10.cutOf_rawHello] at ht
  by_cases hc : k = cutAfterCompression h
  · obtain ⟨hs, hu⟩ := ht.2 hc
    -- the parts without the extension block: the session id is the hello's, so both readers answer `""`
    exact .inr ⟨hc, hs.trans (if_neg (Nat.not_lt.mpr hw.sessionId)),
      Lemmas.C10.readServerName_of_ok (hu.trans (Lemmas.C10.fabioView_of_sid hw.sessionId))⟩
  · exact .inl (ht.1 hc)

/-- `ServeTCP` never reaches a panic point before it dials, whatever the client sends. -/
theorem serve_no_panic (s : Bytes) (w : String) : serveTCP s ≠ .panic w := by
  rw [Lemmas.C10.serveTCP_eq]
  have := Props.C10.sniRoute_no_panic s
  cases hr : sniRoute s with
  | panic e => rw [hr] at this; cases this
  | reject e => simp
  | ok host => simp only; split <;> simp

/-- A standard server's non-empty name is the argument of `Lookup`; the bytes replayed to the upstream are the
first `bufSizeOf s` bytes of the stream, the rest stays in the reader. -/
theorem serve_std (s name : Bytes) (h : stdRoute s = some name) (hne : name ≠ []) :
    serveTCP s = .lookup name (s.take (bufSizeOf s)) (s.drop (bufSizeOf s)) := by
  rw [Lemmas.C10.serveTCP_eq, std_route_agree s name h]
  have : ¬ name.length = 0 := fun h0 => hne (List.eq_nil_of_length_eq_zero h0)
  simp only [if_neg this]

/-- "Empty when the extension is absent" at the proxy: a hello a standard server reads no name from is never
looked up (`server_name missing`). -/
theorem serve_std_no_name (s : Bytes) (h : stdRoute s = some []) : serveTCP s = .drop "server-name-missing" := by
  rw [Lemmas.C10.serveTCP_eq, std_route_agree s [] h]
  rfl

/-- Whenever `Lookup` is called: the host is non-empty and is `unmarshal` of the replayed bytes without the
record header; the replayed bytes and the rest are the stream, cut at the size computed from the first 9 bytes
(nothing lost, nothing duplicated, nothing beyond the first record buffered). -/
theorem serve_lookup_exact (s host hello rest : Bytes) (h : serveTCP s = .lookup host hello rest) :
    host ≠ [] ∧ hello ++ rest = s ∧ clientHelloBufferSize (s.take 9) = .ok hello.length ∧
      unmarshal (hello.drop 5) = .ok host := by
  rw [Lemmas.C10.serveTCP_eq] at h
  cases hr : sniRoute s with
  | panic e => rw [hr] at h; cases h
  | reject e => rw [hr] at h; cases h
  | ok nm =>
    rw [hr] at h
    simp only at h
    split at h
    · cases h
    rename_i hne
    simp only [Decision.lookup.injEq] at h
    obtain ⟨h1, h2, h3⟩ := h
    subst h1 h2 h3
    obtain ⟨n, hb, hn, hu⟩ := (Lemmas.C10.sniRoute_ok_iff s nm).mp hr
    rw [Lemmas.C10.bufSizeOf_of_ok hb]
    refine ⟨fun h0 => hne (by rw [h0]; rfl), List.take_append_drop n s, ?_, hu⟩
    rw [hb, List.length_take, Nat.min_eq_left hn]

/-- A connection that ends before the announced record is complete is dropped without a lookup. -/
theorem serve_truncated (vMaj vMin : UInt8) (h : Hello) (hf : FitsRecord h) (k : Nat)
    (hk : k < (record vMaj vMin h).length) : ∃ site, serveTCP ((record vMaj vMin h).take k) = .drop site := by
  rw [Lemmas.C10.serveTCP_eq]
  have := Props.C10.truncation_rejected vMaj vMin h hf k hk
  cases hr : sniRoute ((record vMaj vMin h).take k) with
  | panic e => rw [hr] at this; cases this
  | ok nm => rw [hr] at this; cases this
  | reject e => exact ⟨e, rfl⟩

/-- **The first two sentences of the property, end to end.** A client sends one record carrying a well-formed
ClientHello that fits it, followed by anything. Then: a standard TLS server reads the server name `sniOf h` from
those bytes; `ServeTCP` arrives at the same name; and if the name is non-empty it calls `Lookup` with it having
buffered exactly the first record — the record is what it replays to the upstream, everything behind it is still
in the reader. (With an empty name, i.e. no `server_name` extension, it drops the connection: `serve_std_no_name`.) -/
theorem wellformed_end_to_end (vMaj vMin : UInt8) (h : Hello) (hw : WellFormed h) (hf : FitsRecord h) (rest : Bytes) :
    stdRoute (record vMaj vMin h ++ rest) = some (sniOf h) ∧
    sniRoute (record vMaj vMin h ++ rest) = .ok (sniOf h) ∧
    (sniOf h ≠ [] → serveTCP (record vMaj vMin h ++ rest) = .lookup (sniOf h) (record vMaj vMin h) rest) := by
  have hs := std_route_record vMaj vMin h hw hf rest
  refine ⟨hs, std_route_agree _ _ hs, fun hne => ?_⟩
  rw [serve_std _ _ hs hne, Lemmas.C10.bufSizeOf_of_ok (Props.C10.bufsize_exact vMaj vMin h hf rest),
    List.take_left' rfl, List.drop_left' rfl]

open Fabio.Props.C10 (exHello exName)

/-- the strict reader accepts the example hello of `Props/C10.lean` (five extensions, an unknown name type in
front of the host name) with its name: the hypothesis of `std_accepts_agree` is satisfiable -/
theorem exHello_std : stdServerName 32 (encode exHello) = some exName := by decide +kernel
example : stdServerName 32 (encode exHello) = some exName := exHello_std
example : readServerName (encode exHello) = .ok (exName, true) :=
  std_accepts_agree _ _ exHello_std
example : stdRoute (record 3 1 exHello ++ [0x14, 3, 3, 0, 1, 1]) = some exName := by decide +kernel
example : serveTCP (record 3 1 exHello ++ [0x14, 3, 3, 0, 1, 1]) =
    .lookup exName (record 3 1 exHello) [0x14, 3, 3, 0, 1, 1] := by decide +kernel
example : stdServerName 32 (encode exHello) = some exName := std_encode exHello Props.C10.exHello_wf
example : serveTCP (record 3 1 exHello ++ [0x14, 3, 3, 0, 1, 1]) =
    .lookup exName (record 3 1 exHello) [0x14, 3, 3, 0, 1, 1] :=
  (wellformed_end_to_end 3 1 exHello Props.C10.exHello_wf Props.C10.exHello_fits _).2.2 (by decide +kernel)
example : stdServerName 32 (encode { exHello with extensions := none }) = some [] := by decide +kernel
example : serveTCP (record 3 1 { exHello with extensions := none }) = .drop "server-name-missing" :=
  serve_std_no_name _ (by decide +kernel)

/-- a 33-byte session id: crypto/tls's reading accepts, the strict reader and fabio refuse
(the second alternative of `tls_accepts_agree`) -/
def exLongSid : Hello := { exHello with sessionId := List.replicate 33 1 }
example : stdServerName 255 (encode exLongSid) = some exName ∧ stdServerName 32 (encode exLongSid) = none ∧
    readServerName (encode exLongSid) = .ok ([], false) := by decide +kernel

/-- damaged framing behind a complete `server_name` extension (the last extension announces one byte more than
there is): refused, `malformed_rejected_partial` applies -/
def exOverrun : Bytes := (encode exHello).set 168 11
theorem exOverrun_refused : frame exOverrun = none ∧ readServerName exOverrun = .ok ([], false) := by decide +kernel
example : frame exOverrun = none ∧ readServerName exOverrun = .ok ([], false) := exOverrun_refused
example : readServerName exOverrun = .ok ([], false) := malformed_rejected_partial _ exOverrun_refused.1

/-- Exception 1 (negation of `malformed_rejected_full`): two bytes of garbage behind the `host_name` entry,
inside the ServerNameList, all outer lengths consistent. A standard server refuses; fabio answers the name. -/
def exGarbageInList : Hello :=
  { exHello with extensions := some [.other 10 [0, 2, 0, 29],
      .other 0 ([0, 16, 0, 0, 11] ++ exName ++ [0xde, 0xad]), .other 21 [0, 0]] }
theorem malformed_accepted_exception_list :
    stdServerName 255 (encode exGarbageInList) = none ∧
    readServerName (encode exGarbageInList) = .ok (exName, true) := by decide +kernel

/-- Exception 2: two `server_name` extensions — a standard server refuses the duplicate, fabio answers the
second name. -/
def exDupSni : Hello :=
  { exHello with extensions := some [.serverName [(0, exName)], .other 10 [0, 2, 0, 29], .serverName [(0, [0x62])]] }
theorem malformed_accepted_exception_dup :
    stdServerName 255 (encode exDupSni) = none ∧ readServerName (encode exDupSni) = .ok ([0x62], true) := by
  decide +kernel

/-- Exception 3: a host name with a trailing dot (RFC 6066 §3 forbids it, crypto/tls refuses the hello). -/
def exTrailingDot : Hello := { exHello with extensions := some [.serverName [(0, exName ++ [0x2e])]] }
theorem malformed_accepted_exception_dot :
    stdServerName 255 (encode exTrailingDot) = none ∧
    readServerName (encode exTrailingDot) = .ok (exName ++ [0x2e], true) := by decide +kernel

/-- Exception 4: an empty host name. fabio accepts it as "no name"; the proxy then drops the connection
(`server_name missing`), so nothing is routed. -/
def exEmptyName : Hello := { exHello with extensions := some [.serverName [(0, [])]] }
theorem malformed_accepted_exception_empty :
    stdServerName 255 (encode exEmptyName) = none ∧ readServerName (encode exEmptyName) = .ok ([], true) ∧
    serveTCP (record 3 1 exEmptyName) = .drop "server-name-missing" := by decide +kernel

end Fabio.Props.C10Std
