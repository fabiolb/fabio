import Fabio.Generated.C11
import Fabio.Model.C11
/-!
OBLIGATIONS over the facts regenerated from `/repo/cert` on every run (`tools/factgen/c11.go`; extracted by role
and event, not by spelling): statements the proof chain needs and that no correspondence stream can establish by
running the code — they are about what other goroutines can observe between two steps. Each names the breaking
change it is there to exclude and is stated over the weakest syntactic observation that still excludes it (a count,
a membership, "is the last event"). Sequential code that a stream compares on every run is in `C11Pins.lean`.
-/
namespace Fabio.Props.C11Facts
open Fabio Fabio.Generated.C11

/-- `Op.hsLoad` / `Op.hsAnswer`: a handshake performs exactly one atomic load of the store (counted through
`Store.certstore` and every helper) and one call of `getCertificate`, which receives the loaded value *by value* and
touches no shared state itself. Excludes: a second load inside the decision (index from one set, default
certificate from another — a mixture only a replacement landing between the two loads exposes; `c11.race` can
miss the window), or passing the store instead of the snapshot. -/
theorem handshake_loads_store_once :
    handshakeAtomicLoads = 1 ∧ handshakeDecisionCalls = 1 ∧ getCertificateSharedAccesses = 0 ∧
    getCertificateTakesLoadedValue = true := ⟨rfl, rfl, rfl, rfl⟩

/-- `Op.publish` stores a complete `mkPublished cs` in one step: in `SetCertificates` there is exactly one atomic
store, it is the last thing that happens, and the index is built before it (nothing is written to a value
handshakes can already see). Excludes: storing first and indexing afterwards, a second store of a half-built
value (seeded m2), updating the published map in place (M11) — all invisible to sequential runs. -/
theorem index_built_before_the_single_store :
    setCertificatesOrder.filter (· == "atomic-store") = ["atomic-store"] ∧
    setCertificatesOrder.getLast? = some "atomic-store" ∧
    setCertificatesOrder.contains "build-index" = true ∧
    setCertificatesOrder.all (fun e => e == "atomic-store" || e == "build-index") = true := by decide +kernel

/-- `applyOuts`: sets are applied in the order the watcher sends them — one place in `TLSConfig` applies a set,
and it is inside the loop that receives from the source's channel (`for v := range src.Certificates()` or the
explicit `v, ok := <-ch` form of the same loop: one consumer goroutine). Excludes: a second applier
(e.g. an eager `SetCertificates` from another goroutine), which could apply an older set after a newer one. -/
theorem one_applier_in_channel_order :
    tlsConfigApplySites = 1 ∧ tlsConfigApplySitesInReceiveLoopOverSource = 1 := ⟨rfl, rfl⟩

/-- `Out.publish`: a publication leaves `watch` through one plain, blocking send on the channel it was given;
`watch` starts no goroutine of its own (counted over `watch` with its unexported helpers followed). Excludes: a
`select { case ch <- certs: default: }` (a publication silently dropped whenever the consumer has not yet taken the
previous one — the streams' consumers are always fast enough), a second send, a send on another channel, a
publication from a goroutine racing with the loop. *What* is sent (the certificates made from the material just
loaded) is input/output behaviour that `c11.watch` compares on every run: pinned in `C11Pins`. -/
theorem publication_is_one_blocking_send :
    watchSends = 1 ∧ watchSendsInSelect = 0 ∧ watchSendsOnChannelParam = true ∧ watchGoStmts = 0 :=
  ⟨rfl, rfl, rfl, rfl⟩

end Fabio.Props.C11Facts
