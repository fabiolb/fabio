import Fabio.Generated.C18
import Fabio.Props.C18
import Fabio.Props.C18Exit
import Fabio.Props.C18System
/-!
Obligations over the facts regenerated from `/repo` on every run: the shapes of the code from which the
per-type contracts of `Fabio.Model.C18` were read. `…Events` lists are the calls / channel receives / go
statements of a function in source order with unexported same-package helpers inlined, named by MEANING (see the
header of tools/factgen/c18.go): `pkg.Func`, `.Method` (whatever the receiver is called), builtins, `local()`,
`handler`, `close-listener` / `close-conn` (a `Close` on the loop variable of a range over a field whose declared type
mentions net.Listener / net.Conn), `<-p0.Done` (receive from a method of parameter 0), `<-notified`, `<-pkgvar`,
`<-local`, `store-registry`. Renaming locals, parameters, receivers, unexported functions, fields and types,
extracting or inlining helpers, switch ↔ if and named constants do not change them.
-/
namespace Fabio.Props.C18Facts
open Fabio Fabio.Model.C18 Fabio.Generated.C18

def idx (a : String) : List String → Option Nat
  | [] => none
  | x :: xs => if x == a then some 0 else (idx a xs).map (· + 1)

/-- both occur, and the first occurrence of `a` precedes the first occurrence of `b` -/
def before (a b : String) (l : List String) : Bool :=
  match idx a l, idx b l with
  | some i, some j => decide (i < j)
  | _, _ => false

/-- `proxy.Shutdown` installs a fresh empty registry (under the lock, before it starts any goroutine). -/
theorem shutdown_installs_empty_registry :
    shutdownInstallsEmptyRegistry = true ∧ before ".Lock" ".Unlock" shutdownEvents = true ∧
    before ".Unlock" "go" shutdownEvents = true := by decide +kernel

/-- One `context.WithTimeout(…, timeout)` per server — `timeout` being the function's parameter — and that
context is what the server's `Shutdown` receives. -/
theorem shutdown_deadline_per_server :
    shutdownOneTimeoutCtxPerServer = true ∧ shutdownTimeoutIsParam = true ∧
    shutdownPassesCtxToServer = true ∧ before "context.WithTimeout" ".Shutdown" shutdownEvents = true := by decide +kernel

/-- The fan-out is joined by a WaitGroup: Add before go, Done inside, Wait after. -/
theorem shutdown_waits_for_all :
    before ".Add" "go" shutdownEvents = true ∧ shutdownEvents.contains ".Done" = true ∧
    before ".Shutdown" ".Wait" shutdownEvents = true ∧ shutdownEvents.getLast? = some ".Wait" := by decide +kernel

/-- Every `ListenAndServe*` registers its server through `serve()` before serving. -/
theorem every_listener_registers :
    listenAndServeNotRegistering = [] ∧ before ".Lock" "store-registry" serveEvents = true ∧
    before "store-registry" ".Unlock" serveEvents = true ∧ before ".Unlock" ".Serve" serveEvents = true := by decide +kernel

/-- one control-flow path of `tcp.Server.Shutdown` (both branches of every `if` walked, a `return` ends its path,
unexported helpers inlined): the listeners are closed, the connections are closed, in that order; and when the path
waits for the context, it does so after the listeners were closed and before the connections are -/
def tcpPathOrdered (p : List String) : Bool :=
  before "close-listener" "close-conn" p &&
  (!p.contains "<-p0.Done" || (before "close-listener" "<-p0.Done" p && before "<-p0.Done" "close-conn" p))

/-- what may still happen once the deadline has passed: the context's own `Done()`, locking, closing — no further
call, channel receive or `Wait` (a handler may be stuck in `net.DialTimeout` for 30 s) -/
def afterDeadlineOk (p : List String) : Bool :=
  (p.dropWhile (· != "<-p0.Done")).drop 1 |>.all
    (fun e => [".Done", ".Lock", ".Unlock", "close-conn", "close-listener"].contains e)

/-- `tcp.Server.Shutdown`: close the listeners, wait for the context, close the connections — on **every** path
through the body (the nil-context path skips the wait, in whichever way the guard is written), and some path does
wait for the context. -/
theorem tcp_shutdown_order :
    tcpShutdownPaths ≠ [] ∧ tcpShutdownPaths.all tcpPathOrdered = true ∧
    tcpShutdownPaths.any (·.contains "<-p0.Done") = true := by decide +kernel

/-- Nothing that could block follows the deadline on any path: the model's tcp contract returns *at* the deadline
whatever the handlers are doing. -/
theorem tcp_shutdown_nothing_blocks_after_deadline :
    tcpShutdownPaths.all afterDeadlineOk = true := by decide +kernel

-- the walker: closing the connections before the wait, not closing the listeners, waiting for the handlers afterwards
example : tcpPathOrdered [".Lock", "close-listener", ".Unlock", ".Lock", "close-conn", ".Unlock", "<-p0.Done", ".Done"] = false := by decide +kernel
example : tcpPathOrdered ["<-p0.Done", ".Done", ".Lock", "close-conn", ".Unlock"] = false := by decide +kernel
example : afterDeadlineOk [".Lock", "close-listener", ".Unlock", "<-p0.Done", ".Done", ".Lock", "close-conn", ".Unlock", ".Wait"] = false := by decide +kernel
example : tcpPathOrdered [".Lock", "close-listener", ".Unlock", ".Lock", "close-conn", ".Unlock"] = true := by decide +kernel

/-- `gRPCServer.Shutdown` looks at its context (as shipped it did not: D22) and still stops gracefully first,
with a hard `Stop` for the deadline. -/
theorem grpc_shutdown_uses_ctx :
    grpcShutdownUsesCtx = true ∧ grpcShutdownEvents.contains ".GracefulStop" = true ∧
    grpcShutdownEvents.contains ".Stop" = true ∧ grpcShutdownEvents.contains "<-p0.Done" = true := by decide +kernel

/-- The contract the current tree's `gRPCServer.Shutdown` follows, as far as the AST tells. -/
def codeContract : GrpcContract := if grpcShutdownUsesCtx then .stopsAtDeadline else .ignoresDeadline

theorem codeContract_eq : codeContract = .stopsAtDeadline := if_pos grpc_shutdown_uses_ctx.1

/-- `InetAfTCPProxyServer.Shutdown`: outer listener first, children get the caller's context. -/
theorem inetaf_shutdown_order :
    before ".Close" ".Shutdown" inetafShutdownEvents = true ∧ inetafChildrenGetCtx = true := by decide +kernel

/-- main.go's exit handler: mark shutting down → deregister → grace sleep → `proxy.Shutdown(ShutdownWait)`. -/
theorem exit_handler_order :
    before "atomic.StoreInt32" ".DeregisterAll" exitHandlerEvents = true ∧
    before ".DeregisterAll" "time.Sleep" exitHandlerEvents = true ∧
    before "time.Sleep" "proxy.Shutdown" exitHandlerEvents = true ∧
    exitHandlerSleepArg = ".Proxy.DeregisterGracePeriod" ∧ exitHandlerShutdownArg = ".Proxy.ShutdownWait" := by decide +kernel

/-- Walks the flattened body of the refresh loop: every "listen" must be preceded by a "test" of `shuttingDown`
with no "sleep" in between (a sleep forgets the test: the flag may have been set meanwhile). -/
def guardedAux : Bool → List String → Bool
  | _, [] => true
  | tested, e :: es =>
    if e == "sleep" then guardedAux false es
    else if e == "test" then guardedAux true es
    else if e == "listen" then tested && guardedAux tested es
    else guardedAux tested es

/-- the loop body twice: the second copy is the next iteration (back edge) -/
def guarded (l : List String) : Bool := guardedAux false (l ++ l)

/-- The tcp-dynamic refresher, which starts listeners, stops doing so once shutdown has begun (D30): it looks at
`shuttingDown`, and it does so after it wakes up — on every path through the loop body there is no sleep
between the test and a listen. -/
theorem refresher_stops_on_shutdown :
    refresherLoopEvents.contains "test" = true ∧
    refresherLoopEvents.contains "sleep" = true ∧ refresherLoopEvents.contains "listen" = true ∧
    guarded refresherLoopEvents = true := by decide +kernel

-- the walker rejects the two orders that lose the flag, and accepts a test right before each listen
example : guarded ["test", "sleep", "listen"] = false := by decide +kernel
example : guarded ["sleep", "listen", "test"] = false := by decide +kernel
example : guarded ["sleep", "test", "listen", "listen"] = true := by decide +kernel
example : guarded ["sleep", "test", "listen", "test", "listen"] = true := by decide +kernel

/-- What may be called while the registry lock `mu` is held: the non-blocking `srv.Close()`, map bookkeeping
(`make`, `len`, `delete`), the listener's address, a log line. Anything else — a `Shutdown(ctx)`, a `Wait`, a
channel receive (`<-…`), a `go`, `time.Sleep` — is not in the list and breaks the obligation. -/
def bookkeeping : List String :=
  [".Close", "log.Printf", "delete", "make", "len", ".Addr", ".String", "store-registry"]

def onlyBookkeeping (l : List String) : Bool := l.all (fun e => bookkeeping.contains e)

/-- **Tie of the lock assumption** (`Model.C18.lockAcquired`, hypothesis `hlock` of
`shutdown_bounded_from_call`): in every function of proxy/serve.go that takes `mu` — `CloseProxy`, `Close`,
`Shutdown`, `serve`, or any helper they are split into — only bookkeeping happens between the registry lock's
`Lock()` and `Unlock()` (helpers called under the lock inlined), and the registration and the removal are among it. -/
theorem registry_lock_only_bookkeeping :
    onlyBookkeeping underRegistryLock = true ∧ underRegistryLock.contains "store-registry" = true ∧
    underRegistryLock.contains "delete" = true := by decide +kernel

example : onlyBookkeeping ["context.WithTimeout", "context.Background", ".Shutdown", "local()", "log.Printf", "delete"] = false := by decide +kernel
example : onlyBookkeeping [".Close", "<-local"] = false := by decide +kernel

/-- `exit.Listen`: the signal registration is made before the handler runs and stays in force while it runs —
nothing of os/signal is called besides `Notify` (no `signal.Stop`/`Reset`/`Ignore`), so a second SIGTERM/SIGINT
during the drain is swallowed instead of killing the process with the default action. -/
theorem exit_listen_keeps_signals_caught :
    exitListenEvents = ["signal.Notify", "<-notified", "<-pkgvar", "handler"] := rfl

/-- **Tie of `Model.C18Exit.ListenContract.reselects`**: every receive in `exit.Listen` is a case of a `select` that
also has a case on a package-level channel (`quit`, which `exit.Exit` closes) — there is no wait for a signal that
`Exit`/`Fatal`/`Fatalf` cannot end, however many SIGHUPs came before. (A plain `sig = <-sigchan` after a SIGHUP
counts as one receive without `quit`.) -/
theorem exit_listen_always_watches_quit :
    exitListenReceivesWithoutQuit = 0 ∧ 1 ≤ exitListenSelectsWithQuit := by decide +kernel

def codeListenContract : Fabio.Model.C18Exit.ListenContract :=
  if exitListenReceivesWithoutQuit = 0 then .reselects else .signalsOnly

theorem codeListenContract_eq : codeListenContract = .reselects := if_pos exit_listen_always_watches_quit.1

/-- **Tie of the delivery-level model after the repair of D32**: the channel handed to `signal.Notify` is made once,
outside every loop, with room for at least one of each subscribed signal (capacity ≥ 3; it is 16) — so a SIGTERM right
after a SIGHUP is received (`signal_right_after_sighup_is_received`, `bursts_within_capacity_lose_nothing`). False
before 5d789c0 (capacity 1, `Notify` inside the loop). -/
theorem exit_listen_channel_has_room :
    3 ≤ exitListenChanCap ∧ exitListenNotifyInLoop = false := by decide +kernel

/-- **Tie of `WsContract.waitedFor`** (D31): `proxy.Shutdown` starts one more goroutine of its WaitGroup (`.Done`) that
hands a `context.WithTimeout(_, timeout)` to a method of the package-level variable which the hijacking handler
(the function that calls `.Hijack()`) updates — it waits for the open websocket sessions, with the servers' timeout.
False before cf1f970. -/
theorem ws_sessions_waited_for :
    shutdownWaitsForHijacked = true ∧ shutdownHijackedTimeoutIsParam = true := ⟨rfl, rfl⟩

def codeWsContract : WsContract := if shutdownWaitsForHijacked && shutdownHijackedTimeoutIsParam then .waitedFor else .notWaitedFor

theorem codeWsContract_eq : codeWsContract = .waitedFor := by
  rw [codeWsContract, ws_sessions_waited_for.1, ws_sessions_waited_for.2]
  rfl

/-- **Tie of `Model.C18.listenAndServe` / `Start`** (one bind, then the registration, nothing in between): on the way
from a `ListenAndServe*` call to the registry insert — `ListenTCP` included — nothing sleeps, waits on a timer, a
channel or a WaitGroup, and the bind is not inside a loop or select. A start that could still be waiting when
`proxy.Shutdown` takes its snapshot would register afterwards, in the fresh registry, which nothing shuts down
(`Props.C18.late_registration_keeps_accepting`). The stream class `listener-start-pending` watches the address for
1.2 s after it became free; a retry with a longer back-off is only visible here. -/
theorem listen_path_does_not_wait :
    listenPathWaits = [] ∧ listenBindRetried = false := ⟨rfl, rfl⟩

/-! `codeContract`, `codeWsContract`, `codeListenContract` and the channel capacity are what the extractor found; each
equals the repaired contract by the fact that ties it. -/

theorem shutdown_bounded_on_this_tree (t0 wait : Nat) (srvs : List Server) :
    tle (shutdownReturn codeContract t0 wait srvs) (some (t0 + wait)) = true := by
  rw [codeContract_eq]
  exact Props.C18.shutdown_bounded Props.C18.repaired_contract_bounded t0 wait srvs

theorem shutdown_bounded_from_call_on_this_tree (called wait : Nat) (srvs : List Server) :
    tle (shutdownCalled (if grpcShutdownUsesCtx then .stopsAtDeadline else .ignoresDeadline) called
          (if onlyBookkeeping underRegistryLock then called else called + 1)
          wait srvs) (some (called + wait)) = true := by
  -- the `if` in the statement is `codeContract` written out
  rw [← codeContract, codeContract_eq, if_pos registry_lock_only_bookkeeping.1]
  exact (Props.C18.shutdown_bounded_from_call Props.C18.repaired_contract_bounded called called wait (Nat.le_refl _) srvs).1

theorem exit_completes_on_this_tree (k n : Nat) :
    Fabio.Model.C18Exit.exitCompletes (Fabio.Model.C18Exit.run codeListenContract (Fabio.Model.C18Exit.initial k)
      (Fabio.Model.C18Exit.history n .exitCall)) = true := by
  rw [codeListenContract_eq]
  exact Props.C18Exit.exit_completes k n

theorem sigterm_right_after_sighup_received_on_this_tree (last : Fabio.Model.C18Exit.Ev) (h : last ≠ .hup) :
    Fabio.Model.C18Exit.runActs .reselects exitListenChanCap (Props.C18Exit.bursts [[.hup, last]]) =
      (.ran (Fabio.Model.C18Exit.sigOf last), []) :=
  Props.C18Exit.signal_right_after_sighup_is_received exitListenChanCap
    (Nat.le_trans (by decide) exit_listen_channel_has_room.1) last h

/-- The property's second sentence at the level of the process, with the bound of the third. -/
theorem process_completes_inflight_work_on_this_tree (s grace wait : Nat) (srvs : List Server)
    (sv : Server) (l : Leaf) (e : Time) (hs : sv ∈ srvs) (hl : l ∈ sv.leaves) (he : e ∈ l.allWork)
    (h : tle e (some (s + grace + wait)) = true) :
    processFate (processExit codeWsContract (if grpcShutdownUsesCtx then .stopsAtDeadline else .ignoresDeadline) s grace wait srvs) e = .completed ∧
    tle (processExit codeWsContract (if grpcShutdownUsesCtx then .stopsAtDeadline else .ignoresDeadline) s grace wait srvs)
      (some (s + grace + wait)) = true := by
  rw [codeWsContract_eq, ← codeContract, codeContract_eq]
  exact ⟨Props.C18.process_completes_inflight_work _ s grace wait srvs sv l e hs hl he h,
         Props.C18.process_exit_bounded _ Props.C18.repaired_contract_bounded s grace wait srvs⟩

/-- **C18 end to end, at the three contracts read from this tree** (`exit.Listen`'s select, the websocket wait,
`gRPCServer.Shutdown`'s use of its context): whatever SIGHUPs came before, whichever way the process is told to stop,
from `s + grace` on no listener that was up accepts, every piece of in-flight work that ends within the wait
completes before the process ends, and the process ends no later than `s + grace + wait`. -/
theorem c18_end_to_end_on_this_tree (n : Nat) (last : Fabio.Model.C18Exit.Ev) (h : last ≠ .hup)
    (s grace wait : Nat) (srvs : List Server) :
    (∀ t, s + grace ≤ t → Fabio.Model.C18System.listenerAccepts codeListenContract n last s grace t = false) ∧
    (∀ sv ∈ srvs, ∀ l ∈ sv.leaves, ∀ e ∈ l.allWork, tle e (some (s + grace + wait)) = true →
        processFate (Fabio.Model.C18System.processEnd codeListenContract codeWsContract
          (if grpcShutdownUsesCtx then .stopsAtDeadline else .ignoresDeadline) n last s grace wait srvs) e = .completed) ∧
    tle (Fabio.Model.C18System.processEnd codeListenContract codeWsContract
          (if grpcShutdownUsesCtx then .stopsAtDeadline else .ignoresDeadline) n last s grace wait srvs)
        (some (s + grace + wait)) = true := by
  rw [codeListenContract_eq, codeWsContract_eq, ← codeContract, codeContract_eq]
  exact Props.C18System.c18_end_to_end Props.C18.repaired_contract_bounded n last h s grace wait srvs

end Fabio.Props.C18Facts
