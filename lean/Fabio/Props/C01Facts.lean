import Fabio.Generated.C01
import Fabio.Model.C01
/-!
Obligations over the facts regenerated from `/repo` on every run (C01): what the model of
`passingServices` / `checksWithTagPrefix` / `makeConfig` / `watchBackend` silently depends on.

The facts pin MEANING, not spelling (see the header of `tools/factgen/c01.go`): every function is a list of guarded
actions `c1 & c2 & … => action` with the conditions in a normal form (De Morgan, `!=` as the negation of `==`,
operands of `==` sorted, disjunctions as else-if alternatives, guard clauses folded into the conditions of what
follows, unlabelled `continue` not an action), identifiers canonicalised by role (`recv`, `p<i>`, `r<i>`,
`<callee>#<i>` for a local assigned once from a call, `v<k>` otherwise, `L<k>` labels, `helper<k>` for unexported
helpers no hook names, `$KEY` for the join-key type), package constants inlined, switches turned into if-chains,
and `makeConfig` followed into unexported helpers. `>` marks the loop nesting depth.
-/
namespace Fabio.Props.C01Facts
open Fabio Fabio.Model.C01

/-- the check ids and the status the loops of `passing.go` and `checksWithTagPrefix` (`service.go`) compare with are the
model's constants -/
theorem passing_literals :
    Generated.C01.passingServicesLiterals.map String.toList = [nodeMaint, svcMaintPfx, critical, serf] ∧
    Generated.C01.passingHelper0Literals.map String.toList = [[], nodeMaint, svcMaintPfx, serf] ∧
    Generated.C01.checksWithTagPrefixLiterals.map String.toList = [nodeMaint, svcMaintNoColon, serf] :=
  ⟨rfl, rfl, rfl⟩

/-- `Watch`: health state → filter (configured prefix) → passing (of the *filter's result*, configured statuses,
strict flag = the field `f3` of the monitor) → makeConfig (of the passing result) → send; `f3` is initialised with
`checksRequired == "all"` (fields of the receiver are written by position: f0 client, f1 config, f2 dc, f3 strict) -/
theorem watch_pipeline_order :
    Generated.C01.watchFlow = ["State",
       "checksWithTagPrefix(recv.f1.TagPrefix, State#0)",
       "passingServices(checksWithTagPrefix#0, recv.f1.ServiceStatus, recv.f3)",
       "makeConfig(passingServices#0)",
       "send p0 <- makeConfig#0"] ∧
    Generated.C01.strictInit = ["f3 = p1.ChecksRequired == \"all\""] :=
  ⟨rfl, rfl⟩

/-- the join key is built the same way where the passing set is filled (`makeConfig`, followed into its helpers)
and where it is looked up (the function that queries `Catalog().Service`), and it is the (node, service id) pair — a
struct of two strings, compared field by field (the model's `keyPair`); the set is per service name; entries missing
from it are skipped; the order of events in `makeConfig`: fill the set, one goroutine per service, catalog lookup,
`routecmd.build`, reverse sort, join with newlines -/
theorem join_key_same_on_both_sides :
    Generated.C01.keyMake = Generated.C01.keyLookup ∧
    Generated.C01.keyMake = "$KEY{X.Node, X.ServiceID}" ∧
    Generated.C01.keyTypeFields = ["string", "string"] ∧
    Generated.C01.keyMakeName = "X.ServiceName" ∧
    Generated.C01.keyLookupSkipsMissing = true ∧
    Generated.C01.makeConfigEvents = ["store set[name][key]",
       "go",
       "Catalog.Service",
       "build",
       "sort.Sort",
       "sort.Reverse",
       "sort.StringSlice",
       "strings.Join \"\\n\""] :=
  ⟨rfl, rfl, rfl, rfl, rfl, rfl⟩

/-- `ServiceMonitor` keeps no state between rounds: its fields are a client, the configuration, a string and a bool
(whatever they are called), no method assigns to a field of the receiver, and the package has no package-level
variable — each emitted text is a function of the round's own answers (model: `watchOnceF` has no state argument) -/
theorem service_monitor_stateless :
    Generated.C01.serviceMonitorFieldTypes = ["*api.Client", "*config.Consul", "bool", "string"] ∧
    Generated.C01.serviceMonitorFieldWrites = 0 ∧
    Generated.C01.consulPackageVarCount = 0 :=
  ⟨rfl, rfl, rfl⟩

/-- `SetTable` is called at exactly one place of `watchBackend` (the step machine has one installing transition) -/
theorem set_table_called_once : Generated.C01.watchBackendSetTableCalls = 1 := rfl

/-- the one call of a method `Register` in the loop of `watchBackend` is an expression statement — its result cannot
reach a condition — and stands before the `NewTable` call of the same statement list: the model's `stepOutReg`, whose
table part is `stepOut` for every registration outcome (`register_outcome_irrelevant`). -/
theorem register_result_discarded :
    Generated.C01.watchBackendRegisterCalls = 1 ∧
    Generated.C01.watchBackendRegisterDiscarded = 1 ∧
    Generated.C01.watchBackendRegisterBeforeNewTable = true :=
  ⟨rfl, rfl, rfl⟩

/-- Every text a watcher computes reaches the table loop: no channel send in package `registry/consul` is the
communication of a `select` clause (a send that could be skipped or lose a race — `select { case ch <- v: default: }`),
and the channel `WatchServices` / `WatchManual` return is the one the watcher goroutine was started with. This is what
makes the event sequence of the table loop a `Merge` of the two watchers' sequences (`Props/C01Sys.lean`:
`system_quiescent`; the negation for the other design: `nonblocking_handover_loses_final_state`). An order of effects
between goroutines — no sampling of runs establishes it. -/
theorem watchers_hand_over_every_text :
    Generated.C01.consulSelectSends = 0 ∧
    Generated.C01.handOverWatchServicesSameChannel = true ∧
    Generated.C01.handOverWatchManualSameChannel = true :=
  ⟨rfl, rfl, rfl⟩

end Fabio.Props.C01Facts
