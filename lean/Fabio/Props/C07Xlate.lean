import Fabio.Generated.C07
import Fabio.Model.C07
import Fabio.Lemmas.C07
/-!
`escapedLen` (proxy/http_proxy.go) — the one piece of sequential byte code of C07's URL construction — is translated
from the CURRENT source on every run by `tools/factgen/xlate.go` into `Generated.C07.XEscapedLen` (state structure,
loop condition and body over the combinators of `Fabio.Xlate.Rt`). This file proves the translation equal to the
model's `dropEscaped`, for every escaped path and every count, so the tie between the two does not rest on sampled
agreement (`c07.url`) alone: what is trusted is the translator and the kernel. The function is found by its ROLE in
`ServeHTTP` (called with the escaped path and `len(StripPath)`), not by name.

Part of the change detectors (`Props/C07Pins.lean` imports it, and the theorems are in its namespace): a rewrite of
`escapedLen` that keeps its behaviour but not its shape makes these proofs fail and widens the streams; nothing is
claimed broken by that alone. The driver runs the translated function on every strip case of `c07.url` next to the
model, whose request-target is compared with what the upstream received: that validates the translator (string
indexing, `for` with a post statement, wrap-around arithmetic) through the real code.
-/
namespace Fabio.Props.C07Pins
open Fabio Fabio.Xlate Fabio.Generated.C07 Fabio.Generated.C07.XEscapedLen

abbrev B := List UInt8

theorem loop0Body_step (s : B) (hs : (s.length : Int) + 3 < 9223372036854775808) (n : Int) (k : Nat) (c : UInt8)
    (hc : s[k]? = some c) (hn0 : 0 < n) (hn : n < 9223372036854775808) :
    loop0Body { p0 := s, p1 := n, l0 := k } = .next { p0 := s, p1 := n - 1, l0 := (k + Lemmas.C07.width c : Nat) } := by
  obtain ⟨hk, hck⟩ := List.getElem?_eq_some_iff.mp hc
  have hi : Xlate.idx s k = .ok c := hck ▸ idx_lt s k hk
  have hw1 : wrapI 64 (n - 1) = n - 1 := wrapI64_id _ (by omega) (by omega)
  have hw3 : wrapI 64 ((k : Int) + 3) = k + 3 := wrapI64_id _ (by omega) (by omega)
  have hw : wrapI 64 ((k : Int) + 1) = k + 1 := wrapI64_id _ (by omega) (by omega)
  by_cases h : c = Model.C07.PCT
  · have hb : (c == (37 : UInt8)) = true := by rw [h]; rfl
    simp [loop0Body, seq, ifS, assign, hi, hb, Lemmas.C07.width, if_pos h, hw3, hw1]
  · have hb : (c == (37 : UInt8)) = false := beq_false_of_ne h
    simp [loop0Body, seq, ifS, assign, hi, hb, Lemmas.C07.width, if_neg h, hw, hw1]

theorem loop0Cond_eq (s : B) (n : Int) (k : Nat) :
    loop0Cond { p0 := s, p1 := n, l0 := k } = .ok (decide (0 < n ∧ k < s.length)) := by
  simp [loop0Cond, len]

theorem loop0_spec (s : B) (hs : (s.length : Int) + 3 < 9223372036854775808) :
    ∀ (fuel : Nat) (n : Int) (k : Nat), n < 9223372036854775808 → s.length - k < fuel →
      ∃ (n' : Int) (k' : Nat), loopN loop0Cond loop0Body fuel { p0 := s, p1 := n, l0 := k } = .next { p0 := s, p1 := n', l0 := k' } ∧
        s.drop k' = Model.C07.dropEscaped n.toNat (s.drop k) := by
  intro fuel
  induction fuel with
  | zero => intro n k _ h; omega
  | succ f ih =>
    intro n k hn hf
    by_cases hrun : 0 < n ∧ k < s.length
    · have hk := hrun.2
      have hc := List.getElem?_eq_getElem hk
      have hdrop := List.drop_eq_getElem_cons hk
      -- name the byte once: every `s[k]` written out searches for its bound proof again
      generalize s[k] = c at hc hdrop
      obtain ⟨n', k', hloop, hd⟩ := ih (n - 1) (k + Lemmas.C07.width c) (Int.lt_trans (Int.sub_lt_self n Int.one_pos) hn)
        (by have := Lemmas.C07.width_pos c; omega)
      refine ⟨n', k', ?_, ?_⟩
      · simp only [loopN, loop0Cond_eq, hrun, decide_true, and_self]
        rw [loop0Body_step s hs n k c hc hrun.1 hn]
        exact hloop
      · rw [hd, hdrop, show n.toNat = (n - 1).toNat + 1 by omega, Lemmas.C07.dropEscaped_width, ← hdrop, List.drop_drop]
    · refine ⟨n, k, by simp only [loopN, loop0Cond_eq, hrun, decide_false], ?_⟩
      by_cases hn0 : 0 < n
      · rw [List.drop_eq_nil_of_le (by omega), Lemmas.C07.dropEscaped_nil]
      · rw [show n.toNat = 0 by omega]; rfl

/-- The Go function `escapedLen` of the current `proxy/http_proxy.go`, translated on this
run, against the model: for every escaped path `s` (shorter than 2^63 − 3 bytes — every Go string is) and every
`n < 2^63` it returns, without panic and within the fuel the translator supplies (so it terminates), an index
`r` with `0 ≤ r ≤ len(s)` such that `s[r:]` — what `ServeHTTP` keeps of the escaped path — is exactly the model's
`dropEscaped n s`. -/
theorem xescapedLen_eq_model (s : B) (n : Int) (hs : (s.length : Int) + 3 < 9223372036854775808)
    (hn : n < 9223372036854775808) :
    ∃ r st, XEscapedLen.run { p0 := s, p1 := n } = .ok (r, st) ∧ 0 ≤ r ∧ r ≤ s.length ∧
      s.drop r.toNat = Model.C07.dropEscaped n.toNat s := by
  obtain ⟨n', k', hloop, hd⟩ := loop0_spec s hs (s.length + 1) n 0 hn (by omega)
  replace hloop : loopN loop0Cond loop0Body (s.length + 1) { p0 := s, p1 := n } = _ := hloop
  replace hd : s.drop k' = Model.C07.dropEscaped n.toNat s := hd
  -- behind the loop the index is capped at `len(s)`: an escape cut short by the end of `s` steps beyond it
  refine ⟨(min k' s.length : Nat), { p0 := s, p1 := n', l0 := (min k' s.length : Nat) }, ?_,
    Int.natCast_nonneg _, Int.ofNat_le.mpr (Nat.min_le_right _ _), ?_⟩
  · rw [Nat.min_def]
    by_cases hle : k' ≤ s.length <;>
      simp [XEscapedLen.run, Fabio.Xlate.run, body, seq, assign, loop, hloop, ifS, len, ret, skip, hle, Nat.not_lt.mpr,
        Nat.lt_of_not_le]
  · rw [← hd, Int.toNat_natCast, Nat.min_def]
    split
    · rfl
    · next hle => rw [List.drop_eq_nil_of_le (Nat.le_refl _), List.drop_eq_nil_of_le (Nat.le_of_not_le hle)]

/-- What the translated `escapedLen` cuts off stands for exactly `n` decoded bytes — all of them
when the path has fewer — in the specification's own way of counting (`decodedCount`). -/
theorem xescapedLen_count (s : B) (n : Int) (hs : (s.length : Int) + 3 < 9223372036854775808)
    (hn : n < 9223372036854775808) :
    ∃ r st, XEscapedLen.run { p0 := s, p1 := n } = .ok (r, st) ∧ 0 ≤ r ∧ r ≤ s.length ∧
      Model.C07Spec.decodedCount (s.take r.toNat) = min n.toNat (Model.C07Spec.decodedCount s) := by
  obtain ⟨r, st, hrun, h0, hle, hd⟩ := xescapedLen_eq_model s n hs hn
  obtain ⟨a, ha, hc⟩ := Lemmas.C07.dropEscaped_count n.toNat s
  refine ⟨r, st, hrun, h0, hle, ?_⟩
  have : a = s.take r.toNat := by
    have h1 : s.take r.toNat ++ s.drop r.toNat = a ++ s.drop r.toNat := by
      rw [List.take_append_drop, hd]; exact ha
    exact (List.append_cancel_right h1).symm
  rw [← this]; exact hc

/-- `/%73trip/a%2Fb` with `n = 6` (the length of `/strip`) on the translated code -/
example : (match XEscapedLen.run { p0 := "/%73trip/a%2Fb".toUTF8.toList, p1 := 6 } with
    | .ok (r, _) => decide (r = 8) | _ => false) = true := by decide +kernel

end Fabio.Props.C07Pins
