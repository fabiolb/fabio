import Fabio.Lemmas.C02Loop
import Fabio.Lemmas.RouteParse
import Fabio.Lemmas.Lit
/-!
C02 — theorems about the glue of the update loop (`Model/C02Loop.lean`).

The iteration with all its calls (`ParseAliases`, `Register`, `NewTable`, `SetTable`, `logRoutes`) REFINES the plain
step machine `WB.step` whenever it does not panic, for every glue: the history theorems of `Props/C02.lean` are
statements about the real iteration, not about a simplification of it. It panics only if one of the four calls does;
its `SetTable` calls are exactly `WB.installs`, the program of the single writer thread of the cell model. Completeness of
the parser model ("the complete new table": one definition per command line of the WHOLE text) is the predicate the
correspondence evaluates on the real `Parse` (`c02.history`, `c02.nopanic`: class `accepted-text-incomplete`).
-/
namespace Fabio.Props.C02Loop
open Fabio Fabio.Model.C02 Fabio.Model.C02Loop Fabio.Model.Parse Fabio.Model.Route Fabio.Lemmas.C02Loop

section loop
variable {T : Type}

theorem stepO_refines_step (g : Glue T) (st st' : WB T) (e : Ev) (h : (stepO g st e).2 = .ok st') :
    st' = WB.step g.buildOpt st e := (stepO_ok g st st' e h).1

theorem runO_refines_run (g : Glue T) (es : List Ev) : ∀ (st st' : WB T), (runO g st es).2 = .ok st' →
    st' = WB.run g.buildOpt st es :=
  fun st st' h => (runO_ok g es st st' h).1

/-- **The loop dies only if one of its four calls does.** -/
theorem runO_never_panics (g : Glue T) (hg : g.Total) (es : List Ev) : ∀ st : WB T,
    (runO g st es).2 = .ok (WB.run g.buildOpt st es) := by
  intro st
  fun_induction runO g st es with
  | case1 st => rfl
  | case2 st e es effs w hstep => have hp := stepO_never_panics g hg st e; rw [hstep] at hp; cases hp
  | case3 st e es effs st1 hstep r ih =>
    obtain rfl := stepO_refines_step g st st1 e (by rw [hstep])
    exact ih

/-- **The writer's program.** The `SetTable` calls the real iteration makes over a history that it survives
are exactly `WB.installs` — the list `Props/C02Compose.lean` hands to the single writer thread of the cell. -/
theorem installs_are_effects (g : Glue T) (es : List Ev) : ∀ (st st' : WB T), (runO g st es).2 = .ok st' →
    installsOf (runO g st es).1 = WB.installs g.buildOpt st es :=
  fun st st' h => (runO_ok g es st st' h).2

/-- **Order of effects.** One iteration performs a prefix of `Register(a); SetTable(t); logRoutes(t, last,
next)` and nothing else — in particular never two `SetTable`s, never `logRoutes` before `SetTable`. -/
theorem effects_in_program_order (g : Glue T) (st : WB T) (e : Ev) :
    (stepO g st e).1 = [] ∨ ∃ al, (stepO g st e).1 = [.register al] ∨
      ∃ t, (stepO g st e).1 = [.register al, .setTable t] ∨
           (stepO g st e).1 = [.register al, .setTable t, .logRoutes t (st.recv e).lastTable (st.recv e).nextText] := by
  have hc := stepO_case g st e
  generalize stepO g st e = r at hc ⊢
  cases hc with
  | skip | aliasesPanic | registerPanic => exact Or.inl rfl
  | buildPanic | rejected => exact Or.inr ⟨_, Or.inl rfl⟩
  | logPanic => exact Or.inr ⟨_, Or.inr ⟨_, Or.inl rfl⟩⟩
  | installed => exact Or.inr ⟨_, Or.inr ⟨_, Or.inr rfl⟩⟩

/-- **`SetTable` is reached only with a table `NewTable` returned for a CHANGED text** (never with a partial or
older table, never on the error path). -/
theorem setTable_only_after_successful_build (g : Glue T) (st : WB T) (e : Ev) (t : T)
    (h : Eff.setTable t ∈ (stepO g st e).1) :
    g.build (st.recv e).nextText = .ok (some t) ∧ (st.recv e).nextText ≠ (st.recv e).lastTable := by
  have hc := stepO_case g st e
  generalize stepO g st e = r at hc h
  cases hc with
  | logPanic hs _ _ hb | installed hs _ _ hb =>
    simp only [List.mem_cons, Eff.setTable.injEq, List.not_mem_nil, or_false, reduceCtorEq, false_or] at h
    exact ⟨h ▸ hb, hs⟩
  | _ => simp at h

/-- **A crash in `logRoutes` comes after the swap.** If everything up to `NewTable` succeeded and `logRoutes`
panics, the iteration has already passed the complete new table to `SetTable`: lookups are answered from the
complete new table until the process is gone, never from something in between. -/
theorem log_panic_after_install (g : Glue T) (st : WB T) (e : Ev) (al : List Str) (t : T) (w : String)
    (hs : (st.recv e).nextText ≠ (st.recv e).lastTable)
    (ha : g.aliases (st.recv e).nextText = .ok al) (hr : g.register al = .ok ())
    (hb : g.build (st.recv e).nextText = .ok (some t))
    (hl : g.log t (st.recv e).lastTable (st.recv e).nextText = .panic w) :
    stepO g st e = ([.register al, .setTable t], .panic w) := by
  unfold stepO
  simp [hs, ha, hr, hb, hl]

/-- **What is registered.** With the modelled glue, `Register` is called exactly when the concatenated text
differs from the installed one, with `ParseAliases` of the CANDIDATE text — also when `NewTable` then rejects it. -/
theorem registered_iff_text_changed (pf : ParseFloat) (build : Text → Option T) (st : WB T) (e : Ev) :
    registeredOf (stepO (pureGlue pf build) st e).1 =
      if (st.recv e).nextText = (st.recv e).lastTable then [] else [registerArg pf (st.recv e).nextText] := by
  have hc := stepO_case (pureGlue pf build) st e
  generalize stepO (pureGlue pf build) st e = r at hc ⊢
  cases hc with
  | skip hs => exact (if_pos hs).symm
  | buildPanic hs ha | rejected hs ha | logPanic hs ha | installed hs ha => cases ha; exact (if_neg hs).symm
  | aliasesPanic _ ha => cases ha
  | registerPanic _ _ hr => cases hr

theorem pureGlue_total (pf : ParseFloat) (build : Text → Option T) : (pureGlue pf build).Total :=
  ⟨fun _ => rfl, fun _ => rfl, fun _ => rfl, fun _ _ _ => rfl⟩

theorem pureGlue_buildOpt (pf : ParseFloat) (build : Text → Option T) : (pureGlue pf build).buildOpt = build := rfl

/-- **The static and the file backend.** Whatever the configured text is, after everything such a backend ever
delivers the active table is the table of `text ++ "\n"` when that builds and the initial table otherwise. -/
theorem source_serves_its_text (build : Text → Option T) (t0 : T) (src : Source) :
    (WB.run build (WB.init t0) src.events).active = (build (src.text ++ ['\n'])).getD t0 := by
  rw [Fabio.Lemmas.C02.run_active build _ _ (Fabio.Lemmas.C02.WBInv.init build t0)]
  cases src <;> simp [Source.events, Source.text, textsFrom, lastGood, WB.init]

end loop

/-- **No command line is dropped.** A text the parser accepts yields exactly as many definitions as the text
has command lines — over the WHOLE text, whatever its length (a line the scanner cannot take makes `parse` fail:
`ParseErr.tooLong`, repair of D29). -/
theorem parse_complete (pf : ParseFloat) (text : Str) (ds : List RouteDef) (h : parse pf text = .ok ds) :
    ds.length = commandLines text :=
  parseLines_complete pf (rawLines text) 1 ds h

/-- **The complete new table**: the table `loadTable` returns is `newTable` of one definition per command line of the
whole text. -/
theorem loadTable_complete (env : Env) (pf : ParseFloat) (text : Str) (t : Table) (h : loadTable env pf text = .ok t) :
    ∃ ds, parse pf text = .ok ds ∧ ds.length = commandLines text ∧ newTable env ds = .ok t := by
  obtain ⟨ds, hp, hn⟩ := (Fabio.Lemmas.Route.loadTable_ok_iff env pf text t).1 h
  exact ⟨ds, hp, parse_complete pf text ds hp, hn⟩

section examples

def exPf : ParseFloat := fun s => if s = "0.5".toList then some (.fin (1/2)) else if s = "NaN".toList then some .nan else none

def exText : Str := "route add a /x http://a:1/ opts \"register=one\"\n# c\r\n\n  // d\nroute del a\nroute add c /z http://c:1/ weight NaN opts \"register=three\"".toList

set_option maxRecDepth 100000 in
example : commandLines exText = 3 := by unfold exText; simp only [toList_lit rfl]; decide +kernel
set_option maxRecDepth 100000 in
example : parseAliases exPf exText = some ["one".toList, "three".toList] := by
  unfold exText exPf; simp only [toList_lit rfl]; decide +kernel
set_option maxRecDepth 100000 in
example : parseAliases exPf "route add a /x http://a:1/ opts \"register=one\"\ngarbage".toList = none := by
  unfold exPf; simp only [toList_lit rfl]; decide +kernel
example : registerArg exPf "garbage".toList = [] := by unfold exPf; simp only [toList_lit rfl]; decide +kernel
def exText2 : Str := "route add a /x http://a:1/\n# c\r\n\nroute del a\r\nroute weight a /x weight 0.5".toList
set_option maxRecDepth 100000 in
example : (parse exPf exText2).toOption.map List.length = some 3 := by
  unfold exText2 exPf; simp only [toList_lit rfl]; decide +kernel
set_option maxRecDepth 100000 in
example : commandLines exText2 = 3 := by unfold exText2; simp only [toList_lit rfl]; decide +kernel

def exBuild : Text → Option Text := fun s => if s.contains '!' then none else some s

/-- a glue whose `logRoutes` dies on texts containing `?` -/
def exGlue : Glue Text :=
  { aliases := fun s => .ok [s.take 1], register := fun _ => .ok (), build := fun s => .ok (exBuild s),
    log := fun _ _ next => if next.contains '?' then .panic "logRoutes" else .ok () }

def exEvents : List Ev := [.svc "a".toList, .man "!".toList, .man "!".toList, .svc "b".toList, .man "m".toList]

/-- five events: install; rejected text (registered all the same); the same rejected text again (NOT skipped:
the shortcut compares with the INSTALLED text, so it is parsed and registered again); still rejected; install -/
example : (runO exGlue (WB.init []) exEvents).1 =
    [.register ["a".toList], .setTable "a\n".toList, .logRoutes "a\n".toList [] "a\n".toList,
     .register ["a".toList], .register ["a".toList], .register ["b".toList],
     .register ["b".toList], .setTable "b\nm".toList, .logRoutes "b\nm".toList "a\n".toList "b\nm".toList] := by
  unfold exEvents; simp only [toList_lit rfl]; decide +kernel
example : ((runO exGlue (WB.init []) exEvents).2.map (·.active)) = .ok "b\nm".toList := by
  unfold exEvents; simp only [toList_lit rfl]; decide +kernel
example : installsOf (runO exGlue (WB.init []) exEvents).1 = WB.installs exGlue.buildOpt (WB.init []) exEvents := by
  unfold exEvents; simp only [toList_lit rfl]; decide +kernel
/-- `logRoutes` dies on the second installation: the table is already swapped -/
example : (runO exGlue (WB.init []) [.svc "a".toList, .svc "?".toList, .svc "c".toList]).1 =
    [.register ["a".toList], .setTable "a\n".toList, .logRoutes "a\n".toList [] "a\n".toList,
     .register ["?".toList], .setTable "?\n".toList] ∧
    (runO exGlue (WB.init []) [.svc "a".toList, .svc "?".toList, .svc "c".toList]).2.isPanic = true := by
  simp only [toList_lit rfl]; decide +kernel
set_option maxRecDepth 100000 in
example : registeredTrace exPf exBuild (WB.init []) [.svc "route add a /x http://a:1/ opts \"register=one\"".toList, .man "!".toList, .man "!".toList] =
    [[["one".toList]], [[]], [[]]] := by
  unfold exPf; simp only [toList_lit rfl]; decide +kernel
example : (WB.run exBuild (WB.init "init".toList) (Source.static "x".toList).events).active = "x\n".toList := by
  simp only [toList_lit rfl]; decide +kernel
example : (WB.run exBuild (WB.init "init".toList) (Source.file "x!".toList).events).active = "init".toList := by
  simp only [toList_lit rfl]; decide +kernel

end examples

end Fabio.Props.C02Loop
