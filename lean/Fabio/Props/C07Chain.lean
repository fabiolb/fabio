import Fabio.Lemmas.C07Chain
import Fabio.Props.C17Proxy
import Fabio.Lemmas.Lit
/-!
C07, second sentence, over the handler chain `ServeHTTP` builds (`Fabio.Model.C07Chain`): for every reply of the
upstream (any informational responses, any status, any header lines, any chunking of the body), every request
header block, every configured content-type expression, sniffer, compressor and pool content. The gzip layer is C17's
model (`C17.serve`), and the call sequence the reverse proxy produces (`Reply.script`) is the relay of C17's model of
the reverse proxy on a writer with an empty header map (`script_eq_relay`), so the statements are corollaries of
C17's theorems on that relay (`Props/C17Proxy.lean`). The no-route page is `watch`: the registry's deliveries as
`main.watchNoRouteHTML` hands them to the store.
-/
namespace Fabio.Props.C07Chain
open Fabio.Model Fabio.Model.C07Chain Fabio.Lemmas.C07Chain

variable {Z : Type}

/-- `proxy.gzip.contenttype` not configured: status, header lines and bytes are
the upstream's. -/
theorem reply_without_gzip_handler (head dfl : Bool) (req : Hdr) (pool : List Z) (r : Reply) :
    respond (none : Option (C17.Cfg Z)) head dfl req pool r =
      { status := r.status, hdr := r.headersOn [], body := r.chunks.flatten } := rfl

theorem gzip_engages (C : C17.Cfg Z) (head dfl : Bool) (req : Hdr) (pool : List Z) (r : Reply) (hw : r.wellFormed) :
    (C17.serve C head dfl req [] pool r.script).compressed = gzipEngages C.typeOk head req r := by
  rw [Bool.eq_iff_iff, gzipEngages_iff, headersOn_eq, script_eq_relay]
  exact Fabio.Props.C17Proxy.relay_compress_iff C head dfl req [] pool [] r.up (up_informational hw.1) hw.2

/-- "… body bytes unchanged", the one licensed exception made precise: whenever
the gzip layer compresses a reply, the client's `Accept-Encoding` value makes gzip acceptable in the specification's
own reading of RFC 9110 §12.5.3 (`C07Spec.gzipAcceptable`: some element names `gzip` with a weight that is not one of
the RFC's zero literals; a wildcard counts only when `gzip` is not named at all) — the predicate the driver evaluates
on the real proxy's replies. In particular a client that refuses gzip explicitly (`gzip;q=0`) never gets a gzip-coded
reply, whatever else the list carries. -/
theorem compressed_only_for_accepting_client (C : C17.Cfg Z) (head dfl : Bool) (req : Hdr) (pool : List Z) (r : Reply)
    (hw : r.wellFormed) (hc : (C17.serve C head dfl req [] pool r.script).compressed = true) :
    C07Spec.gzipAcceptable (C17.hget req C17.hAcceptEncoding) = true := by
  rw [gzip_engages C head dfl req pool r hw] at hc
  exact acceptsGzip_acceptable req ((gzipEngages_iff C.typeOk head req r).mp hc).1

/-- Whenever the layer does not compress — the client does not accept gzip, HEAD, a
status without body, a content type the expression does not match, or a reply that is already encoded — the
client is shown the upstream's status, the upstream's header lines behind the handler's `Vary` line, and the
upstream's bytes. -/
theorem passes_unless_engaged (C : C17.Cfg Z) (head dfl : Bool) (req : Hdr) (pool : List Z) (r : Reply)
    (hw : r.wellFormed) (hne : gzipEngages C.typeOk head req r = false) :
    respond (some C) head dfl req pool r = r.asIs varyHdr := by
  have hc := (gzip_engages C head dfl req pool r hw).trans hne
  rw [respond_some]
  exact (Fabio.Props.C17.otherwise_identical C head dfl req [] pool r.script hc).trans (bare_replay C _ varyHdr r hw)

/-- the contrapositive of `compressed_only_for_accepting_client`: a client whose `Accept-Encoding` does not make gzip acceptable
in the specification's reading — `gzip` named with weight zero only, or not named and no wildcard (`identity`, no
value at all) — is shown the upstream's reply as it is -/
theorem refused_client_gets_upstream_bytes (C : C17.Cfg Z) (head dfl : Bool) (req : Hdr) (pool : List Z) (r : Reply)
    (hw : r.wellFormed) (href : C07Spec.gzipAcceptable (C17.hget req C17.hAcceptEncoding) = false) :
    respond (some C) head dfl req pool r = r.asIs varyHdr := by
  refine passes_unless_engaged C head dfl req pool r hw (Bool.eq_false_iff.mpr fun he => ?_)
  rw [compressed_only_for_accepting_client C head dfl req pool r hw
    ((gzip_engages C head dfl req pool r hw).trans he)] at href
  cases href

/- The full statement — "a reply that carries a Content-Encoding of its own (some Content-Encoding line is
non-empty) goes through as it is" — does NOT hold for the code: `isCompressable` asks `header.Get`, i.e. the FIRST
line only.

  theorem encoded_reply_untouched (C) (head dfl) (req) (pool) (r) (hw : r.wellFormed)
      (henc : ∃ v ∈ (C17.hraw (r.headersOn varyHdr) C17.hContentEncoding).getD [], v ≠ "") :
      respond (some C) head dfl req pool r = r.asIs varyHdr

Proved below with the forced hypothesis (the first line is non-empty); the excluded point is the witness
`encoded_reply_lost_first_line_empty`, replayed on the real code from the built-in corpus of `c07.body` (recorded
finding `content-encoding-first-line-empty`). -/

/-- A reply whose (first) Content-Encoding line names a coding — `br`,
`deflate`, `identity`, `gzip`, anything non-empty — goes through as it is: for every configured expression, every
request (whatever it accepts), every status. -/
theorem encoded_reply_untouched_partial (C : C17.Cfg Z) (head dfl : Bool) (req : Hdr) (pool : List Z) (r : Reply)
    (hw : r.wellFormed) (henc : C17.hget (r.headersOn varyHdr) C17.hContentEncoding ≠ "") :
    respond (some C) head dfl req pool r = r.asIs varyHdr := by
  refine passes_unless_engaged C head dfl req pool r hw (Bool.eq_false_iff.mpr fun he => henc ?_)
  obtain ⟨_, _, _, hce, _⟩ := (gzipEngages_iff C.typeOk head req r).mp he
  exact hce

/-- With or without the gzip handler, compressed or not, the status the client sees is
the upstream's final status. -/
theorem status_is_upstreams (gz : Option (C17.Cfg Z)) (head dfl : Bool) (req : Hdr) (pool : List Z) (r : Reply)
    (hw : r.wellFormed) : (respond gz head dfl req pool r).status = r.status := by
  cases gz with
  | none => rfl
  | some C =>
    rw [respond_some, script_eq_relay]
    exact Fabio.Props.C17Proxy.relay_status C head dfl req [] pool [] r.up (up_informational hw.1) hw.2

/-- When the layer compresses: the status is the upstream's, the label is
`Content-Encoding: gzip`, there is no Content-Length, every other header line is the upstream's (behind `Vary`),
and — given the compressor's round-trip law — the bytes decode to exactly the upstream's. -/
theorem engaged_reply_decodes (C : C17.Cfg Z) (hrt : C.comp.RoundTrip) (head dfl : Bool) (req : Hdr) (pool : List Z)
    (r : Reply) (hw : r.wellFormed) (he : gzipEngages C.typeOk head req r = true) :
    (respond (some C) head dfl req pool r).status = r.status ∧
    C17.hget (respond (some C) head dfl req pool r).hdr C17.hContentEncoding = C17.encGzip ∧
    C17.hhasRaw (respond (some C) head dfl req pool r).hdr C17.hContentLength = false ∧
    (∀ k, k ≠ C17.hContentLength → k ≠ C17.hContentEncoding →
      C17.hraw (respond (some C) head dfl req pool r).hdr k = C17.hraw (r.headersOn varyHdr) k) ∧
    C.comp.decode (respond (some C) head dfl req pool r).body = some r.chunks.flatten := by
  have hc := (gzip_engages C head dfl req pool r hw).trans he
  simp only [respond_some, headersOn_eq]
  rw [script_eq_relay] at hc ⊢
  exact Fabio.Props.C17Proxy.relay_when_compressed C hrt head dfl req [] pool [] r.up (up_informational hw.1) hw.2 hc

theorem watchStep_get (s : Store) (v : String) : (watchStep s v).get = v := by
  unfold watchStep
  split
  · next h => exact h.symm
  · rfl

/-- After any sequence of deliveries the page `GetHTML` returns is the last one
delivered (the initial one when nothing was delivered): the watcher's "unchanged, skip" test loses nothing, and an
empty page replaces a non-empty one like any other. -/
theorem page_is_last_delivered (s : Store) (vs : List String) :
    (watch s vs).get = vs.getLast?.getD s.get := by
  induction vs generalizing s with
  | nil => rfl
  | cons v vs ih =>
    show (watch (watchStep s v) vs).get = _
    rw [ih, watchStep_get, List.getLast?_cons]
    rfl

theorem set_then_get (s : Store) (h : String) : (s.set h).get = h := rfl

/-- identity coding for a compressor, `^text/` for the expression -/
def demoCfg : C17.Cfg Unit :=
  { typeOk := fun s => "text/".toList.isPrefixOf s.toList, sniff := fun _ => "application/octet-stream",
    comp := { reset := id, write := fun z b => (z, b), close := fun z => (z, []), decode := some }, fresh := () }

def demoReq : Hdr := [("Accept-Encoding", ["br, gzip"])]

def demoEncoded : Reply :=
  { interim := [103], status := 200, hdr := [("Content-Type", "text/plain"), ("Content-Encoding", "br"), ("X-A", "1")],
    chunks := [[1, 2], [3]] }

def demoPlain : Reply := { demoEncoded with hdr := [("Content-Type", "text/plain"), ("Content-Length", "3"), ("X-A", "1")] }

example : demoEncoded.wellFormed ∧ demoPlain.wellFormed := by decide

/-- One evaluation for what the layer does to the demo replies below: each evaluation canonicalises and compares the
same few header names, and evaluating strings is slow; checked in one go the kernel computes each such value once. -/
theorem demo_outcomes :
    (C17.hget (demoEncoded.headersOn varyHdr) C17.hContentEncoding ≠ "" ∧
      gzipEngages demoCfg.typeOk false demoReq demoEncoded = false ∧
      respond (some demoCfg) false true demoReq [] demoEncoded =
        { status := 200, body := [1, 2, 3],
          hdr := [("Vary", ["Accept-Encoding"]), ("Content-Type", ["text/plain"]), ("Content-Encoding", ["br"]), ("X-A", ["1"])] }) ∧
    (gzipEngages demoCfg.typeOk false demoReq demoPlain = true ∧
      (respond (some demoCfg) false true demoReq [] demoPlain).hdr =
        [("Vary", ["Accept-Encoding"]), ("Content-Type", ["text/plain"]), ("X-A", ["1"]), ("Content-Encoding", ["gzip"])]) ∧
    (let r : Reply := { demoEncoded with hdr := [("Content-Type", "text/plain"), ("Content-Encoding", ""), ("Content-Encoding", "br")] }
     r.wellFormed ∧ (∃ v ∈ (C17.hraw (r.headersOn varyHdr) C17.hContentEncoding).getD [], v ≠ "") ∧
     gzipEngages demoCfg.typeOk false demoReq r = true ∧
     respond (some demoCfg) false true demoReq [] r ≠ r.asIs varyHdr ∧
     C17.hraw (respond (some demoCfg) false true demoReq [] r).hdr C17.hContentEncoding = some ["gzip"]) ∧
    (gzipEngages demoCfg.typeOk true demoReq demoPlain = false ∧
      gzipEngages demoCfg.typeOk false [("Accept-Encoding", ["gzip;q=0"])] demoPlain = false ∧
      gzipEngages demoCfg.typeOk false demoReq { demoPlain with status := 304 } = false) := by
  decide +kernel

/-- the encoded reply: hypotheses of `encoded_reply_untouched_partial` hold, and the client sees `br` and the three bytes -/
example : C17.hget (demoEncoded.headersOn varyHdr) C17.hContentEncoding ≠ "" ∧
    gzipEngages demoCfg.typeOk false demoReq demoEncoded = false ∧
    respond (some demoCfg) false true demoReq [] demoEncoded =
      { status := 200, body := [1, 2, 3],
        hdr := [("Vary", ["Accept-Encoding"]), ("Content-Type", ["text/plain"]), ("Content-Encoding", ["br"]), ("X-A", ["1"])] } :=
  demo_outcomes.1

/-- the same reply without a coding of its own is compressed: label `gzip`, no Content-Length -/
example : gzipEngages demoCfg.typeOk false demoReq demoPlain = true ∧
    (respond (some demoCfg) false true demoReq [] demoPlain).hdr =
      [("Vary", ["Accept-Encoding"]), ("Content-Type", ["text/plain"]), ("X-A", ["1"]), ("Content-Encoding", ["gzip"])] :=
  demo_outcomes.2.1

/-- `compressed_only_for_accepting_client` / `refused_client_gets_upstream_bytes` are not vacuous: the walk of the code
and the specification's reading on lists where they could part — a wildcard in front of a refusal, a refusal in front
of a wildcard, a second `q`, `ParseFloat` zeros outside the RFC grammar (not compressing is always allowed) -/
example : C07Spec.gzipAcceptable "br, gzip" = true ∧ C07Spec.gzipAcceptable "*, gzip;q=0" = false ∧
    C07Spec.gzipAcceptable "gzip;q=0, *" = false ∧ C07Spec.gzipAcceptable "*;q=0.1" = true ∧
    C07Spec.gzipAcceptable "GZIP;q=0, gzip ; x=1; q=0.5" = true ∧ C07Spec.gzipAcceptable "gzip;q=1;q=0" = true ∧
    C07Spec.gzipAcceptable "identity" = false ∧ C07Spec.gzipAcceptable "" = false ∧
    C17.acceptsGzip [("Accept-Encoding", ["*, gzip;q=0"])] = false ∧ C17.acceptsGzip [("Accept-Encoding", ["gzip;q=0e0"])] = false ∧
    C07Spec.gzipAcceptable "gzip;q=0e0" = true ∧
    (respond (some demoCfg) false true [("Accept-Encoding", ["*, gzip;q=0"])] [] demoPlain).body = [1, 2, 3] := by
  simp only [C07Spec.gzipAcceptable, toList_lit rfl]
  decide +kernel

/-- Negation witness for the hypothesis of `encoded_reply_untouched_partial`: `Content-Encoding:` (empty) followed by
`Content-Encoding: br` — the layer engages, and the client is shown the single label `gzip`: the upstream's `br` is gone. -/
theorem encoded_reply_lost_first_line_empty :
    let r : Reply := { demoEncoded with hdr := [("Content-Type", "text/plain"), ("Content-Encoding", ""), ("Content-Encoding", "br")] }
    r.wellFormed ∧ (∃ v ∈ (C17.hraw (r.headersOn varyHdr) C17.hContentEncoding).getD [], v ≠ "") ∧
    gzipEngages demoCfg.typeOk false demoReq r = true ∧
    respond (some demoCfg) false true demoReq [] r ≠ r.asIs varyHdr ∧
    C17.hraw (respond (some demoCfg) false true demoReq [] r).hdr C17.hContentEncoding = some ["gzip"] :=
  demo_outcomes.2.2.1

/-- not for a HEAD request, a client that refuses gzip, or a 304 -/
example : gzipEngages demoCfg.typeOk true demoReq demoPlain = false ∧
    gzipEngages demoCfg.typeOk false [("Accept-Encoding", ["gzip;q=0"])] demoPlain = false ∧
    gzipEngages demoCfg.typeOk false demoReq { demoPlain with status := 304 } = false := demo_outcomes.2.2.2

example : demoCfg.comp.RoundTrip := by
  intro z chunks
  show some ((demoCfg.comp.feed _ chunks).2 ++ []) = some chunks.flatten
  rw [Lemmas.C17.feed_passthrough _ (fun _ _ => rfl), List.append_nil]

/-- the watcher: a page, the same page again, then the operator removes it -/
example : (watch {} ["<h1>no route</h1>", "<h1>no route</h1>", ""]).get = "" ∧
    (watch {} ["a", "b"]).get = "b" ∧ (watch { html := "x" } []).get = "x" := by decide +kernel

end Fabio.Props.C07Chain
