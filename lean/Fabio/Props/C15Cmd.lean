import Fabio.Lemmas.C15Cmd
import Fabio.Props.C15
/-!
C15 — the command line as typed: `config.parse` (pre-pass) and `flag.FlagSet.Parse` (tokenisation) composed
with `load`.  The theorems of `Props/C15.lean` start from the command line *after* tokenisation (a list of
`(name, value)`); here every accepted spelling of an assignment delivers exactly that list, so precedence and
source equivalence hold for the command line as the user types it.
-/
namespace Fabio.Props.C15Cmd
open Fabio Fabio.Model.C15 Fabio.Lemmas.C15Cmd

/-- **`parse` is total** on every argument vector that has a program name (arbitrary arguments, `-cfg` as the
last argument, empty and quoted paths): a result or `errInvalidConfig`, never an index panic. -/
theorem parse_total (prog : Str) (more : List Str) : (parsePre (prog :: more)).isPanic = false := by
  simp [parsePre, parseLoop_total]

/-- `p` (an argument up to and including its `=`) can not be completed to something the pre-pass recognises -/
def eqFormSafe (p : Str) : Bool :=
  p.contains '=' &&
  ["-cfg=".toList, "--cfg=".toList, "-test.".toList].all (fun w => !w.isPrefixOf p && !p.isPrefixOf w)

theorem preClass_of_eqFormSafe (p s : Str) (h : eqFormSafe p = true) : preClass (p ++ s) = .other := by
  simp only [eqFormSafe, Bool.and_eq_true, List.all_cons, List.all_nil, Bool.not_eq_true',
    Bool.and_true] at h
  obtain ⟨heq, ⟨h1a, h1b⟩, ⟨h2a, h2b⟩, ⟨h3a, h3b⟩⟩ := h
  have hmem : '=' ∈ p ++ s := by
    simp only [List.contains_eq_mem, decide_eq_true_eq] at heq
    exact List.mem_append_left _ heq
  have np : ∀ w : Str, w.isPrefixOf p = false → p.isPrefixOf w = false → ¬ (w.isPrefixOf (p ++ s) = true) := by
    intro w hw hp hc
    rcases isPrefixOf_append_cases w p s hc with h' | h' <;> simp_all
  have ne : ∀ w : Str, '=' ∉ w → p ++ s ≠ w := fun w hw e => hw (e ▸ hmem)
  unfold preClass
  rw [if_neg, if_neg, if_neg, if_neg, if_neg]
  · exact np _ h3a h3b
  · exact np _ h2a h2b
  · exact np _ h1a h1b
  · intro h'; rcases h' with h' | h' <;> exact ne _ (by decide) h'
  · intro h'; rcases h' with h' | h' | h' <;> exact ne _ (by decide) h'

/-- a flag name the flag package can carry -/
def nameOK : Str → Bool
  | [] => false
  | c :: cs => c != '-' && c != '=' && !cs.contains '='

theorem nameOK_cons (n : Str) (h : nameOK n = true) : ∃ c cs, n = c :: cs ∧ c ≠ '-' ∧ c ≠ '=' ∧ '=' ∉ cs := by
  cases n with
  | nil => simp [nameOK] at h
  | cons c cs =>
    simp only [nameOK, Bool.and_eq_true, bne_iff_ne, ne_eq, Bool.not_eq_true', List.contains_eq_mem,
      decide_eq_false_iff_not] at h
    exact ⟨c, cs, rfl, h.1.1, h.1.2, h.2⟩

theorem classifyName_eq (n v : Str) (h : nameOK n = true) : classifyName (n ++ '=' :: v) = .flag n (some v) := by
  obtain ⟨c, cs, rfl, h1, h2, h3⟩ := nameOK_cons n h
  simp [classifyName, h1, h2, splitAtEq_eq [c] cs v h3]

theorem classifyName_bare (n : Str) (h : nameOK n = true) : classifyName n = .flag n none := by
  obtain ⟨c, cs, rfl, h1, h2, h3⟩ := nameOK_cons n h
  simp [classifyName, h1, h2, splitAtEq_none [c] cs h3]

/-- the form fits the flag's kind: no `-name value` for a boolean flag, `-flag` only for a boolean flag and
meaning `true` -/
def wf (formal : Str → Option Bool) (accepts : Str → Str → Bool) (x : Str × Str × Form) : Prop :=
  nameOK x.1 = true ∧ accepts x.1 x.2.1 = true ∧
  (match x.2.2 with
   | .eq1 | .eq2 => (formal x.1).isSome
   | .split1 | .split2 => formal x.1 = some false
   | .bare1 | .bare2 => formal x.1 = some true ∧ x.2.1 = "true".toList)

theorem classifyArg_spelled (n : Str) (h : nameOK n = true) :
    (∀ v, classifyArg ('-' :: (n ++ '=' :: v)) = .flag n (some v)) ∧
    (∀ v, classifyArg ('-' :: '-' :: (n ++ '=' :: v)) = .flag n (some v)) ∧
    classifyArg ('-' :: n) = .flag n none ∧ classifyArg ('-' :: '-' :: n) = .flag n none := by
  have he := fun v => classifyName_eq n v h
  have hb := classifyName_bare n h
  obtain ⟨c, cs, rfl, hc, _, _⟩ := nameOK_cons n h
  simp only [List.cons_append] at he
  simp [classifyArg, hc, he, hb]

theorem tokenise_spellOne {formal : Str → Option Bool} {accepts : Str → Str → Bool} {n v : Str} {f : Form}
    {rest : List Str} {acc : List (Str × Str)} (h : wf formal accepts (n, v, f)) :
    tokenise formal accepts (spellOne n v f ++ rest) acc = tokenise formal accepts rest ((n, v) :: acc) := by
  obtain ⟨hn, ha, hf⟩ := h
  obtain ⟨e1, e2, b1, b2⟩ := classifyArg_spelled n hn
  cases f
  · exact tokenise_valued (e1 v) hf ha
  · exact tokenise_valued (e2 v) hf ha
  · exact tokenise_next b1 hf ha
  · exact tokenise_next b2 hf ha
  · obtain ⟨hf, rfl⟩ := hf
    exact tokenise_bare b1 hf ha
  · obtain ⟨hf, rfl⟩ := hf
    exact tokenise_bare b2 hf ha

theorem tokenise_spell (formal : Str → Option Bool) (accepts : Str → Str → Bool)
    (xs : List (Str × Str × Form)) (acc : List (Str × Str)) (h : ∀ x ∈ xs, wf formal accepts x) :
    tokenise formal accepts (spell xs) acc =
      .ok { pairs := acc.reverse ++ xs.map (fun x => (x.1, x.2.1)), positional := [] } := by
  induction xs generalizing acc with
  | nil => simp [spell, tokenise]
  | cons x t ih =>
    obtain ⟨n, v, f⟩ := x
    rw [spell, tokenise_spellOne (h _ (by simp)), ih _ (fun y hy => h y (by simp [hy]))]
    simp

/-- neither `-name`, `--name` nor anything that starts with `-name=` / `--name=` is taken by the pre-pass -/
def namesCmdlineSafe (names : List Str) : Bool :=
  names.all (fun n => nameOK n &&
    decide (preClass ('-' :: n) = .other) && decide (preClass ('-' :: '-' :: n) = .other) &&
    eqFormSafe (('-' :: n) ++ ['=']) && eqFormSafe (('-' :: '-' :: n) ++ ['=']))

/-- the value of a `-name value` spelling is an argument of its own for the pre-pass -/
def splitValuesPlain (xs : List (Str × Str × Form)) : Prop :=
  ∀ x ∈ xs, (x.2.2 = .split1 ∨ x.2.2 = .split2) → preClass x.2.1 = .other

theorem spellOne_other (names : List Str) (hs : namesCmdlineSafe names = true) (n v : Str) (f : Form)
    (hn : n ∈ names) (hv : (f = .split1 ∨ f = .split2) → preClass v = .other) :
    ∀ a ∈ spellOne n v f, preClass a = .other := by
  simp only [namesCmdlineSafe, List.all_eq_true, Bool.and_eq_true, decide_eq_true_eq] at hs
  obtain ⟨⟨⟨⟨_, h1⟩, h2⟩, h3⟩, h4⟩ := hs n hn
  intro a ha
  cases f <;> simp only [spellOne, List.mem_cons, List.not_mem_nil, or_false] at ha
  · subst ha; simpa using preClass_of_eqFormSafe _ v h3
  · subst ha; simpa using preClass_of_eqFormSafe _ v h4
  · rcases ha with rfl | rfl
    · exact h1
    · exact hv (.inl rfl)
  · rcases ha with rfl | rfl
    · exact h2
    · exact hv (.inr rfl)
  · subst ha; exact h1
  · subst ha; exact h2

theorem spell_other (names : List Str) (hs : namesCmdlineSafe names = true) (xs : List (Str × Str × Form))
    (hx : ∀ x ∈ xs, x.1 ∈ names) (hv : splitValuesPlain xs) : ∀ a ∈ spell xs, preClass a = .other := by
  induction xs with
  | nil => simp [spell]
  | cons x t ih =>
    obtain ⟨n, v, f⟩ := x
    intro a ha
    rcases List.mem_append.1 ha with ha | ha
    · exact spellOne_other names hs n v f (hx (n, v, f) (by simp)) (hv (n, v, f) (by simp)) a ha
    · exact ih (fun y hy => hx y (by simp [hy])) (fun y hy => hv y (by simp [hy])) a ha

/--
**Every spelling of an assignment list reaches the flag set as that list**: with each assignment spelled in any
form that fits its flag — `-name=value`, `--name=value`, `-name value`, `--name value`, and for booleans `-name`,
`--name` — the pre-pass hands all arguments on unchanged with no properties path and the flag package calls
`Set(name, value)` for exactly these assignments in this order, with nothing left over.

The full statement ("for every value") is false for the two-argument forms: the pre-pass reads the value as an
argument of its own.  `split_value_prepass_word` is the witness, replayed on the real code from
`corpus/c15.cmdline.jsonl` (`-ui.title -v` prints the version; `-ui.title=-v` sets the title).
-/
theorem cmdline_spelling_partial (formal : Str → Option Bool) (accepts : Str → Str → Bool) (names : List Str)
    (hs : namesCmdlineSafe names = true) (prog : Str) (xs : List (Str × Str × Form))
    (hx : ∀ x ∈ xs, x.1 ∈ names) (hwf : ∀ x ∈ xs, wf formal accepts x) (hv : splitValuesPlain xs) :
    parsePre (prog :: spell xs) = .ok (.ok { rest := spell xs, path := [] }) ∧
    tokenise formal accepts (spell xs) [] = .ok { pairs := xs.map (fun x => (x.1, x.2.1)), positional := [] } := by
  constructor
  · simp [parsePre, parseLoop_other _ _ _ (spell_other names hs xs hx hv)]
  · simpa using tokenise_spell formal accepts xs [] hwf

/-- a value that is itself a pre-pass word, given in the two-argument form, is taken by the pre-pass (here: the
version flag), while the one-argument form delivers it -/
theorem split_value_prepass_word :
    parsePre ["fabio".toList, "-ui.title".toList, "-v".toList] = .ok .version ∧
    parsePre ["fabio".toList, "-ui.title=-v".toList] = .ok (.ok { rest := ["-ui.title=-v".toList], path := [] }) := by
  simp only [toList_lit rfl]; decide +kernel

/-- **`Load` does not depend on how the command line is spelled**: two spellings of the same assignments give
the same result (configuration, error, exit) for every environment block. -/
theorem load_spelling_irrelevant (E : FlagEnv) (names : List Str) (hs : namesCmdlineSafe names = true)
    (prog : Str) (xs ys : List (Str × Str × Form)) (environ : List Str)
    (hsame : xs.map (fun x => (x.1, x.2.1)) = ys.map (fun x => (x.1, x.2.1)))
    (hx : ∀ x ∈ xs, x.1 ∈ names) (hy : ∀ y ∈ ys, y.1 ∈ names)
    (hwx : ∀ x ∈ xs, wf E.formal E.accepts x) (hwy : ∀ y ∈ ys, wf E.formal E.accepts y)
    (hvx : splitValuesPlain xs) (hvy : splitValuesPlain ys) :
    loadArgv E (prog :: spell xs) environ = loadArgv E (prog :: spell ys) environ := by
  obtain ⟨px, tx⟩ := cmdline_spelling_partial E.formal E.accepts names hs prog xs hx hwx hvx
  obtain ⟨py, ty⟩ := cmdline_spelling_partial E.formal E.accepts names hs prog ys hy hwy hvy
  simp only [loadArgv, px, py, tx, ty, hsame]

/-- **Precedence for the command line as typed**: whatever the spelling, the flag `name` resolves to the *last*
assignment of it on the command line, before any environment variable or the file. -/
theorem cmdline_wins_as_typed (formal : Str → Option Bool) (accepts : Str → Str → Bool) (names : List Str)
    (hs : namesCmdlineSafe names = true) (xs : List (Str × Str × Form))
    (hx : ∀ x ∈ xs, x.1 ∈ names) (hwf : ∀ x ∈ xs, wf formal accepts x) (hv : splitValuesPlain xs)
    (name dflt v : Str) (environ : List Str) (props : Option Map)
    (hlast : cmdLookup name (xs.map (fun x => (x.1, x.2.1))) = some v) :
    ∃ tok, tokenise formal accepts (spell xs) [] = .ok tok ∧
      resolve name dflt { cmd := tok.pairs, environ := environ, prefixes := ["FABIO_".toList, []], props := props }
        = .ok (.cmdline, v) := by
  obtain ⟨_, tx⟩ := cmdline_spelling_partial formal accepts names hs [] xs hx hwf hv
  refine ⟨_, tx, ?_⟩
  rw [Fabio.Props.C15.precedence_load name dflt _ _ _ rfl]
  simp [hlast, Fabio.Props.C15.expected]

/-- **`Load` is total** on every argument vector with a program name: version, configuration, error or the
flag package's exit — never a panic — for every environment block and whatever the properties loader returns. -/
theorem loadArgv_total (E : FlagEnv) (prog : Str) (more environ : List Str) :
    (loadArgv E (prog :: more) environ).isPanic = false := by
  have hp := parse_total prog more
  have hl := fun cmd props => Fabio.Props.C15.load_total E.unq E.atoi E.extra E.flags
    { cmd := cmd, environ := environ, prefixes := ["FABIO_".toList, []], props := props }
  unfold loadArgv
  repeat' split
  -- the two branches that hand a panic on are excluded by `hp` and `hl`
  all_goals first
    | rfl
    | (rename_i h; rw [h] at hp; cases hp)
    | (rename_i h; exact absurd (h ▸ hl _ _) (by simp [Outcome.isPanic]))

section Examples
def formalEx (n : Str) : Option Bool :=
  if n = "insecure".toList then some true
  else if n = "ui.title".toList ∨ n = "proxy.maxconn".toList then some false else none
def namesEx : List Str := ["insecure".toList, "ui.title".toList, "proxy.maxconn".toList]
def xsEx : List (Str × Str × Form) :=
  [("ui.title".toList, "a".toList, .split2), ("insecure".toList, "true".toList, .bare1),
   ("proxy.maxconn".toList, "5".toList, .eq1), ("ui.title".toList, "-x=y".toList, .eq2),
   ("insecure".toList, "false".toList, .eq1)]

example : namesCmdlineSafe namesEx = true := by
  simp only [namesEx, namesCmdlineSafe, eqFormSafe, preClass, toList_lit rfl]; decide +kernel
/-- the pre-pass names themselves are not safe: `-v`, `-cfg`, a flag called `test.x` -/
example : namesCmdlineSafe ["v".toList] = false ∧ namesCmdlineSafe ["cfg".toList] = false
    ∧ namesCmdlineSafe ["test.x".toList] = false ∧ namesCmdlineSafe ["a=b".toList] = false := by
  unfold namesCmdlineSafe eqFormSafe preClass; simp only [toList_lit rfl]; decide +kernel
example : spell xsEx = ["--ui.title".toList, "a".toList, "-insecure".toList, "-proxy.maxconn=5".toList,
    "--ui.title=-x=y".toList, "-insecure=false".toList] := by
  simp only [xsEx, toList_lit rfl]; decide +kernel
example : tokenise formalEx (fun _ _ => true) (spell xsEx) [] =
    .ok { pairs := xsEx.map (fun x => (x.1, x.2.1)), positional := [] } := by
  unfold formalEx; simp only [xsEx, List.map, toList_lit rfl]; decide +kernel
/-- a boolean flag does not take the next argument: parsing stops there and later flags are lost -/
example : tokenise formalEx (fun _ _ => true) ["-insecure".toList, "false".toList, "-ui.title=x".toList] [] =
    .ok { pairs := [("insecure".toList, "true".toList)], positional := ["false".toList, "-ui.title=x".toList] } := by
  unfold formalEx; simp only [toList_lit rfl]; decide +kernel
example : tokenise formalEx (fun _ _ => true) ["-ui.title".toList] [] = .error (.needsArg "ui.title".toList) := by
  unfold formalEx; simp only [toList_lit rfl]; decide +kernel
example : tokenise formalEx (fun _ _ => true) ["-nosuch=1".toList] [] = .error (.undefined "nosuch".toList) := by
  unfold formalEx; simp only [toList_lit rfl]; decide +kernel
example : tokenise formalEx (fun _ _ => true) ["---x".toList] [] = .error (.badSyntax "---x".toList) := by
  unfold formalEx; simp only [toList_lit rfl]; decide +kernel
example : tokenise formalEx (fun _ _ => true) ["--".toList, "-ui.title=x".toList] [] =
    .ok { pairs := [], positional := ["-ui.title=x".toList] } := by
  unfold formalEx; simp only [toList_lit rfl]; decide +kernel
/-- the pre-pass: `-cfg` with and without `=`, quotes trimmed, test flags dropped, the last path counts -/
example : parsePre ["fabio".toList, "-cfg".toList, "a".toList, "-x".toList, "-test.v".toList, "--cfg='b'".toList] =
    .ok (.ok { rest := ["-x".toList], path := "b".toList }) := by
  simp only [toList_lit rfl]; decide +kernel
example : parsePre ["fabio".toList, "-x".toList, "-cfg".toList] = .ok .invalidConfig := by
  simp only [toList_lit rfl]; decide +kernel
example : parsePre ["fabio".toList, "-cfg=''".toList] = .ok .invalidConfig := by
  simp only [toList_lit rfl]; decide +kernel
example : (parsePre []).isPanic = true := by decide +kernel
end Examples

end Fabio.Props.C15Cmd
