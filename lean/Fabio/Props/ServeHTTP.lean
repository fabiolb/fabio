import Fabio.Model.ServeHTTP
import Fabio.Props.C03
import Fabio.Props.C07
import Fabio.Lemmas.C08Steps
import Fabio.Props.C12
import Fabio.Props.C13Compose
import Fabio.Model.C12Parse
/-!
Theorems over the unified model of `HTTPProxy.ServeHTTP` (`Fabio.Model.ServeHTTP.serveHTTP`): the per-property
results of C03 (lookup), C12 (gates), C13 (redirect), C07 (target URL) and C08 (headers, Host) restated as
statements about ONE function, so that e.g. C12's `gate_before_upstream` and C13's "a redirect contacts no
upstream" are corollaries of the outcome analysis of `serveHTTP` instead of facts about separate fragments.
-/
namespace Fabio.Props.ServeHTTP
open Fabio Fabio.Model Fabio.Model.ServeHTTP

/-! ### the lookup stage is C03's `Lookup` with C13's skip (the composition proved in `C13Compose`) -/

/-- one request as `C13Compose` sees it -/
def creq (cfg : Cfg) (r : Request) : Props.C13Compose.CReq :=
  { r03 := req03 r, url := url13 r, xfp := utf8 (C08.get1 C08.xForwardedProto (withRequestID cfg r)) }

theorem select_eq_compose (cfg : Cfg) (t : Route.Table) (r : Request) :
    select cfg t r = Props.C13Compose.Lookup cfg.lookup (redirectView cfg) t (creq cfg r) := rfl

theorem serveHTTP_of_select {cfg : Cfg} {t : Route.Table} {r : Request} {h : Str} {ro : Route.Route} {tg : Route.Target}
    (hsel : select cfg t r = some (h, ro, tg)) : serveHTTP cfg t r = serveTarget cfg r tg := by
  unfold serveHTTP
  rw [hsel]

theorem serveHTTP_cases (cfg : Cfg) (t : Route.Table) (r : Request) :
    (select cfg t r = none ∧
      serveHTTP cfg t r = .noRoute (C07.noRouteStatus cfg.noRouteStatus) cfg.noRouteHTML) ∨
    ∃ h ro tg, select cfg t r = some (h, ro, tg) ∧ serveHTTP cfg t r = serveTarget cfg r tg := by
  cases hsel : select cfg t r with
  | none => exact .inl ⟨rfl, by unfold serveHTTP; rw [hsel]⟩
  | some x => exact .inr ⟨x.1, x.2.1, x.2.2, rfl, serveHTTP_of_select hsel⟩

theorem serveTarget_cases (cfg : Cfg) (r : Request) (tg : Route.Target) :
    (denied cfg r tg = true ∧ serveTarget cfg r tg = .forbidden) ∨
    (denied cfg r tg = false ∧ authorized cfg r tg = false ∧ serveTarget cfg r tg = .unauthorized) ∨
    (denied cfg r tg = false ∧ authorized cfg r tg = true ∧ isRedirect cfg tg = true ∧
       serveTarget cfg r tg = .redirect (redirectView cfg tg).code (C13.location (redirectView cfg tg) (url13 r))) ∨
    (denied cfg r tg = false ∧ authorized cfg r tg = true ∧ isRedirect cfg tg = false ∧
       headerStage cfg r tg = none ∧ serveTarget cfg r tg = .serverError) ∨
    (denied cfg r tg = false ∧ authorized cfg r tg = true ∧ isRedirect cfg tg = false ∧
       ∃ up, headerStage cfg r tg = some up ∧ serveTarget cfg r tg = .forward (forwardOf cfg r tg up)) := by
  unfold serveTarget
  cases denied cfg r tg
  · cases authorized cfg r tg
    · simp
    · cases isRedirect cfg tg
      · cases headerStage cfg r tg <;> simp
      · simp
  · simp

/-- Exactly one of the six outcomes, decided in this priority: no target ⇒ no-route
status and page; else access denied ⇒ 403; else not authorized ⇒ 401; else redirect route ⇒ its code and
`Location`; else `addHeaders` fails ⇒ 500; else forward. -/
theorem serve_outcome_cases (cfg : Cfg) (t : Route.Table) (r : Request) :
    (select cfg t r = none ∧
      serveHTTP cfg t r = .noRoute (C07.noRouteStatus cfg.noRouteStatus) cfg.noRouteHTML) ∨
    (∃ h ro tg, select cfg t r = some (h, ro, tg) ∧
      ((denied cfg r tg = true ∧ serveHTTP cfg t r = .forbidden) ∨
       (denied cfg r tg = false ∧ authorized cfg r tg = false ∧ serveHTTP cfg t r = .unauthorized) ∨
       (denied cfg r tg = false ∧ authorized cfg r tg = true ∧ isRedirect cfg tg = true ∧
          serveHTTP cfg t r = .redirect (redirectView cfg tg).code (C13.location (redirectView cfg tg) (url13 r))) ∨
       (denied cfg r tg = false ∧ authorized cfg r tg = true ∧ isRedirect cfg tg = false ∧
          headerStage cfg r tg = none ∧ serveHTTP cfg t r = .serverError) ∨
       (denied cfg r tg = false ∧ authorized cfg r tg = true ∧ isRedirect cfg tg = false ∧
          ∃ up, headerStage cfg r tg = some up ∧ serveHTTP cfg t r = .forward (forwardOf cfg r tg up)))) := by
  rcases serveHTTP_cases cfg t r with h0 | ⟨h, ro, tg, hsel, h1⟩
  · exact .inl h0
  · rw [h1]
    exact .inr ⟨h, ro, tg, hsel, serveTarget_cases cfg r tg⟩

theorem outcome_classes_distinct (cfg : Cfg) (t : Route.Table) (r : Request) :
    (serveHTTP cfg t r).cls ∈ ["noroute", "403", "401", "redirect", "500", "forward"] := by
  cases serveHTTP cfg t r <;> simp [Outcome.cls]

theorem serveTarget_forward {cfg : Cfg} {r : Request} {tg : Route.Target} {f : Forward}
    (hf : serveTarget cfg r tg = .forward f) :
    denied cfg r tg = false ∧ authorized cfg r tg = true ∧ isRedirect cfg tg = false ∧
      ∃ up, headerStage cfg r tg = some up ∧ f = forwardOf cfg r tg up := by
  rcases serveTarget_cases cfg r tg with
    ⟨_, h1⟩ | ⟨_, _, h1⟩ | ⟨_, _, _, h1⟩ | ⟨_, _, _, _, h1⟩ | ⟨hd, ha, hr, up, hu, h1⟩ <;> rw [h1] at hf <;> cases hf
  exact ⟨hd, ha, hr, up, hu, rfl⟩

theorem serveTarget_redirect {cfg : Cfg} {r : Request} {tg : Route.Target} {code : Int} {loc : Bytes}
    (h : serveTarget cfg r tg = .redirect code loc) :
    isRedirect cfg tg = true ∧ code = (redirectView cfg tg).code ∧
      loc = C13.location (redirectView cfg tg) (url13 r) := by
  rcases serveTarget_cases cfg r tg with
    ⟨_, h1⟩ | ⟨_, _, h1⟩ | ⟨_, _, hr, h1⟩ | ⟨_, _, _, _, h1⟩ | ⟨_, _, _, up, _, h1⟩ <;> rw [h1] at h <;> cases h
  exact ⟨hr, rfl, rfl⟩

theorem forward_inv {cfg : Cfg} {t : Route.Table} {r : Request} {f : Forward}
    (hf : serveHTTP cfg t r = .forward f) :
    ∃ h ro tg, select cfg t r = some (h, ro, tg) ∧ denied cfg r tg = false ∧ authorized cfg r tg = true ∧
      isRedirect cfg tg = false ∧ ∃ up, headerStage cfg r tg = some up ∧ f = forwardOf cfg r tg up := by
  rcases serveHTTP_cases cfg t r with ⟨_, h0⟩ | ⟨h, ro, tg, hsel, h1⟩
  · rw [h0] at hf; cases hf
  · rw [h1] at hf
    exact ⟨h, ro, tg, hsel, serveTarget_forward hf⟩

/-! ### the gates (C12 and C13 as corollaries) -/

/-- A request is forwarded only if
 * a route matched it in C03's sense (host key empty or matching the request host, route of that key, path
   matching under the configured matcher, target one of the route's targets) — and the target was not skipped;
 * the access rules of that target admitted it: with rules present the peer address could be split, parsed and
   passed `denyByIP`, and so did every `X-Forwarded-For` element that is an address other than the peer;
 * it is authorized under the target's scheme (no scheme, or a registered one that accepted the credentials);
 * the target is not a redirect route.
(C12 `gate_before_upstream`, `accessDeniedHTTP_false_iff`, `authorized_iff`; C13Glue `redirect_target_contacts_no_upstream`; C03
`lookup_sound`, on the unified model.) -/
theorem upstream_contacted_only_if (cfg : Cfg) (t : Route.Table) (r : Request) (hpick : Props.C03.PickOK cfg.lookup.pick)
    {f : Forward} (hf : serveHTTP cfg t r = .forward f) :
    ∃ h ro tg, select cfg t r = some (h, ro, tg) ∧
      -- a route matched
      ((h = [] ∨ Props.C03.HostMatches { cfg.lookup with skip := skipFor cfg r } t (req03 r) h) ∧
        ro ∈ t.get (lowerL h) ∧ cfg.lookup.pathMatch (req03 r).path ro.path = true ∧ tg ∈ ro.targets ∧
        skipFor cfg r tg = false) ∧
      -- access admitted the peer and every XFF element
      (denied cfg r tg = false ∧
        ((rulesOf cfg tg).isEmpty = false →
          ∃ host ip, cfg.parsers.splitHostPort r.remoteAddr = some host ∧
            cfg.parsers.parseIP (C12.stripZone host) = some ip ∧ C12.denyByIP (rulesOf cfg tg) (some ip) = false ∧
            ∀ line ∈ xffLines cfg r, ∀ x ∈ C12.splitOn ',' line, C12.trimSpace x ≠ host →
              ∀ ip', cfg.parsers.parseIP (C12.stripZone (C12.trimSpace x)) = some ip' →
                C12.denyByIP (rulesOf cfg tg) (some ip') = false)) ∧
      -- authorized
      (authorized cfg r tg = true ∧
        (authOf tg = [] ∨ ∃ secrets, cfg.authSchemes.lookup (authOf tg) = some secrets ∧
          C12.basicVerdict secrets r.basicAuth = true)) ∧
      -- not a redirect route
      (redirectView cfg tg).code = 0 := by
  obtain ⟨h, ro, tg, hsel, hd, ha, hr, _⟩ := forward_inv hf
  refine ⟨h, ro, tg, hsel, ?_, ⟨hd, ?_⟩, ⟨ha, ?_⟩, ?_⟩
  · obtain ⟨hk, hro, hm, htg⟩ := Props.C03.lookup_sound { cfg.lookup with skip := skipFor cfg r } t (req03 r) hpick hsel
    exact ⟨hk, hro, hm, htg,
      Props.C03.skipped_redirect_never_returned { cfg.lookup with skip := skipFor cfg r } t (req03 r) hsel⟩
  · exact fun hne => ((Lemmas.C12.accessDeniedHTTP_false_iff _ _ _ _).mp hd).resolve_left (by simp [hne])
  · exact (Lemmas.C12.authorized_iff _ _ _).mp ha
  · simpa [isRedirect] using hr

/-- the unified model refines C12's sequential gate model: with the statement order of `ServeHTTP`
(`lookup, access, auth, upstream`) C12's `runGate` gives the same reply class, and it reports an upstream
contact (C12 counts the redirect and the 500 as "past the gates") exactly when the outcome is past the gates -/
theorem gate_refines (cfg : Cfg) (t : Route.Table) (r : Request) :
    let env : C12.Env :=
      { found := (select cfg t r).isSome,
        denied := match select cfg t r with | some (_, _, tg) => denied cfg r tg | none => false,
        authorized := match select cfg t r with | some (_, _, tg) => authorized cfg r tg | none => true }
    let reply := (C12.runGate env [.lookup, .access, .auth, .upstream] false).1
    (reply = .noRoute ↔ (serveHTTP cfg t r).cls = "noroute") ∧
    (reply = .forbidden ↔ (serveHTTP cfg t r).cls = "403") ∧
    (reply = .unauthorized ↔ (serveHTTP cfg t r).cls = "401") ∧
    (reply = .served ↔ (serveHTTP cfg t r).cls ∈ ["redirect", "500", "forward"]) := by
  intro env reply
  rcases serve_outcome_cases cfg t r with ⟨hs, h0⟩ | ⟨h, ro, tg, hsel, hc⟩
  · simp [reply, env, hs, h0, C12.runGate, Outcome.cls]
  · rcases hc with ⟨hd, h1⟩ | ⟨hd, ha, h1⟩ | ⟨hd, ha, _, h1⟩ | ⟨hd, ha, _, _, h1⟩ | ⟨hd, ha, _, up, _, h1⟩
    · simp [reply, env, hsel, hd, h1, C12.runGate, Outcome.cls]
    all_goals simp [reply, env, hsel, hd, ha, h1, C12.runGate, Outcome.cls]

/-- a redirect route never reaches the upstream stage (C13Glue `redirect_target_contacts_no_upstream` on the unified model): the answer is
the target's code and the `Location` C13 computes, whatever `addHeaders` or the URL construction would do -/
theorem redirect_contacts_no_upstream (cfg : Cfg) (t : Route.Table) (r : Request) {h : Str} {ro : Route.Route}
    {tg : Route.Target} (hsel : select cfg t r = some (h, ro, tg)) (hr : isRedirect cfg tg = true) :
    ∀ f, serveHTTP cfg t r ≠ .forward f := by
  intro f hf
  rw [serveHTTP_of_select hsel] at hf
  rw [(serveTarget_forward hf).2.2.1] at hr
  cases hr

/-- and the redirect answer is C13Compose's `answer` for the same table, whenever the gates let it through -/
theorem redirect_is_compose_answer (cfg : Cfg) (t : Route.Table) (r : Request) {code : Int} {loc : Bytes}
    (h : serveHTTP cfg t r = .redirect code loc) :
    Props.C13Compose.answer cfg.lookup (redirectView cfg) t (creq cfg r) = some (code, loc) := by
  rcases serveHTTP_cases cfg t r with ⟨_, h0⟩ | ⟨hh, ro, tg, hsel, h1⟩
  · rw [h0] at h; cases h
  · rw [h1] at h
    obtain ⟨hr, hcode, hloc⟩ := serveTarget_redirect h
    have hne : (redirectView cfg tg).code ≠ 0 := by simpa [isRedirect] using hr
    unfold Props.C13Compose.answer
    rw [← select_eq_compose, hsel, hcode, hloc]
    simp [hne, creq]

/-! ### the forwarded request (C07 and C08 as projections of `serveHTTP`) -/

/-- the request `addHeaders` receives, in the two spellings of the request-id step -/
theorem req08_withRequestID (cfg : Cfg) (r : Request) :
    ({ req08 r with headers := withRequestID cfg r } : C08.Req) =
      Props.C08Serve.withRequestID cfg.headers cfg.uuid (req08 r) := rfl

theorem headerStage_some {cfg : Cfg} {r : Request} {tg : Route.Target} {up : C08.Upstream}
    (hu : headerStage cfg r tg = some up) :
    up.host = C08.overrideHost (opt tg "host") (targetHost cfg tg) r.host ∧
    up.resp = C08.addResponseHeaders cfg.headers r.tls.isSome [] ∧
    ∃ ip port, C08.splitHostPort r.remoteAddr = some (ip, port) ∧
      up.headers = C08.addHeadersIP cfg.headers (opt tg "strip") { req08 r with headers := withRequestID cfg r } ip := by
  rw [headerStage, Lemmas.C08.serve_eq_map, Option.map_eq_some_iff] at hu
  obtain ⟨⟨ip, port⟩, hsp, rfl⟩ := hu
  exact ⟨rfl, rfl, ip, port, hsp, by rw [req08_withRequestID]⟩

/-- both handlers send `targetURL`'s path and query: the director copies them -/
theorem forwardOf_url (cfg : Cfg) (r : Request) (tg : Route.Target) (up : C08.Upstream) :
    (forwardOf cfg r tg up).url.path = (C07.targetURL (fwdTarget cfg tg) r.url).path ∧
    (forwardOf cfg r tg up).url.escapedPath = (C07.targetURL (fwdTarget cfg tg) r.url).escapedPath ∧
    (forwardOf cfg r tg up).url.rawQuery = (C07.targetURL (fwdTarget cfg tg) r.url).rawQuery := by
  simp only [forwardOf]
  cases C08.isWebsocket up.headers <;> exact ⟨rfl, rfl, rfl⟩

/-- For a forwarded request, with `tg` the selected target:
 * the upstream is the target's host, and the handler is the websocket one exactly when the headers — as
   `addHeaders` left them — carry `Upgrade: websocket`;
 * path: C07 `path_rewrite` — prepend ++ (path − strip), `/` in front after each step when missing;
 * query: C07 `query_merge` — route query, `&` iff both non-empty, client query;
 * Host: C07 `host_only_when_asked` / C08 `overrideHost` — the client's unless `host=`; `dst` ↦ target host;
 * headers: exactly `C08.addHeadersIP` (so every theorem of `Props/C08.lean` about `addHeadersIP` applies) on the client's
   request after the request-id step, for the peer address split off `RemoteAddr`; the response headers are C08's. -/
theorem forward_fields (cfg : Cfg) (t : Route.Table) (r : Request) {f : Forward}
    (hf : serveHTTP cfg t r = .forward f) :
    ∃ h ro tg, select cfg t r = some (h, ro, tg) ∧
      f.upstream = targetHost cfg tg ∧ f.method = r.method ∧
      (f.via = .ws ↔ C08.isWebsocket f.headers = true) ∧
      -- path
      (let ft := fwdTarget cfg tg
       let applies := ft.strip ≠ [] ∧ ft.strip <+: r.url.path
       let rem := if applies then C07Spec.ensureAbs (r.url.path.drop ft.strip.length) else r.url.path
       f.url.path = (if ft.prepend ≠ [] then C07Spec.ensureAbs (ft.prepend ++ rem) else rem)) ∧
      -- query
      (let ft := fwdTarget cfg tg
       f.url.rawQuery = ft.rawQuery ++ (if ft.rawQuery ≠ [] ∧ r.url.rawQuery ≠ [] then [C07.AMP] else []) ++ r.url.rawQuery) ∧
      -- Host
      (f.host = C08.overrideHost (opt tg "host") (targetHost cfg tg) r.host ∧
       (opt tg "host" = [] → f.host = r.host) ∧ (opt tg "host" = "dst".toList → f.host = targetHost cfg tg) ∧
       (opt tg "host" ≠ [] → opt tg "host" ≠ "dst".toList → f.host = opt tg "host")) ∧
      -- headers
      (∃ ip port, C08.splitHostPort r.remoteAddr = some (ip, port) ∧
        f.headers = C08.addHeadersIP cfg.headers (opt tg "strip") { req08 r with headers := withRequestID cfg r } ip ∧
        f.respHeaders = C08.addResponseHeaders cfg.headers r.tls.isSome []) := by
  obtain ⟨h, ro, tg, hsel, _, _, _, up, hu, rfl⟩ := forward_inv hf
  obtain ⟨hpath, _, hquery⟩ := forwardOf_url cfg r tg up
  refine ⟨h, ro, tg, hsel, rfl, rfl, ?_, hpath.trans (Props.C07.targetURL_path (fwdTarget cfg tg) r.url),
    hquery.trans (Props.C07.targetURL_query (fwdTarget cfg tg) r.url), ?_, ?_⟩
  · simp only [forwardOf]
    cases C08.isWebsocket up.headers <;> simp
  · -- Host
    obtain ⟨hh, _, _⟩ := headerStage_some hu
    simp only [forwardOf]
    rw [hh]
    refine ⟨rfl, ?_, ?_, ?_⟩
    · intro h0; simp [C08.overrideHost, h0]
    · intro h0; simp [C08.overrideHost, h0]
    · intro h0 h1
      have h1' : opt tg "host" ≠ ['d', 's', 't'] := by simpa using h1
      simp [C08.overrideHost, h0, h1']
  · -- headers
    obtain ⟨_, hr', ip, port, hsp, hh⟩ := headerStage_some hu
    exact ⟨ip, port, hsp, hh, hr'⟩

/-- the bytes of the request-target path the upstream receives (C07 `percent_encoding_preserved_partial` on the
unified model): when the request URL is what the server parsed from validly encoded client bytes, the outgoing
`EscapedPath()` is the specification's expected wire form whenever that is absolute -/
theorem forward_wire_path (cfg : Cfg) (t : Route.Table) (r : Request) {f : Forward}
    (hf : serveHTTP cfg t r = .forward f)
    (client p rp : Bytes) (hparse : C07.setPath client = some (p, rp)) (hurl : r.url.path = p ∧ r.url.rawPath = rp)
    (hslash : C07.startsWithSlash client = true) (hvalid : C07.validEncoded client = true) :
    ∃ h ro tg d w, select cfg t r = some (h, ro, tg) ∧
      C07Spec.expectedPath (fwdTarget cfg tg).strip (fwdTarget cfg tg).prepend client = some (d, w) ∧
      f.url.path = d ∧ (C07.startsWithSlash w = true → f.url.escapedPath = w) := by
  obtain ⟨h, ro, tg, hsel, _, _, _, up, _, rfl⟩ := forward_inv hf
  obtain ⟨hexp, _, habs⟩ :=
    Props.C07.targetURL_wire_path (fwdTarget cfg tg) r.url client p rp hparse hurl hslash hvalid
  obtain ⟨hpath, hesc, _⟩ := forwardOf_url cfg r tg up
  exact ⟨h, ro, tg, _, _, hsel, hexp, hpath, fun hw => hesc.trans (habs hw)⟩

theorem noRoute_iff (cfg : Cfg) (t : Route.Table) (r : Request) :
    serveHTTP cfg t r = .noRoute (C07.noRouteStatus cfg.noRouteStatus) cfg.noRouteHTML ↔ select cfg t r = none := by
  rcases serve_outcome_cases cfg t r with ⟨hs, h0⟩ | ⟨h, ro, tg, hsel, hc⟩
  · simp [hs, h0]
  · rcases hc with ⟨_, h1⟩ | ⟨_, _, h1⟩ | ⟨_, _, _, h1⟩ | ⟨_, _, _, _, h1⟩ | ⟨_, _, _, up, _, h1⟩ <;> simp [h1, hsel]

/-- For a request on which the self-redirect skip rejects no target stored in the table, on a table whose routes all have
targets and with a picker that picks from the route: the answer is the no-route status and page **iff** no route is a
candidate — no route under the empty key or under a key matching the request host has a path that matches (C03
`Lookup_eq_none_iff`; by `hpick` what `Table.lookup` answers with is a stored target, which `hskip` covers). -/
theorem noroute_iff_no_candidate_of_table_noskip (cfg : Cfg) (t : Route.Table) (r : Request)
    (hskip : ∀ k, ∀ ro ∈ t.get k, ∀ tg ∈ ro.targets, skipFor cfg r tg = false) (hne : Props.C03.NoEmptyRoutes t)
    (hpick : Props.C03.PickOK cfg.lookup.pick) :
    serveHTTP cfg t r = .noRoute (C07.noRouteStatus cfg.noRouteStatus) cfg.noRouteHTML ↔
      ¬ ∃ k ro, (k = [] ∨ Props.C03.HostMatches { cfg.lookup with skip := skipFor cfg r } t (req03 r) k) ∧
          ro ∈ t.get (lowerL k) ∧ cfg.lookup.pathMatch (req03 r).path ro.path = true :=
  (noRoute_iff cfg t r).trans
    (Props.C03.Lookup_eq_none_iff { cfg.lookup with skip := skipFor cfg r } t (req03 r)
      (fun _ p hl => have ⟨hro, _, htg⟩ := Props.C03.lookupRoutes_mem hpick hl; hskip _ p.1 hro p.2 htg) hne)

/-- The same for a request on which the self-redirect skip does not fire at all (e.g. a table without redirect routes). -/
theorem noroute_iff_no_candidate (cfg : Cfg) (t : Route.Table) (r : Request)
    (hskip : skipFor cfg r = fun _ => false) (hne : Props.C03.NoEmptyRoutes t) (hpick : Props.C03.PickOK cfg.lookup.pick) :
    serveHTTP cfg t r = .noRoute (C07.noRouteStatus cfg.noRouteStatus) cfg.noRouteHTML ↔
      ¬ ∃ k ro, (k = [] ∨ Props.C03.HostMatches { cfg.lookup with skip := skipFor cfg r } t (req03 r) k) ∧
          ro ∈ t.get (lowerL k) ∧ cfg.lookup.pathMatch (req03 r).path ro.path = true :=
  noroute_iff_no_candidate_of_table_noskip cfg t r (fun _ _ _ tg _ => congrFun hskip tg) hne hpick

/-- without a target nothing but the status and the page is produced; the status is the configured one inside
100..999 and 404 outside (C07 `noroute_status_page_no_upstream` on the unified model) -/
theorem noroute_status (cfg : Cfg) (t : Route.Table) (r : Request) (hs : select cfg t r = none) :
    ∃ s, serveHTTP cfg t r = .noRoute s cfg.noRouteHTML ∧
      (100 ≤ cfg.noRouteStatus ∧ cfg.noRouteStatus ≤ 999 → s = cfg.noRouteStatus) ∧
      (¬(100 ≤ cfg.noRouteStatus ∧ cfg.noRouteStatus ≤ 999) → s = 404) := by
  refine ⟨C07.noRouteStatus cfg.noRouteStatus, by simp [serveHTTP, hs], fun h => ?_, fun h => ?_⟩
  · rw [Lemmas.C07.noRouteStatus_eq, if_pos h]
  · rw [Lemmas.C07.noRouteStatus_eq, if_neg h]

open C08 in
/-- "The upstream chosen for a request receives the client's … end-to-end
headers unchanged", on the unified model, for every table, configuration and request: when `serveHTTP` forwards, then
under every header name `k` that
 * fabio does not maintain (`managedKeys`: Forwarded, X-Forwarded-For, -Host, -Port, -Prefix, -Proto, X-Real-Ip and the
   configured client-IP, TLS and request-id names — C08's headers),
 * is not one of `net/http/httputil`'s fixed hop-by-hop names, and
 * the client's own `Connection` header does not name,
the header map handed to the handler (`f.headers`: what the websocket path writes to the upstream as it is) and what
`httputil.ReverseProxy` makes of it on the http path (`C08.reverseProxy`: hop-by-hop removal, then the peer appended to
X-Forwarded-For) hold exactly the client's lines — the gates (access, authorization: they only judge, obligation
`gates_only_judge_the_request`), the request-id step, `addHeaders` with its `Connection` repair and the Host override
change nothing there. `Authorization` and `Cookie` are such names. (`hcm`: the operator did not configure `Connection`
itself as client-IP / TLS / request-id header.) -/
theorem end_to_end_headers_reach_upstream (cfg : ServeHTTP.Cfg) (t : Route.Table) (r : Request) {f : Forward}
    (hf : serveHTTP cfg t r = .forward f) (k : C08.Str)
    (hk : k ∉ managedKeys cfg.headers) (hfix : k ∉ fixedHopByHop) (hn : k ∉ hopByHopNames r.headers)
    (hcm : connection ∉ managedKeys cfg.headers) :
    entries k f.headers = entries k r.headers ∧
    ∃ ip port, splitHostPort r.remoteAddr = some (ip, port) ∧
      entries k (reverseProxy ip f.headers) = entries k r.headers := by
  obtain ⟨_, _, tg, _, _, _, _, _, _, _, ip, port, hsp, hh, _⟩ := forward_fields cfg t r hf
  have hkc : k ≠ connection := (Lemmas.C08.not_fixed_ne hfix).2
  rw [req08_withRequestID] at hh
  -- `addHeaders` up to the `Connection` step, then the request-id step
  have hcore : ∀ {k' : C08.Str}, k' ∉ managedKeys cfg.headers →
      entries k' (addHeadersCore cfg.headers (opt tg "strip") (Props.C08Serve.withRequestID cfg.headers cfg.uuid (req08 r)) ip) =
        entries k' r.headers := fun hk' => (Lemmas.C08.addHeadersCore_unmanaged _ _ _ _ hk').trans
      (Lemmas.C08.withRequestID_other (Lemmas.C08.keyfree_of_unmanaged hk').2.2.2 cfg.uuid (req08 r))
  have hmain : entries k f.headers = entries k r.headers := by
    rw [hh, Lemmas.C08.addHeadersIP_entries hkc]; exact hcore hk
  refine ⟨hmain, ip, port, hsp, ?_⟩
  have hx : k ≠ xForwardedFor := (Lemmas.C08.keyfree_of_unmanaged hk).1.2.1
  rw [Lemmas.C08.reverseProxy_keeps_unnamed ip _ k hx ?_ hfix, hmain]
  intro hmem
  apply hn
  rw [hh] at hmem
  have := Lemmas.C08.hopByHopNames_stepConnection _ _ _ hmem
  rwa [Lemmas.C08.hopByHopNames_congr (hcore hcm)] at this

/-! ### every outcome occurs: a small table -/
namespace Demo

/-- `url.Parse` of the three target URLs of the demo table -/
def parseURL (s : Str) : C13.URL :=
  if s = "http://up:80/?t=1".toList then { scheme := C13.lit "http", host := C13.lit "up:80", path := C13.lit "/", rawQuery := C13.lit "t=1" }
  else if s = "https://other.example/$path".toList then { scheme := C13.lit "https", host := C13.lit "other.example", path := C13.lit "/$path" }
  else { scheme := C13.lit "http", host := C13.lit "up:80", path := C13.lit "/" }

def cfg : Cfg :=
  { lookup := { globMatch := C03.globLib, pathMatch := fun uri p => p.isPrefixOf uri,
                pick := fun r => match r.targets with
                  | x :: _ => x
                  | [] => { service := [], tags := [], opts := [], url := [], fixedWeight := 0 } },
    parsers := C12.Parse.goParsers, parseURL := parseURL,
    noRouteStatus := 1000, noRouteHTML := "<html>no route</html>",
    authSchemes := [("basic".toList, [("u".toList, "p".toList)])] }

def tg (url : String) (opts : List (String × String)) : Route.Target :=
  { service := "svc".toList, tags := [], opts := opts.map (fun kv => (kv.1.toList, kv.2.toList)), url := url.toList, fixedWeight := 0 }

def rt (host path : String) (t : Route.Target) : Route.Route := { host := host.toList, path := path.toList, targets := [t] }

/-- routes of host `a.example`, longest path first as `newTable` sorts them -/
def table : Route.Table :=
  [("a.example".toList,
    [rt "a.example" "/strip" (tg "http://up:80/?t=1" [("strip", "/strip"), ("prepend", "/p"), ("host", "dst")]),
     rt "a.example" "/deny" (tg "http://up:80/" [("allow", "ip:10.0.0.0/8")]),
     rt "a.example" "/auth" (tg "http://up:80/" [("auth", "basic")]),
     rt "a.example" "/go" (tg "https://other.example/$path" [("redirect", "301")]),
     rt "a.example" "/" (tg "http://up:80/" [])])]

def req (host path : String) (remote : String := "127.0.0.1:5555") (headers : C08.Headers := [])
    (auth : Option (Str × Str) := none) : Request :=
  { url := { path := C13.lit path, rawQuery := C13.lit "x=1" }, host := host.toList, remoteAddr := remote.toList,
    headers := headers, basicAuth := auth }

/-- One evaluation for the examples below, which are its parts: each evaluation decodes the string constants of the models
(header names, option keywords) anew. The demo definitions are rewritten first, so that their literals are lists of
characters before the kernel starts: by `simp only` and not by `unfold`, because after a definitional change under a
`match` on a closed term the kernel compares the old goal with the new one by evaluating both (`parseURL` stands
unapplied in `cfg`, hence `funext`). -/
theorem demo_outcomes :
    (serveHTTP cfg table (req "b.example" "/x")).cls = "noroute" ∧
    (match serveHTTP cfg table (req "b.example" "/x") with | .noRoute s p => decide (s = 404 ∧ p = "<html>no route</html>") | _ => false) = true ∧
    (serveHTTP cfg table (req "a.example" "/deny/x")).cls = "403" ∧
    (serveHTTP cfg table (req "a.example" "/deny/x" "10.1.2.3:9")).cls = "forward" ∧
    (serveHTTP cfg table (req "a.example" "/deny/x" "10.1.2.3:9"
            [(C08.xForwardedFor, ["10.0.0.1, 192.168.0.1".toList])])).cls = "403" ∧
    (serveHTTP cfg table (req "a.example" "/auth")).cls = "401" ∧
    (serveHTTP cfg table (req "a.example" "/auth" (auth := some ("u".toList, "p".toList)))).cls = "forward" ∧
    (match serveHTTP cfg table (req "A.example:80" "/go/there") with
    | .redirect c l => decide (c = 301 ∧ l = C13.lit "https://other.example/go/there?x=1") | _ => false) = true ∧
    (serveHTTP cfg table (req "a.example" "/x" "nonsense")).cls = "500" ∧
    (match serveHTTP cfg table (req "a.example" "/strip/a") with
    | .forward f => decide (f.via = .http ∧ f.upstream = "up:80".toList ∧ f.host = "up:80".toList ∧
        f.url.requestURI = C13.lit "/p/a?t=1&x=1" ∧
        C08.get1 C08.xForwardedHost f.headers = "a.example".toList ∧
        C08.get1 C08.xForwardedPrefix f.headers = "/strip".toList)
    | _ => false) = true ∧
    (match serveHTTP cfg table (req "a.example" "/ws" (headers := [(C08.upgrade, ["WebSocket".toList])])) with
    | .forward f => decide (f.via = .ws ∧ f.host = "a.example".toList) | _ => false) = true ∧
    (match serveHTTP cfg table (req "a.example" "/auth" (auth := some ("u".toList, "p".toList))
      (headers := [("Authorization".toList, ["Basic dTpw".toList]), ("Cookie".toList, ["a=b".toList, "c=d".toList]),
                   ("X-Hop".toList, ["1".toList]), (C08.connection, ["close, x-hop".toList])])) with
    | .forward f => decide (
        C08.entries "Authorization".toList (C08.reverseProxy "127.0.0.1".toList f.headers) = [("Authorization".toList, ["Basic dTpw".toList])] ∧
        C08.entries "Cookie".toList (C08.reverseProxy "127.0.0.1".toList f.headers) = [("Cookie".toList, ["a=b".toList, "c=d".toList])] ∧
        C08.entries "Authorization".toList f.headers = [("Authorization".toList, ["Basic dTpw".toList])] ∧
        C08.entries "X-Hop".toList (C08.reverseProxy "127.0.0.1".toList f.headers) = [] ∧
        "Authorization".toList ∉ C08.managedKeys cfg.headers ∧ "Authorization".toList ∉ C08.fixedHopByHop ∧
        "Authorization".toList ∉ C08.hopByHopNames [(C08.connection, ["close, x-hop".toList])] ∧
        "X-Hop".toList ∈ C08.hopByHopNames [(C08.connection, ["close, x-hop".toList])] ∧
        C08.connection ∉ C08.managedKeys cfg.headers)
    | _ => false) = true := by
  simp only [cfg, req, table, rt, tg, funext parseURL.eq_def, Model.C13.lit, List.map, toList_lit rfl]
  decide +kernel

example : (serveHTTP cfg table (req "b.example" "/x")).cls = "noroute" := demo_outcomes.1
example : (match serveHTTP cfg table (req "b.example" "/x") with | .noRoute s p => decide (s = 404 ∧ p = "<html>no route</html>") | _ => false) = true := demo_outcomes.2.1
example : (serveHTTP cfg table (req "a.example" "/deny/x")).cls = "403" := demo_outcomes.2.2.1
example : (serveHTTP cfg table (req "a.example" "/deny/x" "10.1.2.3:9")).cls = "forward" := demo_outcomes.2.2.2.1
/-- an X-Forwarded-For element outside the allow block is enough for a 403 -/
example : (serveHTTP cfg table (req "a.example" "/deny/x" "10.1.2.3:9"
            [(C08.xForwardedFor, ["10.0.0.1, 192.168.0.1".toList])])).cls = "403" := demo_outcomes.2.2.2.2.1
example : (serveHTTP cfg table (req "a.example" "/auth")).cls = "401" := demo_outcomes.2.2.2.2.2.1
example : (serveHTTP cfg table (req "a.example" "/auth" (auth := some ("u".toList, "p".toList)))).cls = "forward" := demo_outcomes.2.2.2.2.2.2.1
example : (match serveHTTP cfg table (req "A.example:80" "/go/there") with
    | .redirect c l => decide (c = 301 ∧ l = C13.lit "https://other.example/go/there?x=1") | _ => false) = true := demo_outcomes.2.2.2.2.2.2.2.1
example : (serveHTTP cfg table (req "a.example" "/x" "nonsense")).cls = "500" := demo_outcomes.2.2.2.2.2.2.2.2.1
/-- strip, prepend, target query, `host=dst`, forwarding headers: all in the one forwarded request -/
example : (match serveHTTP cfg table (req "a.example" "/strip/a") with
    | .forward f => decide (f.via = .http ∧ f.upstream = "up:80".toList ∧ f.host = "up:80".toList ∧
        f.url.requestURI = C13.lit "/p/a?t=1&x=1" ∧
        C08.get1 C08.xForwardedHost f.headers = "a.example".toList ∧
        C08.get1 C08.xForwardedPrefix f.headers = "/strip".toList)
    | _ => false) = true := demo_outcomes.2.2.2.2.2.2.2.2.2.1
example : (match serveHTTP cfg table (req "a.example" "/ws" (headers := [(C08.upgrade, ["WebSocket".toList])])) with
    | .forward f => decide (f.via = .ws ∧ f.host = "a.example".toList) | _ => false) = true := demo_outcomes.2.2.2.2.2.2.2.2.2.2.1

/-- `end_to_end_headers_reach_upstream` on a request through the auth gate: the credentials the gate judged, a cookie
and a header the client's `Connection` line does NOT name arrive as sent (on both paths); the one it names (`X-Hop`) is
gone behind the reverse proxy; the hypotheses of the theorem hold for `Authorization` and fail for `X-Hop` -/
example : (match serveHTTP cfg table (req "a.example" "/auth" (auth := some ("u".toList, "p".toList))
      (headers := [("Authorization".toList, ["Basic dTpw".toList]), ("Cookie".toList, ["a=b".toList, "c=d".toList]),
                   ("X-Hop".toList, ["1".toList]), (C08.connection, ["close, x-hop".toList])])) with
    | .forward f => decide (
        C08.entries "Authorization".toList (C08.reverseProxy "127.0.0.1".toList f.headers) = [("Authorization".toList, ["Basic dTpw".toList])] ∧
        C08.entries "Cookie".toList (C08.reverseProxy "127.0.0.1".toList f.headers) = [("Cookie".toList, ["a=b".toList, "c=d".toList])] ∧
        C08.entries "Authorization".toList f.headers = [("Authorization".toList, ["Basic dTpw".toList])] ∧
        C08.entries "X-Hop".toList (C08.reverseProxy "127.0.0.1".toList f.headers) = [] ∧
        "Authorization".toList ∉ C08.managedKeys cfg.headers ∧ "Authorization".toList ∉ C08.fixedHopByHop ∧
        "Authorization".toList ∉ C08.hopByHopNames [(C08.connection, ["close, x-hop".toList])] ∧
        "X-Hop".toList ∈ C08.hopByHopNames [(C08.connection, ["close, x-hop".toList])] ∧
        C08.connection ∉ C08.managedKeys cfg.headers)
    | _ => false) = true := demo_outcomes.2.2.2.2.2.2.2.2.2.2.2

end Demo

end Fabio.Props.ServeHTTP
