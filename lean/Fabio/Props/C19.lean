import Fabio.Model.C19Load
import Fabio.Lemmas.C19
/-!
C19 — configured upstream time limits are enforced.

Statement (properties.jsonl): the five transport options an operator configures are the ones the HTTP proxy
uses — for the default, the skip-verify and the per-route (host override) transport alike —, an upstream that
does not answer within the response-header timeout produces a 504 within that time, and the same upstream is
served normally when it answers in time.

`setConfig` is `SetConfig` with its assignment bound to the package variable; that the source is that function
is the regenerated obligation `Fabio.Props.C19Facts.setConfig_assigns_package_variable` (false on the tree before
the D23 repair, where the assignment was `cfg = cfg` with `cfg` the parameter: `self_assignment_*` say what that
program does). The timing theorems are relative to `RoundTripContract` (net/http enforces the timeout it is
given: trusted base).
-/
namespace Fabio.Props.C19
open Fabio.Model.C19 Fabio.Lemmas.C19

/-- First clause of the property for one `NewTransport` call after `SetConfig cfg`. -/
theorem transport_uses_config (s : Cell) (cfg : Cfg) (tls : Option TLS) :
    Carries cfg (newTransport (setConfig s cfg) tls) ∧ (newTransport (setConfig s cfg) tls).tls = tls :=
  ⟨newTransport_carries (setConfig s cfg) tls, rfl⟩

/-- Field by field (the pairing of option and `http.Transport`/`net.Dialer` field is part of the claim). -/
theorem transport_fields (s : Cell) (cfg : Cfg) (tls : Option TLS) :
    newTransport (setConfig s cfg) tls =
      { responseHeaderTimeout := cfg.responseHeaderTimeout, idleConnTimeout := cfg.idleConnTimeout,
        maxIdleConnsPerHost := cfg.maxConn, dialTimeout := cfg.dialTimeout,
        dialKeepAlive := cfg.keepAliveTimeout, tls := tls } := rfl

theorem setConfig_overwrites (s : Cell) (c₁ c₂ : Cfg) : setConfig (setConfig s c₁) c₂ = setConfig s c₂ := rfl

/-- D23: with the assignment bound to the parameter, `SetConfig` is the identity on the cell. -/
theorem self_assignment_is_noop (s : Cell) (cfg : Cfg) : setConfigWith .parameter s cfg = s := rfl

/-- D23: starting from `&config.Config{}`, `transport_uses_config` fails for every configuration but the
all-zero one. -/
theorem self_assignment_loses_config (cfg : Cfg) (tls : Option TLS) :
    Carries cfg (newTransport (setConfigWith .parameter Cell.init cfg) tls) ↔ cfg = Cfg.zero := by
  constructor
  · rintro ⟨h1, h2, h3, h4, h5⟩
    cases cfg; cases h1; cases h2; cases h3; cases h4; cases h5; rfl
  · rintro rfl
    exact ⟨rfl, rfl, rfl, rfl, rfl⟩

/-- D23 on the configuration of line 2 of `corpus/c19.fields.jsonl`. -/
theorem self_assignment_witness :
    let cfg : Cfg := { Cfg.zero with responseHeaderTimeout := 3000000000, maxConn := 7 }
    (newTransport (setConfigWith .parameter Cell.init cfg) none).responseHeaderTimeout = 0 ∧
    (newTransport (setConfigWith .parameter Cell.init cfg) none).maxIdleConnsPerHost = 0 ∧
    ¬ Carries cfg (newTransport (setConfigWith .parameter Cell.init cfg) none) := by decide

/-- The order fact of `main` (regenerated: `Props/C19Facts.lean`) is: nothing that builds a transport runs
before the single `SetConfig`. Under it every transport the program ever builds — the default and skip-verify
transports of every proxy, the per-route transport of every host-override target of every table — carries the
operator's configuration. -/
theorem all_transports_use_config (s : Cell) (c : Cfg) (pre post : List Ev)
    (hpre : ∀ e ∈ pre, e.builds = false ∧ e.isSet = false) (hpost : ∀ e ∈ post, e.isSet = false) :
    ∀ t ∈ run .packageVar s (pre ++ Ev.setConfig c :: post), Carries c t := by
  rw [run_no_builds _ _ _ _ hpre]
  intro t ht
  obtain ⟨tls, rfl⟩ := run_without_set .packageVar ⟨c⟩ post hpost t ht
  exact newTransport_carries ⟨c⟩ tls

/-- The order hypothesis is needed: a proxy built before `SetConfig` keeps the zero configuration for good. -/
theorem build_before_set_misses_config :
    ∃ (c : Cfg) (t : Transport), t ∈ run .packageVar Cell.init [Ev.newProxy, Ev.setConfig c] ∧ ¬ Carries c t :=
  ⟨{ Cfg.zero with responseHeaderTimeout := 1 }, newTransport Cell.init none, by simp [run, step, newHTTPProxy], by decide⟩

/-- "… for the default, the skip-verify and the per-route transport alike": whichever `ServeHTTP` picks. -/
theorem selected_transport_uses_config (s : Cell) (c : Cfg) (o : TargetOpts) :
    Carries c (selectTransport (newHTTPProxy (setConfig s c)) (addTarget (setConfig s c) o)) := by
  rw [selectTransport_eq]
  exact newTransport_carries (setConfig s c) _

theorem selected_transport_tls (s : Cell) (o : TargetOpts) :
    (selectTransport (newHTTPProxy s) (addTarget s o)).tls =
      if o.host ≠ "" ∧ o.host ≠ "dst" ∧ o.https then some ⟨o.host, o.tlsSkipVerify⟩
      else if o.tlsSkipVerify then some ⟨"", true⟩ else none :=
  congrArg Transport.tls (selectTransport_eq s o)

theorem timeout_maps_to_504 (e : Err) : errorStatus e = 504 ↔ e = .netTimeout := by
  cases e <;> simp [errorStatus]

theorem error_status_table (e : Err) :
    errorStatus e = (match e with | .netTimeout => 504 | .netOther => 502 | .eof => 502 | .canceled => 499 | .other => 500) := by
  cases e <;> rfl

theorem canceled_maps_to_499 (e : Err) : errorStatus e = 499 ↔ e = .canceled := by
  cases e <;> simp [errorStatus]

theorem roundTrip_contract : RoundTripContract roundTrip := by
  constructor
  · intro T st d h1 h2; simp [roundTrip, h1, h2]
  · intro T st d h
    have : ¬ (0 < T ∧ T < d) := by omega
    simp [roundTrip, this]

/-- The 504 clause of the property: the client gets 504 at the configured `T > 0` — not at `d`, however late
the upstream is — on whichever transport the request takes. -/
theorem slow_upstream_504 (rt : Int → Nat → Int → RT) (hrt : RoundTripContract rt)
    (s : Cell) (c : Cfg) (o : TargetOpts) (st : Nat) (d : Int)
    (hT : 0 < c.responseHeaderTimeout) (hd : c.responseHeaderTimeout < d) :
    serve rt (selectTransport (newHTTPProxy (setConfig s c)) (addTarget (setConfig s c) o)) st d
      = (504, c.responseHeaderTimeout) :=
  serve_timeout hrt (selected_transport_uses_config s c o).1 st d hT hd

/-- "… served normally when it answers in time": its status, at its own time. -/
theorem fast_upstream_served (rt : Int → Nat → Int → RT) (hrt : RoundTripContract rt)
    (s : Cell) (c : Cfg) (o : TargetOpts) (st : Nat) (d : Int) (hd : d < c.responseHeaderTimeout) :
    serve rt (selectTransport (newHTTPProxy (setConfig s c)) (addTarget (setConfig s c) o)) st d = (st, d) :=
  serve_inTime hrt (selected_transport_uses_config s c o).1 st d (Or.inr hd)

/-- `d = T` is left out: `RoundTripContract` leaves that instant open. -/
theorem client_wait_bounded (rt : Int → Nat → Int → RT) (hrt : RoundTripContract rt)
    (s : Cell) (c : Cfg) (o : TargetOpts) (st : Nat) (d : Int)
    (hT : 0 < c.responseHeaderTimeout) (hne : d ≠ c.responseHeaderTimeout) :
    (serve rt (selectTransport (newHTTPProxy (setConfig s c)) (addTarget (setConfig s c) o)) st d).2
      ≤ c.responseHeaderTimeout := by
  rcases Int.lt_or_gt_of_ne hne with h | h
  · rw [fast_upstream_served rt hrt s c o st d h]; exact Int.le_of_lt h
  · rw [slow_upstream_504 rt hrt s c o st d hT h]; exact Int.le_refl _

/-- D23 seen by a client: no response-header limit at all, whatever the operator configured. -/
theorem self_assignment_holds_client (rt : Int → Nat → Int → RT) (hrt : RoundTripContract rt)
    (c : Cfg) (o : TargetOpts) (st : Nat) (d : Int) :
    let s := setConfigWith .parameter Cell.init c
    serve rt (selectTransport (newHTTPProxy s) (addTarget s o)) st d = (st, d) := by
  intro s
  rw [selectTransport_eq]
  exact serve_inTime hrt rfl st d (Or.inl (Int.le_refl 0))

/-- Both reverse-proxy branches of `ServeHTTP` (server-sent events and default) get the selected transport
itself — not a copy, not a variant —; only a websocket upgrade gets none. -/
theorem all_handler_paths_use_selected_transport (p : Proxy) (fi gfi : Int) (t : Target) (path : Path)
    (hws : path ≠ .websocket) :
    ∃ h, handlerFor p fi gfi t path = some h ∧ h.transport = selectTransport p t :=
  exists_handler hws fun _ e => e

theorem handlerPath_no_upgrade (upgrade accept : String) (h : equalFoldWebsocket upgrade = false) :
    handlerPath upgrade accept = (if accept = "text/event-stream" then .sse else .default) ∧
    handlerPath upgrade accept ≠ .websocket := by
  have e : handlerPath upgrade accept = if accept = "text/event-stream" then .sse else .default :=
    if_neg (Bool.eq_false_iff.mp h)
  refine ⟨e, ?_⟩
  rw [e]
  split <;> nofun

theorem handlerPath_websocket_casings (upgrade accept : String) :
    (upgrade.toList.map Char.toLower = "websocket".toList → handlerPath upgrade accept = .websocket) ∧
    (upgrade.toList.length ≠ 9 → handlerPath upgrade accept ≠ .websocket) :=
  ⟨fun h => if_pos (equalFoldWebsocket_of_toLower h),
    fun h => (handlerPath_no_upgrade upgrade accept (equalFoldWebsocket_of_length h)).2⟩

theorem every_path_uses_config (s : Cell) (c : Cfg) (o : TargetOpts) (fi gfi : Int) (path : Path) (hws : path ≠ .websocket) :
    ∃ h, handlerFor (newHTTPProxy (setConfig s c)) fi gfi (addTarget (setConfig s c) o) path = some h ∧
      Carries c h.transport :=
  exists_handler hws fun _ e => e ▸ selected_transport_uses_config s c o

/-- The 504 clause on every handler path and for the whole response: the body the upstream might have
sent later plays no part. -/
theorem slow_upstream_504_every_path (rt : Int → Nat → Int → RT) (hrt : RoundTripContract rt)
    (s : Cell) (c : Cfg) (o : TargetOpts) (fi gfi : Int) (path : Path) (hws : path ≠ .websocket)
    (st : Nat) (d body : Int) (hT : 0 < c.responseHeaderTimeout) (hd : c.responseHeaderTimeout < d) :
    ∃ h, handlerFor (newHTTPProxy (setConfig s c)) fi gfi (addTarget (setConfig s c) o) path = some h ∧
      serveFull rt h.transport requestDeadline st d body
        = ⟨504, c.responseHeaderTimeout, true, c.responseHeaderTimeout⟩ :=
  exists_handler hws fun _ e => e ▸ serveFull_timeout hrt (selected_transport_uses_config s c o).1 _ st d body hT hd

/-- "The same upstream is served normally when it answers in time": its status and its complete body, however
long the body streams (`body` is unconstrained: it may exceed every configured limit). -/
theorem in_time_response_complete (rt : Int → Nat → Int → RT) (hrt : RoundTripContract rt)
    (s : Cell) (c : Cfg) (o : TargetOpts) (fi gfi : Int) (path : Path) (hws : path ≠ .websocket)
    (st : Nat) (d body : Int) (hd : d < c.responseHeaderTimeout ∨ c.responseHeaderTimeout ≤ 0) :
    ∃ h, handlerFor (newHTTPProxy (setConfig s c)) fi gfi (addTarget (setConfig s c) o) path = some h ∧
      serveFull rt h.transport requestDeadline st d body = ⟨st, d, true, d + body⟩ :=
  exists_handler hws fun _ e => e ▸ serveFull_inTime hrt (selected_transport_uses_config s c o).1 st d body hd.symm

/-- Why the request context matters (the hypothesis `requestDeadline = none` is a regenerated fact): a deadline
on the context that falls inside the body truncates an answer that came in time. -/
theorem context_deadline_truncates (rt : Int → Nat → Int → RT) (hrt : RoundTripContract rt)
    (tr : Transport) (D : Int) (st : Nat) (d body : Int)
    (hd : d < tr.responseHeaderTimeout) (hD : D < d + body) :
    (serveFull rt tr (some D) st d body).complete = false := by
  rw [serveFull_inTime_deadline hrt rfl D st d body (Or.inr hd), if_neg (by omega)]

/-- Why the theorems above need the *same* transport on every path: a copy with the limit removed holds the
client. -/
theorem copied_transport_without_limit_holds_client (rt : Int → Nat → Int → RT) (hrt : RoundTripContract rt)
    (tr : Transport) (st : Nat) (d body : Int) :
    serveFull rt { tr with responseHeaderTimeout := 0 } requestDeadline st d body = ⟨st, d, true, d + body⟩ :=
  serveFull_inTime hrt rfl st d body (Or.inl (Int.le_refl 0))

/-- The 504 clause with an upstream that first sends informational responses (103 Early Hints,
102 Processing, any number of them) and then stalls: they do not stop the response-header timer. The client still
gets 504 at `T`, and 504 is what the metrics and the access log record. -/
theorem interim_then_timeout_504 (rt : Int → Nat → Int → RT) (hrt : RoundTripContract rt)
    (s : Cell) (c : Cfg) (o : TargetOpts) (fi gfi : Int) (path : Path) (hws : path ≠ .websocket)
    (u : Upstream) (hT : 0 < c.responseHeaderTimeout) (hd : c.responseHeaderTimeout < u.delay) :
    ∃ h, handlerFor (newHTTPProxy (setConfig s c)) fi gfi (addTarget (setConfig s c) o) path = some h ∧
      exchange rt h.transport requestDeadline u =
        { served := ⟨504, c.responseHeaderTimeout, true, c.responseHeaderTimeout⟩
          interims := u.interims.filter informational, recorded := 504 } :=
  exists_handler hws fun _ e => e ▸ exchange_timeout hrt (selected_transport_uses_config s c o).1 _ u hT hd

/-- The same upstream sending its final headers in time (`hst`: a final status is not 1xx). -/
theorem interim_then_in_time_served (rt : Int → Nat → Int → RT) (hrt : RoundTripContract rt)
    (s : Cell) (c : Cfg) (o : TargetOpts) (fi gfi : Int) (path : Path) (hws : path ≠ .websocket)
    (u : Upstream) (hst : informational u.status = false)
    (hd : u.delay < c.responseHeaderTimeout ∨ c.responseHeaderTimeout ≤ 0) :
    ∃ h, handlerFor (newHTTPProxy (setConfig s c)) fi gfi (addTarget (setConfig s c) o) path = some h ∧
      exchange rt h.transport requestDeadline u =
        { served := ⟨u.status, u.delay, true, u.delay + u.body⟩
          interims := u.interims.filter informational, recorded := u.status } :=
  exists_handler hws fun _ e => e ▸ exchange_inTime hrt (selected_transport_uses_config s c o).1 u hst hd.symm

/-- Why `responseWriter.WriteHeader` must pass every call through: a writer that ignores the calls after the
first one turns "informational response, then stall" into net/http's implicit `200 OK`, whatever the transport
and the timeout. -/
theorem first_call_only_writer_loses_504 (rt : Int → Nat → Int → RT) (tr : Transport) (dl : Option Int)
    (u : Upstream) (c : Nat) (cs : List Nat) (hu : u.interims = c :: cs) (hc : informational c = true) :
    (exchangeWith true rt tr dl u).served.status = 200 ∧ (exchangeWith true rt tr dl u).recorded = c := by
  rw [exchangeWith_guarded rt tr dl u c cs hu hc]
  exact ⟨rfl, rfl⟩

/-- Both timing clauses for every request of a history through the same transport, whatever was served before
(`serveHistory`: later requests reuse the idle connections of earlier ones). -/
theorem every_request_of_a_history (rt : Int → Nat → Int → RT) (hrt : RoundTripContract rt)
    (s : Cell) (c : Cfg) (o : TargetOpts) (us : List Upstream) (hT : 0 < c.responseHeaderTimeout) :
    let tr := selectTransport (newHTTPProxy (setConfig s c)) (addTarget (setConfig s c) o)
    (serveHistory rt tr requestDeadline us).length = us.length ∧
    ∀ (i : Nat) (hi : i < us.length) (hi' : i < (serveHistory rt tr requestDeadline us).length),
      (c.responseHeaderTimeout < us[i].delay →
        ((serveHistory rt tr requestDeadline us)[i]).served = ⟨504, c.responseHeaderTimeout, true, c.responseHeaderTimeout⟩) ∧
      (us[i].delay < c.responseHeaderTimeout → informational us[i].status = false →
        ((serveHistory rt tr requestDeadline us)[i]).served = ⟨us[i].status, us[i].delay, true, us[i].delay + us[i].body⟩) := by
  intro tr
  have hcar : tr.responseHeaderTimeout = c.responseHeaderTimeout := (selected_transport_uses_config s c o).1
  refine ⟨List.length_map _, fun i hi hi' => ?_⟩
  simp only [serveHistory, List.getElem_map]
  exact ⟨fun hd => congrArg Exchange.served (exchange_timeout hrt hcar _ us[i] hT hd),
    fun hd hst => congrArg Exchange.served (exchange_inTime hrt hcar us[i] hst (Or.inr hd))⟩

/-- "… idle timeouts, idle connections per host … are the ones the HTTP proxy uses": of `n` connections to an
upstream that become idle together the selected transport keeps `min n proxy.maxconn` (zero standing for
net/http's default of 2, a negative value for none), closes the others at once, and the kept ones
`proxy.idleconntimeout` later (never, if none is configured). Relative to net/http's contract for the two fields
(`poolFate`), sampled on real connections by the stream `c19.pool`. -/
theorem pool_uses_configured_limits (s : Cell) (c : Cfg) (o : TargetOpts) (n : Nat) (doneAt : Int) :
    let tr := selectTransport (newHTTPProxy (setConfig s c)) (addTarget (setConfig s c) o)
    poolKept tr n = min n (effectiveMaxIdle c.maxConn) ∧
    idleCloseAt tr doneAt = (if 0 < c.idleConnTimeout then some (doneAt + c.idleConnTimeout) else none) ∧
    poolFate tr n doneAt =
      List.replicate (n - min n (effectiveMaxIdle c.maxConn)) (some doneAt) ++
      List.replicate (min n (effectiveMaxIdle c.maxConn))
        (if 0 < c.idleConnTimeout then some (doneAt + c.idleConnTimeout) else none) ∧
    (poolFate tr n doneAt).length = n := by
  rw [selectTransport_eq]
  exact ⟨rfl, rfl, rfl, poolFate_length _ n doneAt⟩

/-- D23 seen at the pool: two idle connections per upstream, kept for ever, whatever was configured. -/
theorem self_assignment_pool (c : Cfg) (o : TargetOpts) (n : Nat) (doneAt : Int) :
    let s := setConfigWith .parameter Cell.init c
    poolKept (selectTransport (newHTTPProxy s) (addTarget s o)) n = min n 2 ∧
    idleCloseAt (selectTransport (newHTTPProxy s) (addTarget s o)) doneAt = none := by
  intro s
  rw [selectTransport_eq]
  exact ⟨rfl, rfl⟩

/-- `proxy.dialtimeout` is the one the proxy uses: an upstream that accepts no connection gets the client a 504
after the configured dial timeout, whatever the response-header timeout. -/
theorem unreachable_upstream_504_at_dial_timeout (s : Cell) (c : Cfg) (o : TargetOpts) (hD : 0 < c.dialTimeout) :
    serveUnreachable (selectTransport (newHTTPProxy (setConfig s c)) (addTarget (setConfig s c) o)) = some (504, c.dialTimeout) := by
  rw [selectTransport_eq]
  exact if_pos hD

/-- D23 at the dial phase: no dial timeout. -/
theorem self_assignment_dial_unbounded (c : Cfg) (o : TargetOpts) :
    let s := setConfigWith .parameter Cell.init c
    serveUnreachable (selectTransport (newHTTPProxy s) (addTarget s o)) = none := by
  intro s
  rw [selectTransport_eq]
  rfl

theorem load_fields (src : Sources) (cfg : Cfg) (h : load src = some cfg) :
    flagValue parseDuration src "proxy.dialtimeout" Cfg.defaults.dialTimeout = some cfg.dialTimeout ∧
    flagValue parseDuration src "proxy.responseheadertimeout" Cfg.defaults.responseHeaderTimeout = some cfg.responseHeaderTimeout ∧
    flagValue parseDuration src "proxy.keepalivetimeout" Cfg.defaults.keepAliveTimeout = some cfg.keepAliveTimeout ∧
    flagValue parseDuration src "proxy.idleconntimeout" Cfg.defaults.idleConnTimeout = some cfg.idleConnTimeout ∧
    flagValue parseInt src "proxy.maxconn" Cfg.defaults.maxConn = some cfg.maxConn := by
  simp only [load, bind, pure, Option.bind_eq_some_iff, Option.some.injEq] at h
  obtain ⟨_, h1, _, h2, _, h3, _, h4, _, h5, rfl⟩ := h
  exact ⟨h1, h2, h3, h4, h5⟩

/-- Precedence in `config.Load`: the command line (last occurrence), then the environment with the `FABIO_`
prefix, then without it, then the properties file, then the default. A command-line text goes through `parse` as it
is (`none`: the process exits); from the other two sources a text that does not parse is stored as zero. -/
theorem flagValue_cmdline (parse : String → Option Int) (src : Sources) (n v : String) (d : Int)
    (h : lookupLast src.cmdline n = some v) : flagValue parse src n d = parse v := by
  simp [flagValue, rawValue, h]

theorem flagValue_env (parse : String → Option Int) (src : Sources) (n v : String) (d : Int)
    (hc : lookupLast src.cmdline n = none) (h : lookupLast src.env (envName "FABIO_" n) = some v) :
    flagValue parse src n d = some ((parse v).getD 0) := by
  simp [flagValue, rawValue, hc, h]

theorem flagValue_props (parse : String → Option Int) (src : Sources) (n v : String) (d : Int)
    (hc : lookupLast src.cmdline n = none) (he : lookupLast src.env (envName "FABIO_" n) = none)
    (he' : lookupLast src.env (envName "" n) = none) (h : lookupLast src.props n = some v) :
    flagValue parse src n d = some ((parse v).getD 0) := by
  simp [flagValue, rawValue, hc, he, he', h]

theorem flagValue_default (parse : String → Option Int) (src : Sources) (n : String) (d : Int)
    (h : rawValue src n = none) : flagValue parse src n d = some d := by
  simp [flagValue, h]

def fiveNames : List String :=
  ["proxy.dialtimeout", "proxy.responseheadertimeout", "proxy.keepalivetimeout", "proxy.idleconntimeout", "proxy.maxconn"]

/-- Holds in the model by the shape of `load`; that listeners, their read/write timeouts, flush intervals etc. do
not reach the five options in the source is the obligation `C19Facts.load_does_not_rewrite_the_five_options`. -/
theorem load_depends_on_the_five_only (a b : Sources) (h : ∀ n ∈ fiveNames, rawValue a n = rawValue b n) :
    load a = load b := by
  simp only [fiveNames, List.forall_mem_cons] at h
  obtain ⟨h1, h2, h3, h4, h5, -⟩ := h
  simp only [load, flagValue, h1, h2, h3, h4, h5]

/-- The first clause of the property, end to end: whatever `config.Load` made of command line, environment
and properties file is what every transport the program ever builds carries (main's order: nothing built before
the one `SetConfig`, which receives `Load`'s result — regenerated facts). -/
theorem loaded_limits_reach_every_transport (src : Sources) (cfg : Cfg) (hl : load src = some cfg)
    (s : Cell) (pre post : List Ev)
    (hpre : ∀ e ∈ pre, e.builds = false ∧ e.isSet = false) (hpost : ∀ e ∈ post, e.isSet = false) :
    ∀ t ∈ run .packageVar s (pre ++ Ev.setConfig cfg :: post),
      some t.dialTimeout = flagValue parseDuration src "proxy.dialtimeout" Cfg.defaults.dialTimeout ∧
      some t.responseHeaderTimeout = flagValue parseDuration src "proxy.responseheadertimeout" Cfg.defaults.responseHeaderTimeout ∧
      some t.dialKeepAlive = flagValue parseDuration src "proxy.keepalivetimeout" Cfg.defaults.keepAliveTimeout ∧
      some t.idleConnTimeout = flagValue parseDuration src "proxy.idleconntimeout" Cfg.defaults.idleConnTimeout ∧
      some t.maxIdleConnsPerHost = flagValue parseInt src "proxy.maxconn" Cfg.defaults.maxConn := by
  intro t ht
  obtain ⟨c1, c2, c3, c4, c5⟩ := all_transports_use_config s cfg pre post hpre hpost t ht
  obtain ⟨l1, l2, l3, l4, l5⟩ := load_fields src cfg hl
  rw [l1, l2, l3, l4, l5, c1, c2, c3, c4, c5]
  exact ⟨rfl, rfl, rfl, rfl, rfl⟩

/-- Both timing clauses as an operator reads them: `-proxy.responseheadertimeout v` on the command line, `v` a
duration `T > 0` in Go's syntax, whatever else the configuration holds. -/
theorem operator_timeout_is_enforced (rt : Int → Nat → Int → RT) (hrt : RoundTripContract rt)
    (src : Sources) (cfg : Cfg) (hl : load src = some cfg) (v : String) (T : Int)
    (hv : lookupLast src.cmdline "proxy.responseheadertimeout" = some v) (hp : parseDuration v = some T) (hT : 0 < T)
    (s : Cell) (o : TargetOpts) (fi gfi : Int) (path : Path) (hws : path ≠ .websocket) (u : Upstream) :
    ∃ h, handlerFor (newHTTPProxy (setConfig s cfg)) fi gfi (addTarget (setConfig s cfg) o) path = some h ∧
      (T < u.delay → exchange rt h.transport requestDeadline u =
          { served := ⟨504, T, true, T⟩, interims := u.interims.filter informational, recorded := 504 }) ∧
      (u.delay < T → informational u.status = false → exchange rt h.transport requestDeadline u =
          { served := ⟨u.status, u.delay, true, u.delay + u.body⟩, interims := u.interims.filter informational,
            recorded := u.status }) := by
  have hcfg : some cfg.responseHeaderTimeout = some T := by
    rw [← (load_fields src cfg hl).2.1, flagValue_cmdline _ _ _ _ _ hv, hp]
  have hcar := (selected_transport_uses_config s cfg o).1.trans (Option.some.inj hcfg)
  exact exists_handler hws fun _ e => e ▸
    ⟨fun hd => exchange_timeout hrt hcar _ u hT hd, fun hd hst => exchange_inTime hrt hcar u hst (Or.inr hd)⟩

/-- What the obligation `load_does_not_rewrite_the_five_options` excludes: a step after the flag parser that
lowers the response-header timeout to a listener's write timeout makes an upstream that answers within the
configured limit a 504 (configured 2 s, listener write timeout 300 ms, answer after 700 ms). -/
theorem lowered_timeout_fails_in_time_upstream :
    let cfg : Cfg := { Cfg.defaults with responseHeaderTimeout := 2000000000 }
    let lowered : Cfg := { cfg with responseHeaderTimeout := 300000000 }
    (exchange roundTrip (newTransport (setConfig Cell.init cfg) none) requestDeadline ⟨[], 200, 700000000, 0⟩).served.status = 200 ∧
    (exchange roundTrip (newTransport (setConfig Cell.init lowered) none) requestDeadline ⟨[], 200, 700000000, 0⟩).served.status = 504 := by
  decide

/-- 30 s dial, 100 ms header timeout, 10 s keep-alive, 15 s idle, 10000 conns -/
def cfgEx : Cfg := ⟨30000000000, 100000000, 10000000000, 15000000000, 10000⟩
def optsEx : TargetOpts := ⟨"foo.com", true, true⟩
/-- main's order: logging, SetConfig, backends, a table with two targets, two proxies -/
def progEx : List Ev :=
  [.other, .setConfig cfgEx, .other, .addTarget optsEx, .addTarget ⟨"", false, true⟩, .newProxy, .newProxy]

example : Carries cfgEx (newTransport (setConfig Cell.init cfgEx) (some ⟨"foo.com", false⟩)) := by decide +kernel
example : (run .packageVar Cell.init progEx).length = 5 := by decide +kernel
example : ∀ t ∈ run .packageVar Cell.init progEx, Carries cfgEx t :=
  all_transports_use_config Cell.init cfgEx [.other] _ (by decide) (by decide)
example : ¬ ∀ t ∈ run .parameter Cell.init progEx, Carries cfgEx t := by decide +kernel
example : (selectTransport (newHTTPProxy (setConfig Cell.init cfgEx)) (addTarget (setConfig Cell.init cfgEx) optsEx)).tls
    = some ⟨"foo.com", true⟩ := by decide +kernel
example : serve roundTrip (selectTransport (newHTTPProxy (setConfig Cell.init cfgEx)) (addTarget (setConfig Cell.init cfgEx) optsEx))
    200 500000000 = (504, 100000000) :=
  slow_upstream_504 roundTrip roundTrip_contract _ _ _ _ _ (by decide) (by decide)
example : serve roundTrip (selectTransport (newHTTPProxy (setConfig Cell.init cfgEx)) (addTarget (setConfig Cell.init cfgEx) optsEx))
    201 20000000 = (201, 20000000) :=
  fast_upstream_served roundTrip roundTrip_contract _ _ _ _ _ (by decide)
example : serve roundTrip (newTransport (setConfigWith .parameter Cell.init cfgEx) none) 200 500000000 = (200, 500000000) := by decide +kernel
example : handlerPath "" "text/event-stream" = .sse ∧ handlerPath "" "text/event-stream, */*" = .default ∧
    handlerPath "websocket" "text/event-stream" = .websocket ∧ handlerPath "WebSocket" "" = .websocket ∧
    handlerPath "websoc\u212Aet" "" = .websocket ∧ handlerPath "web\u017Focket" "" = .websocket ∧ handlerPath "websockets" "text/event-stream" = .sse := by
  simp only [handlerPath, equalFoldWebsocket, toList_lit rfl]
  decide +kernel
example : (handlerFor (newHTTPProxy (setConfig Cell.init cfgEx)) 1000000000 0 (addTarget (setConfig Cell.init cfgEx) optsEx) .sse).map
    (·.transport.responseHeaderTimeout) = some 100000000 := by decide +kernel
example : serveFull roundTrip (newTransport (setConfig Cell.init cfgEx) none) requestDeadline 200 20000000 5000000000
    = ⟨200, 20000000, true, 5020000000⟩ := by decide +kernel
-- a context deadline of dial + header timeout (30.1 s)
example : (serveFull roundTrip (newTransport (setConfig Cell.init cfgEx) none) (some 30100000000) 200 20000000 40000000000).complete
    = false := by decide +kernel
example : exchange roundTrip (newTransport (setConfig Cell.init cfgEx) none) requestDeadline ⟨[103], 200, 500000000, 0⟩
    = ⟨⟨504, 100000000, true, 100000000⟩, [103], 504⟩ := by decide +kernel
example : exchangeWith true roundTrip (newTransport (setConfig Cell.init cfgEx) none) requestDeadline ⟨[103], 200, 500000000, 0⟩
    = ⟨⟨200, 100000000, true, 100000000⟩, [103], 103⟩ := by decide +kernel
example : (serveHistory roundTrip (newTransport (setConfig Cell.init cfgEx) none) requestDeadline
    [⟨[], 200, 0, 0⟩, ⟨[], 200, 0, 0⟩, ⟨[], 200, 500000000, 0⟩]).map (·.served.status) = [200, 200, 504] := by decide +kernel
def srcEx : Sources :=
  { cmdline := [("proxy.responseheadertimeout", "2s"), ("proxy.addr", ":9999,:9998;wt=300ms"), ("proxy.responseheadertimeout", "1.5s")]
    env := [("FABIO_PROXY_DIALTIMEOUT", "250ms"), ("PROXY_DIALTIMEOUT", "9s"), ("FABIO_PROXY_RESPONSEHEADERTIMEOUT", "1h")]
    props := [("proxy.maxconn", "12"), ("proxy.dialtimeout", "3s"), ("proxy.keepalivetimeout", "1m30s")] }
/-- One evaluation for the five examples below, which are its projections: an evaluation decodes the option names of
`load` once per declaration. -/
theorem load_vectors :
    load srcEx = some ⟨250000000, 1500000000, 90000000000, 15000000000, 12⟩ ∧
    (parseDuration "1h2m3.004s" = some 3723004000000 ∧ parseDuration "-1.5ms" = some (-1500000) ∧
      parseDuration "3sec" = none ∧ parseDuration "5" = none ∧ parseDuration "9223372036854775808ns" = none) ∧
    splitArgs ["-proxy.dialtimeout", "-5s", "--proxy.maxconn=7"] = some [("proxy.dialtimeout", "-5s"), ("proxy.maxconn", "7")] ∧
    load { cmdline := [], env := [("FABIO_PROXY_DIALTIMEOUT", "3sec")], props := [] } = some { Cfg.defaults with dialTimeout := 0 } ∧
    load { cmdline := [("proxy.dialtimeout", "3sec")], env := [], props := [] } = none := by decide +kernel

example : load srcEx = some ⟨250000000, 1500000000, 90000000000, 15000000000, 12⟩ := load_vectors.1
example : parseDuration "1h2m3.004s" = some 3723004000000 ∧ parseDuration "-1.5ms" = some (-1500000) ∧
    parseDuration "3sec" = none ∧ parseDuration "5" = none ∧ parseDuration "9223372036854775808ns" = none := load_vectors.2.1
example : splitArgs ["-proxy.dialtimeout", "-5s", "--proxy.maxconn=7"] = some [("proxy.dialtimeout", "-5s"), ("proxy.maxconn", "7")] := load_vectors.2.2.1
example : load { cmdline := [], env := [("FABIO_PROXY_DIALTIMEOUT", "3sec")], props := [] } = some { Cfg.defaults with dialTimeout := 0 } := load_vectors.2.2.2.1
example : load { cmdline := [("proxy.dialtimeout", "3sec")], env := [], props := [] } = none := load_vectors.2.2.2.2
example : poolFate (newTransport (setConfig Cell.init { cfgEx with maxConn := 3 }) none) 5 1000000000
    = [some 1000000000, some 1000000000, some 16000000000, some 16000000000, some 16000000000] := by decide +kernel
example : serveUnreachable (newTransport (setConfig Cell.init cfgEx) none) = some (504, 30000000000) := by decide +kernel
example : errorStatus .netTimeout = 504 ∧ errorStatus .netOther = 502 ∧ errorStatus .canceled = 499 := by decide +kernel

end Fabio.Props.C19
