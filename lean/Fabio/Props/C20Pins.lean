import Fabio.Generated.C20
import Fabio.Model.C20Spec
import Fabio.Props.C20Xlate
/-!
CHANGE DETECTORS for C20 (`"pins_module"` in checks/C20.json): the shape of sequential, deterministic code whose
input/output behaviour a correspondence stream compares with the model on every run. When one of these stops
building nothing is claimed broken — the streams run at the widened budget and decide. Each line names the
stream that carries the tie.
-/
namespace Fabio.Props.C20Pins
open Fabio Fabio.Model.C20

/-- extraction problems in the pinned code (a table or buffer the extractor no longer recognises) -/
theorem no_extraction_notes : Generated.C20.pinNotes = [] := rfl

/-- the `fields` map has exactly the names of the model's table — `c20.parse` / `c20.render` draw field names
from the real `logger.Fields` as well as from the documented list -/
theorem field_table_pinned :
    Generated.C20.fieldNames.all (fieldNames.contains ·) = true ∧
    fieldNames.all (Generated.C20.fieldNames.contains ·) = true ∧
    Generated.C20.fieldNames.length = fieldNames.length := by
  rw [all_contains_toList, all_contains_toList]
  unfold fieldNames fieldTable Generated.C20.fieldNames
  simp only [List.map, toList_lit rfl]
  decide +kernel

/-- both predefined formats parse — `c20.parse` has the real constants in its corpus -/
theorem common_format_parses :
    (match parse Generated.C20.CommonFormat.toList with | .ok (.ok p) => p.length | _ => 0) = 9 := by
  rw [toList_chars (s := Generated.C20.CommonFormat) rfl]; decide +kernel
theorem combined_format_parses :
    (match parse Generated.C20.CombinedFormat.toList with | .ok (.ok p) => p.length | _ => 0) = 14 := by
  rw [toList_chars (s := Generated.C20.CombinedFormat) rfl]; decide +kernel

/-- month names — `c20.render` (`$time_common`, every month) -/
theorem month_names_pinned : Generated.C20.shortMonthNames.map String.toList = shortMonthNames := rfl

/-- `atoi`: 128-byte scratch array, pads {0,2,3,4,6,9} — `c20.atoi` (pads 0…140), `c20.render` -/
theorem atoi_buffer_pinned : Generated.C20.atoiBufLen = 128 := rfl
theorem atoi_pads_pinned : Generated.C20.atoiPads = [0, 2, 3, 4, 6, 9] := rfl

/-- `i32toa`: 11-byte buffer — `c20.i32toa`, `c20.i32block`, `c20.i32sweep` -/
theorem i32toa_buffer_pinned : Generated.C20.i32toaBufLen = 11 := rfl

/-- `uint16base16` — `c20.uint16` (all 65 536 values on every run) -/
theorem uint16_digits_pinned :
    Generated.C20.digit16 = "0123456789abcdef" ∧ Generated.C20.uint16Template = "0x0000" ∧
    Generated.C20.uint16Nibbles = [(2, 3), (3, 2), (4, 1), (5, 0)] := ⟨rfl, rfl, rfl⟩

/-- `uuid.ToString` tables — `c20.uuid` -/
theorem uuid_tables_pinned :
    Generated.C20.uuidIdx = uuidIdx ∧ Generated.C20.uuidDashes = uuidDashes ∧
    Generated.C20.halfbyte2hexchar.map Char.ofNat = halfbyte2hexchar ∧ Generated.C20.uuidBufLen = 36 := ⟨rfl, rfl, rfl, rfl⟩

/-- D25: location-dependent `time.Time` methods only on `End.UTC()` — `c20.render` (End in zones −14h…+14h,
instants around midnight) -/
theorem time_fields_use_utc :
    Generated.C20.calendarAccessorsNotOnUTC = [] ∧
    Generated.C20.timeFieldAccessorCalls.map (·.1) =
      ["$time_common", "$time_rfc3339", "$time_rfc3339_ms", "$time_rfc3339_ns", "$time_rfc3339_us"] ∧
    Generated.C20.timeFieldAccessorCalls.all (fun p => decide (1 ≤ p.2)) = true ∧
    Generated.C20.methodsCalledOnEnd.all
      (["Sub", "UTC", "UnixNano", "Unix", "UnixMilli", "UnixMicro", "Equal", "Before", "After", "IsZero"].contains ·) = true :=
  ⟨rfl, rfl, by decide +kernel, by decide +kernel⟩

/-- `pattern.write`: one newline call, none for an empty buffer (D26, recorded finding) — `c20.render`
(corpus cases of the finding; a repaired `write` shows as a disagreement there) -/
theorem write_shape_pinned :
    Generated.C20.writeSkipsNewlineOnEmptyBuffer = true ∧ Generated.C20.writeNewlineCalls = 1 := ⟨rfl, rfl⟩

/-- `UpstreamAddr` is the `Host` of the URL passed as `UpstreamURL`, `Request` is the handler's parameter
(explains D24's reachability; the model covers any address and a nil request) -/
theorem call_site_shape_pinned :
    Generated.C20.eventSiteUpstreamAddrIsHostOfUpstreamURL = true ∧
    Generated.C20.eventSiteRequestIsHandlerParam = true := ⟨rfl, rfl⟩

/-- the logger's state: a mutex and a writer among three fields, one package-level `sync.Pool` — `c20.concurrent` -/
theorem logger_state_pinned :
    Generated.C20.loggerStdFieldTypes = ["io.Writer", "sync.Mutex"] ∧ Generated.C20.loggerFieldCount = 3 ∧
    Generated.C20.syncPoolVars = 1 ∧ Generated.C20.logCalls.contains "Reset" = true :=
  ⟨rfl, rfl, rfl, by decide +kernel⟩

/-- The only call site hands `Log` an event whose `Response` is the address of an `http.Response` literal
(in place or through a local assigned once from it): never nil — the renderers dereference it unchecked and the
model's `Event` has no "nil response" case. Its `StatusCode` and `ContentLength` are fields of the very
`ResponseWriter` that was handed to the handler (the capturing wrapper of `c20.capture`).
The stream `c20.serve` runs `ServeHTTP`, records the event handed to `Log` and compares status and size with what
the client connection received. -/
theorem call_site_pinned :
    Generated.C20.eventSiteResponseIsLiteral = true ∧
    Generated.C20.eventSiteStatusAndSizeFromHandlerWriter = true := ⟨rfl, rfl⟩

/-!
Every function named in `tools/factgen/c20.go` is inside the translated subset, and the definitions regenerated from
the current source equal the hand-written model for every input (proofs in `Props/C20Xlate.lean`, restated here so
that they are audited and counted with the other change detectors). Streams that carry the tie when one of them
stops building: `c20.uint16` (exhaustive), `c20.i32toa` / `c20.i32block` / `c20.i32sweep`, `c20.uuid`,
`c20.hostport`, `c20.atoi`, `c20.render`. -/

theorem xlate_everything_translated : Generated.C20.xlateNotes = [] := rfl

theorem xlate_uint16base16 (n : UInt16) :
    C20Xlate.obsX (Generated.C20.XUint16.run { p0 := n }) = .ok (Spec.hex4 n.toNat) := C20Xlate.xuint16_eq_hex4 n

theorem xlate_i32toa (n : Int) (hlo : -2^31 ≤ n) (hhi : n < 2^31) :
    C20Xlate.obsX (Generated.C20.XI32toa.run { p0 := n }) = .ok (Spec.itoa n) := C20Xlate.xi32toa_eq_decimal n hlo hhi

theorem xlate_uuid_tostring (u : List UInt8) (h : u.length = 24) :
    C20Xlate.obsX (Generated.C20.XUuid.run { p0 := u }) = .ok (Spec.uuidText u) := C20Xlate.xuuid_format u h

theorem xlate_hostport (b : List UInt8) :
    ∃ h p, C20Xlate.obsHP (Generated.C20.XHostport.run { p0 := b }) = .ok (h, p) ∧ Spec.hostportOk (C20Xlate.chars b) h p = true :=
  C20Xlate.xhostport_spec b

theorem xlate_hostport_utf8 (cs : List Char) :
    ∃ s', Generated.C20.XHostport.run { p0 := C20Xlate.utf8 cs } =
      .ok ((C20Xlate.utf8 (Spec.splitLastColon cs).1, C20Xlate.utf8 (Spec.splitLastColon cs).2), s') :=
  C20Xlate.xhostport_utf8 cs

theorem xlate_atoi (buf : List UInt8) (i : Int) (pad : Nat) (hlo : -2^63 < i) (hhi : i < 2^63) (hpad : pad ≤ 127) :
    C20Xlate.obsA (Generated.C20.XAtoi.run { p0 := buf, p1 := i, p2 := (pad : Int) }) = .ok (C20Xlate.chars buf ++ Spec.decimal i pad) :=
  C20Xlate.xatoi_eq_decimal buf i pad hlo hhi hpad

theorem xlate_atoi_total (buf : List UInt8) (i : Int) (pad : Nat) (hlo : -2^63 ≤ i) (hhi : i < 2^63) (hpad : pad ≤ 127) :
    ∃ r, C20Xlate.obsA (Generated.C20.XAtoi.run { p0 := buf, p1 := i, p2 := (pad : Int) }) = .ok r :=
  C20Xlate.xatoi_total buf i pad hlo hhi hpad

theorem xlate_lex (cs : List Char) :
    ∃ s', Generated.C20.XLex.run { p0 := C20Xlate.LX.runes cs } = .ok ((C20Xlate.LX.tyN (lex cs).1, (lex cs).2), s') :=
  C20Xlate.xlex_eq_model cs

theorem xlate_lex_progress (cs : List Char) (h : cs ≠ []) :
    ∃ t n s', Generated.C20.XLex.run { p0 := C20Xlate.LX.runes cs } = .ok ((t, n), s') ∧ 1 ≤ n ∧ n ≤ cs.length :=
  C20Xlate.xlex_progress cs h

end Fabio.Props.C20Pins
