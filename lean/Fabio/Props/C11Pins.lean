import Fabio.Generated.C11
import Fabio.Model.C11Load
/-!
CHANGE DETECTORS for C11 (`"pins_module"` in checks/C11.json): the shape of sequential, deterministic code whose
input/output behaviour a correspondence stream compares with the model on every run. When one of these stops
building nothing is claimed broken — the streams run at the widened budget with a second seed and decide.
Each line names the stream that carries the tie.
-/
namespace Fabio.Props.C11Pins
open Fabio Fabio.Generated.C11

/-- one iteration of `watch` is `Model.C11.step true` (load; loader error → sleep, retry; unchanged → sleep, retry;
`loadCertificates`; its error → sleep, retry; send; `last = next`; return iff once) — `c11.watch`, `c11.source`
(calls / publications / return up to the first sleep, incl. "the most recent usable material is what was
published last"), `c11.watch_gap` (durations), `c11.e2e` -/
theorem watch_loop_is_the_step_machine :
    watchLoopEvents =
      ["load", "if load-error: sleep continue", "if unchanged: sleep continue", "make:loadCertificates",
       "if make-error: sleep continue", "send", "remember", "if once: return"] := rfl

/-- the one send of `watch` hands the certificates made from the material just loaded (also when the poll lives
in a helper) to the channel parameter — `c11.watch`, `c11.source` (published sets, in order) -/
theorem send_hands_on_the_made_certificates : watchSendsMadeCertsOnChannelParam = true := rfl

/-- `refresh` raised to `time.Second` before the loop, `once := refresh <= 0` evaluated before the floor —
`c11.watch_gap` (gaps ≥ max(refresh, 1 s) for refresh ∈ {0, −5, 1, 700, 1000, 1300} ms), `c11.watch` (return after
the first delivery iff refresh ≤ 0) -/
theorem sleeps_are_floored :
    refreshFloor = "time.Second" ∧ onceExpr = "refresh <= 0" ∧ onceBeforeFloor = true := ⟨rfl, rfl, rfl⟩

/-- the requested `ServerName` and every index key pass through `strings.ToLower` — `c11.select` (mixed case on
both sides in 30 % of the names) -/
theorem names_lowered_on_both_sides :
    requestLowered = ["field:ServerName"] ∧ indexKeyWrites = 2 ∧ indexKeyWritesLowered = indexKeyWrites :=
  ⟨rfl, rfl, rfl⟩

/-- `loadCertificates` sorts the certificate file names once and builds its result from that slice; the suffix
tests in the modelled order — `c11.watch`, `c11.source` (published order = file-name order, shuffled materials) -/
theorem load_sorted_by_file_name :
    loadCertificatesSortCalls = 1 ∧ resultBuiltFromSortedFileNames = true ∧
    loadCertificatesSuffixes = ["-cert.pem", "-key.pem", ".pem"] := ⟨rfl, rfl, rfl⟩

/-- the fetch of `loadURL` refuses everything but `200 OK` (`Model.C11.fetchBody true`) — `c11.loaders` (statuses
201 … 503 for the list and for every file), `c11.source`, `c11.e2e` -/
theorem fetch_accepts_only_200 : loadURLStatusTests = ["!= http.StatusOK"] := rfl

/-- the sources hand their own loader, URL / joined path and refresh interval to `watch`; `makePath` is
`filepath.Join` and nothing else (the path is looked up afresh by every load) — `c11.e2e` (real `HTTPSource` and
`PathSource` through the real `TLSConfig`, publication by re-pointing a link on the configured path) -/
theorem sources_hand_their_loader_to_watch :
    httpSourceWatchArgs = ["chan", "field:Refresh", "field:CertURL", "func:loadURL"] ∧
    pathSourceWatchArgs = ["chan", "field:Refresh", "call:makePath", "func:loadPath"] ∧
    makePathReturns = ["call:filepath.Join", "call:filepath.Join"] := ⟨rfl, rfl, rfl⟩

/-- `main.makeTLSConfig` builds, for the one listener it is called for, one source from that listener's
`CertSource` and one `cert.TLSConfig` from that source and that listener's own `StrictMatch` / TLS options, and
touches no package-level state of package main (`Model.C11.Deployment`: one store per listener) — `c11.listeners`
(the real executable with several listeners on one source, different `strictmatch` settings, real handshakes) -/
theorem every_listener_builds_its_own_config :
    makeTLSConfigCalls =
      ["cert.NewSource(listener.CertSource)",
       "cert.TLSConfig(result:cert.NewSource, listener.StrictMatch, listener.TLSMinVersion, listener.TLSMaxVersion, listener.TLSCiphers)"] ∧
    makeTLSConfigPackageVars = [] := ⟨rfl, rfl⟩

end Fabio.Props.C11Pins
