import Fabio.Props.C13Table
import Fabio.Props.C13Compose
/-!
C13 — **the composed model never violates the table specification**: for every dumped table and
request, what `Lookup` (C03's model with C13's skip) selects is judged `ok` by `Model.C13Table.specAnswered`,
the predicate `c13.http` evaluates on the real proxy's answers. In words: the model answers from a host-specific
route whenever one that is surely no self-redirect matches, and whoever answers is the longest-prefix route of a
key that is empty or matches the host as the specification reads it.
-/
namespace Fabio.Props.C13TableSpec
open Fabio Fabio.Model Fabio.Model.C13Table Fabio.Lemmas.C13Table Fabio.Props.C13Table

/-- the route `r` of C03's table stands for the dumped route `dr`: same path, a single target that looks like
`dr.tgt` to the redirect code -/
def RouteRep (view : Route.Target → C13.RTarget) (dr : DRoute) (r : Route.Route) : Prop :=
  r.path = chars dr.path ∧ ∃ tg, r.targets = [tg] ∧ view tg = dr.tgt

/-- position by position (`List.Forall₂` of Mathlib, restated to stay in core Lean) -/
inductive RoutesRep (view : Route.Target → C13.RTarget) : List DRoute → List Route.Route → Prop where
  | nil : RoutesRep view [] []
  | cons {dr r rs routes} : RouteRep view dr r → RoutesRep view rs routes → RoutesRep view (dr :: rs) (r :: routes)

structure Represents (d : DTable) (t : Route.Table) (view : Route.Target → C13.RTarget) : Prop where
  keys : C03.keys t = d.map (fun kv => chars kv.1)
  routes : ∀ kv ∈ d, RoutesRep view kv.2 (t.get (chars kv.1))

/-- the table's own order: longest path first within a key (what `route.Routes` sorting establishes; C03) -/
def LongestFirst (rs : List DRoute) : Prop := rs.Pairwise (fun a b => a.path.length ≥ b.path.length)

/-- the prefix matcher; `(cfgOf noglob).pathMatch` unfolds to it for either value of `noglob` -/
def pm : Route.Str → Route.Str → Bool := fun uri p => p.isPrefixOf uri

theorem lookupRoutes_rep (view : Route.Target → C13.RTarget) (pick : Route.Route → Route.Target) (path : C13.Str)
    {rs : List DRoute} {routes : List Route.Route} (h : RoutesRep view rs routes) :
    (C03.lookupRoutes pm pick (chars path) routes).map (fun p => view p.2) =
      (rs.find? (fun r => r.path.isPrefixOf path)).map (·.tgt) := by
  induction h with
  | nil => rfl
  | @cons dr r rs' routes' hr _ ih =>
    obtain ⟨hp, tg, ht, hv⟩ := hr
    simp only [C03.lookupRoutes, List.find?_cons]
    have hm : pm (chars path) r.path = dr.path.isPrefixOf path := by rw [hp]; exact isPrefixOf_chars _ _
    rw [hm]
    by_cases hx : dr.path.isPrefixOf path = true
    · simp [hx, ht, hv]
    · have hx' : dr.path.isPrefixOf path = false := Bool.eq_false_iff.2 hx
      simp only [hx', Bool.false_eq_true, if_false]
      exact ih

theorem longest_of_sorted {l : List DRoute} (h : LongestFirst l) : longest l = l.head? := by
  induction l with
  | nil => rfl
  | cons r rs ih =>
    have hp := List.pairwise_cons.1 h
    have := ih hp.2
    simp only [longest, this, List.head?_cons]
    cases rs with
    | nil => rfl
    | cons b bs =>
      have hb := hp.1 b (by simp)
      simp only [List.head?_cons]
      have : ¬ (b.path.length > r.path.length) := by omega
      simp [this]

theorem specBest_eq_find {rs : List DRoute} (h : LongestFirst rs) (path : C13.Str) :
    specBest rs path = rs.find? (fun r => r.path.isPrefixOf path) := by
  unfold specBest
  rw [longest_of_sorted (List.Pairwise.filter _ h)]
  induction rs with
  | nil => rfl
  | cons r rs ih =>
    have hp := List.pairwise_cons.1 h
    simp only [List.filter_cons, List.find?_cons]
    by_cases hx : r.path.isPrefixOf path = true
    · simp [hx]
    · have hx' : r.path.isPrefixOf path = false := Bool.eq_false_iff.2 hx
      simp only [hx', Bool.false_eq_true, if_false]
      exact ih hp.2

structure WellFormed (d : DTable) : Prop where
  /-- `addRoute` lower-cases the host of a route -/
  lowerKeys : ∀ kv ∈ d, lower kv.1 = kv.1
  /-- a Go map has every key once -/
  nodup : (d.map (fun kv => kv.1)).Nodup
  sorted : ∀ kv ∈ d, LongestFirst kv.2

/-- what `mkReq` establishes between the two views of a request -/
structure ReqOf (q : CReq) (host : C13.Str) (tls : Bool) : Prop where
  host03 : q.r03.host = chars host
  tls03 : q.r03.tls = tls
  path03 : q.r03.path = chars q.url.path
  host13 : q.url.host = host

theorem mkReq_reqOf {host target xfp : C13.Str} {tls : Bool} {q : CReq} (h : mkReq host target xfp tls = some q) :
    ReqOf q host tls := by
  unfold mkReq at h
  cases hp : C13.parseTarget host target with
  | none => rw [hp] at h; cases h
  | some u =>
    rw [hp] at h
    simp only [Option.map_some, Option.some.injEq] at h
    subst h
    refine ⟨rfl, rfl, rfl, ?_⟩
    unfold C13.parseTarget at hp
    simp only [] at hp
    split at hp
    · cases hp
    · simp only [Option.some.injEq] at hp; rw [← hp]

section main
variable {d : DTable} {t : Route.Table} {view : Route.Target → C13.RTarget} {noglob : Bool}
variable {host : C13.Str} {tls : Bool} {q : CReq}

theorem key_of_mem (hrep : Represents d t view) {h : Route.Str} (hh : h ∈ C03.keys t) : ∃ kv ∈ d, chars kv.1 = h := by
  rw [hrep.keys] at hh; obtain ⟨kv, hkv, e⟩ := List.mem_map.1 hh; exact ⟨kv, hkv, e⟩

theorem lowerL_key (hwf : WellFormed d) {kv : C13.Str × List DRoute} (hkv : kv ∈ d) : lowerL (chars kv.1) = chars kv.1 := by
  rw [lowerL_chars, hwf.lowerKeys kv hkv]

theorem look_key (hrep : Represents d t view) (hwf : WellFormed d) (hq : ReqOf q host tls)
    {kv : C13.Str × List DRoute} (hkv : kv ∈ d) :
    (Props.C03.look (cfgOf noglob) t q.r03 (chars kv.1)).map (fun p => view p.2) =
      (specBest kv.2 q.url.path).map (·.tgt) := by
  unfold Props.C03.look C03.lookup
  rw [lowerL_key hwf hkv, hq.path03, specBest_eq_find (hwf.sorted kv hkv)]
  -- `(cfgOf noglob).pathMatch` is `pm` by unfolding
  exact lookupRoutes_rep view _ _ (hrep.routes kv hkv)

theorem keys_lower (hrep : Represents d t view) (hwf : WellFormed d) : ∀ k ∈ C03.keys t, lowerL k = k := by
  intro k hk
  obtain ⟨kv, hkv, rfl⟩ := key_of_mem hrep hk
  exact lowerL_key hwf hkv

theorem mem_matched_key (hrep : Represents d t view) (hwf : WellFormed d) (hq : ReqOf q host tls) {h : Route.Str} :
    h ∈ Props.C03.matched (cfgOf noglob) t q.r03 ↔ ∃ kv ∈ d, chars kv.1 = h ∧ modelHostOK noglob kv.1 host tls := by
  rw [Props.C03.mem_matched_iff, Props.C03.hostMatches_iff (keys_lower hrep hwf), hrep.keys, List.mem_map, hq.host03,
    hq.tls03]
  constructor
  · rintro ⟨⟨kv, hkv, rfl⟩, hm⟩; exact ⟨kv, hkv, rfl, hm⟩
  · rintro ⟨kv, hkv, rfl, hm⟩; exact ⟨⟨kv, hkv, rfl⟩, hm⟩

theorem matched_of_spec (hrep : Represents d t view) (hwf : WellFormed d) (hq : ReqOf q host tls)
    {kv : C13.Str × List DRoute} (hkv : kv ∈ d) (hs : specHostOK noglob kv.1 host tls = some true) :
    chars kv.1 ∈ Props.C03.matched (cfgOf noglob) t q.r03 :=
  (mem_matched_key hrep hwf hq).2 ⟨kv, hkv, rfl, (specHostOK_is_model noglob kv.1 host tls true hs).2 rfl⟩

theorem spec_of_matched (hrep : Represents d t view) (hwf : WellFormed d) (hq : ReqOf q host tls)
    (hu : specUnread d noglob host tls = false) (hne : specNorm host tls ≠ [])
    {h : Route.Str} (hh : h ∈ Props.C03.matched (cfgOf noglob) t q.r03) :
    ∃ kv ∈ d, chars kv.1 = h ∧ kv.1 ≠ [] ∧ specHostOK noglob kv.1 host tls = some true := by
  obtain ⟨kv, hkv, e, hm⟩ := (mem_matched_key hrep hwf hq).1 hh
  -- the empty key does not match a non-empty host: both host tests say that the normalised request host is empty
  have hk : kv.1 ≠ [] := by
    intro e
    rw [e, modelHostOK, show chars ([] : C13.Str) = [] from rfl, Lemmas.C03.normalizeHost_nil, normalizeHost_chars] at hm
    refine hne (chars_eq_nil.1 ?_)
    cases noglob
    · simpa [Lemmas.C03.globLib_nil] using hm
    · simpa using hm.symm
  -- the specification reads the key, and then agrees with the model
  refine ⟨kv, hkv, e, hk, ?_⟩
  cases hsp : specHostOK noglob kv.1 host tls with
  | none =>
    have := List.any_eq_false.1 hu kv hkv
    simp [hsp, List.isEmpty_eq_false_iff.2 hk] at this
  | some b => rw [(specHostOK_is_model noglob kv.1 host tls b hsp).1 hm]

theorem pickOK (noglob : Bool) : Props.C03.PickOK (cfgOf noglob).pick :=
  Props.C03.pickOK_headD _

theorem mem_specHostCands {dr : DRoute} :
    dr ∈ specHostCands d noglob q host ↔
      ∃ kv ∈ d, kv.1 ≠ [] ∧ specHostOK noglob kv.1 host q.r03.tls = some true ∧ specBest kv.2 q.url.path = some dr := by
  simp only [specHostCands, List.mem_filterMap, Option.ite_none_left_eq_some, Option.ite_none_right_eq_some,
    List.isEmpty_iff, beq_iff_eq, ne_eq]

theorem mem_specHostlessCands {dr : DRoute} :
    dr ∈ specHostlessCands d q ↔ ∃ kv ∈ d, kv.1 = [] ∧ specBest kv.2 q.url.path = some dr := by
  simp only [specHostlessCands, List.mem_filterMap, Option.ite_none_right_eq_some, List.isEmpty_iff]

theorem cand_of_look (hrep : Represents d t view) (hwf : WellFormed d) (hq : ReqOf q host tls)
    {kv : C13.Str × List DRoute} (hkv : kv ∈ d) {r : Route.Route} {tg : Route.Target}
    (hl : Props.C03.look (cfgOf noglob) t q.r03 (chars kv.1) = some (r, tg)) :
    ∃ dr, specBest kv.2 q.url.path = some dr ∧ dr.tgt = view tg := by
  have := look_key (noglob := noglob) hrep hwf hq hkv
  rw [hl] at this
  exact Option.map_eq_some_iff.1 this.symm

theorem look_of_cand (hrep : Represents d t view) (hwf : WellFormed d) (hq : ReqOf q host tls)
    {kv : C13.Str × List DRoute} (hkv : kv ∈ d) {dr : DRoute} (hb : specBest kv.2 q.url.path = some dr) :
    ∃ r tg, Props.C03.look (cfgOf noglob) t q.r03 (chars kv.1) = some (r, tg) ∧ view tg = dr.tgt := by
  have := look_key (noglob := noglob) hrep hwf hq hkv
  rw [hb] at this
  obtain ⟨p, hl, hv⟩ := Option.map_eq_some_iff.1 this
  exact ⟨p.1, p.2, hl, hv⟩

theorem live_answers (hrep : Represents d t view) (hwf : WellFormed d) (hq : ReqOf q host tls)
    (hlive : (specHostCands d noglob q host).any (fun r => surelyLive r.tgt (scheme q) host) = true) :
    ∃ h r tg, Lookup (cfgOf noglob) view t q = some (h, r, tg) ∧ h ∈ Props.C03.matched (cfgOf noglob) t q.r03 := by
  obtain ⟨dr, hdr, hsl⟩ := List.any_eq_true.1 hlive
  obtain ⟨kv, hkv, _, hs, hb⟩ := mem_specHostCands.1 hdr
  rw [hq.tls03] at hs
  have hm := matched_of_spec hrep hwf hq hkv hs
  obtain ⟨r, tg, hl, hv⟩ := look_of_cand (noglob := noglob) hrep hwf hq hkv hb
  have hns : skipFor view q tg = false := surelyLive_skipFor view q tg (by rw [hv, hq.host13]; exact hsl)
  obtain ⟨h, r', tg', e, hmem, _, _⟩ := Props.C13Compose.next_matching_host_is_tried (cfgOf noglob) view t q hm hl hns
  exact ⟨h, r', tg', e, hmem⟩

/-- what the model's answer looks like to the specification -/
def observed (view : Route.Target → C13.RTarget) (L : Option (Route.Str × Route.Route × Route.Target)) : Observed :=
  { noRoute := L.isNone,
    explains := fun dr => match L with
      | some (_, _, tg) => view tg == dr.tgt
      | none => false }

/-- **The composed model meets the table specification.** For a dump `d` of a table (`Represents`: same keys, per
key the same routes with single targets that look alike; `WellFormed`: lower-case distinct keys, longest path
first), any request with a non-empty normalised host, with and without host globs: the answer of C03's `Lookup`
run with C13's self-redirect skip is judged `ok` by `specAnswered` — it comes from the longest-prefix route of a
key that is empty or matches the host as the specification reads it, and from a host-specific key whenever one
has a candidate that is surely no self-redirect. -/
theorem model_meets_table_spec (hrep : Represents d t view) (hwf : WellFormed d) (hq : ReqOf q host tls)
    (hne : specNorm host tls ≠ []) :
    specAnswered d noglob q host (observed view (Lookup (cfgOf noglob) view t q)) = .ok := by
  unfold specAnswered
  simp only []
  rw [hq.tls03]
  by_cases hu : specUnread d noglob host tls = true
  · simp [hu]
  have hu' : specUnread d noglob host tls = false := by simpa using hu
  simp only [hu', Bool.false_eq_true, if_false]
  have hnil : ([] : Route.Str) ∉ Props.C03.matched (cfgOf noglob) t q.r03 := by
    intro hmem
    obtain ⟨kv, _, e, hk, _⟩ := spec_of_matched hrep hwf hq hu' hne hmem
    exact hk (chars_eq_nil.1 e)
  cases hL : Lookup (cfgOf noglob) view t q with
  | none =>
    simp only [observed, Option.isNone_none, if_true]
    by_cases hlive : (specHostCands d noglob q host).any (fun r => surelyLive r.tgt (scheme q) host) = true
    · obtain ⟨h, r, tg, e, _⟩ := live_answers hrep hwf hq hlive
      rw [hL] at e; cases e
    · simp [hlive]
  | some res =>
    obtain ⟨h, r, tg⟩ := res
    simp only [observed, Option.isNone_some, Bool.false_eq_true, if_false]
    have hsound : (h ∈ Props.C03.matched (cfgOf noglob) t q.r03 ∨ h ∈ [[]]) ∧
        Props.C03.look (cfgOf noglob) t q.r03 h = some (r, tg) := by
      obtain ⟨pre, post, e, _, hl, _⟩ := Props.C03.Lookup_eq_some.1 hL
      rw [Props.C13Compose.matched_cfgFor] at e
      exact ⟨List.mem_append.1 (by rw [e]; simp), hl⟩
    rcases hsound.1 with hmem | hmem
    · -- a matching host key
      obtain ⟨kv, hkv, e, hk, hs⟩ := spec_of_matched hrep hwf hq hu' hne hmem
      subst e
      obtain ⟨dr, hb, hv⟩ := cand_of_look hrep hwf hq hkv hsound.2
      have : (specHostCands d noglob q host).any (fun dr => view tg == dr.tgt) = true :=
        List.any_eq_true.2 ⟨dr, mem_specHostCands.2 ⟨kv, hkv, hk, by rw [hq.tls03]; exact hs, hb⟩, by simp [hv]⟩
      simp [this]
    · -- the host-less routes
      have hh : h = [] := by simpa using hmem
      subst hh
      by_cases hex : (specHostCands d noglob q host).any (fun dr => view tg == dr.tgt) = true
      · simp [hex]
      · simp only [hex, Bool.false_eq_true, if_false]
        -- the key "" of the dump
        have hkey : ([] : Route.Str) ∈ C03.keys t := Props.C03.key_of_look hsound.2
        obtain ⟨kv, hkv, e⟩ := key_of_mem hrep hkey
        have hk0 : kv.1 = [] := chars_eq_nil.1 e
        have hl : Props.C03.look (cfgOf noglob) t q.r03 (chars kv.1) = some (r, tg) := by rw [e]; exact hsound.2
        obtain ⟨dr, hb, hv⟩ := cand_of_look hrep hwf hq hkv hl
        have hfc : (specHostlessCands d q).any (fun dr => view tg == dr.tgt) = true :=
          List.any_eq_true.2 ⟨dr, mem_specHostlessCands.2 ⟨kv, hkv, hk0, hb⟩, by simp [hv]⟩
        simp only [hfc, if_true]
        by_cases hlive : (specHostCands d noglob q host).any (fun r => surelyLive r.tgt (scheme q) host) = true
        · obtain ⟨h', r', tg', e', hm'⟩ := live_answers hrep hwf hq hlive
          rw [hL] at e'
          simp only [Option.some.injEq, Prod.mk.injEq] at e'
          rw [← e'.1] at hm'
          exact absurd hm' hnil
        · simp [hlive]

end main

end Fabio.Props.C13TableSpec
