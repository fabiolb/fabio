import Fabio.Props.C02Lines
import Fabio.Lemmas.Lit
/-!
C02 — where the scanner loop of `Parse` stops, tied to the parser model.

`Model/C02Buf.lean` computes what `route.NewTable` leaves in its buffer from `stopLine pf text`: the first line Go's LINE
parser rejects (a NaN/±Inf weight is accepted by Go's line parser, so `stopLine` looks past such lines although the
Lean `parse` reports them as `nonFinite`). These theorems tie `stopLine` to `Parse.parse`, the model every other theorem
about `loadTable` uses: the two can never disagree about a syntax error or an over-long line.
-/
namespace Fabio.Props.C02Stop
open Fabio Fabio.Model.C02Buf Fabio.Model.Parse Fabio.Model.Route

/-- **A syntax error of the parser model is where the scanner loop stops.** -/
theorem stopLine_of_parse_syntax_error (pf : ParseFloat) (text : Str) (j : Nat) (e : SynErr)
    (h : parse pf text = .error (.syn j e)) : stopLine pf text = some j := by
  have h' : parseLines pf 1 (rawLines text) = .error (.syn j e) := h
  unfold stopLine
  rw [Fabio.Lemmas.C02Drain.stopLineAux_eq pf (rawLines text) 1 (by simp [h']), h']

/-- **An over-long line of the parser model is not a stopping line**: the scanner gives up by itself there
(`scanner_reads_the_raw_lines`), `Parse` never sees a later line. -/
theorem stopLine_of_tooLong (pf : ParseFloat) : ∀ (ls : List Str) (i j : Nat),
    parseLines pf i ls = .error (.tooLong j) → stopLineAux pf i ls = none := by
  intro ls i j h
  rw [Fabio.Lemmas.C02Drain.stopLineAux_eq pf ls i (by simp [h]), h]

section examples

example : ∃ e, parse (fun _ => none) "# c\nroute ad\nroute add a /x http://a:1/".toList = .error (.syn 2 e) := by
  simp only [toList_lit rfl]
  exact ⟨_, rfl⟩
example : stopLine (fun _ => none) "# c\nroute ad\nroute add a /x http://a:1/".toList = some 2 := by
  simp only [toList_lit rfl]; decide +kernel

end examples

end Fabio.Props.C02Stop
