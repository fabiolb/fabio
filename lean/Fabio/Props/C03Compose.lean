import Fabio.Props.C03
import Fabio.Props.C05
import Fabio.Lemmas.Lit
/-!
C03 — composition with C05: the hypotheses the C03 theorems put on the table (`NoEmptyRoutes`,
`TableSorted`, unique host keys, lower-cased host keys) hold for every table `NewTable`/`NewTableCustom`
return, so the property is restated *without* them, for every configuration text that loads and every
definition list of the custom backend. From C05: `newTable_good`, and for `KeysLower` `newTable_keyOK` (a host with
routes is the lower-cased host of some `route add`).
-/
namespace Fabio.Props.C03Compose
open Fabio Fabio.Model.Route Fabio.Model.Parse Fabio.Model.C05Spec Fabio.Model.C03
open Fabio.Lemmas Fabio.Lemmas.C03 Fabio.Props.C03

variable {env : Env} {t t1 : Table} {d : RouteDef}

def KeysLower (t : Table) : Prop := ∀ kv ∈ t, lowerL kv.1 = kv.1

theorem key_lower (s : Str) : lowerL (key s).1 = (key s).1 := by
  unfold key; exact lowerL_idem _

/-- Every host key of a table `NewTable`/`NewTableCustom` return is lower-case: it is the host of an
inhabited (host, path), and that is the `key` of a `route add` (`C05From.newTable_keyOK`). -/
theorem keys_lower {defs : List RouteDef} (h : newTable env defs = .ok t) : KeysLower t :=
  (Route.forall_keys_iff (Fabio.Props.C05.newTable_good h).inv (fun x => lowerL x = x)).2 fun x p hp => by
    obtain ⟨d, _, _, he, _⟩ := C05From.newTable_keyOK h x p hp
    rw [show x = (key d.src).1 from congrArg Prod.fst he]
    exact key_lower _

/-- what C03 needs of a table, all of it true of every table that was built -/
structure Built (t : Table) : Prop where
  noEmpty : NoEmptyRoutes t
  sorted : TableSorted t
  keysNodup : (t.map (·.1)).Nodup
  keysLower : KeysLower t

theorem built_newTable {defs : List RouteDef} (h : newTable env defs = .ok t) : Built t :=
  ⟨fun _ _ hr => Route.targets_get (Fabio.Props.C05.newTable_good h).inv.noEmpty hr,
   newTable_sorted env [] defs h,
   (Fabio.Props.C05.newTable_good h).inv.wf.hosts,
   keys_lower h⟩

theorem newTable_of_loadTable {pf : ParseFloat} {text : Str} (h : loadTable env pf text = .ok t) :
    ∃ defs, newTable env defs = .ok t :=
  let ⟨defs, _, hd⟩ := (Route.loadTable_ok_iff env pf text t).1 h
  ⟨defs, hd⟩

theorem built_loadTable {pf : ParseFloat} {text : Str} (h : loadTable env pf text = .ok t) : Built t := by
  obtain ⟨defs, hd⟩ := newTable_of_loadTable h
  exact built_newTable hd

theorem inv_of_loadTable {pf : ParseFloat} {text : Str} (h : loadTable env pf text = .ok t) : Inv t := by
  obtain ⟨defs, hd⟩ := newTable_of_loadTable h
  exact (Fabio.Props.C05.newTable_good hd).inv

/-- the key matches the request host (case-insensitively, default port removed): by glob, or by equality
when host globbing is disabled -/
def KeyMatches (cfg : Cfg) (req : Req) (k : Str) : Prop :=
  if cfg.globDisabled then normalizeHost k req.tls = normalizeHost req.host req.tls
  else cfg.globMatch (normalizeHost k req.tls) (normalizeHost req.host req.tls) = true

def Candidate (cfg : Cfg) (t : Table) (req : Req) (k : Str) (r : Route) : Prop :=
  ∃ rs, (k, rs) ∈ t ∧ r ∈ rs ∧ (k = [] ∨ KeyMatches cfg req k) ∧ cfg.pathMatch req.path r.path = true

theorem Built.lowerL_key {t : Table} (hb : Built t) : ∀ k ∈ keys t, lowerL k = k := by
  intro k hk
  obtain ⟨kv, hkv, rfl⟩ := List.mem_map.1 hk
  exact hb.keysLower kv hkv

theorem Built.hostMatches_iff {cfg : Cfg} {t : Table} {req : Req} {h : Str} (hb : Built t) :
    HostMatches cfg t req h ↔ h ∈ keys t ∧ KeyMatches cfg req h :=
  Props.C03.hostMatches_iff hb.lowerL_key

theorem hostMatches_of_keyMatches {cfg : Cfg} {t : Table} {req : Req} {k : Str} {rs : List Route}
    (hb : Built t) (hk : (k, rs) ∈ t) (hm : KeyMatches cfg req k) : HostMatches cfg t req k :=
  hb.hostMatches_iff.2 ⟨List.mem_map.mpr ⟨(k, rs), hk, rfl⟩, hm⟩

theorem lowerL_host {cfg : Cfg} {t : Table} {req : Req} {k : Str} (hb : Built t)
    (hk : k = [] ∨ HostMatches cfg t req k) : lowerL k = k := by
  rcases hk with rfl | hm
  · rfl
  · exact hb.lowerL_key k (hb.hostMatches_iff.1 hm).1

/-- the answer's key is stored lower-case, so `lowerL h` below is `h` itself whenever `h` came from the
table (glob mode: `h` is a key; globbing disabled: `h` is `lowerL` of a key) -/
theorem answer_key_lower (cfg : Cfg) (t : Table) (req : Req) (hb : Built t)
    {h : Str} {r : Route} {tg : Target} (hres : Lookup cfg t req = some (h, r, tg)) : lowerL h = h :=
  lowerL_host hb (lookup_sound_route hres).1

/-- on a built table the candidates are the routes `lookup_sound` and `lookup_complete` speak of -/
theorem candidate_iff {cfg : Cfg} {t : Table} {req : Req} {k : Str} {r : Route} (hb : Built t) :
    Candidate cfg t req k r ↔
      (k = [] ∨ HostMatches cfg t req k) ∧ r ∈ t.get (lowerL k) ∧ cfg.pathMatch req.path r.path = true := by
  constructor
  · rintro ⟨rs, hk, hr, hkm, hm⟩
    rw [hb.keysLower _ hk, Route.get_of_mem hb.keysNodup hk]
    exact ⟨hkm.imp id (hostMatches_of_keyMatches hb hk), hr, hm⟩
  · rintro ⟨hk, hr, hm⟩
    rw [lowerL_host hb hk] at hr
    exact ⟨_, Route.mem_get hr, hr, hk.imp id fun hm => (hb.hostMatches_iff.1 hm).2, hm⟩

theorem look_isSome_of_candidate {cfg : Cfg} {t : Table} {req : Req} (hb : Built t) {k : Str} {r : Route}
    (hc : Candidate cfg t req k r) : (look cfg t req k).isSome = true :=
  have ⟨_, hr, hm⟩ := (candidate_iff hb).1 hc
  lookupRoutes_isSome (hb.noEmpty _) hr hm

/-- Without the redirect skip, a target is returned exactly when
some route of the table has an empty or matching host key and a matching path. No hypothesis about empty
routes: built tables have none (C05). -/
theorem routed_iff_candidate_built (cfg : Cfg) (t : Table) (req : Req) (hb : Built t) (hns : NoSkip cfg) :
    (Lookup cfg t req).isSome = true ↔ ∃ k r, Candidate cfg t req k r :=
  (Lookup_isSome_iff cfg t req (fun _ _ _ => congrFun hns _) hb.noEmpty).trans
    (exists₂_congr fun _ _ => (candidate_iff hb).symm)

/-- The answer is a candidate with one of the route's targets, and no
candidate is more specific —
(1) host-less only as fallback: if a candidate's key matches the request host, so does the answer's key;
(2) exact beats pattern: if such a candidate's key has no glob metacharacter, neither has the answer's;
(3) longer suffix beats shorter: if such a candidate's key has the host part `Y`+`T` (`hostPart`: the host of
    `net.SplitHostPort`, the whole key without a port; `Y` at least two characters), the answer's key is not a
    pattern with the host part `*`+`T` (for keys without a colon and keys `host:port` the host part is what it
    looks like: `hostPart_no_colon`, `hostPart_host_port`);
(4) longest path (prefix and iprefix matchers): no candidate under the answer's key has a longer path.
No sortedness / no-empty-route hypothesis. -/
theorem most_specific_built (cfg : Cfg) (t : Table) (req : Req) (hb : Built t) (hns : NoSkip cfg)
    (hpick : PickOK cfg.pick) {h : Str} {r : Route} {tg : Target} (hres : Lookup cfg t req = some (h, r, tg)) :
    (Candidate cfg t req (lowerL h) r ∧ tg ∈ r.targets) ∧
    ∀ k r', Candidate cfg t req k r' →
      (KeyMatches cfg req k → KeyMatches cfg req (lowerL h)) ∧
      (KeyMatches cfg req k → isGlobPat k = false → isGlobPat h = false) ∧
      (KeyMatches cfg req k → ∀ Y T : Str, 2 ≤ Y.length → hostPart k = Y ++ T →
          ¬ (isGlobPat h = true ∧ hostPart h = '*' :: T)) ∧
      (∀ pg kind, kind ≠ MatcherKind.glob → cfg.pathMatch = pathMatch pg kind → k = lowerL h →
          r'.path.length ≤ r.path.length) := by
  obtain ⟨hh, hr, hm, htg⟩ := lookup_sound cfg t req hpick hres
  refine ⟨⟨by rw [answer_key_lower cfg t req hb hres]; exact (candidate_iff hb).2 ⟨hh, hr, hm⟩, htg⟩, ?_⟩
  intro k r' hc
  have hcand := look_isSome_of_candidate hb hc
  obtain ⟨rs, hk, hr', _, hm'⟩ := hc
  refine ⟨?_, ?_, ?_, ?_⟩
  · intro hkm
    rw [answer_key_lower cfg t req hb hres]
    exact (hb.hostMatches_iff.1
      (host_less_only_as_fallback cfg t req hns hres (hostMatches_of_keyMatches hb hk hkm) hcand)).2
  · intro hkm hex
    exact exact_beats_wildcard cfg t req hns hres (hostMatches_of_keyMatches hb hk hkm) hex hcand
  · intro hkm Y T hY hka ⟨hpat, hha⟩
    exact longer_suffix_beats_shorter_partial cfg t req hns k h Y T hY hka hha hpat
      (hostMatches_of_keyMatches hb hk hkm) hcand r tg hres
  · intro pg kind hkind hcfg hke
    subst hke
    apply longest_path_wins cfg t req pg kind hkind hcfg hb.sorted hres (r' := r') ?_ hm'
    rw [Route.get_of_mem hb.keysNodup hk]; exact hr'

theorem routed_iff_candidate (env : Env) (pf : ParseFloat) (text : Str) (cfg : Cfg) (req : Req)
    (hl : loadTable env pf text = .ok t) (hns : NoSkip cfg) :
    (Lookup cfg t req).isSome = true ↔ ∃ k r, Candidate cfg t req k r :=
  routed_iff_candidate_built cfg t req (built_loadTable hl) hns

theorem routed_iff_candidate_custom (env : Env) (defs : List RouteDef) (cfg : Cfg) (req : Req)
    (hl : newTable env defs = .ok t) (hns : NoSkip cfg) :
    (Lookup cfg t req).isSome = true ↔ ∃ k r, Candidate cfg t req k r :=
  routed_iff_candidate_built cfg t req (built_newTable hl) hns

theorem most_specific_unconditional (env : Env) (pf : ParseFloat) (text : Str) (cfg : Cfg) (req : Req)
    (hl : loadTable env pf text = .ok t) (hns : NoSkip cfg) (hpick : PickOK cfg.pick)
    {h : Str} {r : Route} {tg : Target} (hres : Lookup cfg t req = some (h, r, tg)) :
    (Candidate cfg t req (lowerL h) r ∧ tg ∈ r.targets) ∧
    ∀ k r', Candidate cfg t req k r' →
      (KeyMatches cfg req k → KeyMatches cfg req (lowerL h)) ∧
      (KeyMatches cfg req k → isGlobPat k = false → isGlobPat h = false) ∧
      (KeyMatches cfg req k → ∀ Y T : Str, 2 ≤ Y.length → hostPart k = Y ++ T →
          ¬ (isGlobPat h = true ∧ hostPart h = '*' :: T)) ∧
      (∀ pg kind, kind ≠ MatcherKind.glob → cfg.pathMatch = pathMatch pg kind → k = lowerL h →
          r'.path.length ≤ r.path.length) :=
  most_specific_built cfg t req (built_loadTable hl) hns hpick hres

theorem most_specific_unconditional_custom (env : Env) (defs : List RouteDef) (cfg : Cfg) (req : Req)
    (hl : newTable env defs = .ok t) (hns : NoSkip cfg) (hpick : PickOK cfg.pick)
    {h : Str} {r : Route} {tg : Target} (hres : Lookup cfg t req = some (h, r, tg)) :
    (Candidate cfg t req (lowerL h) r ∧ tg ∈ r.targets) ∧
    ∀ k r', Candidate cfg t req k r' →
      (KeyMatches cfg req k → KeyMatches cfg req (lowerL h)) ∧
      (KeyMatches cfg req k → isGlobPat k = false → isGlobPat h = false) ∧
      (KeyMatches cfg req k → ∀ Y T : Str, 2 ≤ Y.length → hostPart k = Y ++ T →
          ¬ (isGlobPat h = true ∧ hostPart h = '*' :: T)) ∧
      (∀ pg kind, kind ≠ MatcherKind.glob → cfg.pathMatch = pathMatch pg kind → k = lowerL h →
          r'.path.length ≤ r.path.length) :=
  most_specific_built cfg t req (built_newTable hl) hns hpick hres

/-- For every configuration (host globbing on or off, any matcher) the
answer does not depend on the letter case of the request host, and the scheme's default port is ignored. The proof
does not use `_hl`: `host_case_insensitive`, `default_port_removed_plain` and `default_port_removed_tls` hold for
every table, loaded or not. -/
theorem case_and_port_insensitive_unconditional (env : Env) (pf : ParseFloat) (text : Str) (cfg : Cfg)
    (_hl : loadTable env pf text = .ok t) (h p : Str) (tls : Bool) :
    Lookup cfg t ⟨lowerL h, tls, p⟩ = Lookup cfg t ⟨h, tls, p⟩ ∧
    (hasSuffix h port80 = false → Lookup cfg t ⟨h ++ port80, false, p⟩ = Lookup cfg t ⟨h, false, p⟩) ∧
    (hasSuffix h port443 = false → Lookup cfg t ⟨h ++ port443, true, p⟩ = Lookup cfg t ⟨h, true, p⟩) :=
  ⟨host_case_insensitive cfg t h tls p, default_port_removed_plain cfg t h p, default_port_removed_tls cfg t h p⟩

namespace Ex
open Fabio.Props.C03.Ex Fabio.Props.C05

/-- the delete by tags empties `foo.com/api` and removes the host-less `/foo` -/
def text : Str := (String.intercalate "\n" [
  "route add e1 foo.com/foo/bar http://a:1/",
  "route add e2 foo.com/foo http://a:1/",
  "route add w1 *.foo.com/ http://a:1/",
  "route add w2 *.a.foo.com/ http://a:1/",
  "route add w0 *foo.com/ http://a:1/",
  "route add h1 /FOOBAR http://a:1/",
  "route add h2 /foo http://a:1/ tags \"v1\"",
  "route add e3 FOO.com/api http://a:1/ tags \"v1\"",
  "route add e4 foo.com/ http://a:1/",
  "route del tags \"v1\""]).toList

def answerOf (kind : MatcherKind) (noglob : Bool) (host : String) (tls : Bool) (path : String) :
    Option (Option (String × String × String)) :=
  match loadTable envW pfW text with
  | .ok t => some (answer (Lookup (cfg kind noglob) t ⟨host.toList, tls, path.toList⟩))
  | .error _ => none

/-- the text loads; the emptied `foo.com/api` does not shadow `foo.com/`; exact beats `*foo.com`; the longest
suffix wins; iprefix picks the longest path ignoring case; host globbing off + upper-case host -/
theorem text_instances :
    answerOf .pfx false "foo.com" false "/api/users" = some (some ("foo.com", "/", "e4")) ∧
    answerOf .pfx false "FOO.com:80" false "/foo/bar/baz" = some (some ("foo.com", "/foo/bar", "e1")) ∧
    answerOf .pfx false "b.a.foo.com" true "/x" = some (some ("*.a.foo.com", "/", "w2")) ∧
    answerOf .iprefix false "bar.com" false "/foobar" = some (some ("", "/FOOBAR", "h1")) ∧
    answerOf .pfx false "bar.com" false "/foo" = some none ∧
    answerOf .pfx true "FOO.COM" false "/foo" = some (some ("foo.com", "/foo", "e2")) := by
  -- Evaluated as it stands, `text` is decoded out of its literals, which costs far more than parsing it. To spell the
  -- text as characters first, `answerOf` has to be opened without anything looking at its `match` on a closed term:
  -- `unfold`, `simp` (unless `-iota`) and the kernel's unfolding of an applied `answerOf` all evaluate the
  -- discriminant. Replacing the constant `answerOf` by its λ-term does not.
  generalize hf : @answerOf = f
  delta answerOf at hf
  subst hf
  rw [text]
  simp -iota only [String.toList_intercalate, List.map, toList_lit rfl]
  decide +kernel

example (t : Table) (hl : loadTable envW pfW text = .ok t) (req : Req) :
    (Lookup (cfg .pfx false) t req).isSome = true ↔ ∃ k r, Candidate (cfg .pfx false) t req k r :=
  routed_iff_candidate envW pfW text _ req hl rfl

example (t : Table) (hl : loadTable envW pfW text = .ok t) : Built t := built_loadTable hl

end Ex

end Fabio.Props.C03Compose
