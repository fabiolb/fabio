import Fabio.Generated.C04
import Fabio.Model.C04
import Fabio.Lemmas.Lit
/-!
OBLIGATIONS over the facts regenerated from `/repo` on every run: statements the proof chain needs and that no
stream can establish by running the code. (The statements that pin the shape of sequential code whose behaviour
the streams compare are change detectors: `Props/C04Pins.lean`.)
-/
namespace Fabio.Props.C04Facts
open Fabio Fabio.Generated.C04

/-- Wiring that no stream drives (`main()` is not run): every lookup the proxies perform — `Table.Lookup` for
HTTP and gRPC, `Table.LookupHost` for TCP and TCP+SNI — is handed `route.Picker[<cfg>.Proxy.Strategy]`, the
map has exactly the keys `rnd` and `rr` (bound to the functions `C04Pins.picker_rules` is about and the streams drive), and the configuration
refuses every other strategy: `proxy.strategy=rr` is the round-robin picker the theorems describe, on every
entry point. -/
theorem picker_wiring :
    lookupPickerArgs.length ≥ 4 ∧
    lookupPickerArgs.all (fun a => (a.startsWith "Lookup <- route.Picker[" || a.startsWith "LookupHost <- route.Picker[") &&
      a.endsWith ".Proxy.Strategy]") = true ∧
    lookupPickerArgs.any (·.startsWith "LookupHost") = true ∧
    pickerKeys = ["rnd", "rr"] ∧
    strategyChecks = ["cfg.Proxy.Strategy != \"rr\" && cfg.Proxy.Strategy != \"rnd\""] := by
  -- the prefix and suffix tests are evaluated on the characters of the four entries
  refine ⟨by decide, ?_, ?_, rfl, rfl⟩
  · simp only [lookupPickerArgs, List.all_cons, List.all_nil, startsWith_chars, endsWith_chars,
      toList_lit rfl]
    decide +kernel
  · simp only [lookupPickerArgs, List.any_cons, List.any_nil, startsWith_chars, toList_lit rfl]
    decide +kernel

end Fabio.Props.C04Facts
