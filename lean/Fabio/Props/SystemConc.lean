import Fabio.Props.System
import Fabio.Props.C02
/-!
System-level composition under concurrency: request goroutines running `HTTPProxy.ServeHTTP` against the
atomic table cell while writers (the update loop) replace the table.

C02's interleaving semantics is generic in the reader's pure function. Here the reader is the WHOLE request handler:
`lookupPure := serveHTTP pcfg` — justified by `serveHTTP_reads_table_once`: the table enters `serveHTTP` only through
`select` (the one `route.GetTable()` load behind `p.Lookup`); gates, redirect, headers and target URL are computed from
the selected target and the request alone.

* `serveHTTP_reads_table_once`                 — `serveHTTP pcfg t r` depends on `t` only through `select pcfg t r`;
* `concurrent_outcome_from_one_table`          — every schedule, any number of request goroutines and writers: each completed
                                                 request's outcome is `serveHTTP` on ONE table — the initial one or one some
                                                 writer passed to `SetTable` — never a mixture;
* `concurrent_forward_only_to_eligible`        — if the initial table and every table a writer installs is the service
                                                 table of SOME observed registry state (`Observed`), then under every
                                                 schedule every forwarded request goes to the `route add` of a routing tag of
                                                 an instance that was eligible (healthy) in one of those observed states — the
                                                 state whose table the request loaded.
-/
namespace Fabio.Props.SystemConc
open Fabio Fabio.Model Fabio.Model.ServeHTTP Fabio.Model.C02
open Fabio.Model.Route (Env RouteDef Table Target Route)
open Fabio.Model.C05Spec (key newTarget)
open Fabio.Model.C01 Fabio.Model.C01Compose Fabio.Props.C01Compose
open Fabio.Model.C14 (intents wantDef)
open Fabio.Model.Parse (loadTable ParseFloat)
open Fabio.Lemmas.C14 (core)

theorem serveHTTP_reads_table_once (pcfg : ServeHTTP.Cfg) (t t' : Table) (r : Request)
    (h : select pcfg t r = select pcfg t' r) : serveHTTP pcfg t r = serveHTTP pcfg t' r := by
  unfold serveHTTP
  rw [h]

/-- request goroutines: the pure function of a reader is the whole handler; `k r` internal micro-steps -/
def handler (pcfg : ServeHTTP.Cfg) (k : Request → Nat) : Lk Table Request ServeHTTP.Outcome :=
  { lookupPure := serveHTTP pcfg, k := k }

theorem concurrent_outcome_from_one_table (pcfg : ServeHTTP.Cfg) (k : Request → Nat) (t0 : Table)
    (ths : List (Thread Table Request ServeHTTP.Outcome)) (hfresh : ∀ th ∈ ths, th.fresh = true) (sch : List Nat) :
    ∀ th ∈ (Sys.run (handler pcfg k) sch (Sys.start t0 ths)).threads, ∀ res ∈ th.results,
      ∃ t, (t = t0 ∨ t ∈ ths.flatMap Thread.stores) ∧
        (Sys.run (handler pcfg k) sch (Sys.start t0 ths)).cell.hist[res.idx]? = some t ∧
        res.ans = serveHTTP pcfg t res.req :=
  Props.C02.lookup_from_initial_or_stored_entry (handler pcfg k) t0 ths hfresh sch

section
variable (env : Env) (pf : ParseFloat) (ccfg : Fabio.Model.C14.Cfg) (st : List (List Char)) (strict : Bool)

/-- a registry state as the monitor observes it -/
structure Reg where
  checks : List Check
  catalog : List Char → List Instance

/-- `t` is the service table of an observed, well-formed registry state -/
def Observed (obs : List Reg) (t : Table) : Prop :=
  ∃ R ∈ obs, WellFormed ccfg R.checks R.catalog ∧
    loadTable env pf (svcText env pf ccfg st strict R.checks R.catalog) = .ok t

theorem concurrent_forward_only_to_eligible (obs : List Reg)
    (pcfg : ServeHTTP.Cfg) (hpick : Props.C03.PickOK pcfg.lookup.pick) (k : Request → Nat) (t0 : Table)
    (ths : List (Thread Table Request ServeHTTP.Outcome)) (hfresh : ∀ th ∈ ths, th.fresh = true)
    (h0 : Observed env pf ccfg st strict obs t0)
    (hst : ∀ t ∈ ths.flatMap Thread.stores, Observed env pf ccfg st strict obs t) (sch : List Nat) :
    ∀ th ∈ (Sys.run (handler pcfg k) sch (Sys.start t0 ths)).threads, ∀ res ∈ th.results,
      ∀ f, res.ans = .forward f →
      ∃ R ∈ obs, ∃ t, (Sys.run (handler pcfg k) sch (Sys.start t0 ths)).cell.hist[res.idx]? = some t ∧
        loadTable env pf (svcText env pf ccfg st strict R.checks R.catalog) = .ok t ∧
        ∃ h ro tg, select pcfg t res.req = some (h, ro, tg) ∧ f.upstream = targetHost pcfg tg ∧
          ∃ i, Eligible st strict R.checks R.catalog i ∧
            ∃ it ∈ intents ccfg (regOf i), ∃ d u, wantDef pf it = some d ∧ env.normURL d.dst = some u ∧
              key d.src = (lowerL h, ro.path) ∧ core tg = core (newTarget d u) := by
  intro th hth res hres f hf
  obtain ⟨t, hmem, hidx, hans⟩ := concurrent_outcome_from_one_table pcfg k t0 ths hfresh sch th hth res hres
  have hobs : Observed env pf ccfg st strict obs t := by
    rcases hmem with rfl | hm
    · exact h0
    · exact hst t hm
  obtain ⟨R, hR, wf, hload⟩ := hobs
  rw [hans] at hf
  obtain ⟨h, ro, tg, hsel, hup, hrest⟩ :=
    Props.System.forwarded_only_to_eligible_instance env pf ccfg st strict R.checks R.catalog wf t hload pcfg hpick
      res.req hf
  exact ⟨R, hR, t, hidx, hload, h, ro, tg, hsel, hup, hrest⟩

end

/-! ### non-vacuity: two request goroutines against a writer that installs the table of a second registry state -/
namespace Demo
open Fabio.Props.C14 (envW pfW cfgW)
open Fabio.Props.C01Compose (catalogW stW ck)
open Fabio.Props.System.Demo (pcfgW reqW tableW)

/-- state 2: the instance on n2 has recovered, the one on n1 is critical -/
def checks2 : List Check :=
  [ck "n1" "serfHealth" "" "" "passing" [],
   ck "n1" "service:web-1" "web-1" "web" "critical" ["urlprefix-foo.com/", "v1"],
   ck "n2" "serfHealth" "" "" "passing" [],
   ck "n2" "service:web-2" "web-2" "web" "passing" ["urlprefix-foo.com/", "v1"]]

def table2 : Table :=
  match loadTable envW pfW (svcText envW pfW cfgW stW false checks2 catalogW) with
  | .ok t => t
  | .error _ => []

def threadsW : List (Thread Table Request ServeHTTP.Outcome) :=
  [.reader [reqW, reqW] none [], .reader [reqW] none [], .writer [some table2]]

/-- reader 0 loads, the writer stores, reader 0 finishes and serves its second request, reader 1 serves -/
def schedW : List Nat := [0, 2, 0, 0, 0, 0, 0, 0, 1, 1, 1, 1]

/-- the first request of reader 0 was answered from the table of state 1 (n1), its second and reader 1's from the
table of state 2 (n2): each from ONE complete table -/
example : ((Sys.run (handler pcfgW (fun _ => 1)) schedW (Sys.start tableW threadsW)).threads.map
      (fun th => th.results.map (fun res => (res.idx, match res.ans with
        | .forward _ => (match select pcfgW (if res.idx = 0 then tableW else table2) res.req with
            | some (_, _, tg) => tg.url | none => [])
        | _ => [])))) =
    [[(0, "http://10.0.0.1:8000/".toList), (1, "http://10.0.0.2:8000/".toList)],
     [(1, "http://10.0.0.2:8000/".toList)], []] := by
  rw [System.Demo.tableW_of_load System.Demo.loadW]
  simp only [threadsW, pcfgW, reqW, Props.ServeHTTP.Demo.cfg, Props.ServeHTTP.Demo.req, Model.C13.lit, toList_lit rfl]
  decide +kernel

example : ∀ th ∈ threadsW, th.fresh = true := by decide

end Demo

end Fabio.Props.SystemConc
