import Fabio.Props.C01
import Fabio.Props.C14
import Fabio.Lemmas.C01Compose
import Fabio.Model.C01Compose
import Fabio.Lemmas.Lit
/-!
C01 — composition of the per-property models.

The parameter `cmds : Instance → List Str` of the C01 model (`routecmd.build`) is instantiated with C14's model of
the repaired `build`; the parameter `build : Str → Option T` of the `watchBackend` step machine with `loadOpt`, that is
`loadTable` (`route.Parse` of `Model/Parse.lean` followed by `route.NewTable` of `Model/Route.lean`) with the error
forgotten. The text `Watch` sends is then C14's `config` of the routed instances, so C14's `no_poisoning` speaks of it,
and an advertising instance is routed iff it is `Eligible`; the manual text is applied on top of the service table.

The registry is assumed `WellFormed` (what a Consul registry provides). No hypothesis about white space in front of the
prefix of a routing tag is needed: `routecmd.build` trims a tag before it tests the prefix, and since the repair of D27
`checksWithTagPrefix` does too (`Props.C01.raw_prefix_test_drops_advertising_instance`).
-/
namespace Fabio.Props.C01Compose
open Fabio Fabio.Model.C01 Fabio.Model.C01Compose Fabio.Props.C01 Fabio.Lemmas.C01Compose
open Fabio.Model.Route (Env RouteDef Table Target Err hasPrefix)
open Fabio.Model.C05Spec (abs key newTarget isDup specApply specRun specEmpty Spec)
open Fabio.Model.C14 (Reg Cfg Intent intents routeTags build wantDef expressibleB denotes commands named)
open Fabio.Model.Parse (parse loadTable ParseFloat LoadErr trimSpace)
open Fabio.Lemmas.C14 (core)
open Fabio.Lemmas.Route (parse_concat_iff parse_concat loadTable_ok_iff loadTable_of_parse of_map_eq_ok)

section
variable (env : Env) (pf : ParseFloat) (cfg : Cfg) (st : List Str) (strict : Bool)
variable (checks : List Check) (catalog : Str → List Instance)

/-- what a Consul registry provides: `byName` — the catalog answer for a name holds entries of that name; `tags` — the
health checks of an instance carry the instance's tags (`ServiceTags`). No field mentions `cfg`. -/
structure WellFormed (cfg : Cfg) (checks : List Check) (catalog : Str → List Instance) : Prop where
  byName : ∀ name, ∀ i ∈ catalog name, i.serviceName = name
  tags : ∀ c ∈ checks, ∀ name, ∀ i ∈ catalog name, c.node = i.node → c.serviceID = i.serviceID → c.tags = i.tags

/-- a catalog instance that the English rule admits: it is registered under its name, has a service check
(carrying its service name) and is healthy under the configured rule, evaluated on the unfiltered checks -/
def Eligible (i : Instance) : Prop :=
  i.serviceName ≠ [] ∧ i ∈ catalog i.serviceName ∧
  (∃ c ∈ checks, c.serviceName = i.serviceName ∧ c.node = i.node ∧ c.serviceID = i.serviceID ∧
    isServiceCheck c = true) ∧
  HealthyAt checks st strict i.node i.serviceID

/-- the identity `addTarget` uses for a target: service, URL, fixed weight, tags -/
def SameTarget (a b : Target) : Prop :=
  a.service = b.service ∧ a.url = b.url ∧ a.fixedWeight = b.fixedWeight ∧ a.tags = b.tags

/-- instance `i` advertises (host `h`, path `p`) with target `x`: one of its routing tags means a `route add`
whose source is (h, p) and whose target is `x` (service, URL, fixed weight, tags) -/
def Offers (i : Instance) (h p : Str) (x : Target) : Prop :=
  ∃ it ∈ intents cfg (regOf i), ∃ d u, wantDef pf it = some d ∧ env.normURL d.dst = some u ∧
    key d.src = (h, p) ∧ SameTarget x (newTarget d u)

/-- An instance eligible in registry state R (`checks`, `catalog`) advertises target `tg` under (host key `k`, path `p`):
one of its routing tags means a `route add` with that source and, up to the computed weight, that target. What
`table_sound` says of every stored target; with `SameTarget` for `core` it is `Offers` of an eligible instance. -/
def Advertised (k p : Str) (tg : Target) : Prop :=
  ∃ i, Eligible st strict checks catalog i ∧
    ∃ it ∈ intents cfg (regOf i), ∃ d u, wantDef pf it = some d ∧ env.normURL d.dst = some u ∧
      key d.src = (k, p) ∧ core tg = core (newTarget d u)

variable {env pf cfg st strict checks catalog} in
theorem Advertised.url {k p : Str} {tg : Target} (h : Advertised env pf cfg st strict checks catalog k p tg)
    {u : Str} (hnone : ∀ i, Eligible st strict checks catalog i → ∀ it ∈ intents cfg (regOf i), ∀ d,
      wantDef pf it = some d → env.normURL d.dst ≠ some u) : tg.url ≠ u := by
  obtain ⟨i, he, it, hit, d, u', hw, hu, _, hc⟩ := h
  have e : tg.url = u' := congrArg Target.url hc
  exact fun hurl => hnone i he it hit d hw (by rw [hu, ← e, hurl])

theorem mem_routed (i : Instance) :
    i ∈ routed cfg st strict checks catalog ↔
      ∃ name, i ∈ joined keyPair (passingOf cfg st strict checks) catalog name := by
  unfold routed
  rw [List.mem_flatMap]
  constructor
  · rintro ⟨name, _, h⟩; exact ⟨name, h⟩
  · rintro ⟨name, h⟩
    exact ⟨name, Fabio.Lemmas.C01.serviceName_of_joined h, h⟩

/-- `serviceConfig` skips the empty service name; the routed instances have none -/
theorem named_routed (hn : ∀ name, ∀ i ∈ catalog name, i.serviceName = name) :
    named ((routed cfg st strict checks catalog).map regOf) = (routed cfg st strict checks catalog).map regOf := by
  unfold named
  rw [List.filter_eq_self]
  intro r hr
  obtain ⟨i, hi, rfl⟩ := List.mem_map.1 hr
  obtain ⟨name, h⟩ := (mem_routed cfg st strict checks catalog i).1 hi
  obtain ⟨hne, hcat, _⟩ := (Lemmas.C01.joined_iff keyPair instance_key_injective _ catalog name i).1 h
  rw [← hn name i hcat] at hne
  cases hs : i.serviceName with
  | nil => exact absurd hs hne
  | cons a b => simp [regOf, hs]

theorem svcText_eq_config (hn : ∀ name, ∀ i ∈ catalog name, i.serviceName = name) :
    svcText env pf cfg st strict checks catalog =
      Fabio.Model.C14.config env pf cfg ((routed cfg st strict checks catalog).map regOf) := by
  unfold svcText svcLines watchOnce makeConfigLines Fabio.Model.C14.config Fabio.Model.C14.configText commands
  rw [joinLines_eq, sortDesc_eq, named_routed cfg st strict checks catalog hn, List.flatMap_map]
  unfold routed
  rw [List.flatMap_assoc]
  rfl

/-- the text `Watch` sends always loads — for every registry, hostile registrations included -/
theorem svcText_loads (hn : ∀ name, ∀ i ∈ catalog name, i.serviceName = name) :
    ∃ t, loadTable env pf (svcText env pf cfg st strict checks catalog) = .ok t := by
  rw [svcText_eq_config env pf cfg st strict checks catalog hn]
  obtain ⟨t, ht, _⟩ := Fabio.Props.C14.no_poisoning env pf cfg ((routed cfg st strict checks catalog).map regOf)
  exact ⟨t, ht⟩

/-- an instance with a routing tag is "tagged" in the sense the prefix filter needs: all its checks carry a
tag with the prefix -/
theorem tagged_of_intent (wf : WellFormed cfg checks catalog) (name : Str) (i : Instance) (hi : i ∈ catalog name)
    (it : Intent) (hit : it ∈ intents cfg (regOf i)) :
    ∀ c ∈ checks, c.node = i.node → c.serviceID = i.serviceID → hasTagPrefix cfg.pfx c = true := by
  obtain ⟨_, _, tag, htag, _⟩ := Fabio.Props.C14.intent_of_registration hit
  unfold routeTags at htag
  obtain ⟨hmem, hpre⟩ := List.mem_filter.1 htag
  obtain ⟨t, ht, rfl⟩ := List.mem_map.1 hmem
  have hraw : cfg.pfx.isPrefixOf (trimSpace t) = true := hpre
  intro c hc h1 h2
  unfold hasTagPrefix
  rw [wf.tags c hc name i hi h1 h2, List.any_eq_true]
  exact ⟨t, ht, hraw⟩

/-- **which instances reach `routecmd.build`**: an advertising catalog instance is routed iff it is eligible -/
theorem routed_iff (wf : WellFormed cfg checks catalog) (i : Instance)
    (it : Intent) (hit : it ∈ intents cfg (regOf i)) :
    i ∈ routed cfg st strict checks catalog ↔ Eligible st strict checks catalog i := by
  rw [mem_routed]
  constructor
  · rintro ⟨name, h⟩
    have hcat := ((Lemmas.C01.joined_iff keyPair instance_key_injective _ catalog name i).1 h).2.1
    have hT := tagged_of_intent cfg checks catalog wf name i hcat it hit
    have hname := wf.byName name i hcat
    obtain ⟨h1, h2, h3, h4⟩ := (instance_routed_iff cfg.pfx checks st strict catalog name i hT).1 h
    subst hname
    exact ⟨h1, h2, h3, h4⟩
  · rintro ⟨h1, h2, h3, h4⟩
    have hT := tagged_of_intent cfg checks catalog wf _ i h2 it hit
    exact ⟨i.serviceName, (instance_routed_iff cfg.pfx checks st strict catalog _ i hT).2 ⟨h1, h2, h3, h4⟩⟩

theorem sameTarget_iff {a b : Target} : SameTarget a b ↔ Lemmas.Route.dupId a = Lemmas.Route.dupId b := by
  unfold SameTarget Lemmas.Route.dupId
  simp only [Prod.mk.injEq]

theorem sameTarget_of_core {a b : Target} (h : core a = core b) : SameTarget a b :=
  sameTarget_iff.2 (congrArg Lemmas.Route.dupId h :)

theorem SameTarget.symm {a b : Target} (h : SameTarget a b) : SameTarget b a :=
  sameTarget_iff.2 (sameTarget_iff.1 h).symm

theorem SameTarget.trans {a b c : Target} (h : SameTarget a b) (h' : SameTarget b c) : SameTarget a c :=
  sameTarget_iff.2 ((sameTarget_iff.1 h).trans (sameTarget_iff.1 h'))

/-- C14's `no_poisoning` read for the text `Watch` sends -/
theorem svcTable (hn : ∀ name, ∀ i ∈ catalog name, i.serviceName = name) (t : Table)
    (hload : loadTable env pf (svcText env pf cfg st strict checks catalog) = .ok t) :
    (∀ i ∈ routed cfg st strict checks catalog, ∀ it ∈ intents cfg (regOf i), expressibleB env pf it = true →
      ∃ d u, wantDef pf it = some d ∧ env.normURL d.dst = some u ∧
        ∃ y ∈ abs t (key d.src).1 (key d.src).2, SameTarget y (newTarget d u)) ∧
    (∀ h p y, y ∈ abs t h p → ∃ i ∈ routed cfg st strict checks catalog,
      ∃ it ∈ intents cfg (regOf i), ∃ d u, wantDef pf it = some d ∧ env.normURL d.dst = some u ∧
        key d.src = (h, p) ∧ core y = core (newTarget d u)) := by
  rw [svcText_eq_config env pf cfg st strict checks catalog hn] at hload
  obtain ⟨t', ht', hpres, hasked⟩ :=
    Fabio.Props.C14.no_poisoning env pf cfg ((routed cfg st strict checks catalog).map regOf)
  rw [ht'] at hload
  cases hload
  rw [named_routed cfg st strict checks catalog hn] at hpres hasked
  constructor
  · intro i hi it hit hx
    obtain ⟨d, u, hw, hu, hd⟩ := hpres (regOf i) (List.mem_map.2 ⟨i, hi, rfl⟩) it hit hx
    obtain ⟨y, hy, e⟩ := (Lemmas.Route.isDup_iff _ _).1 hd
    exact ⟨d, u, hw, hu, y, hy, sameTarget_iff.2 e⟩
  · intro h p y hy
    obtain ⟨r, hr, rest⟩ := hasked h p y hy
    obtain ⟨i, hi, rfl⟩ := List.mem_map.1 hr
    exact ⟨i, hi, rest⟩

/-- **soundness of the service table** (no hypothesis on expressibility — holds with hostile registrations in the
catalog): every target of the table built from the service text is what a routing tag of an *eligible* instance
asks for — source (host, path), service, URL, fixed weight, tags and options. -/
theorem table_sound (wf : WellFormed cfg checks catalog) (t : Table)
    (hload : loadTable env pf (svcText env pf cfg st strict checks catalog) = .ok t) :
    ∀ h p y, y ∈ abs t h p →
      ∃ i, Eligible st strict checks catalog i ∧
        ∃ it ∈ intents cfg (regOf i), ∃ d u, wantDef pf it = some d ∧ env.normURL d.dst = some u ∧
          key d.src = (h, p) ∧ core y = core (newTarget d u) := by
  intro h p y hy
  obtain ⟨i, hi, it, hit, rest⟩ := (svcTable env pf cfg st strict checks catalog wf.byName t hload).2 h p y hy
  exact ⟨i, (routed_iff cfg st strict checks catalog wf i it hit).1 hi, it, hit, rest⟩

/-- **completeness of the service table**: every expressible routing tag of an eligible instance has its target
in the table. Only *this* tag has to be expressible: whatever else is registered — inexpressible tags of the
same instance, hostile registrations — costs this route nothing. -/
theorem table_complete (wf : WellFormed cfg checks catalog) (t : Table)
    (hload : loadTable env pf (svcText env pf cfg st strict checks catalog) = .ok t)
    (i : Instance) (he : Eligible st strict checks catalog i)
    (it : Intent) (hit : it ∈ intents cfg (regOf i)) (hx : expressibleB env pf it = true) :
    ∃ d u, wantDef pf it = some d ∧ env.normURL d.dst = some u ∧
      ∃ y ∈ abs t (key d.src).1 (key d.src).2, SameTarget y (newTarget d u) :=
  (svcTable env pf cfg st strict checks catalog wf.byName t hload).1 i
    ((routed_iff cfg st strict checks catalog wf i it hit).2 he) it hit hx

/-- **table_iff_healthy** (DESIGN §7 C01). For a well-formed registry whose routing tags are all expressible
in the command language (C14's decidable `expressibleB`), the table built from the service text has a target
under (host `h`, path `p`) — identified as `addTarget` identifies targets: service, URL, fixed weight, tags —
if and only if some catalog instance advertises that prefix with that target and is eligible: registered,
with a service check, and `HealthyAt` under the configured rule. -/
theorem table_iff_healthy (wf : WellFormed cfg checks catalog) (t : Table)
    (hload : loadTable env pf (svcText env pf cfg st strict checks catalog) = .ok t)
    (hexp : ∀ name, ∀ i ∈ catalog name, ∀ it ∈ intents cfg (regOf i), expressibleB env pf it = true)
    (h p : Str) (x : Target) :
    (∃ y ∈ abs t h p, SameTarget y x) ↔
      ∃ i, Eligible st strict checks catalog i ∧ Offers env pf cfg i h p x := by
  constructor
  · rintro ⟨y, hy, hyx⟩
    obtain ⟨i, he, it, hit, d, u, hw, hu, hk, hc⟩ :=
      table_sound env pf cfg st strict checks catalog wf t hload h p y hy
    exact ⟨i, he, it, hit, d, u, hw, hu, hk, hyx.symm.trans (sameTarget_of_core hc)⟩
  · rintro ⟨i, he, it, hit, d, u, hw, hu, hk, hxn⟩
    obtain ⟨d', u', hw', hu', y, hy, hyn⟩ :=
      table_complete env pf cfg st strict checks catalog wf t hload i he it hit
        (hexp _ i he.2.1 it hit)
    rw [hw] at hw'
    cases hw'
    rw [hu] at hu'
    cases hu'
    rw [hk] at hy
    exact ⟨y, hy, hyn.trans hxn.symm⟩

/-- what happens to an inexpressible registration: if none of its routing tags passes `build`'s validation it
emits no command at all, so the text is the text of the other routed instances (C14
`inexpressible_dropped_alone`); by `table_complete` the routes of the others are unaffected. -/
theorem inexpressible_contributes_nothing (i : Instance) (pre post : List Instance)
    (h : ∀ it ∈ intents cfg (regOf i), denotes env pf (Fabio.Model.C14.render it) it = false) :
    cmdsOf env pf cfg i = [] ∧
    Fabio.Model.C14.config env pf cfg ((pre ++ i :: post).map regOf) =
      Fabio.Model.C14.config env pf cfg ((pre ++ post).map regOf) := by
  constructor
  · unfold cmdsOf build
    rw [List.filter_eq_nil_iff.2 (fun it hit => by simp [h it hit])]
    rfl
  · unfold Fabio.Model.C14.config
    rw [List.map_append, List.map_cons, List.map_append,
      Fabio.Props.C14.inexpressible_dropped_alone (pre.map regOf) (post.map regOf) h]

/-- In a round in which arbitrary catalog lookups fail, every command of the
text the monitor emits is a command `routecmd.build` produces for an instance that is `Eligible` — registered,
with a service check, `HealthyAt` — in the registry state that text was built from. A failing lookup can only
remove a service's commands (`fault_only_removes`), never keep or add one for an instance that is unhealthy in the
observed state. -/
theorem fault_never_admits_unhealthy (wf : WellFormed cfg checks catalog) (fails : Str → Bool) (l : Str)
    (h : l ∈ svcLinesF env pf cfg st strict checks catalog fails) :
    ∃ i, Eligible st strict checks catalog i ∧ l ∈ cmdsOf env pf cfg i ∧
      l ∈ svcLines env pf cfg st strict checks catalog := by
  have hall := fault_only_removes fails keyPair (cmdsOf env pf cfg) cfg.pfx st strict checks catalog l h
  obtain ⟨name, i, _, hj, hl⟩ :=
    fault_lines_from_joined fails keyPair (cmdsOf env pf cfg) cfg.pfx st strict checks catalog l h
  obtain ⟨it, hit, _, _⟩ := Fabio.Props.C14.mem_build.1 hl
  have hi : i ∈ routed cfg st strict checks catalog := (mem_routed cfg st strict checks catalog i).2 ⟨name, hj⟩
  exact ⟨i, (routed_iff cfg st strict checks catalog wf i it hit).1 hi, hl, hall⟩

/-- The same for every history: a history of rounds is a list of (registry state, failing lookups); `ServiceMonitor`
keeps no state between rounds (fact `service_monitor_stateless`), so each emitted text depends on its own round
only, and in every round of every history the statement above holds. -/
theorem fault_never_admits_unhealthy_history
    (rounds : List (List Check × (Str → List Instance) × (Str → Bool)))
    (hwf : ∀ r ∈ rounds, WellFormed cfg r.1 r.2.1) :
    ∀ r ∈ rounds, ∀ l ∈ svcLinesF env pf cfg st strict r.1 r.2.1 r.2.2,
      ∃ i, Eligible st strict r.1 r.2.1 i ∧ l ∈ cmdsOf env pf cfg i :=
  fun r hr l hl =>
    let ⟨i, he, hc, _⟩ := fault_never_admits_unhealthy env pf cfg st strict r.1 r.2.1 (hwf r hr) r.2.2 l hl
    ⟨i, he, hc⟩

/-- The table loaded from `svc ++ "\n" ++ man` is the table of `svc` with the operator's parsed commands applied on
top, in order — stated on what a table routes, `abs : (host, path) ↦ targets`, with the specification machine of
C05 (`specApply`; `Props/C05.refines_spec`). Direction "loads ⇒": the manual text parses and its commands apply. -/
theorem operator_on_top (S M : Str) (tS t : Table) (hS : loadTable env pf S = .ok tS)
    (h : loadTable env pf (concatCfg S M) = .ok t) :
    ∃ dsM, parse pf M = .ok dsM ∧ dsM.foldlM (specApply env) (abs tS) = .ok (abs t) := by
  obtain ⟨dS, hpS, hnS⟩ := (loadTable_ok_iff env pf S tS).1 hS
  obtain ⟨ds, hp, hn⟩ := (loadTable_ok_iff env pf _ t).1 h
  obtain ⟨da, dM, h1, h2, rfl⟩ := (parse_concat_iff pf S M ds).1 hp
  rw [hpS] at h1
  cases h1
  refine ⟨dM, h2, ?_⟩
  rw [← Lemmas.C05Main.abs_newTable_append env dS dM tS hnS, hn]
  rfl

/-- Direction "⇐ loads": if the manual text parses and its commands apply to the service table, the combined
text loads and routes exactly what the commands leave. -/
theorem operator_on_top_loads (S M : Str) (tS : Table) (hS : loadTable env pf S = .ok tS)
    (dsM : List RouteDef) (S' : Spec) (hM : parse pf M = .ok dsM)
    (hf : dsM.foldlM (specApply env) (abs tS) = .ok S') :
    ∃ t, loadTable env pf (concatCfg S M) = .ok t ∧ abs t = S' := by
  obtain ⟨dS, hpS, hnS⟩ := (loadTable_ok_iff env pf S tS).1 hS
  obtain ⟨t', hn, hr⟩ := of_map_eq_ok ((Lemmas.C05Main.abs_newTable_append env dS dsM tS hnS).trans hf)
  exact ⟨t', loadTable_of_parse (parse_concat hpS hM) hn, hr⟩

theorem loadOpt_some (s : Str) (t : Table) : loadOpt env pf s = some t ↔ loadTable env pf s = .ok t :=
  Lemmas.Route.toOption_eq_some_iff

theorem loaded_on_svcText (wf : WellFormed cfg checks catalog) (M : Str) (t : Table)
    (hb : loadOpt env pf (concatCfg (svcText env pf cfg st strict checks catalog) M) = some t) :
    ∃ tS, loadTable env pf (svcText env pf cfg st strict checks catalog) = .ok tS ∧
      (∃ dsM : List RouteDef, parse pf M = .ok dsM ∧ dsM.foldlM (specApply env) (abs tS) = .ok (abs t)) ∧
      ∀ h p y, y ∈ abs tS h p → Advertised env pf cfg st strict checks catalog h p y := by
  obtain ⟨tS, hS⟩ := svcText_loads env pf cfg st strict checks catalog wf.byName
  exact ⟨tS, hS, operator_on_top env pf _ M tS t hS ((loadOpt_some env pf _ t).1 hb),
    table_sound env pf cfg st strict checks catalog wf tS hS⟩

/-- **Quiescence, composed.** Whatever happened before (any finite interleaving of service and manual events,
texts that failed to load included): once the last service event carries the text of registry state R and the
last manual event carries `M`, and `M` parses to commands that apply to the service table of R, the active table
routes exactly what those commands leave of the service table. -/
theorem quiescent_composed
    (es : List Event) (M : Str) (tS : Table) (dsM : List RouteDef) (S' : Spec) (hne : es ≠ [])
    (hsvc : (lastSvc es).getD [] = svcText env pf cfg st strict checks catalog)
    (hman : (lastMan es).getD [] = M)
    (hS : loadTable env pf (svcText env pf cfg st strict checks catalog) = .ok tS)
    (hM : parse pf M = .ok dsM) (hf : dsM.foldlM (specApply env) (abs tS) = .ok S') :
    abs (run (loadOpt env pf) (init ([] : Table)) es).active = S' := by
  obtain ⟨t, ht, habs⟩ := operator_on_top_loads env pf _ M tS hS dsM S' hM hf
  have := quiescent_table (loadOpt env pf) (init ([] : Table)) es _ M t (init_inv _ _) hne hsvc hman
    ((loadOpt_some env pf _ t).2 ht)
  rw [this]
  exact habs

/-- In particular, with no operator commands (an empty manual text, or comments only), the active table has a
target iff an eligible instance offers it: "once the registry's view stops changing the active routing table has a
target for an instance and prefix iff the instance advertises the prefix and is healthy". -/
theorem quiescent_iff_healthy (wf : WellFormed cfg checks catalog)
    (hexp : ∀ name, ∀ i ∈ catalog name, ∀ it ∈ intents cfg (regOf i), expressibleB env pf it = true)
    (es : List Event) (M : Str) (hne : es ≠ [])
    (hsvc : (lastSvc es).getD [] = svcText env pf cfg st strict checks catalog)
    (hman : (lastMan es).getD [] = M) (hM : parse pf M = .ok [])
    (h p : Str) (x : Target) :
    (∃ y ∈ abs (run (loadOpt env pf) (init ([] : Table)) es).active h p, SameTarget y x) ↔
      ∃ i, Eligible st strict checks catalog i ∧ Offers env pf cfg i h p x := by
  obtain ⟨tS, hS⟩ := svcText_loads env pf cfg st strict checks catalog wf.byName
  have := quiescent_composed env pf cfg st strict checks catalog es M tS [] (abs tS) hne hsvc hman hS hM rfl
  rw [this]
  exact table_iff_healthy env pf cfg st strict checks catalog wf tS hS hexp h p x

/-- **An instance that has become unhealthy is absent from every table installed after that state was
observed, composed.** Every table installed by an iteration at or after the one that consumed the service text of
registry state R, up to the next service event, is some list of commands applied, by the specification machine, on top
of the service table of R, and that table has targets only for eligible (healthy) instances: an instance that is
unhealthy in R contributes no target, and whatever else the table holds was put there by a command. (The statement does
not say which commands; `loaded_on_svcText` does: those the manual text current at that iteration parses to.) -/
theorem unhealthy_absent_after_composed (wf : WellFormed cfg checks catalog)
    (s0 : State Table) (before later : List Event) (e : Event) (t : Table)
    (hlater : lastSvc (before ++ [Event.svc (svcText env pf cfg st strict checks catalog)] ++ later ++ [e]) =
      some (svcText env pf cfg st strict checks catalog))
    (hinst : (stepOut (loadOpt env pf) (run (loadOpt env pf) s0
      (before ++ [Event.svc (svcText env pf cfg st strict checks catalog)] ++ later)) e).2 = some t) :
    ∃ tS, loadTable env pf (svcText env pf cfg st strict checks catalog) = .ok tS ∧
      (∃ dsM : List RouteDef, dsM.foldlM (specApply env) (abs tS) = .ok (abs t)) ∧
      (∀ h p y, y ∈ abs tS h p → ∃ i, Eligible st strict checks catalog i ∧
        ∃ it ∈ intents cfg (regOf i), ∃ d u, wantDef pf it = some d ∧ env.normURL d.dst = some u ∧
          key d.src = (h, p) ∧ core y = core (newTarget d u)) := by
  apply unhealthy_absent_after (loadOpt env pf) _ s0 before later e _ t _ hlater hinst
  intro M t' hb
  obtain ⟨tS, hS, ⟨dsM, _, hf⟩, hs⟩ := loaded_on_svcText env pf cfg st strict checks catalog wf M t' hb
  exact ⟨tS, hS, ⟨dsM, hf⟩, hs⟩

end

open Fabio.Props.C14 (envW pfW cfgW)

def ck (node id sid name status : String) (tags : List String) : Check :=
  { node := node.toList, checkID := id.toList, serviceID := sid.toList, serviceName := name.toList,
    status := status.toList, tags := tags.map String.toList }

def inst (node sid name addr : String) (port : Nat) (tags : List String) : Instance :=
  { node := node.toList, serviceID := sid.toList, serviceName := name.toList, address := addr.toList,
    port := port, tags := tags.map String.toList }

/-- the registry of the non-vacuity examples: two nodes; `web` runs on both, the instance on `n2` has a critical check;
`n2`'s agent is alive -/
def checksW : List Check :=
  [ck "n1" "serfHealth" "" "" "passing" [],
   ck "n1" "service:web-1" "web-1" "web" "passing" ["urlprefix-foo.com/", "v1"],
   ck "n2" "serfHealth" "" "" "passing" [],
   ck "n2" "service:web-2" "web-2" "web" "critical" ["urlprefix-foo.com/", "v1"]]

def instsW : List Instance :=
  [inst "n1" "web-1" "web" "10.0.0.1" 8000 ["urlprefix-foo.com/", "v1"],
   inst "n2" "web-2" "web" "10.0.0.2" 8000 ["urlprefix-foo.com/", "v1"]]

def catalogW (name : Str) : List Instance := instsW.filter (fun i => i.serviceName == name)

def stW : List Str := ["passing".toList]

theorem catalogW_sub (name : Str) (i : Instance) (h : i ∈ catalogW name) : i ∈ instsW ∧ i.serviceName = name := by
  unfold catalogW at h
  obtain ⟨h1, h2⟩ := List.mem_filter.1 h
  exact ⟨h1, by simpa using h2⟩

theorem wellFormedW : WellFormed cfgW checksW catalogW where
  byName := fun name i h => (catalogW_sub name i h).2
  tags := by
    have h : ∀ c ∈ checksW, ∀ i ∈ instsW, c.node = i.node → c.serviceID = i.serviceID → c.tags = i.tags := by
      unfold checksW instsW ck inst
      simp only [toList_lit rfl, List.map]
      decide +kernel
    intro c hc name i hi
    exact h c hc i (catalogW_sub name i hi).1

/-- One evaluation for all the examples below, because what an evaluation pays for is decoding the string constants of
the models, once each; for the same reason the definitions of the example are unfolded first, so that their literals
are lists of characters before the kernel starts. -/
theorem registryW :
    (∀ i ∈ instsW, ∀ it ∈ intents cfgW (regOf i), expressibleB envW pfW it = true) ∧
    routed cfgW stW false checksW catalogW = [inst "n1" "web-1" "web" "10.0.0.1" 8000 ["urlprefix-foo.com/", "v1"]] ∧
    svcText envW pfW cfgW stW false checksW catalogW =
      "route add web foo.com/ http://10.0.0.1:8000/ tags \"v1\"".toList ∧
    svcLinesF envW pfW cfgW stW false checksW catalogW (fun n => n == "web".toList) = [] ∧
    svcLinesF envW pfW cfgW stW false checksW catalogW (fun n => n == "db".toList) =
      svcLines envW pfW cfgW stW false checksW catalogW ∧
    (loadTable envW pfW (svcText envW pfW cfgW stW false checksW catalogW)).toOption.map
      (fun t => (abs t "foo.com".toList "/".toList).map (fun y => (y.service, y.url))) =
    some [("web".toList, "http://10.0.0.1:8000/".toList)] ∧
    (loadTable envW pfW (concatCfg (svcText envW pfW cfgW stW false checksW catalogW) "route del web".toList)).toOption.map
      (fun t => (abs t "foo.com".toList "/".toList).length) = some 0 ∧
    ((run (loadOpt envW pfW) (init ([] : Table))
      [.svc "route add old /old http://1.1.1.1:1/".toList, .man "rubbish".toList,
       .svc (svcText envW pfW cfgW stW false checksW catalogW), .man []]).active.map
        (fun kv => (kv.1, kv.2.map (fun r => (r.path, r.targets.map (·.url)))))) =
    [("foo.com".toList, [("/".toList, ["http://10.0.0.1:8000/".toList])])] := by
  unfold checksW catalogW instsW stW cfgW ck inst
  simp only [toList_lit rfl, List.map]
  decide +kernel

theorem svcTextW : svcText envW pfW cfgW stW false checksW catalogW =
    "route add web foo.com/ http://10.0.0.1:8000/ tags \"v1\"".toList := registryW.2.2.1

example : ∀ i ∈ instsW, ∀ it ∈ intents cfgW (regOf i), expressibleB envW pfW it = true := registryW.1

/-- only the healthy instance is routed -/
example : routed cfgW stW false checksW catalogW = [inst "n1" "web-1" "web" "10.0.0.1" 8000 ["urlprefix-foo.com/", "v1"]] :=
  registryW.2.1

/-- the text `Watch` sends is the one command of that instance -/
example : svcText envW pfW cfgW stW false checksW catalogW =
    "route add web foo.com/ http://10.0.0.1:8000/ tags \"v1\"".toList := svcTextW

/-- a failing lookup of `web` removes the service's command; a failing lookup of another name changes nothing -/
example : svcLinesF envW pfW cfgW stW false checksW catalogW (fun n => n == "web".toList) = [] ∧
    svcLinesF envW pfW cfgW stW false checksW catalogW (fun n => n == "db".toList) =
      svcLines envW pfW cfgW stW false checksW catalogW := ⟨registryW.2.2.2.1, registryW.2.2.2.2.1⟩

/-- the table built from it has exactly that target under (foo.com, /) -/
example : (loadTable envW pfW (svcText envW pfW cfgW stW false checksW catalogW)).toOption.map
      (fun t => (abs t "foo.com".toList "/".toList).map (fun y => (y.service, y.url))) =
    some [("web".toList, "http://10.0.0.1:8000/".toList)] :=
  registryW.2.2.2.2.2.1

/-- an operator command on top: `route del web` in the manual text removes the service's route -/
example : (loadTable envW pfW (concatCfg (svcText envW pfW cfgW stW false checksW catalogW) "route del web".toList)).toOption.map
      (fun t => (abs t "foo.com".toList "/".toList).length) = some 0 :=
  registryW.2.2.2.2.2.2.1

/-- the step machine on a history with a stale service text, a manual text that does not parse, and then the
texts of the final state -/
example : ((run (loadOpt envW pfW) (init ([] : Table))
      [.svc "route add old /old http://1.1.1.1:1/".toList, .man "rubbish".toList,
       .svc (svcText envW pfW cfgW stW false checksW catalogW), .man []]).active.map
        (fun kv => (kv.1, kv.2.map (fun r => (r.path, r.targets.map (·.url)))))) =
    [("foo.com".toList, [("/".toList, ["http://10.0.0.1:8000/".toList])])] :=
  registryW.2.2.2.2.2.2.2

end Fabio.Props.C01Compose
