import Fabio.Props.C02Compose
import Fabio.Lemmas.C02Custom
/-!
C02 — the custom backend end to end UNDER CONCURRENCY.

The poll loop is the one writer thread of the cell machine, programmed with ALL its `route.SetTable` calls — the
`SetTable(nil)` calls after a `null` document or a document that does not build included — and the two sentences
`Props/C02Compose.lean` proves for the text backends (`serving_table_is_last_good_config`) are proved for every poll
history, every set of request goroutines and every schedule.
-/
namespace Fabio.Props.C02Custom
open Fabio Fabio.Model.Route Fabio.Model.Parse Fabio.Model.C02 Fabio.Model.C02Compose Fabio.Model.C02Custom
open Fabio.Lemmas.C02 Fabio.Lemmas.C02Custom Fabio.Props.C02Compose

abbrev Ans := Option (Str × Route × Target)

def system (env : Env) (ps : List (Poll (List RouteDef))) (rs : List (Thread Table Model.C03.Req Ans)) :
    Sys Table Model.C03.Req Ans :=
  Sys.start [] (rs ++ [.writer (calls (buildDefs env) ps)])

def InstalledDoc (env : Env) (ps : List (Poll (List RouteDef))) (T : Table) : Prop :=
  T = [] ∨ ∃ ds, Poll.defs ds ∈ ps ∧ newTable env ds = .ok T

/-- **Custom backend, history + concurrency**, for any sequence of polls (transport errors, undecodable bodies, `null`,
documents that build and documents that do not), any request goroutines, any interleaving:
(a) every lookup is answered as `Model.C03.Lookup` on ONE table of the cell's history, and that table is the initial
empty table or `NewTableCustom` of ONE polled document that built — never a mixture, never a document that failed;
(b) once the poll loop has made all its `SetTable` calls (the nil ones included) the cell holds the table of the LAST
document that built. -/
theorem custom_serving_table_under_concurrency (env : Env) (le : LookupEnv) (k : Model.C03.Req → Nat)
    (ps : List (Poll (List RouteDef))) (rs : List (Thread Table Model.C03.Req Ans)) (hr : Readers rs) (sch : List Nat) :
    (∀ th ∈ (Sys.run (lk le k) sch (system env ps rs)).threads, ∀ r ∈ th.results,
      ∃ T, (Sys.run (lk le k) sch (system env ps rs)).cell.hist[r.idx]? = some T ∧ InstalledDoc env ps T ∧
        r.ans = Model.C03.Lookup (le.cfg r.req) T r.req) ∧
    ((∃ th, (Sys.run (lk le k) sch (system env ps rs)).threads[rs.length]? = some th ∧ th.finished = true) →
      (Sys.run (lk le k) sch (system env ps rs)).cell.val = lastGoodDoc env [] ps) := by
  obtain ⟨ha, hb⟩ := one_writer_system (lk le k) [] (calls (buildDefs env) ps) rs hr sch
  refine ⟨fun th hth r hrr => ?_, fun hfin => ?_⟩
  · obtain ⟨T, hT, hmem, hans⟩ := ha th hth r hrr
    refine ⟨T, hT, hmem.imp_right fun h => ?_, hans⟩
    obtain ⟨ds, hds, hbd⟩ := calls_mem (buildDefs env) ps T h
    exact ⟨ds, hds, (buildDefs_some_iff env ds T).1 hbd⟩
  · rw [← calls_fold_lastGoodDoc env ps []]
    exact hb hfin

/-- **Every such answer is sound for that one document**: host key, route, path match and target all come from
the table `NewTableCustom` built from one polled document (C03 `lookup_sound`). -/
theorem custom_every_answer_is_sound (env : Env) (le : LookupEnv) (k : Model.C03.Req → Nat)
    (ps : List (Poll (List RouteDef))) (rs : List (Thread Table Model.C03.Req Ans)) (hr : Readers rs) (sch : List Nat) :
    ∀ th ∈ (Sys.run (lk le k) sch (system env ps rs)).threads, ∀ r ∈ th.results,
      ∀ h route tg, r.ans = some (h, route, tg) →
      ∃ T, InstalledDoc env ps T ∧
        (h = [] ∨ C03.HostMatches (le.cfg r.req) T r.req h) ∧ route ∈ T.get (lowerL h) ∧
        (le.cfg r.req).pathMatch r.req.path route.path = true ∧ tg ∈ route.targets := by
  intro th hth r hrr h route tg hans
  obtain ⟨T, _, hinst, ha⟩ := (custom_serving_table_under_concurrency env le k ps rs hr sch).1 th hth r hrr
  exact ⟨T, hinst, lookupPure_sound le T r.req (ha.symm.trans hans)⟩

/-- **`SetTable(nil)` end to end**, on the specification `lastGoodDoc` (which the cell holds once the poll loop is done:
`custom_serving_table_under_concurrency`): any number of `null` documents, documents that do not build, and failed polls
at the end of a poll history do not change it. -/
theorem trailing_failures_keep_table (env : Env) (ps qs : List (Poll (List RouteDef)))
    (hq : ∀ q ∈ qs, ∀ ds, q = Poll.defs ds → buildDefs env ds = none) (a : Table) :
    lastGoodDoc env a (ps ++ qs) = lastGoodDoc env a ps := by
  rw [← lastGoodPoll_eq, ← lastGoodPoll_eq, lastGoodPoll, List.foldl_append]
  exact lastGoodPoll_failures (buildDefs env) qs (fun ds h => hq _ h ds rfl) _

section examples
open Fabio.Props.C02Compose.Ex

/-- four polls — a document, `null`, a failed poll, a second document: three `SetTable` calls, one of them nil -/
example (env : Env) (d1 d2 : List RouteDef) :
    (calls (buildDefs env) [.defs d1, .null, .httpError, .defs d2]).length = 3 := rfl

example (env : Env) (d1 : List RouteDef) :
    calls (buildDefs env) [.defs d1, .null, .decodeError] = [buildDefs env d1, none] := rfl

/-- five polls: document, `null`, a document that does not build, a failed poll, a new document -/
def polls : List (Poll (List RouteDef)) := [.defs doc1, .null, .defs doc2, .httpError, .defs doc3]
def reqY : Model.C03.Req := { host := "h".toList, tls := false, path := "/y/1".toList }

example : (calls (buildDefs env) polls).map Option.isSome = [true, false, false, true] := by
  unfold polls doc1 doc2 doc3; simp only [toList_lit rfl]; decide +kernel

/-- one request goroutine doing three lookups interleaved with the poll goroutine: the writer finishes, the history
holds three tables (initial, doc1, doc3 — the two nil calls left no trace), and the three lookups were answered from
tables 0, 1 and 2: no route for `/y/1` in the empty table and in doc1's, target `b` in doc3's -/
def runEx : Sys Table Model.C03.Req Ans :=
  Sys.run (lk le (fun _ => 1)) (roundRobin 2 12) (system env polls [.reader [reqY, reqY, reqY] none []])

example :
    runEx.threads[1]?.map Thread.finished = some true ∧ runEx.cell.hist.length = 3 ∧
    (runEx.threads.flatMap Thread.results).map (fun r => (r.idx, (r.ans.map (fun a => a.2.2.service)).getD [])) =
      [(0, []), (1, []), (2, "b".toList)] := by
  unfold runEx polls doc1 doc2 doc3 reqY; simp only [toList_lit rfl]; decide +kernel

/-- hypothesis of `trailing_failures_keep_table` on the three failing polls in the middle -/
example : (buildDefs env doc2) = none ∧
    (lastGoodDoc env [] ([.defs doc1] ++ [.null, .defs doc2, .httpError])).map (·.1) =
    (lastGoodDoc env [] [.defs doc1]).map (·.1) := by
  unfold doc1 doc2; simp only [toList_lit rfl]; decide +kernel

end examples

end Fabio.Props.C02Custom
