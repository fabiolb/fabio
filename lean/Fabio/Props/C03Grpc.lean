import Fabio.Props.C03Compose
/-!
C03 — the second caller of `Table.Lookup`: `GrpcProxyInterceptor.lookup` (`proxy/grpc_handler.go`) builds a
synthetic request — Host = the single value of the `dsthost` metadata key (no value or several: empty), URL =
`url.ParseRequestURI(fullMethodName)`, headers = the metadata, no TLS — and calls `Lookup` with the configured
picker, matcher, glob cache and glob switch (fact `lookup_callers`). The model of that glue and the property's
sentences for a gRPC call. The stream `c03.grpc` runs the real interceptor and compares its answer with `Lookup` on the
request with that Host (the driver's `lookupH`); when it draws no `dsthost` value or several, the generator itself leaves
the Host empty, so `dstHost` is not evaluated by the stream.
-/
namespace Fabio.Props.C03Grpc
open Fabio Fabio.Model.Route Fabio.Model.C03 Fabio.Props.C03 Fabio.Props.C03Compose

/-- `getDestinationHostFromMetadata`: the value of `dsthost` when there is exactly one -/
def dstHost : List Str → Str
  | [h] => h
  | _ => []

/-- the request the interceptor hands to `Lookup` (the method name is taken as the path: `c03.grpc` skips
method names that `url.ParseRequestURI` would not return unchanged as the path) -/
def grpcReq (dsthosts : List Str) (method : Str) : Req := ⟨dstHost dsthosts, false, method⟩

/-- `GrpcProxyInterceptor.lookup` -/
def grpcLookup (cfg : Cfg) (t : Table) (dsthosts : List Str) (method : Str) : Option (Str × Route × Target) :=
  Lookup cfg t (grpcReq dsthosts method)

/-- A gRPC call with one `dsthost` value is routed exactly like the plain HTTP request
with that Host and the method name as path. -/
theorem grpc_routed_like_http (cfg : Cfg) (t : Table) (h method : Str) :
    grpcLookup cfg t [h] method = Lookup cfg t ⟨h, false, method⟩ := rfl

/-- without `dsthost`, or with several values, the call is routed like a request with an empty Host -/
theorem grpc_without_dsthost (cfg : Cfg) (t : Table) (method : Str) (a b : Str) (rest : List Str) :
    grpcLookup cfg t [] method = Lookup cfg t ⟨[], false, method⟩ ∧
    grpcLookup cfg t (a :: b :: rest) method = Lookup cfg t ⟨[], false, method⟩ := ⟨rfl, rfl⟩

/-- The property's first sentence for a gRPC call. -/
theorem grpc_lookup_sound (cfg : Cfg) (t : Table) (dsthosts : List Str) (method : Str) (hpick : PickOK cfg.pick)
    {h : Str} {r : Route} {tg : Target} (hres : grpcLookup cfg t dsthosts method = some (h, r, tg)) :
    (h = [] ∨ HostMatches cfg t (grpcReq dsthosts method) h) ∧ r ∈ t.get (lowerL h) ∧
      cfg.pathMatch method r.path = true ∧ tg ∈ r.targets :=
  lookup_sound cfg t (grpcReq dsthosts method) hpick hres

/-- For every table with `Built t` (every table `NewTable`/`NewTableCustom` return:
`built_loadTable`, `built_newTable`): the answer to a gRPC call is a candidate and no candidate is more specific
(the four clauses of `most_specific_built`). -/
theorem grpc_most_specific (cfg : Cfg) (t : Table) (dsthosts : List Str) (method : Str) (hb : Built t)
    (hns : NoSkip cfg) (hpick : PickOK cfg.pick) {h : Str} {r : Route} {tg : Target}
    (hres : grpcLookup cfg t dsthosts method = some (h, r, tg)) :
    (Candidate cfg t (grpcReq dsthosts method) (lowerL h) r ∧ tg ∈ r.targets) ∧
    ∀ k r', Candidate cfg t (grpcReq dsthosts method) k r' →
      (KeyMatches cfg (grpcReq dsthosts method) k → KeyMatches cfg (grpcReq dsthosts method) (lowerL h)) ∧
      (KeyMatches cfg (grpcReq dsthosts method) k → isGlobPat k = false → isGlobPat h = false) ∧
      (KeyMatches cfg (grpcReq dsthosts method) k → ∀ Y T : Str, 2 ≤ Y.length → hostPart k = Y ++ T →
          ¬ (isGlobPat h = true ∧ hostPart h = '*' :: T)) ∧
      (∀ pg kind, kind ≠ MatcherKind.glob → cfg.pathMatch = pathMatch pg kind → k = lowerL h →
          r'.path.length ≤ r.path.length) :=
  most_specific_built cfg t (grpcReq dsthosts method) hb hns hpick hres

theorem grpc_host_case_insensitive (cfg : Cfg) (t : Table) (h method : Str) :
    grpcLookup cfg t [lowerL h] method = grpcLookup cfg t [h] method :=
  host_case_insensitive cfg t h false method

-- non-vacuity: the example of the source comment (`dsthost=betatest`, route `betatest/grpcpackage.servicename`)
example : dstHost ["betatest".toList] = "betatest".toList ∧ dstHost [] = [] ∧ dstHost ["a".toList, "b".toList] = [] := by
  simp only [toList_lit rfl]; decide +kernel
example : (grpcLookup (Ex.cfg .pfx false)
      [("betatest".toList, [Ex.rt "betatest" "/grpcpackage.servicename" "beta"]), ([], [Ex.rt "" "/grpcpackage.servicename" "prod"])]
      ["betatest".toList] "/grpcpackage.servicename/Method".toList).map (fun a => String.ofList a.2.2.service) = some "beta" := by
  unfold Ex.rt Ex.tg; simp only [toList_lit rfl]
  decide +kernel
example : (grpcLookup (Ex.cfg .pfx false)
      [("betatest".toList, [Ex.rt "betatest" "/grpcpackage.servicename" "beta"]), ([], [Ex.rt "" "/grpcpackage.servicename" "prod"])]
      [] "/grpcpackage.servicename/Method".toList).map (fun a => String.ofList a.2.2.service) = some "prod" := by
  unfold Ex.rt Ex.tg; simp only [toList_lit rfl]
  decide +kernel

end Fabio.Props.C03Grpc
