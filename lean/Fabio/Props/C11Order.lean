import Fabio.Model.C11
import Fabio.Props.C11
import Fabio.Lemmas.Lit
/-!
C11 — `loadCertificates` as a function of the *set* of file names: which certificates it returns and
when it fails, independent of the order in which Go iterates the map (as a list equality, completing
`loadCertificates_sorted`). "Otherwise the first certificate of the set" is therefore a function of the material.
-/
namespace Fabio.Props.C11Order
open Fabio Fabio.Model.C11 Fabio.Props.C11 Fabio.Lemmas.C11

def keyOfCert (cf : Name) : Name := if hasSuffix cf sCert then replaceSuffix cf sCert sKey else cf

def certOf (blocks : Blocks) (cf : Name) : Option Nat :=
  match blocks.lookup cf, blocks.lookup (keyOfCert cf) with
  | some c, some k => pairCert c k
  | _, _ => none

def cfOf (name : Name) : Option Name := (classify name).map Prod.fst

def badName (blocks : Blocks) (name : Name) : Bool :=
  match cfOf name with
  | some cf => (certOf blocks cf).isNone
  | none => false

theorem classify_key (name cf kf : Name) (h : classify name = some (cf, kf)) : kf = keyOfCert cf := by
  unfold classify at h
  split at h
  · rename_i h1
    obtain ⟨rfl, rfl⟩ : name = cf ∧ replaceSuffix name sCert sKey = kf := by simpa using h
    simp [keyOfCert, h1]
  · split at h
    · -- a key file: its certificate file ends in `-cert.pem`, and replacing that suffix gives the key file back
      rename_i h2
      obtain ⟨rfl, rfl⟩ : replaceSuffix name sKey sCert = cf ∧ name = kf := by simpa using h
      have hc : replaceSuffix name sKey sCert = name.take (name.length - sKey.length) ++ sCert := rfl
      rw [keyOfCert, hc, hasSuffix_append, if_pos rfl, replaceSuffix_append]
      exact eq_append_of_hasSuffix name sKey h2
    · split at h
      · rename_i h1 _ _
        obtain ⟨rfl, rfl⟩ : name = cf ∧ name = kf := by simpa using h
        simp [keyOfCert, h1]
      · cases h

theorem loadOne_eq (blocks : Blocks) (acc : LoadAcc) (name : Name) :
    loadOne blocks acc name =
      match cfOf name with
      | none => acc
      | some cf =>
        if (acc.done.lookup cf).isSome then acc else
        match certOf blocks cf with
        | some id => { acc with done := (cf, id) :: acc.done }
        | none => { acc with failed := true } := by
  cases hc : classify name with
  | none => simp only [loadOne, cfOf, hc, Option.map_none]
  | some p =>
    obtain ⟨cf, kf⟩ := p
    -- the key file the `switch` names is the one `certOf` looks up
    simp only [loadOne, cfOf, certOf, hc, Option.map_some, ← classify_key name cf kf hc]
    split
    · rfl
    · cases blocks.lookup cf <;> cases blocks.lookup kf <;> first | rfl | simp

theorem loadOne_congr {b1 b2 : Blocks} (h : certOf b1 = certOf b2) (acc : LoadAcc) (name : Name) :
    loadOne b1 acc name = loadOne b2 acc name := by
  rw [loadOne_eq, loadOne_eq, h]

theorem loadCertificates_congr {b1 b2 : Blocks} (h : certOf b1 = certOf b2) (order : List Name) :
    loadCertificates b1 order = loadCertificates b2 order := by
  simp only [loadCertificates, funext fun acc => funext (loadOne_congr h acc)]

theorem badName_of_cfOf {blocks : Blocks} {n cf : Name} (h : cfOf n = some cf) :
    badName blocks n = (certOf blocks cf).isNone := by
  simp only [badName, h]

theorem badName_of_cfOf_none {blocks : Blocks} {n : Name} (h : cfOf n = none) : badName blocks n = false := by
  simp only [badName, h]

structure Inv (blocks : Blocks) (seen : List Name) (acc : LoadAcc) : Prop where
  failed : acc.failed = true ↔ ∃ n ∈ seen, badName blocks n = true
  done : ∀ cf id, (cf, id) ∈ acc.done ↔ (∃ n ∈ seen, cfOf n = some cf) ∧ certOf blocks cf = some id
  nodup : (acc.done.map Prod.fst).Nodup

theorem inv_step (blocks : Blocks) (seen : List Name) (acc : LoadAcc) (n : Name) (h : Inv blocks seen acc) :
    Inv blocks (n :: seen) (loadOne blocks acc n) := by
  rw [loadOne_eq]
  cases hcf : cfOf n with
  | none =>
    -- a name that is not examined changes nothing and is neither bad nor leads to a certificate file
    exact ⟨by simp [h.failed, badName_of_cfOf_none hcf], fun cf id => by simp [h.done, hcf], h.nodup⟩
  | some cf =>
    dsimp only
    have hbad := badName_of_cfOf (blocks := blocks) hcf
    -- `done` may stay as it is when `n` leads to nothing new: its certificate file is unusable or already seen
    have keep : (∀ id, certOf blocks cf = some id → ∃ m ∈ seen, cfOf m = some cf) → ∀ cf' id,
        (cf', id) ∈ acc.done ↔ (∃ m ∈ n :: seen, cfOf m = some cf') ∧ certOf blocks cf' = some id := by
      intro hold cf' id
      simp only [h.done, exists_mem_cons_and, hcf, Option.some.injEq]
      constructor
      · exact fun ⟨a, b⟩ => ⟨.inr a, b⟩
      · rintro ⟨rfl | a, b⟩
        · exact ⟨hold id b, b⟩
        · exact ⟨a, b⟩
    split
    · -- the certificate file is in `done` already: an earlier name led to it and its pair was usable
      rename_i hd
      obtain ⟨id0, hid0⟩ := (lookup_isSome_iff _ _).mp hd
      obtain ⟨hseen, hcert⟩ := (h.done cf id0).mp hid0
      exact ⟨by simp [h.failed, hbad, hcert], keep (fun _ _ => hseen), h.nodup⟩
    · rename_i hd
      have hnot : ∀ v, (cf, v) ∉ acc.done := fun v hv => hd ((lookup_isSome_iff _ _).mpr ⟨v, hv⟩)
      cases hcert : certOf blocks cf with
      | none => exact ⟨by simp [hbad, hcert], keep (fun _ hid => nomatch hcert.symm.trans hid), h.nodup⟩
      | some id0 =>
        refine ⟨by simp [h.failed, hbad, hcert], fun cf' id => ?_, ?_⟩
        · rw [List.mem_cons]
          simp only [Prod.mk.injEq, h.done, exists_mem_cons_and, hcf, Option.some.injEq]
          constructor
          · rintro (⟨rfl, rfl⟩ | ⟨a, b⟩)
            · exact ⟨.inl rfl, hcert⟩
            · exact ⟨.inr a, b⟩
          · rintro ⟨rfl | a, b⟩
            · exact .inl ⟨rfl, Option.some.inj (b.symm.trans hcert)⟩
            · exact .inr ⟨a, b⟩
        · simp only [List.map_cons, List.nodup_cons]
          refine ⟨fun hmem => ?_, h.nodup⟩
          obtain ⟨⟨k, v⟩, hv, rfl⟩ := List.mem_map.mp hmem
          exact hnot v hv

theorem inv_fold (blocks : Blocks) (l seen : List Name) (acc : LoadAcc) (h : Inv blocks seen acc) :
    Inv blocks (l.reverse ++ seen) (l.foldl (loadOne blocks) acc) := by
  induction l generalizing seen acc with
  | nil => exact h
  | cons n l ih =>
    rw [List.reverse_cons, List.append_assoc, List.singleton_append, List.foldl_cons]
    exact ih (n :: seen) (loadOne blocks acc n) (inv_step blocks seen acc n h)

/-- `loadCertificates` fails iff the material holds a name whose pair cannot be used; otherwise it returns the
certificates of the certificate files some name of the material leads to, each once. -/
theorem loadCertificates_characterised (blocks : Blocks) (order : List Name) :
    (loadCertificates blocks order = none ↔ ∃ n ∈ order, badName blocks n = true) ∧
    ∀ l, loadCertificates blocks order = some l →
      (∀ cf id, (cf, id) ∈ l ↔ (∃ n ∈ order, cfOf n = some cf) ∧ certOf blocks cf = some id) ∧
      (l.map Prod.fst).Nodup := by
  have inv : Inv blocks order.reverse (order.foldl (loadOne blocks) ⟨[], false⟩) := by
    simpa using inv_fold blocks order [] ⟨[], false⟩ ⟨by simp, by simp, by simp⟩
  have hf := inv.failed
  have hd := inv.done
  simp only [List.mem_reverse] at hf hd
  refine ⟨loadCertificates_eq_none.trans hf, fun l hl => ?_⟩
  obtain ⟨_, rfl⟩ := loadCertificates_eq_some.mp hl
  exact ⟨fun cf id => by rw [mem_isort, hd], ((isort_perm _ _).map Prod.fst).nodup_iff.mpr inv.nodup⟩

/-- **The published list does not depend on the iteration order of the Go map** — as a list, not only in its
order: two iteration orders over the same names give the same failure or the very same list of certificates. -/
theorem loadCertificates_order_irrelevant (blocks : Blocks) (o1 o2 : List Name) (h : ∀ n, n ∈ o1 ↔ n ∈ o2) :
    loadCertificates blocks o1 = loadCertificates blocks o2 := by
  obtain ⟨f1, c1⟩ := loadCertificates_characterised blocks o1
  obtain ⟨f2, c2⟩ := loadCertificates_characterised blocks o2
  -- the two characterisations speak of the same names
  simp only [h] at f1 c1
  cases h1 : loadCertificates blocks o1 with
  | none => exact (f2.mpr (f1.mp h1)).symm
  | some l1 =>
    cases h2 : loadCertificates blocks o2 with
    | none => rw [f1.mpr (f2.mp h2)] at h1; cases h1
    | some l2 =>
      obtain ⟨m1, n1⟩ := c1 l1 h1
      obtain ⟨m2, n2⟩ := c2 l2 h2
      -- same members, no duplicates, both sorted by an order that is antisymmetric on the keys, and the key
      -- determines the entry: equal
      have nd1 : l1.Nodup := List.Pairwise.of_map Prod.fst (fun a b hne e => hne (congrArg Prod.fst e)) n1
      have nd2 : l2.Nodup := List.Pairwise.of_map Prod.fst (fun a b hne e => hne (congrArg Prod.fst e)) n2
      congr 1
      refine eq_of_sorted_of_mem_iff (R := fun a b => lexLe a.1 b.1 = true) ?_ nd1 nd2 (fun ⟨cf, id⟩ => by rw [m1, m2])
        (loadCertificates_sorted blocks o1 l1 h1) (loadCertificates_sorted blocks o2 l2 h2)
      rintro ⟨ca, ia⟩ ⟨cb, ib⟩ ha hb hab hba
      obtain rfl : ca = cb := lexLe_antisymm ca cb hab hba
      have := ((m1 ca ia).mp ha).2.symm.trans ((m2 ca ib).mp hb).2
      rw [Option.some.inj this]

-- a material with a pair, two single files, a stray text file; three iteration orders, one list
example :
    let blocks : Blocks := [("z.pem".toList, ⟨some 1, some 1, 0⟩), ("a-key.pem".toList, ⟨none, some 0, 0⟩),
      ("B.pem".toList, ⟨some 2, some 2, 0⟩), ("a-cert.pem".toList, ⟨some 0, none, 0⟩), ("notes.txt".toList, ⟨none, none, 0⟩)]
    let o := blocks.map (·.1)
    loadCertificates blocks o = some [("B.pem".toList, 2), ("a-cert.pem".toList, 0), ("z.pem".toList, 1)] ∧
    loadCertificates blocks o.reverse = loadCertificates blocks o ∧
    loadCertificates blocks (o ++ o) = loadCertificates blocks o ∧
    cfOf "a-key.pem".toList = some "a-cert.pem".toList ∧ keyOfCert "a-cert.pem".toList = "a-key.pem".toList ∧
    certOf blocks "a-cert.pem".toList = some 0 ∧ badName blocks "a-key.pem".toList = false := by
  intro blocks o
  refine ⟨?_, loadCertificates_order_irrelevant blocks _ _ (by simp),
    loadCertificates_order_irrelevant blocks _ _ (by simp), ?_⟩
  all_goals (simp only [blocks, o, toList_lit rfl]; decide +kernel)

-- a key that belongs to another certificate spoils the material whichever of the two names comes first
example :
    let blocks : Blocks := [("a-cert.pem".toList, ⟨some 0, none, 0⟩), ("a-key.pem".toList, ⟨none, some 1, 0⟩), ("z.pem".toList, ⟨some 1, some 1, 0⟩)]
    badName blocks "a-key.pem".toList = true ∧ badName blocks "a-cert.pem".toList = true ∧
    loadCertificates blocks ["z.pem".toList, "a-key.pem".toList, "a-cert.pem".toList] = none ∧
    loadCertificates blocks ["a-cert.pem".toList, "z.pem".toList, "a-key.pem".toList] = none := by
  simp only [toList_lit rfl]; decide +kernel

end Fabio.Props.C11Order
