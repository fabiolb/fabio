import Fabio.Lemmas.C16RelayLive
import Fabio.Props.C16Relay
/-!
C16 — the relay delivers: liveness of `Model/C16Relay.lean` under fair scheduling.

`Props/C16Relay.lean` says what the two ends can have seen at any moment (safety); "the backend *receives* … the
caller *receives* …" is also a promise that these things arrive.  Here: from every reachable state a bounded number
of fair rounds (each goroutine of the proxy and each end's receive scheduled once per round, `Relay.round`) brings
the end of the call with everything the backend sent to the caller, once the backend has finished, and every message
and the end of the stream to a backend that keeps reading, once the caller has half-closed.  The bounds are the
progress measures `nu` / `mu` of `Lemmas/C16RelayLive.lean`, linear in the number of messages in flight.
-/
namespace Fabio.Props.C16RelayLive
open Fabio.Model.C16 Fabio.Model.C16.Spec Fabio.Model.C16.Relay
open Fabio.Lemmas.C16Relay Fabio.Lemmas.C16RelayLive Fabio.Props.C16Relay

theorem reach_append (method : String) (md : SMD) (es fs : List Ev) :
    run (reach method md es) fs = reach method md (es ++ fs) := by
  simp [reach, run, List.foldl_append]

/-- **The caller receives the backend's messages, trailers and final status.** From any reachable state in
which the backend has finished with trailers `tr` and status `st`, after `n ≥ nu` fair rounds the caller has
seen the end of the call — with these trailers, this status code and message, *all* the backend's messages, and
the backend's header iff it sent a message. -/
theorem finished_backend_reaches_caller (method : String) (md : SMD) (es : List Ev) (tr : SMD) (st : Status) (n : Nat)
    (hb : (reach method md es).bFin = some (tr, st)) (hn : nu (down (reach method md es)) ≤ n) :
    let s' := reach method md (es ++ settle n)
    s'.cFin = some (tr, st.norm) ∧ s'.cGot = s'.bSent ∧ s'.bSent = (reach method md es).bSent ∧
    (s'.bSent ≠ [] → s'.cHdr = some s'.bHdr) ∧ (s'.bSent = [] → s'.cHdr = none) := by
  intro s'
  have hc := rounds_reach_caller (reach method md es) n (by rw [hb]; rfl) hn
  have hbs := (run_settle (reach method md es) n).bSent (by simp [round])
  have hbf := (run_settle (reach method md es) n).bFin (by simp [round])
  rw [reach_append] at hc hbs hbf
  cases hcf : s'.cFin with
  | none => rw [hcf] at hc; cases hc
  | some f =>
    obtain ⟨tr', st'⟩ := f
    obtain ⟨st0, h1, h2, h3, h4, h5⟩ := finished_call_is_transparent method md (es ++ settle n) tr' st' hcf
    rw [hbf, hb] at h1
    cases h1
    exact ⟨by rw [h2], h3, hbs, h4, h5⟩

/-- **The backend receives the caller's messages.** From any reachable state in which the caller has half-closed
and the backend has not finished, after `n ≥ mu` fair rounds a backend that keeps reading has received *all*
the caller's messages, in order, and then the end of the stream. -/
theorem open_call_backend_reads_everything (method : String) (md : SMD) (es : List Ev) (n : Nat)
    (hc : (reach method md es).cClosed = true) (hb : (reach method md es).bFin = none)
    (hn : mu (up (reach method md es)) ≤ n) :
    let s' := reach method md (es ++ settle n)
    s'.bEOF = true ∧ s'.bGot = s'.cSent ∧ s'.cSent = (reach method md es).cSent := by
  intro s'
  have he := rounds_reach_backend _ n (reach_inv method md es) hc hb hn
  have hcs := (run_settle (reach method md es) n).cSent (by simp [round])
  rw [reach_append] at he hcs
  exact ⟨he, (backend_at_eof_has_everything method md (es ++ settle n) he).1, hcs⟩

def answer (hdr : SMD) (reps : List Msg) (tr : SMD) (st : Status) : List Ev :=
  [.backendHeader hdr] ++ reps.map Ev.backendSend ++ [.backendFinish tr st]

theorem step_finish (u : St) (tr : SMD) (st : Status) (h : u.bFin = none) :
    (step u (.backendFinish tr st)).bFin = some (tr, st) := by
  simp [step, h]

theorem run_answer (s : St) (hdr : SMD) (reps : List Msg) (tr : SMD) (st : Status) (h : s.bFin = none) :
    (run s (answer hdr reps tr st)).bFin = some (tr, st) ∧ (run s (answer hdr reps tr st)).cSent = s.cSent := by
  refine ⟨?_, (run_ends s _).cSent fun m hm => by simp [answer] at hm⟩
  rw [answer, run, List.foldl_append]
  exact step_finish _ tr st (((run_ends s _).bFin fun tr st hm => by simp at hm).trans h)

/-- **A whole call with a backend that reads the caller's stream to its end and then answers.** From any
reachable state in which the caller has half-closed and the backend has not finished: after `n₁ ≥ mu` fair
rounds, the backend's answer (header, any messages, trailers, any status), and `n₂ ≥ nu` further rounds, the
backend has received all the caller's messages and the caller has received the whole answer — all messages,
the trailers, the status code and message, the header iff a message was sent. -/
theorem call_with_reading_backend_completes (method : String) (md : SMD) (es : List Ev) (n1 n2 : Nat)
    (hdr : SMD) (reps : List Msg) (tr : SMD) (st : Status)
    (hc : (reach method md es).cClosed = true) (hb : (reach method md es).bFin = none)
    (h1 : mu (up (reach method md es)) ≤ n1)
    (h2 : nu (down (reach method md (es ++ settle n1 ++ answer hdr reps tr st))) ≤ n2) :
    let s' := reach method md (es ++ settle n1 ++ answer hdr reps tr st ++ settle n2)
    s'.bGot = (reach method md es).cSent ∧ s'.bEOF = true ∧
    s'.cFin = some (tr, st.norm) ∧ s'.cGot = s'.bSent ∧
    (s'.bSent ≠ [] → s'.cHdr = some s'.bHdr) ∧ (s'.bSent = [] → s'.cHdr = none) := by
  intro s'
  obtain ⟨e1, _, e3⟩ := open_call_backend_reads_everything method md es n1 hc hb h1
  have hopen := ((run_settle (reach method md es) n1).bFin (by simp [round])).trans hb
  rw [reach_append] at hopen
  obtain ⟨a1, a2⟩ := run_answer (reach method md (es ++ settle n1)) hdr reps tr st hopen
  rw [reach_append] at a1 a2
  obtain ⟨f1, f2, _, f4, f5⟩ :=
    finished_backend_reaches_caller method md (es ++ settle n1 ++ answer hdr reps tr st) tr st n2 a1 h2
  -- the end of the stream, once seen, stays seen; then the backend has everything
  have heof : s'.bEOF = true := by
    have := (run_ends (reach method md (es ++ settle n1)) (answer hdr reps tr st ++ settle n2)).bEOF e1
    rw [reach_append, ← List.append_assoc] at this; exact this
  obtain ⟨g1, _⟩ := backend_at_eof_has_everything method md _ heof
  -- nobody but the caller adds to what the caller sent
  have hs : s'.cSent = (reach method md es).cSent := by
    have := (run_settle (reach method md (es ++ settle n1 ++ answer hdr reps tr st)) n2).cSent (by simp [round])
    rw [reach_append] at this
    rw [this, a2, e3]
  exact ⟨by rw [g1, hs], heof, f1, f2, f4, f5⟩

/-- a caller that has sent a message and half-closed, nothing scheduled yet: `mu` = 3·1 + 1 + 1 + 0 + 1 = 6
rounds suffice -/
example :
    let es : List Ev := [.callerSend "01", .callerClose]
    mu (up (reach "/m" [] es)) = 6 ∧
    (reach "/m" [] (es ++ settle 6)).bGot = ["01"] ∧ (reach "/m" [] (es ++ settle 6)).bEOF = true := by decide +kernel

/-- a backend that has answered with a header, a message and status 9, the forwarder having moved the
message on already: `nu` = 0 + 0 + 2 + 1 + 1 = 4 rounds later the caller has everything -/
example :
    let es : List Ev := [.backendHeader [("x-h", ["1"])], .backendSend "0a",
      .backendFinish [("x-t", ["2"])] { code := 9, message := "boom" }, .c2sStep, .c2sStep, .c2sStep, .c2sStep]
    nu (down (reach "/m" [] es)) = 4 ∧
    (reach "/m" [] (es ++ settle 4)).cFin = some ([("x-t", ["2"])], { code := 9, message := "boom" }) ∧
    (reach "/m" [] (es ++ settle 4)).cGot = ["0a"] ∧
    (reach "/m" [] (es ++ settle 4)).cHdr = some [("x-h", ["1"])] := by decide +kernel

/-- the hypotheses of `call_with_reading_backend_completes` on the smallest call: no caller message, an answer
without message (`mu` = 3, `nu` = 3) -/
example :
    let es : List Ev := [.callerClose]
    let ans := answer [("x-h", ["1"])] [] [("x-t", ["2"])] { code := 5, message := "nope" }
    mu (up (reach "/m" [] es)) = 3 ∧ nu (down (reach "/m" [] (es ++ settle 3 ++ ans))) = 3 ∧
    (reach "/m" [] (es ++ settle 3 ++ ans ++ settle 3)).cFin = some ([("x-t", ["2"])], { code := 5, message := "nope" }) ∧
    (reach "/m" [] (es ++ settle 3 ++ ans ++ settle 3)).bEOF = true ∧
    (reach "/m" [] (es ++ settle 3 ++ ans ++ settle 3)).cHdr = none := by decide +kernel

end Fabio.Props.C16RelayLive
