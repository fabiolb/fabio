import Fabio.Model.C18System
import Fabio.Lemmas.C18
import Fabio.Props.C18
import Fabio.Props.C18Exit
/-! C18 — the property's sentences for the process as a whole (model: `Fabio.Model.C18System`). -/
namespace Fabio.Props.C18System
open Fabio.Model.C18 Fabio.Model.C18Exit Fabio.Model.C18System Fabio.Lemmas.C18

/-- **C18, end to end.** For every number of earlier SIGHUPs, every way of telling the process to stop (SIGINT,
SIGTERM, `exit.Exit`/`Fatal`/`Fatalf`) at any tick `s`, every grace period and wait, every set of servers with every
amount of open work (endless streams, tunnels and websocket sessions included), with the contracts of the current
tree (`reselects`, `waitedFor`, a deadline-bounded gRPC contract):
1. from `s + grace` on — when `proxy.Shutdown` begins — no listener that was up accepts;
2. every piece of in-flight work that ends within the wait completes before the process ends;
3. the process ends no later than `s + grace + wait`. -/
theorem c18_end_to_end {g : GrpcContract} (hb : Props.C18.DeadlineBounded g) (n : Nat) (last : Ev) (h : last ≠ .hup)
    (s grace wait : Nat) (srvs : List Server) :
    (∀ t, s + grace ≤ t → listenerAccepts .reselects n last s grace t = false) ∧
    (∀ sv ∈ srvs, ∀ l ∈ sv.leaves, ∀ e ∈ l.allWork, tle e (some (s + grace + wait)) = true →
        processFate (processEnd .reselects .waitedFor g n last s grace wait srvs) e = .completed) ∧
    tle (processEnd .reselects .waitedFor g n last s grace wait srvs) (some (s + grace + wait)) = true := by
  -- package exit calls the handler; from there on it is the process of `Model.C18`
  have hr := Props.C18Exit.handlers_all_ran 1 n last h
  rw [processEnd, if_pos hr]
  refine ⟨?_, ?_, Props.C18.process_exit_bounded .waitedFor hb s grace wait srvs⟩
  · intro t ht
    rw [listenerAccepts, if_pos hr]
    exact accepts_of_le ht
  · intro sv hs l hl e he hle
    exact Props.C18.process_completes_inflight_work g s grace wait srvs sv l e hs hl he hle

/-- **The same statement fails for each shipped/seeded contract**, each with its witness:
(a) `signalsOnly` (a listener that stops watching `quit` after a SIGHUP): one SIGHUP, then `exit.Exit` — the process
never ends and the listeners accept for ever; (b) `notWaitedFor` (D31): a websocket session on an http-only
configuration is cut; (c) `ignoresDeadline` (D22): an endless gRPC stream keeps the process for ever. -/
theorem c18_end_to_end_needs_each_contract :
    (processEnd .signalsOnly .waitedFor .stopsAtDeadline 1 .exitCall 0 300 600 [] = none ∧
      ∀ t, listenerAccepts .signalsOnly 1 .exitCall 0 300 t = true) ∧
    processFate (processEnd .reselects .notWaitedFor .stopsAtDeadline 0 (.sig .term) 0 300 600
      [.single { kind := .http, work := [], hijacked := [some 400] }]) (some 400) = .cut ∧
    processEnd .reselects .waitedFor .ignoresDeadline 0 (.sig .term) 0 300 600
      [.single { kind := .grpc, work := [none] }] = none := by
  have hdeaf : ¬ (run .signalsOnly (initial 1) (history 1 .exitCall)).listeners.all handlerRan = true := by
    decide +kernel
  exact ⟨⟨if_neg hdeaf, fun _ => if_neg hdeaf⟩, by decide +kernel, by decide +kernel⟩

-- three SIGHUPs, then exit.Fatal at tick 1000; grace 300, wait 600; a mixed registry with a websocket
example : processEnd .reselects .waitedFor .stopsAtDeadline 3 .exitCall 1000 300 600
    (.single { kind := .http, work := [some 1400], hijacked := [some 1500, none] } :: Props.C18.exampleServers) = some 1900 := by decide +kernel
example : listenerAccepts .reselects 3 .exitCall 1000 300 1299 = true ∧
          listenerAccepts .reselects 3 .exitCall 1000 300 1300 = false := by decide +kernel

end Fabio.Props.C18System
