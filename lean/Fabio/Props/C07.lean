import Fabio.Lemmas.C07
import Fabio.Lemmas.Lit
/-!
C07 — HTTP requests and responses pass through unaltered apart from routing: property theorems over the model
`Fabio.Model.C07` (`serve` = `ServeHTTP` from the lookup result on, gates of C12/C13 and header derivation of
C08 left out).  In every theorem `o` is the request handed to the upstream `up` through handler `via`: each sentence
reads the forwarded request back (`forward_inv`) and then says what `targetURL` made of the URL (`targetURL_path`,
`targetURL_query`, `targetURL_wire_path`).
-/
namespace Fabio.Props.C07
open Fabio.Model.C07 Fabio.Model.C07Spec Fabio.Lemmas.C07

theorem serve_forward {β} (c : Int) (html : String) (t : Target) (r : Req β) :
    ∃ via o, serve c html (some t) r = .forward via t.host o ∧
      o.method = r.method ∧ o.body = r.body ∧ o.headers = r.headers ∧ o.host = hostOverride t r.host ∧
      o.url.scheme = t.scheme ∧ o.url.host = t.host ∧
      o.url.path = (targetURL t r.url).path ∧ o.url.rawPath = (targetURL t r.url).rawPath ∧
      o.url.rawQuery = (targetURL t r.url).rawQuery := by
  unfold serve
  cases chooseHandler r.headers
  · exact ⟨_, _, rfl, rfl, rfl, rfl, rfl, rfl, rfl, rfl, rfl, rfl⟩
  · exact ⟨_, _, rfl, rfl, rfl, rfl, rfl, rfl, rfl, rfl, rfl, rfl⟩

theorem forward_inv {β} {c : Int} {html : String} {t : Target} {r : Req β} {via : Via} {up : String} {o : Req β}
    (h : serve c html (some t) r = .forward via up o) :
    up = t.host ∧ o.method = r.method ∧ o.body = r.body ∧ o.headers = r.headers ∧ o.host = hostOverride t r.host ∧
      o.url.path = (targetURL t r.url).path ∧ o.url.rawPath = (targetURL t r.url).rawPath ∧
      o.url.rawQuery = (targetURL t r.url).rawQuery := by
  obtain ⟨via', o', hs, hm, hb, hh, hho, _, _, hp, hrp, hq⟩ := serve_forward c html t r
  rw [hs] at h; cases h
  exact ⟨rfl, hm, hb, hh, hho, hp, hrp, hq⟩

/-- **Frame.** The handler writes the URL and (when asked) the Host of the request and nothing else: method,
body and header block reach the upstream as the client sent them (the forwarding headers of C08 and the
hop-by-hop handling of `httputil.ReverseProxy` are outside this model), and the upstream is the route's target. -/
theorem method_body_headers_untouched {β} (c : Int) (html : String) (t : Target) (r : Req β)
    (via : Via) (up : String) (o : Req β) (h : serve c html (some t) r = .forward via up o) :
    o.method = r.method ∧ o.body = r.body ∧ o.headers = r.headers ∧ up = t.host := by
  obtain ⟨hup, hm, hb, hh, _⟩ := forward_inv h
  exact ⟨hm, hb, hh, hup⟩

/-- `ForceQuery` is the one field of `url.URL` in the model that the director does not assign -/
theorem director_frame (target u : URL) : (director target u).forceQuery = u.forceQuery := rfl

theorem targetURL_path (t : Target) (u : URL) :
    (targetURL t u).path =
      (if t.prepend ≠ [] then
        ensureAbs (t.prepend ++ (if t.strip ≠ [] ∧ t.strip <+: u.path then ensureAbs (u.path.drop t.strip.length) else u.path))
       else (if t.strip ≠ [] ∧ t.strip <+: u.path then ensureAbs (u.path.drop t.strip.length) else u.path)) := by
  show (prependStep _ (stripStep _ _ _)).1 = _
  rw [prependStep_fst, stripStep_fst]

theorem targetURL_query (t : Target) (u : URL) :
    (targetURL t u).rawQuery = t.rawQuery ++ (if t.rawQuery ≠ [] ∧ u.rawQuery ≠ [] then [AMP] else []) ++ u.rawQuery :=
  mergeQuery_eq_expected t.rawQuery u.rawQuery

/-- **Path rewrite.** The upstream's (decoded) path is the client's path with the strip prefix removed — only
when the path really begins with it — and the prepend option put in front, made absolute after each step;
it is absolute whenever an option applied and is the client's path when no option is set. -/
theorem path_rewrite {β} (c : Int) (html : String) (t : Target) (r : Req β)
    (via : Via) (up : String) (o : Req β) (h : serve c html (some t) r = .forward via up o) :
    let applies := t.strip ≠ [] ∧ t.strip <+: r.url.path
    let rem := if applies then ensureAbs (r.url.path.drop t.strip.length) else r.url.path
    o.url.path = (if t.prepend ≠ [] then ensureAbs (t.prepend ++ rem) else rem) ∧
    (applies → r.url.path = t.strip ++ r.url.path.drop t.strip.length) ∧
    (applies ∨ t.prepend ≠ [] → startsWithSlash o.url.path = true) ∧
    (t.strip = [] → t.prepend = [] → o.url.path = r.url.path) := by
  intro applies rem
  obtain ⟨_, _, _, _, _, hp, _⟩ := forward_inv h
  have key : o.url.path = (if t.prepend ≠ [] then ensureAbs (t.prepend ++ rem) else rem) :=
    hp.trans (targetURL_path t r.url)
  refine ⟨key, ?_, ?_, ?_⟩
  · rintro ⟨_, t', ht⟩
    rw [← ht, List.drop_left]
  · intro hor
    rw [key]
    split
    · exact ensureAbs_abs _
    · next h2 =>
      have ha : applies := hor.resolve_right h2
      simp only [rem, if_pos ha]; exact ensureAbs_abs _
  · intro h1 h2
    rw [key]
    simp [rem, applies, h1, h2]

/-- **Query merge.** Route query first, `&` exactly when both are non-empty, the client's query bytes unchanged
at the end. -/
theorem query_merge {β} (c : Int) (html : String) (t : Target) (r : Req β)
    (via : Via) (up : String) (o : Req β) (h : serve c html (some t) r = .forward via up o) :
    o.url.rawQuery = t.rawQuery ++ (if t.rawQuery ≠ [] ∧ r.url.rawQuery ≠ [] then [AMP] else []) ++ r.url.rawQuery ∧
    t.rawQuery <+: o.url.rawQuery ∧ r.url.rawQuery <:+ o.url.rawQuery := by
  obtain ⟨_, _, _, _, _, _, _, hq⟩ := forward_inv h
  have key := hq.trans (targetURL_query t r.url)
  refine ⟨key, ?_, ?_⟩
  · rw [key, List.append_assoc]; exact List.prefix_append _ _
  · rw [key]; exact List.suffix_append _ _

/-- **Host.** The Host of the outgoing request is the client's unless the route carries a `host=` option:
`dst` means the target's host, anything else is taken literally. -/
theorem host_only_when_asked {β} (c : Int) (html : String) (t : Target) (r : Req β)
    (via : Via) (up : String) (o : Req β) (h : serve c html (some t) r = .forward via up o) :
    (t.hostOpt = "" → o.host = r.host) ∧ (t.hostOpt = "dst" → o.host = t.host) ∧
    (t.hostOpt ≠ "" → t.hostOpt ≠ "dst" → o.host = t.hostOpt) := by
  obtain ⟨_, _, _, _, hh, _⟩ := forward_inv h
  rw [hh, hostOverride_eq_expected]
  unfold expectedHost
  refine ⟨fun h0 => if_pos h0, fun h0 => ?_, fun h0 h1 => ?_⟩
  · rw [if_neg (by rw [h0]; decide), if_pos h0]
  · rw [if_neg h0, if_neg h1]

theorem targetURL_wire_path (t : Target) (u : URL) (client p rp : Bytes) (hparse : setPath client = some (p, rp))
    (hurl : u.path = p ∧ u.rawPath = rp) (hslash : startsWithSlash client = true) (hvalid : validEncoded client = true) :
    expectedPath t.strip t.prepend client = some (rewritePath t u) ∧
    unescape (rewritePath t u).2 = some (rewritePath t u).1 ∧
    (startsWithSlash (rewritePath t u).2 = true → (targetURL t u).escapedPath = (rewritePath t u).2) := by
  obtain ⟨hesc, hdec⟩ := escapedPath_parsed client p rp hparse hslash hvalid u hurl
  rw [← hurl.1] at hdec
  have hinv : Inv (u.path, u.escapedPath) := ⟨hesc.symm ▸ hvalid, hesc.symm ▸ hdec⟩
  refine ⟨expectedPath_eq t u client hesc hdec, (inv_rewrite t u hinv).2, fun habs => ?_⟩
  rw [escapedPath_target t u hinv, if_pos habs]

/-
Full statement (`percent_encoding_preserved`): for EVERY request-target path `client` the server accepts, the
bytes of the request-target the upstream receives are the client's bytes with strip/prepend applied to the
escaped form (`expectedPath … = some (d, w)` and the wire path is `w`).

The code cannot satisfy it for two input classes, which the theorem below excludes:
 * by the hypothesis `hvalid` — `client` holds a byte net/url does not accept unescaped in a path (`"<>\^`{|}`,
   ≥ 0x80): `url.URL.EscapedPath` then re-encodes the whole path from its decoded form (recorded finding
   `path-raw-invalid-byte`; witness `percent_encoding_lost_invalid_byte`, replayed from the corpus of `c07.url`);
 * by the antecedent `startsWithSlash w = true` of its last conjunct — the expected wire form is not absolute: the
   strip prefix is followed by an encoded slash and nothing is prepended (`/s%2Fa`, strip `/s`).  No absolute
   request-target keeps both the client's encoding and the decoded path `/a`; the code sends `/a` (witness
   `percent_encoding_encoded_slash_corner`).
-/
/-- **Percent-encoding (partial: see the comment above for the two excluded classes).**  `client` is the path the
client put on the wire, `(p, rp)` what the server's `setPath` made of it.  The path the upstream sees on the
wire is the specification's expected wire form — the client's bytes with the strip prefix cut off *in the
escaped form* and the escaped prepend option in front — and the decoded path is the rewritten one. -/
theorem percent_encoding_preserved_partial {β} (c : Int) (html : String) (t : Target) (r : Req β)
    (client p rp : Bytes) (hparse : setPath client = some (p, rp)) (hurl : r.url.path = p ∧ r.url.rawPath = rp)
    (hslash : startsWithSlash client = true)
    (hvalid : validEncoded client = true)
    (via : Via) (up : String) (o : Req β) (h : serve c html (some t) r = .forward via up o) :
    ∃ d w, expectedPath t.strip t.prepend client = some (d, w) ∧ o.url.path = d ∧ unescape w = some d ∧
      (startsWithSlash w = true → o.url.escapedPath = w) := by
  obtain ⟨_, _, _, _, _, hp, hrp, _⟩ := forward_inv h
  obtain ⟨hexp, hdec, habs⟩ := targetURL_wire_path t r.url client p rp hparse hurl hslash hvalid
  have hesc : o.url.escapedPath = (targetURL t r.url).escapedPath := by simp only [URL.escapedPath, hp, hrp]
  exact ⟨_, _, hexp, hp, hdec, fun hw => hesc.trans (habs hw)⟩

/-- without options the upstream sees exactly the client's bytes -/
theorem percent_encoding_identity {β} (c : Int) (html : String) (t : Target) (r : Req β)
    (client p rp : Bytes) (hparse : setPath client = some (p, rp)) (hurl : r.url.path = p ∧ r.url.rawPath = rp)
    (hslash : startsWithSlash client = true) (hvalid : validEncoded client = true)
    (hstrip : t.strip = []) (hprepend : t.prepend = [])
    (via : Via) (up : String) (o : Req β) (h : serve c html (some t) r = .forward via up o) :
    o.url.escapedPath = client := by
  obtain ⟨d, w, hexp, _, _, hw⟩ := percent_encoding_preserved_partial c html t r client p rp hparse hurl hslash hvalid via up o h
  rw [hstrip, hprepend,
    expectedPath_no_options (escapedPath_parsed client p rp hparse hslash hvalid r.url hurl).2] at hexp
  obtain ⟨_, rfl⟩ := Prod.mk.inj (Option.some.inj hexp)
  exact hw hslash

/-- negation witness for the first excluded class: `GET /a"b%2Fc`, no options — the upstream gets `/a%22b/c` -/
theorem percent_encoding_lost_invalid_byte :
    let client := ofStr "/a\"b%2Fc"
    let r : Req Unit := { method := "GET", url := { path := ofStr "/a\"b/c", rawPath := client }, host := "h", headers := [], body := () }
    let out := director (targetURL { host := "up" } r.url) r.url
    setPath client = some (r.url.path, r.url.rawPath) ∧ validEncoded client = false ∧
    serve 404 "" (some { host := "up" }) r = .forward .http "up" { r with url := out } ∧
      out.escapedPath = ofStr "/a%22b/c" ∧ out.escapedPath ≠ client := by
  simp only [ofStr, toList_lit rfl]
  decide +kernel

/-- witness for the second excluded class: `GET /s%2Fa` with `strip=/s` — the expected wire form `%2Fa` is not
absolute; the upstream gets `/a` -/
theorem percent_encoding_encoded_slash_corner :
    let client := ofStr "/s%2Fa"
    let r : Req Unit := { method := "GET", url := { path := ofStr "/s/a", rawPath := client }, host := "h", headers := [], body := () }
    let t : Target := { strip := ofStr "/s", host := "up" }
    let out := director (targetURL t r.url) r.url
    setPath client = some (r.url.path, r.url.rawPath) ∧
    expectedPath (ofStr "/s") [] client = some (ofStr "/a", ofStr "%2Fa") ∧
    serve 404 "" (some t) r = .forward .http "up" { r with url := out } ∧ out.escapedPath = ofStr "/a" := by
  simp only [ofStr, toList_lit rfl]
  decide +kernel

/-- The cut that goes with a strip option, for EVERY escaped path `s` (valid or not: a `%` at the
end, `%zz`, raw bytes) and every count `n`: the prefix cut off stands for exactly `n` decoded bytes — all of them when
the path has fewer — in the specification's way of counting (`C07Spec.decodedCount`; `xescapedLen_count` in
`Props/C07Xlate.lean` states the same of the Go function as translated). For validly encoded paths `dropEscaped_spec`
says more: the prefix *decodes* to the first `n` bytes. -/
theorem strip_cut_counts (n : Nat) (s : Bytes) :
    ∃ a, s = a ++ dropEscaped n s ∧ decodedCount a = min n (decodedCount s) := dropEscaped_count n s

/-- `/%73trip/a%2Fb` cut after the six bytes of `/strip`; a broken escape at the end; a count beyond the end -/
example : dropEscaped 6 "/%73trip/a%2Fb".toUTF8.toList = "/a%2Fb".toUTF8.toList ∧ decodedCount "/%73trip".toUTF8.toList = 6 ∧
    dropEscaped 3 "/a%2".toUTF8.toList = [] ∧ decodedCount "/a%2".toUTF8.toList = 3 ∧
    dropEscaped 9 "/a".toUTF8.toList = [] ∧ decodedCount "/a".toUTF8.toList = 2 := by decide +kernel

/-- **No route.** A request for which the lookup finds nothing is answered by fabio itself with the configured
status — 404 when the configured value is outside 100..999 — and the no-route page; the result names no
upstream. Conversely a request with a target is never answered this way. -/
theorem noroute_status_page_no_upstream {β} (c : Int) (html : String) (r : Req β) :
    (∃ s, serve c html none r = .noRoute s html ∧
      (100 ≤ c ∧ c ≤ 999 → s = c) ∧ (¬(100 ≤ c ∧ c ≤ 999) → s = 404)) ∧
    (∀ t s page, serve c html (some t) r ≠ .noRoute s page) := by
  refine ⟨⟨noRouteStatus c, rfl, fun h => ?_, fun h => ?_⟩, fun t s page hcontra => ?_⟩
  · rw [noRouteStatus_eq, if_pos h]
  · rw [noRouteStatus_eq, if_neg h]
  · obtain ⟨via, o, hs, _⟩ := serve_forward c html t r
    rw [hs] at hcontra; cases hcontra

/-- **Status after informational responses.** Whatever informational (1xx) responses the handler announces before
the final status — `httputil.ReverseProxy` passes the upstream's 103 Early Hints, 102 … through the same
`WriteHeader` —, the wrapped writer receives exactly that sequence of calls, the recorded code is the final one, and
(with net/http's reading of such a sequence) the client sees the informational responses as interim responses and
the upstream's final status as the status. -/
theorem final_status_after_informational (pre : List Int) (final : Int)
    (hpre : ∀ c ∈ pre, informational c = true) (hfinal : informational final = false) :
    (RW.run (pre ++ [final])).sentHeaders = pre ++ [final] ∧ (RW.run (pre ++ [final])).code = final ∧
    clientView (RW.run (pre ++ [final])).sentHeaders = (pre, final) := by
  refine ⟨run_sent _, ?_, ?_⟩
  · rw [run_append]; rfl
  · rw [run_sent]; exact clientView_informational pre final hpre hfinal

/-- the body bytes go through the wrapper untouched in number and are counted -/
theorem write_forwards (rw : RW) (n : Nat) : (rw.write n).sentBytes = rw.sentBytes + n ∧ (rw.write n).size = rw.size + n ∧
    (rw.write n).sentHeaders = rw.sentHeaders := ⟨rfl, rfl, rfl⟩

/-- D11 as repaired: `GET /strip/a%2Fb?x=1`, `strip=/strip`, target query `t=1`, `host=dst` -/
example :
    let client := ofStr "/strip/a%2Fb"
    let r : Req Unit := { method := "POST", url := { path := ofStr "/strip/a/b", rawPath := client, rawQuery := ofStr "x=1" },
                          host := "example.com", headers := [("X-A", "1")], body := () }
    let t : Target := { strip := ofStr "/strip", hostOpt := "dst", host := "up:80", rawQuery := ofStr "t=1" }
    let out := director (targetURL t r.url) r.url
    setPath client = some (r.url.path, r.url.rawPath) ∧ validEncoded client = true ∧
    serve 404 "" (some t) r = .forward .http "up:80" { r with url := out, host := "up:80" } ∧
      out.requestURI = ofStr "/a%2Fb?t=1&x=1" := by
  simp only [ofStr, toList_lit rfl]
  decide +kernel

/-- prepend without a leading slash, strip leaving nothing, websocket path -/
example :
    let client := ofStr "/s"
    let r : Req Unit := { method := "GET", url := { path := client }, host := "h", headers := [("Upgrade", "websocket")], body := () }
    let t : Target := { strip := ofStr "/s", prepend := ofStr "p q", host := "up" }
    setPath client = some (r.url.path, r.url.rawPath) ∧
    serve 404 "" (some t) r = .forward .ws "up" { r with url := targetURL t r.url } ∧
      (targetURL t r.url).requestURI = ofStr "/p%20q/" := by
  simp only [ofStr, toList_lit rfl]
  decide +kernel

/-- the strip prefix itself percent-encoded by the client -/
example : expectedPath (ofStr "/strip") (ofStr "/p") (ofStr "/%73trip/a%2Fb") = some (ofStr "/p/a/b", ofStr "/p/a%2Fb") := by
  simp only [ofStr, toList_lit rfl]
  decide +kernel

example : serve 999 "<html>" none ({ method := "GET", url := {}, host := "h", headers := [], body := () } : Req Unit) = .noRoute 999 "<html>" := rfl
example : serve 1000 "<html>" none ({ method := "GET", url := {}, host := "h", headers := [], body := () } : Req Unit) = .noRoute 404 "<html>" := rfl
example : serve 99 "" none ({ method := "GET", url := {}, host := "h", headers := [], body := () } : Req Unit) = .noRoute 404 "" := rfl

example : (RW.run [103, 102, 103, 404]).code = 404 ∧ clientView (RW.run [103, 102, 103, 404]).sentHeaders = ([103, 102, 103], 404) := by
  decide +kernel

end Fabio.Props.C07
