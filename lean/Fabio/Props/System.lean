import Fabio.Props.ServeHTTP
import Fabio.Props.C01Compose
import Fabio.Props.C03Compose
import Fabio.Lemmas.Lit
/-!
System-level composition: the registry pipeline (C01 ∘ C14 ∘ C05: health rule, join, `routecmd.build`,
`route.Parse`, `route.NewTable`), the update loop (`watchBackend`, C01/C02) and the request path
(`HTTPProxy.ServeHTTP`, the unified model of C03/C12/C13/C07/C08) as ONE statement:

  *a request is forwarded only to a destination that a healthy, registered instance advertises.*

Hypotheses are those of the component theorems: `WellFormed` registry (C01Compose), `PickOK` picker (C03; proved for
both real pickers in C02Compose.pickFn_ok).
-/
namespace Fabio.Props.System
open Fabio Fabio.Model Fabio.Model.ServeHTTP
open Fabio.Model.Route (Env RouteDef Table Target Route findRoute)
open Fabio.Model.C05Spec (abs key newTarget targetsAt Inv)
open Fabio.Model.C01 Fabio.Model.C01Compose Fabio.Props.C01Compose
open Fabio.Model.C14 (Intent intents wantDef)
open Fabio.Model.Parse (loadTable ParseFloat parse)
open Fabio.Lemmas.C14 (core)

theorem selected_target_in_abs {t : Table} (hi : Inv t) {k : List Char} {ro : Route} {tg : Target}
    (hro : ro ∈ t.get k) (htg : tg ∈ ro.targets) : tg ∈ abs t k ro.path := by
  rw [Lemmas.Route.abs_of_mem_get hi.wf hro]
  exact htg

theorem select_in_abs {env : Env} {pf : ParseFloat} {text : List Char} {t : Table}
    (hload : loadTable env pf text = .ok t) (pcfg : ServeHTTP.Cfg) (hpick : Props.C03.PickOK pcfg.lookup.pick)
    {r : Request} {h : List Char} {ro : Route} {tg : Target} (hsel : select pcfg t r = some (h, ro, tg)) :
    tg ∈ abs t (lowerL h) ro.path :=
  have ⟨_, hro, _, htg⟩ := Props.C03.lookup_sound { pcfg.lookup with skip := skipFor pcfg r } t (req03 r) hpick hsel
  selected_target_in_abs (Props.C03Compose.inv_of_loadTable hload) hro htg

theorem forward_selects {env : Env} {pf : ParseFloat} {text : List Char} {t : Table}
    (hload : loadTable env pf text = .ok t) (pcfg : ServeHTTP.Cfg) (hpick : Props.C03.PickOK pcfg.lookup.pick)
    (r : Request) {f : Forward} (hf : serveHTTP pcfg t r = .forward f) :
    ∃ h ro tg, select pcfg t r = some (h, ro, tg) ∧ f.upstream = targetHost pcfg tg ∧
      tg ∈ abs t (lowerL h) ro.path := by
  obtain ⟨h, ro, tg, hsel, _, _, _, up, _, rfl⟩ := Props.ServeHTTP.forward_inv hf
  exact ⟨h, ro, tg, hsel, rfl, select_in_abs hload pcfg hpick hsel⟩

/-- The table the update loop serves after a history whose last service text `S` loads to `tS` and whose last manual
text parses to `dsM` is a loaded table whose abstraction `S'` is `dsM` applied to that of `tS` (`operator_on_top_loads`,
`quiescent_table`); a request forwarded on it selected a target of `S'`. -/
theorem forward_on_served_table (env : Env) (pf : ParseFloat) (es : List Event) (S M : List Char) (dsM : List RouteDef)
    (hne : es ≠ []) (hsvc : (lastSvc es).getD [] = S) (hman : (lastMan es).getD [] = M) (hM : parse pf M = .ok dsM)
    {tS : Table} (hS : loadTable env pf S = .ok tS)
    {S' : Fabio.Model.C05Spec.Spec} (hfold : dsM.foldlM (Fabio.Model.C05Spec.specApply env) (abs tS) = .ok S')
    (pcfg : ServeHTTP.Cfg) (hpick : Props.C03.PickOK pcfg.lookup.pick) (r : Request) {f : Forward}
    (hf : serveHTTP pcfg (run (loadOpt env pf) (init ([] : Table)) es).active r = .forward f) :
    ∃ h ro tg, select pcfg (run (loadOpt env pf) (init ([] : Table)) es).active r = some (h, ro, tg) ∧
      f.upstream = targetHost pcfg tg ∧ tg ∈ S' (lowerL h) ro.path := by
  obtain ⟨ta, hta, habs⟩ := operator_on_top_loads env pf S M tS hS dsM S' hM hfold
  rw [Fabio.Props.C01.quiescent_table (loadOpt env pf) (init ([] : Table)) es S M ta
    (Fabio.Props.C01.init_inv _ _) hne hsvc hman ((loadOpt_some env pf _ ta).2 hta)] at hf ⊢
  rw [← habs]
  exact forward_selects hta pcfg hpick r hf

section
variable (env : Env) (pf : ParseFloat) (ccfg : Fabio.Model.C14.Cfg) (st : List (List Char)) (strict : Bool)
variable (checks : List Check) (catalog : List Char → List Instance)

theorem stored_target_eligible (wf : WellFormed ccfg checks catalog) {t : Table}
    (hload : loadTable env pf (svcText env pf ccfg st strict checks catalog) = .ok t)
    {k : List Char} {ro : Route} {tg : Target} (hro : ro ∈ t.get k) (htg : tg ∈ ro.targets) :
    Advertised env pf ccfg st strict checks catalog k ro.path tg :=
  table_sound env pf ccfg st strict checks catalog wf t hload k ro.path tg
    (selected_target_in_abs (Props.C03Compose.inv_of_loadTable hload) hro htg)

/-- On the service table of registry state R (`checks`, `catalog`), for
every proxy configuration and every request: if `ServeHTTP` forwards, the selected target is the `route add` of a
routing tag of an instance that is eligible (healthy) in R. -/
theorem forwarded_only_to_eligible_instance (wf : WellFormed ccfg checks catalog) (t : Table)
    (hload : loadTable env pf (svcText env pf ccfg st strict checks catalog) = .ok t)
    (pcfg : ServeHTTP.Cfg) (hpick : Props.C03.PickOK pcfg.lookup.pick) (r : Request) {f : Forward}
    (hf : serveHTTP pcfg t r = .forward f) :
    ∃ h ro tg, select pcfg t r = some (h, ro, tg) ∧ f.upstream = targetHost pcfg tg ∧
      ∃ i, Eligible st strict checks catalog i ∧
        ∃ it ∈ intents ccfg (regOf i), ∃ d u, wantDef pf it = some d ∧ env.normURL d.dst = some u ∧
          key d.src = (lowerL h, ro.path) ∧ core tg = core (newTarget d u) := by
  obtain ⟨h, ro, tg, hsel, hup, hin⟩ := forward_selects hload pcfg hpick r hf
  exact ⟨h, ro, tg, hsel, hup, table_sound env pf ccfg st strict checks catalog wf t hload _ _ tg hin⟩

/-- If no instance that is eligible in R advertises destination URL `u`
(through any of its routing tags), then on the service table of R no request whatsoever is forwarded to a target
with URL `u` — in particular not to an instance that has become unhealthy, is in maintenance, sits on a dead
node, or was never registered. -/
theorem unhealthy_instance_never_contacted (wf : WellFormed ccfg checks catalog) (t : Table)
    (hload : loadTable env pf (svcText env pf ccfg st strict checks catalog) = .ok t)
    (pcfg : ServeHTTP.Cfg) (hpick : Props.C03.PickOK pcfg.lookup.pick) (u : List Char)
    (hnone : ∀ i, Eligible st strict checks catalog i → ∀ it ∈ intents ccfg (regOf i), ∀ d,
      wantDef pf it = some d → env.normURL d.dst ≠ some u)
    (r : Request) {f : Forward} (hf : serveHTTP pcfg t r = .forward f) :
    ∀ h ro tg, select pcfg t r = some (h, ro, tg) → tg.url ≠ u := fun h ro tg hsel =>
  Advertised.url (table_sound env pf ccfg st strict checks catalog wf t hload (lowerL h) ro.path tg
    (select_in_abs hload pcfg hpick hsel)) hnone

/-- The same on the table that the update loop serves after ANY finite history of
service and manual events (texts that failed to load included), provided the last service text is that of registry
state R and the last manual text holds no commands: every forwarded request goes to the `route add` of a routing
tag of an instance eligible in R. -/
theorem forwarded_after_history_core (wf : WellFormed ccfg checks catalog)
    (es : List Event) (M : List Char) (hne : es ≠ [])
    (hsvc : (lastSvc es).getD [] = svcText env pf ccfg st strict checks catalog)
    (hman : (lastMan es).getD [] = M) (hM : parse pf M = .ok [])
    (pcfg : ServeHTTP.Cfg) (hpick : Props.C03.PickOK pcfg.lookup.pick) (r : Request) {f : Forward}
    (hf : serveHTTP pcfg (run (loadOpt env pf) (init ([] : Table)) es).active r = .forward f) :
    ∃ h ro tg, select pcfg (run (loadOpt env pf) (init ([] : Table)) es).active r = some (h, ro, tg) ∧
      f.upstream = targetHost pcfg tg ∧ Advertised env pf ccfg st strict checks catalog (lowerL h) ro.path tg := by
  obtain ⟨tS, hS⟩ := svcText_loads env pf ccfg st strict checks catalog wf.byName
  obtain ⟨h, ro, tg, hsel, hup, hin⟩ :=
    forward_on_served_table env pf es _ M [] hne hsvc hman hM hS rfl pcfg hpick r hf
  exact ⟨h, ro, tg, hsel, hup, table_sound env pf ccfg st strict checks catalog wf tS hS (lowerL h) ro.path tg hin⟩

/-- `forwarded_after_history_core` with `SameTarget` (service, URL, fixed weight and tags agree; it is silent on the options) -/
theorem forwarded_after_history (wf : WellFormed ccfg checks catalog)
    (es : List Event) (M : List Char) (hne : es ≠ [])
    (hsvc : (lastSvc es).getD [] = svcText env pf ccfg st strict checks catalog)
    (hman : (lastMan es).getD [] = M) (hM : parse pf M = .ok [])
    (pcfg : ServeHTTP.Cfg) (hpick : Props.C03.PickOK pcfg.lookup.pick) (r : Request) {f : Forward}
    (hf : serveHTTP pcfg (run (loadOpt env pf) (init ([] : Table)) es).active r = .forward f) :
    ∃ h ro tg, select pcfg (run (loadOpt env pf) (init ([] : Table)) es).active r = some (h, ro, tg) ∧
      f.upstream = targetHost pcfg tg ∧
      ∃ i, Eligible st strict checks catalog i ∧
        ∃ it ∈ intents ccfg (regOf i), ∃ d u, wantDef pf it = some d ∧ env.normURL d.dst = some u ∧
          key d.src = (lowerL h, ro.path) ∧ Fabio.Props.C01Compose.SameTarget tg (newTarget d u) :=
  have ⟨h, ro, tg, hsel, hup, i, he, it, hit, d, u, hw, hu, hk, hc⟩ :=
    forwarded_after_history_core env pf ccfg st strict checks catalog wf es M hne hsvc hman hM pcfg hpick r hf
  ⟨h, ro, tg, hsel, hup, i, he, it, hit, d, u, hw, hu, hk, sameTarget_of_core hc⟩

end

/-! ### non-vacuity: the two-node registry of `C01Compose` behind the demo proxy configuration of `ServeHTTP`

`web` runs on n1 (passing) and n2 (critical), both tagged `urlprefix-foo.com/`. The service table holds n1's route
only; a request for `foo.com/x` is forwarded to `10.0.0.1:8000`, and the hypotheses of
`forwarded_only_to_eligible_instance` hold (`wellFormedW`, `tableW_loads`, `pickW`). -/
namespace Demo
open Fabio.Props.C14 (envW pfW cfgW)
open Fabio.Props.C01Compose (checksW catalogW stW wellFormedW svcTextW)

def pcfgW : ServeHTTP.Cfg :=
  { Props.ServeHTTP.Demo.cfg with
    parseURL := fun _ => { scheme := C13.lit "http", host := C13.lit "10.0.0.1:8000", path := C13.lit "/" } }

theorem pickW : Props.C03.PickOK pcfgW.lookup.pick := by
  intro r hr
  show (match r.targets with | x :: _ => x | [] => _) ∈ r.targets
  cases h : r.targets with
  | nil => exact absurd h hr
  | cons x xs => simp

def tableW : Table :=
  match loadTable envW pfW (svcText envW pfW cfgW stW false checksW catalogW) with
  | .ok t => t
  | .error _ => []

open scoped Fabio.Lemmas.Route in
/-- the service table of the example registry, evaluated once: n1's route and nothing else -/
theorem loadW : loadTable envW pfW (svcText envW pfW cfgW stW false checksW catalogW) =
    .ok [("foo.com".toList,
          [{ host := "foo.com".toList, path := "/".toList,
             targets := [{ service := "web".toList, tags := ["v1".toList], opts := [],
                           url := "http://10.0.0.1:8000/".toList, fixedWeight := 0, weight := 1 }] }])] := by
  rw [svcTextW]
  simp only [toList_lit rfl]
  decide +kernel

theorem tableW_of_load {t : Table}
    (h : loadTable envW pfW (svcText envW pfW cfgW stW false checksW catalogW) = .ok t) : tableW = t := by
  unfold tableW
  -- the kernel unfolds a `match` before `tableW`, so checking the step above evaluates the closed load, once; on a
  -- variable from here on, or every later comparison would evaluate it again
  generalize loadTable envW pfW (svcText envW pfW cfgW stW false checksW catalogW) = x at h ⊢
  subst h
  rfl

theorem tableW_loads : loadTable envW pfW (svcText envW pfW cfgW stW false checksW catalogW) = .ok tableW := by
  rw [tableW_of_load loadW]
  exact loadW

def reqW : Request := Props.ServeHTTP.Demo.req "FOO.com" "/x"

/-- the request is forwarded, to the healthy instance -/
theorem forwardsW : (match serveHTTP pcfgW tableW reqW with
    | .forward f => decide (f.upstream = "10.0.0.1:8000".toList) | _ => false) = true := by
  rw [tableW_of_load loadW]
  -- not `unfold`: after a definitional change under the `match` the kernel compares the two goals by evaluating both
  simp only [pcfgW, reqW, Props.ServeHTTP.Demo.cfg, Props.ServeHTTP.Demo.req, Model.C13.lit, toList_lit rfl]
  decide +kernel

/-- the theorem applied: the witness it returns is the instance on n1 -/
example : ∀ f, serveHTTP pcfgW tableW reqW = .forward f →
    ∃ h ro tg, select pcfgW tableW reqW = some (h, ro, tg) ∧ f.upstream = targetHost pcfgW tg ∧
      ∃ i, Eligible stW false checksW catalogW i ∧
        ∃ it ∈ intents cfgW (regOf i), ∃ d u, wantDef pfW it = some d ∧ envW.normURL d.dst = some u ∧
          key d.src = (lowerL h, ro.path) ∧ core tg = core (newTarget d u) :=
  fun _ hf => forwarded_only_to_eligible_instance envW pfW cfgW stW false checksW catalogW wellFormedW tableW
    tableW_loads pcfgW pickW reqW hf

/-- the history version on a history with a stale service text and a manual text that does not parse -/
example : (match serveHTTP pcfgW (run (loadOpt envW pfW) (init ([] : Table))
      [.svc "route add old /old http://1.1.1.1:1/".toList, .man "rubbish".toList,
       .svc (svcText envW pfW cfgW stW false checksW catalogW), .man []]).active reqW with
    | .forward f => decide (f.upstream = "10.0.0.1:8000".toList) | _ => false) = true := by
  rw [svcTextW]
  simp only [pcfgW, reqW, Props.ServeHTTP.Demo.cfg, Props.ServeHTTP.Demo.req, Model.C13.lit, toList_lit rfl]
  decide +kernel

end Demo

end Fabio.Props.System
