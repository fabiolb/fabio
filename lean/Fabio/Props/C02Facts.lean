import Fabio.Generated.C02
/-!
C02 — OBLIGATIONS over the facts regenerated from /repo on every run (`tools/factgen/c02.go`).

Here is what the proof chain needs and NO stream can establish by running the code: the granularity and the access
sites of the atomic cell (the concurrency theorems quantify over schedules of exactly these micro-steps), the writers
of the cell anywhere in the repository, that the decode target of a poll is not reachable by the next poll, that
nothing recovers on the update path, and the wiring of the lookup closures in `main.go` that no harness executes.
The change detectors over sequential code that the streams compare with the model are in `Props/C02Pins.lean`.

Event lists are built to pin meaning rather than spelling (header of `c02.go`): normalised AST, helpers
followed, variables named by role (`p0` first parameter, `var:atomic.Value` the package-level cell).
-/
namespace Fabio.Props.C02Facts
open Fabio.Generated.C02

/-- `Cell.setTable (some t)` is ONE micro-step and `Cell.setTable none` is none: the only effect of `SetTable` on
shared state (`setTableSharedEffects`: its calls on the cell, of `sync/atomic`, `clear`, `delete`, and its stores to
package-level variables) is one `Store` of its parameter on the cell — no second store (a flag published after the table:
a lookup in between would combine the new table with the old flag), no `clear`/`delete` of the replaced table
(a lookup that loaded it is still reading it) — and on a nil parameter it returns BEFORE that store. -/
theorem setTable_is_one_store_after_nil_guard :
    setTableSharedEffects = ["call:var:atomic.Value.Store(p0)"] ∧
    setTableBeforeStore = ["if(=nil:p0){", "return", "}"] := ⟨rfl, rfl⟩

/-- `Cell.load` is ONE micro-step: the only call `GetTable` makes is one `Load` on the cell, then it returns. -/
theorem getTable_is_one_load :
    getTableEvents = ["call:var:atomic.Value.Load()", "return val"] := rfl

/-- There is one cell; it is written by `init` (the empty table: `Cell.init`) and `SetTable` only, read by
`GetTable` only, and touched through `Load`/`Store` only (no Swap/CompareAndSwap): the thread programs of the
model are the only ways to reach it. -/
theorem cell_access_sites :
    cellVariables = 1 ∧ tableStoreSites = ["SetTable", "init"] ∧ tableLoadSites = ["GetTable"] ∧
    tableOtherUses = [] := ⟨rfl, rfl, rfl, rfl⟩

/-- **Single writer.** `route.SetTable` is called at two places of the whole repository (test and verif files
excluded, import aliases resolved): package main (the `watchBackend` loop) and `registry/custom` (the poll loop),
both on the goroutine of their loop — not from a `go` statement or a function literal, so installations of one
loop never overlap or overtake each other; `watchBackend` contains one call, and that one is in the branch of the
text backends (its branch for the custom backend only drains status strings): whichever backend is configured,
ONE goroutine installs tables. This is why `serving_table_is_last_good_config` may take the system to be request goroutines
plus ONE writer thread (`Props.C02Compose.system`; the invariant of such a system is `Lemmas.C02.OneWriter`). -/
theorem single_writer :
    setTableCallers = [".:sync", "registry/custom:sync"] ∧ watchBackendSetTableCalls = 1 ∧
    watchBackendTextBranchSetTableCalls = 1 := ⟨rfl, rfl, rfl⟩

/-- `Poll.defs ds` carries the definitions of THIS document and nothing the next poll can reach: the variable
`Decode` fills is declared inside the poll loop (repair of D32). Otherwise the decoder of the next poll writes
into the option maps and tag arrays of the targets of the ACTIVE table while lookups read them — the published
table would not be immutable. -/
theorem customRoutes_decodes_into_fresh_variable :
    customRoutesDecodeTargetFound = true ∧ customRoutesVarInLoop = true := ⟨rfl, rfl⟩

/-- The only `recover()` in `route/`, `main.go`, `registry/custom` sits in a function whose only method call is
the third-party `Match` (repair of D33: gobwas/glob compiles patterns such as `foo{` whose `Match` panics), and
every `Match` call of package `route` is inside it. Nothing else recovers: the model's "a panic on the update
path ends the process" (`customRun`, `stepO`, `Outcome.panic`) is what happens, and no theorem relies on a
recover. -/
theorem no_recover_is_relied_upon :
    recoverSites = ["route:recover-around:Match"] ∧ globMatchCalls = 1 ∧ globMatchCallsGuarded = 1 := ⟨rfl, rfl, rfl⟩

/-- the reader thread of the model is `[load; lookup on the snapshot]`: each of the three lookup closures of
package main (HTTP `Lookup`, `lookupHostFn`, `lookupHostMatcher`) calls `route.GetTable()` exactly once per
lookup. -/
theorem lookups_load_the_table_once :
    lookupClosures = ["lookups=1:getTable=1", "lookups=1:getTable=1", "lookups=1:getTable=1"] := rfl

/-- **Every lookup site of the repository loads the cell once** (`lookups_load_the_table_once` looks at the
function literals of `main.go` only). Over all non-test packages: the innermost functions that call `route.GetTable`
AND look a request up (`Lookup`/`LookupHost` on a table) are the three proxy closures of package main and the gRPC
director of package proxy, each with ONE `GetTable` call per lookup — a second load in one of them, or a `Lookup`
inside package route that re-reads the cell half-way (`routeGetTableCallers`), would answer one request from two
tables; a site that stopped loading (a cached table) would never see the next valid configuration. Functions that
load without looking up (admin API, dynamic TCP listeners, gRPC pool cleanup: `snapshotReaders`) are not constrained. -/
theorem every_lookup_site_loads_once :
    lookupSites = [".:getTable=1:lookups=1", ".:getTable=1:lookups=1", ".:getTable=1:lookups=1",
                   "proxy:getTable=1:lookups=1"] ∧
    routeGetTableCallers = [] := ⟨rfl, rfl⟩

end Fabio.Props.C02Facts
