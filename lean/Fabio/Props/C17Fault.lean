import Fabio.Lemmas.C17Fault
import Fabio.Props.C17Proxy
/-!
C17 — one response among others (`Fabio.Model.C17Fault`): clients that go away in the middle of a body (at any byte,
the wrapped handler stopping at the failed `Write` or not), other handlers changing the shared pool while a response is
being written, and the program order on the pool read off the writer machine instead of assumed. The last theorem,
`the_statement_through_the_proxy`, puts the sentences of the property as `Props/C17.lean` and `Props/C17Proxy.lean`
prove them into one statement; it uses nothing of the fault model.
-/
namespace Fabio.Props.C17Fault
open Fabio.Model.C17 Fabio.Lemmas.C17 Fabio.Props.C17 Fabio.Props.C17Proxy

variable {Z : Type}

/-- A client whose connection takes `cap` body bytes and then fails every `Write` —
whether the wrapped handler stops at the first error or ignores it — has received: the same status line, the same
header map, and exactly the first `cap` bytes of what a patient client gets. The decision is the same, and the
writer that was taken from the pool has been put back (the pool has the same size as after the undisturbed
response): a broken connection leaks no writer and returns none twice. -/
theorem client_gone_gets_prefix (C : Cfg Z) (cap : Nat) (stop : Bool) (hdr : Hdr) (pool : List Z) (ops : List Op) :
    (engagedF C cap stop hdr pool ops).down.status = (engaged C hdr pool ops).down.status ∧
    (engagedF C cap stop hdr pool ops).down.sent = (engaged C hdr pool ops).down.sent ∧
    (engagedF C cap stop hdr pool ops).down.body = (engaged C hdr pool ops).down.body.take cap ∧
    (engagedF C cap stop hdr pool ops).dec.isGzip = (engaged C hdr pool ops).dec.isGzip ∧
    (engagedF C cap stop hdr pool ops).pool.length = (engaged C hdr pool ops).pool.length := by
  have h := runF_close C cap stop ops { dec := .undecided, hdr := hdr, down := {}, pool := pool }
  have h0 : cutS cap ({ dec := .undecided, hdr := hdr, down := {}, pool := pool } : GW Z) =
      { dec := .undecided, hdr := hdr, down := {}, pool := pool } := by
    simp [cutS, Down.cut]
  rw [h0] at h
  unfold engagedF engaged
  obtain ⟨h1, h2, h3⟩ := h
  rw [h1]
  exact ⟨rfl, rfl, rfl, h2, h3⟩

theorem patient_client (C : Cfg Z) (cap : Nat) (stop : Bool) (hdr : Hdr) (pool : List Z) (ops : List Op)
    (hcap : (engaged C hdr pool ops).down.body.length ≤ cap) :
    (engagedF C cap stop hdr pool ops).down = (engaged C hdr pool ops).down := by
  obtain ⟨h1, h2, h3, _, _⟩ := client_gone_gets_prefix C cap stop hdr pool ops
  rw [List.take_of_length_le hcap] at h3
  cases hf : (engagedF C cap stop hdr pool ops).down
  cases hu : (engaged C hdr pool ops).down
  simp_all

/-- One handler value serves a sequence of exchanges, any of them to a client that
goes away at any point (with either reaction of the wrapped handler): every response to a client that stayed
looks — compressed or not, status, header map, content — exactly as if it were the only response ever served. -/
theorem after_departed_independent (C : Cfg Z) (hrt : C.comp.RoundTrip) (pool : List Z) (xs : List ExchF) :
    (serveSeqF C pool xs).map (Option.map (Served.view C)) =
      xs.map (fun x => match x.gone with
        | none => some ((serve C x.e.head x.e.dfl x.e.req x.e.h0 [] x.e.ops).view C)
        | some _ => none) := by
  induction xs generalizing pool with
  | nil => rfl
  | cons x r ih =>
    simp only [serveSeqF, List.map_cons]
    rw [ih]
    cases hg : x.gone with
    | none => simp only [Option.map_some]; rw [pool_invisible C hrt x.e.head x.e.dfl x.e.req x.e.h0 pool []]
    | some g => rfl

theorem serve_view_engaged (C : Cfg Z) (head dfl : Bool) (req h0 : Hdr) (pool : List Z) (ops : List Op)
    (hacc : (acceptsGzip req && !head) = true) :
    (serve C head dfl req h0 pool ops).view C = (engaged C (hadd h0 hVary hAcceptEncoding) pool ops).view C := by
  rw [serve_engaged C dfl h0 pool ops hacc]
  rfl

/-- While a response is being written, other handlers work on the shared pool: the
script is cut into segments in any way, and between two segments the pool is changed by an arbitrary function
(writers taken out, writers put in in whatever state, writers dropped by the runtime). The client sees exactly
the response of the undisturbed script served alone — from whatever pool. (That the others never touch the
writer this response holds is `handlers_never_share_a_writer`.) -/
theorem in_flight_independent (C : Cfg Z) (hrt : C.comp.RoundTrip) (hdr : Hdr) (pool q : List Z)
    (segs : List (List Op × (List Z → List Z))) :
    (engagedP C hdr pool segs).view C = (engaged C hdr q (segOps segs)).view C := by
  obtain ⟨p₀, p₁, hp⟩ := runP_eq_run C segs { dec := .undecided, hdr := hdr, down := {}, pool := pool }
  unfold engagedP
  rw [hp, close_setPool_view]
  exact engaged_view_pool C hrt hdr p₀ q (segOps segs)

/-- The pool events of one response, in program order, read off the writer machine: `Get` then
`Put` when the response is compressed, nothing otherwise — for every script (any number of `WriteHeader`, `Write`,
`Flush` and header calls in any order). -/
theorem served_trace (C : Cfg Z) (hdr : Hdr) (pool : List Z) (ops : List Op) :
    servedTrace C hdr pool ops = if (engaged C hdr pool ops).dec.isGzip then [.get, .put] else [] := by
  unfold servedTrace engaged
  rw [served_trace_run, close_isGzip]

/-- In a schedule in which every handler's pool events are `[]`, `[Get]` or
`[Get, Put]` the guards of the pool model never fire: the checked run (where a `Get` while holding, or a `Put`
while not holding, is an error) succeeds and is the run of `writer_exclusively_owned`. -/
theorem program_order_never_violated (evs : List PEv) (hpo : ProgramOrder evs) :
    prunChk {} evs = some (prun {} evs) := by
  apply chk_of_compatible
  intro t
  -- at the start nobody holds a writer
  show eventsOf t evs <+: [.get, .put]
  rcases hpo t with h | h | h <;> rw [h] <;> simp

/-- Any number of handlers, each serving a response (its script, its header
map, whatever it believes the pool to be — `resp t`), interleaved in any way, with the runtime dropping pooled
writers at any time: if every handler's events in the schedule are a prefix of the trace of its response (it may
still be running), then no program-order guard ever fires, no writer is held by two handlers, none is in the pool
while held, and the pool holds no writer twice. -/
theorem handlers_never_share_a_writer (C : Cfg Z) (resp : Nat → Hdr × List Z × List Op) (evs : List PEv)
    (hsched : ∀ t, eventsOf t evs <+: servedTrace C (resp t).1 (resp t).2.1 (resp t).2.2) :
    prunChk {} evs = some (prun {} evs) ∧
    (∀ t₁ t₂ z, (t₁, z) ∈ (prun {} evs).held → (t₂, z) ∈ (prun {} evs).held → t₁ = t₂) ∧
    (∀ t z, (t, z) ∈ (prun {} evs).held → z ∉ (prun {} evs).pool) ∧ (prun {} evs).pool.Nodup := by
  refine ⟨program_order_never_violated evs ?_, writer_exclusively_owned evs⟩
  intro t
  have h := hsched t
  rw [served_trace] at h
  split at h
  · exact prefix_get_put _ h
  · left; exact List.prefix_nil.mp h

/-- However often `Close` is called — by the wrapped handler, by the deferred call — the effect
is that of the first call: the compressor's last bytes go out once, the writer goes back to the pool once. -/
theorem close_idempotent (C : Cfg Z) (x : GWC Z) (n : Nat) :
    GWC.closeN C (n + 1) x = GWC.close C x := by
  induction n generalizing x with
  | zero => rfl
  | succ k ih =>
    show GWC.closeN C (k + 1) (GWC.close C x) = GWC.close C x
    rw [ih]
    obtain ⟨⟨dec, hdr, down, pool⟩, rel⟩ := x
    cases rel with
    | true => rfl
    | false => cases dec <;> rfl

def scriptF1 : List Op := [.set "content-type" "text/html", .w [1, 2, 3], .w [4, 5], .w [6]]

structure ToyVectors : Prop where
  patient :
    (engaged toyCfg [] [] scriptF1).dec.isGzip = true ∧ (engaged toyCfg [] [] scriptF1).down.body = [1, 2, 3, 4, 5, 6]
  departed_after_four :
    (engagedF toyCfg 4 true [] [] scriptF1).down.body = [1, 2, 3, 4] ∧
    (engagedF toyCfg 4 false [] [] scriptF1).down.body = [1, 2, 3, 4] ∧
    (engagedF toyCfg 4 true [] [] scriptF1).down.status = some 200 ∧
    (engagedF toyCfg 4 true [] [] scriptF1).pool.length = 1 ∧ (engagedF toyCfg 0 false [] [9] scriptF1).pool.length = 1
  stopped_wrote_less :
    (match (engagedF toyCfg 4 true [] [] scriptF1).dec with | .gzip z => z | _ => 0) = 2 ∧
    (match (engagedF toyCfg 4 false [] [] scriptF1).dec with | .gzip z => z | _ => 0) = 3
  departed_then_patient :
    (serveSeqF toyCfg [] [⟨⟨false, true, reqGzip, [], scriptF1⟩, some (2, true)⟩, ⟨⟨false, true, reqGzip, [], scriptF1⟩, none⟩]).map
      (Option.map (fun s => s.obs.body)) = [none, some [1, 2, 3, 4, 5, 6]]
  pool_changed_in_flight :
    (engagedP toyCfg [] [5] [([.set "content-type" "text/html"], fun _ => []), ([.w [1]], fun p => 3 :: 4 :: p), ([.w [2]], id)]).down.body = [1, 2] ∧
    (engagedP toyCfg [] [5] [([.set "content-type" "text/html"], fun _ => []), ([.w [1]], fun p => 3 :: 4 :: p), ([.w [2]], id)]).pool.length = 3
  traces :
    servedTrace toyCfg [] [] scriptF1 = [.get, .put] ∧ servedTrace toyCfg [] [] [.set "content-type" "image/png", .w [1]] = [] ∧
    servedTrace toyCfg [] [] [.wh 103, .fl] = []
  closed_thrice :
    (GWC.closeN toyCfg 3 ⟨GW.run toyCfg { dec := .undecided, hdr := [], down := {}, pool := [] } scriptF1, false⟩).s.pool.length = 1

instance : Decidable ToyVectors :=
  decidable_of_iff (_ ∧ _ ∧ _ ∧ _ ∧ _ ∧ _ ∧ _)
    ⟨fun ⟨h1, h2, h3, h4, h5, h6, h7⟩ => ⟨h1, h2, h3, h4, h5, h6, h7⟩,
     fun h => ⟨h.1, h.2, h.3, h.4, h.5, h.6, h.7⟩⟩

/-- Evaluated together, the kernel computes what the vectors share — the same script run to its decision, the same header
names — once. -/
theorem toy_vectors : ToyVectors := by
  decide +kernel

example : (engaged toyCfg [] [] scriptF1).dec.isGzip = true ∧ (engaged toyCfg [] [] scriptF1).down.body = [1, 2, 3, 4, 5, 6] := toy_vectors.patient
example : (engagedF toyCfg 4 true [] [] scriptF1).down.body = [1, 2, 3, 4] ∧
    (engagedF toyCfg 4 false [] [] scriptF1).down.body = [1, 2, 3, 4] ∧
    (engagedF toyCfg 4 true [] [] scriptF1).down.status = some 200 ∧
    (engagedF toyCfg 4 true [] [] scriptF1).pool.length = 1 ∧ (engagedF toyCfg 0 false [] [9] scriptF1).pool.length = 1 := toy_vectors.departed_after_four
-- the handler that stops has written fewer chunks (the toy compressor counts them); the client cannot tell
example : (match (engagedF toyCfg 4 true [] [] scriptF1).dec with | .gzip z => z | _ => 0) = 2 ∧
    (match (engagedF toyCfg 4 false [] [] scriptF1).dec with | .gzip z => z | _ => 0) = 3 := toy_vectors.stopped_wrote_less
example : (serveSeqF toyCfg [] [⟨⟨false, true, reqGzip, [], scriptF1⟩, some (2, true)⟩, ⟨⟨false, true, reqGzip, [], scriptF1⟩, none⟩]).map
    (Option.map (fun s => s.obs.body)) = [none, some [1, 2, 3, 4, 5, 6]] := toy_vectors.departed_then_patient
example : (engagedP toyCfg [] [5] [([.set "content-type" "text/html"], fun _ => []), ([.w [1]], fun p => 3 :: 4 :: p), ([.w [2]], id)]).down.body = [1, 2] ∧
    (engagedP toyCfg [] [5] [([.set "content-type" "text/html"], fun _ => []), ([.w [1]], fun p => 3 :: 4 :: p), ([.w [2]], id)]).pool.length = 3 := toy_vectors.pool_changed_in_flight
example : servedTrace toyCfg [] [] scriptF1 = [.get, .put] ∧ servedTrace toyCfg [] [] [.set "content-type" "image/png", .w [1]] = [] ∧
    servedTrace toyCfg [] [] [.wh 103, .fl] = [] := toy_vectors.traces
example : ProgramOrder [.get 1 0, .get 2 0, .put 1, .get 3 0, .put 2] := by
  intro t
  by_cases h1 : t = 1
  · subst h1; decide +kernel
  · by_cases h2 : t = 2
    · subst h2; decide +kernel
    · by_cases h3 : t = 3
      · subst h3; decide +kernel
      · left
        have e1 : ¬ 1 = t := fun h => h1 h.symm
        have e2 : ¬ 2 = t := fun h => h2 h.symm
        have e3 : ¬ 3 = t := fun h => h3 h.symm
        simp [eventsOf, e1, e2, e3]
example : prunChk {} [.get 1 0, .get 2 0, .put 1, .get 3 0, .put 2] = some (prun {} [.get 1 0, .get 2 0, .put 1, .get 3 0, .put 2]) := by decide +kernel

/-- The excluded schedule: a handler that executes `Put` twice (the order `[Get, Put, Put]` is not a prefix of any
served trace). The checked run refuses it; in the raw semantics — the field is not cleared, `Put` hands in whatever
it holds — the pool then holds writer 0 twice and the next two handlers in flight both get it. -/
example : prunChk {} [.get 0 0, .put 0, .put 0] = none ∧
    (rrun {} [.get 0 0, .put 0, .put 0]).pool = [0, 0] ∧
    (rrun {} [.get 0 0, .put 0, .put 0, .get 1 0, .get 2 0]).field.lookup 1 = some 0 ∧
    (rrun {} [.get 0 0, .put 0, .put 0, .get 1 0, .get 2 0]).field.lookup 2 = some 0 := by decide +kernel

example : (GWC.closeN toyCfg 3 ⟨GW.run toyCfg { dec := .undecided, hdr := [], down := {}, pool := [] } scriptF1, false⟩).s.pool.length = 1 := toy_vectors.closed_thrice

/-- The property's sentences in one statement, for `HTTPProxy.ServeHTTP` with an
expression configured, every upstream response as the transport delivers it (any relayed 1xx responses, header lines,
chunking, flushing), every request, every pool content; `live` is the header map at the reverse proxy's
`WriteHeader`: (1) a response is compressed ONLY IF the client accepts gzip, its content type matches the configured
expression and it is not already encoded; (2) THEN it is labelled `Content-Encoding: gzip`, carries no
Content-Length, and decompresses to exactly the bytes the upstream produced; (3) IN EVERY OTHER CASE body and headers
are those of the reverse proxy on the bare writer (plus the `Vary` line); (4) the status code is the upstream's IN ALL
CASES. -/
theorem the_statement_through_the_proxy (C : Cfg Z) (hrt : C.comp.RoundTrip) (head dfl : Bool) (req h0 : Hdr)
    (pool : List Z) (u : UpResp) (hinfo : ∀ i ∈ u.info, informational i.1 = true) (hfin : informational u.code = false) :
    let r := proxyServe C true head dfl req h0 pool u
    let before := (hadd h0 hVary hAcceptEncoding).map (·.1)
    let live := liveAtStatus before u (hadd h0 hVary hAcceptEncoding)
    (r.compressed = true →
      acceptsGzip req = true ∧ C.typeOk (hget live hContentType) = true ∧ hget live hContentEncoding = "") ∧
    (r.compressed = true →
      hget r.obs.hdr hContentEncoding = encGzip ∧ hhasRaw r.obs.hdr hContentLength = false ∧
      C.comp.decode r.obs.body = some u.chunks.flatten) ∧
    (r.compressed = false → r.obs = serveBare C (flusherOffered head dfl req) h0 (relay before u)) ∧
    r.obs.status = u.code := by
  intro r before live
  have hiff := proxy_compress_iff C head dfl req h0 pool u hinfo hfin
  refine ⟨fun hc => ?_, fun hc => ?_, fun hc => ?_, ?_⟩
  · obtain ⟨h1, _, _, h4, h5⟩ := hiff.mp hc
    exact ⟨h1, h5, h4⟩
  · obtain ⟨_, h2, h3, _, h5⟩ := proxy_when_compressed C hrt head dfl req h0 pool u hinfo hfin hc
    exact ⟨h2, h3, h5⟩
  · simp only [r, proxyServe_on] at hc ⊢
    exact otherwise_identical C head dfl req h0 pool _ hc
  · simp only [r, proxyServe_on]
    exact relay_status C head dfl req h0 pool _ u hinfo hfin

example : (proxyServe toyCfg true false true reqGzip [] [] upHtml).obs.status = 200 :=
  (the_statement_through_the_proxy toyCfg toy_roundtrip false true reqGzip [] [] upHtml (by decide +kernel) (by decide +kernel)).2.2.2

end Fabio.Props.C17Fault
