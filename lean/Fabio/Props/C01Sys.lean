import Fabio.Props.C01Compose
import Fabio.Model.C01Sys
import Fabio.Lemmas.C01Sys
import Fabio.Lemmas.Lit
/-!
C01 — end-to-end statements: registry states and KV contents in, active table out.

The watchers are sequential producers (`watchTexts`, `watchKVRun`), the `select` of `watchBackend` sees some
interleaving (`Merge`), the step machine of `Model/C01.lean` consumes it. An interleaving does not change which text of
each producer is the last one (`Lemmas/C01Sys.lean`), and the last text `watchKV` published is the value of its last
answer, so the table loop's last texts are those of the final state and the final KV value (`system_last_texts`); with
that the quiescence theorems of `Props/C01.lean` / `Props/C01Compose.lean` become statements from observed states to
the active table. Next to them: the alias registration inside an iteration, the negations for three other designs (an
ordering test on the KV index, skipping the table when the registration fails, a non-blocking hand-over), and the manual
text as `listKV` assembles it.
-/
namespace Fabio.Props.C01Sys
open Fabio Fabio.Model.C01 Fabio.Model.C01Sys Fabio.Props.C01
open Fabio.Lemmas.C01Sys (merge_lastSvc merge_lastMan merge_ne_nil lastMan_manEvents watchKV_published_is_remembered
  watchKVFinal_snoc stepOutReg_eq)

/-- **`watchKV` hands the latest value to the table loop**, whatever the indexes did (equal, growing, jumping
backwards) and whatever was published before: after the answers `pre ++ [(v, i)]` the last text the table loop got
from it — or the initial empty `mancfg` when nothing was ever published — is `v`. -/
theorem watchKV_publishes_latest (pre : List (Str × Nat)) (v : Str) (i : Nat) :
    (lastMan (manEvents (watchKVRun {} (pre ++ [(v, i)])))).getD [] = v := by
  rw [lastMan_manEvents]
  exact (watchKV_published_is_remembered _ {}).trans (watchKVFinal_snoc pre v i {})

section system
variable {T ρ : Type} (build : Str → Option T) (compute : ρ → Str)

theorem system_last_texts (pre : List ρ) (R : ρ) (kvPre : List (Str × Nat)) (M : Str) (idx : Nat) (es : List Event)
    (hm : Merge es (svcEvents (watchTexts compute (pre ++ [R]))) (manEvents (watchKVRun {} (kvPre ++ [(M, idx)])))) :
    es ≠ [] ∧ (lastSvc es).getD [] = compute R ∧ (lastMan es).getD [] = M := by
  refine ⟨merge_ne_nil hm (by simp [svcEvents, watchTexts]), ?_, ?_⟩
  · rw [merge_lastSvc hm]
    unfold watchTexts
    rw [List.map_append, List.map_singleton, List.getLast?_concat]
    rfl
  · rw [merge_lastMan hm, ← lastMan_manEvents]
    exact watchKV_publishes_latest kvPre M idx

/-- **Once the registry's view stops changing** (generic in the table type): the monitor observed the registry
states `pre ++ [R]` in this order (each answered health query gives one; `R` is the final one), the KV watcher got
the answers `kvPre ++ [(M, idx)]`, the `select` of the table loop saw *some* interleaving `es` of what the two handed
over. If `compute R ++ "\n" ++ M` builds, the active table is that table — whatever stale, failing or repeated
texts came before. -/
theorem system_quiescent (t0 : T) (pre : List ρ) (R : ρ) (kvPre : List (Str × Nat)) (M : Str) (idx : Nat)
    (es : List Event)
    (hm : Merge es (svcEvents (watchTexts compute (pre ++ [R]))) (manEvents (watchKVRun {} (kvPre ++ [(M, idx)]))))
    (t : T) (hb : build (concatCfg (compute R) M) = some t) :
    (run build (init t0) es).active = t := by
  obtain ⟨hne, hS, hM⟩ := system_last_texts compute pre R kvPre M idx es hm
  exact quiescent_table build (init t0) es (compute R) M t (init_inv build t0) hne hS hM hb

/-- **Nothing is invented on the way.** Every table handed to `SetTable` — at any point of any interleaving, not
only at the end — was built from the text of a registry state the monitor had observed (or the initial empty text)
and a value the KV watcher had published (or the initial empty text). -/
theorem system_installed_from_observed (t0 : T) (obs : List ρ) (kvTexts : List Str) (es : List Event) (e : Event)
    (hm : Merge (es ++ [e]) (svcEvents (watchTexts compute obs)) (manEvents kvTexts)) (t : T)
    (h : (stepOut build (run build (init t0) es) e).2 = some t) :
    ∃ S M, (S = [] ∨ ∃ R ∈ obs, S = compute R) ∧ (M = [] ∨ M ∈ kvTexts) ∧ build (concatCfg S M) = some t := by
  obtain ⟨hb, _, _⟩ := installed_from_latest build (init t0) es e t h
  rw [merge_lastSvc hm, merge_lastMan hm] at hb
  refine ⟨_, _, ?_, ?_, hb⟩
  · cases hs : (watchTexts compute obs).getLast? with
    | none => exact .inl rfl
    | some S =>
      obtain ⟨R, hR, rfl⟩ := List.mem_map.1 (List.mem_of_getLast? hs)
      exact .inr ⟨R, hR, rfl⟩
  · cases hs : kvTexts.getLast? with
    | none => exact .inl rfl
    | some M => exact .inr (List.mem_of_getLast? hs)

/-- **An instance that has become unhealthy is absent from every table installed after that state was observed**
— across later service events too. The table loop consumed `before`, then the text `S` of the state in which the
instance is unhealthy, then `later` (service texts of later states and manual texts in any order), then `e`. If
`absent` is a property that every table built from `S` and from every service text handed over after it has (the
instance stays unhealthy in those states), every table installed from the consumption of `S` on has it. -/
theorem unhealthy_absent_from_then_on (absent : T → Prop) (s0 : State T) (before later : List Event) (e : Event)
    (S : Str) (t : T)
    (hS : ∀ S', (S' = S ∨ Event.svc S' ∈ later ++ [e]) → ∀ M t, build (concatCfg S' M) = some t → absent t)
    (h : (stepOut build (run build s0 (before ++ [Event.svc S] ++ later)) e).2 = some t) :
    absent t := by
  obtain ⟨S', M, hl, hb⟩ := installed_after_svc build s0 before later e S t h
  exact hS S' hl M t hb

end system

/-- The result of `registry.Default.Register(aliases)` does not reach the table: the iteration with the
registration spelled out installs, remembers and activates exactly what the iteration of `Model/C01.lean` does,
for every registration outcome. -/
theorem register_outcome_irrelevant {T} (register : Str → Bool) (build : Str → Option T) (s : State T) (e : Event) :
    ((stepOutReg register build s e).1, (stepOutReg register build s e).2.1) = stepOut build s e := by
  rw [stepOutReg_eq]

/-- the registration is attempted exactly when the text changed — before the table is built, and whether or not it
then builds -/
theorem register_called_iff_text_changed {T} (register : Str → Bool) (build : Str → Option T) (s : State T)
    (e : Event) :
    (stepOutReg register build s e).2.2.isSome = (textAfter s e != (receive s e).lastTable) := by
  rw [stepOutReg_eq, bne]
  cases textAfter s e == (receive s e).lastTable <;> rfl

/-- **The negation for the other design** (skip the table when the alias registration fails): while the
registration fails — e.g. `register.addr` without a port and any route with a `register=` option — no event changes
the active table any more, whatever the registry does. -/
theorem abort_on_register_error_freezes_table {T} (build : Str → Option T) (s : State T) (es : List Event) :
    (es.foldl (stepAbortOnRegisterError (fun _ => false) build) s).active = s.active :=
  List.foldlRecOn (motive := fun s' : State T => s'.active = s.active) es _ rfl fun s' hs e _ => by
    rw [← hs]
    unfold stepAbortOnRegisterError
    simp only
    split <;> cases e <;> rfl

/-- the code's iteration follows the registry under the same failing registration (concrete witness) -/
theorem abort_design_differs :
    (([Event.svc "a b".toList, Event.svc "c".toList].foldl
        (stepAbortOnRegisterError (fun _ => false) toyBuild) (init [])).active = [] ∧
     ([Event.svc "a b".toList, Event.svc "c".toList].foldl
        (fun s e => (stepOutReg (fun _ => false) toyBuild s e).1) (init [])).active = "c\n".toList) := by
  simp only [toList_lit rfl]
  decide +kernel

/-- **A non-blocking hand-over in `Watch` loses the final state**: two observed states, the table loop busy when
the second text is ready — the active table stays the one of the first state although the registry's view has
stopped changing. With the blocking send (`system_quiescent`) it is the table of the second. -/
theorem nonblocking_handover_loses_final_state :
    let texts := watchTexts (fun r : Str => r) ["both".toList, "one".toList]
    let es := svcEvents (handOverNonBlocking [true, false] texts)
    (run toyBuild (init []) es).active = "both\n".toList ∧
    (run toyBuild (init []) (svcEvents texts)).active = "one\n".toList := by
  simp only [toList_lit rfl]
  decide +kernel

/-- **An ordering test on the KV index loses the final value** when the index goes backwards (snapshot restore):
`watchKV`'s change test publishes it (`watchKV_publishes_latest`). -/
theorem monotone_index_test_loses_final_value :
    (watchKVRoundMonotone { lastValue := "old".toList, lastIndex := 1000 } "new".toList 100).2 = none ∧
    (watchKVRound { lastValue := "old".toList, lastIndex := 1000 } "new".toList 100).2 = some "new".toList := by
  simp only [toList_lit rfl]
  decide +kernel

example : Merge [Event.svc "a".toList, Event.man "m".toList, Event.svc "b".toList]
    (svcEvents ["a".toList, "b".toList]) (manEvents ["m".toList]) :=
  Merge.left (Merge.right (Merge.left Merge.nil))

example : -- indexes equal, growing, jumping backwards; a repeated value with a new index is published again
    watchKVRun {} [("".toList, 0), ("x".toList, 1000), ("x".toList, 1000), ("x".toList, 100), ("y".toList, 101)] =
      ["x".toList, "x".toList, "y".toList] := by
  simp only [toList_lit rfl]
  decide +kernel

example : -- `system_quiescent` on a toy: stale and failing texts first, the final ones last
    let es := [Event.svc "a!".toList, Event.man "x".toList, Event.svc "b".toList]
    isMerge es (svcEvents (watchTexts (fun r : Str => r) (["a!".toList] ++ ["b".toList])))
      (manEvents (watchKVRun {} ([] ++ [("x".toList, 7)]))) = true ∧
    (run toyBuild (init []) es).active = "b\nx".toList := by
  simp only [toList_lit rfl]
  decide +kernel

example : -- `unhealthy_absent_from_then_on`: later service events are allowed
    (stepOut toyBuild (run toyBuild (init []) ([] ++ [Event.svc "S".toList] ++ [Event.man "m".toList, Event.svc "S2".toList]))
      (Event.man "k".toList)).2 = some "S2\nk".toList := by
  simp only [toList_lit rfl]
  decide +kernel

example : (stepOutReg (fun _ => false) toyBuild (init []) (Event.svc "a".toList)).2 = (some "a\n".toList, some false) := by
  simp only [toList_lit rfl]
  decide +kernel

section manual
open Fabio.Model.Route (RouteDef)
open Fabio.Model.Parse (parse ParseFloat trimSpace join byteLen maxToken)

/- Full statement: "for every list of KV pairs, `route.Parse (listKV pairs)` is the concatenation, in key order, of
what `route.Parse` reads from each (trimmed) value". It fails for a key that holds a newline: what follows the
newline in the key is read as a line of its own (`key_with_newline_injects`; the KV tree below the configured path is
the operator's, who can write any command anyway, so this costs the property nothing). -/

/-- **The operator's commands are the commands of the KV values, in key order.** Forced hypothesis: no key holds a
newline (and the comment line naming it fits into a scanner token). -/
theorem manual_text_commands_per_key_partial (pf : ParseFloat) (pairs : List (Str × Str))
    (ds : Str → List RouteDef)
    (hkey : ∀ kv ∈ pairs, '\n' ∉ kv.1 ∧ byteLen (kvHeader ++ kv.1) < maxToken)
    (hval : ∀ kv ∈ pairs, parse pf (trimSpace kv.2) = .ok (ds (trimSpace kv.2))) :
    parse pf (listKVText true pairs) = .ok (pairs.flatMap (fun kv => ds (trimSpace kv.2))) := by
  refine Lemmas.Route.parse_join pf 1 pairs (kvItem true) (fun kv => ds (trimSpace kv.2)) (fun kv hkv => ?_)
  -- one item: the comment line naming the key, then the trimmed value
  obtain ⟨hnl, hlen⟩ := hkey kv hkv
  have hhdr : parse pf (kvHeader ++ kv.1) = .ok [] :=
    Lemmas.C05Text.comment_line_parses_empty pf _ rfl (by
      intro hm
      rcases List.mem_append.1 hm with h | h
      · revert h; decide
      · exact hnl h) hlen
  have : kvItem true kv = (kvHeader ++ kv.1) ++ '\n' :: trimSpace kv.2 := by simp [kvItem]
  rw [this]
  exact (Lemmas.Route.parse_concat_iff pf _ _ _).2 ⟨[], _, hhdr, hval kv hkv, rfl⟩

/-- the negation of the full statement: a key that holds a newline puts a command into the manual text although
every value is empty -/
theorem key_with_newline_injects :
    ∃ pairs : List (Str × Str), (∀ kv ∈ pairs, trimSpace kv.2 = []) ∧
      (parse (fun _ => none) (listKVText true pairs)).toOption.map List.length = some 1 :=
  ⟨[("k\nroute del web".toList, [])], by decide, by simp only [toList_lit rfl]; decide +kernel⟩

example : -- non-vacuity: two keys, values with white space around them, a comment and an empty line inside
    listKVText true [("fabio/config/a".toList, " route del web \n".toList), ("fabio/config/b".toList, "# c\n\nroute del s /a".toList)] =
      "# --- fabio/config/a\nroute del web\n\n# --- fabio/config/b\n# c\n\nroute del s /a".toList ∧
    (parse (fun _ => none) (listKVText true [("fabio/config/a".toList, " route del web \n".toList),
        ("fabio/config/b".toList, "# c\n\nroute del s /a".toList)])).toOption.map List.length = some 2 := by
  simp only [toList_lit rfl]
  decide +kernel

end manual

section composed
open Fabio.Model.C01Compose Fabio.Props.C01Compose
open Fabio.Model.Route (Env RouteDef Table Target)
open Fabio.Model.C05Spec (abs key newTarget specApply Spec)
open Fabio.Model.C14 (Cfg intents expressibleB wantDef)
open Fabio.Model.Parse (parse loadTable ParseFloat)
open Fabio.Lemmas.C14 (core)

/-- a registry state as one answer of `/v1/health/state/any` plus the catalog describe it -/
structure RegState where
  checks : List Check
  catalog : Str → List Instance

variable (env : Env) (pf : ParseFloat) (cfg : Cfg) (st : List Str) (strict : Bool)

/-- the text `Watch` computes from an observed state (a round without failing catalog lookups) -/
def textOf (R : RegState) : Str := svcText env pf cfg st strict R.checks R.catalog

/-- **First sentence, end to end, with the operator's commands.** The monitor observed the registry states
`pre ++ [R]` (any states before the final `R`), the KV watcher got the answers `kvPre ++ [(listKV pairs, idx)]` (any
values and indexes before the final content `pairs`), the table loop saw some interleaving of what they handed
over. If the final KV content parses to commands that apply to the service table of `R`, the active table routes
exactly what those commands leave of the service table of `R`. -/
theorem end_to_end_operator_on_top (pre : List RegState) (R : RegState) (kvPre : List (Str × Nat))
    (pairs : List (Str × Str)) (idx : Nat) (es : List Event)
    (hm : Merge es (svcEvents (watchTexts (textOf env pf cfg st strict) (pre ++ [R])))
      (manEvents (watchKVRun {} (kvPre ++ [(listKVText true pairs, idx)]))))
    (tS : Table) (hS : loadTable env pf (textOf env pf cfg st strict R) = .ok tS)
    (dsM : List RouteDef) (S' : Spec) (hM : parse pf (listKVText true pairs) = .ok dsM)
    (hf : dsM.foldlM (specApply env) (abs tS) = .ok S') :
    abs (run (loadOpt env pf) (init ([] : Table)) es).active = S' := by
  obtain ⟨hne, hsvc, hman⟩ := system_last_texts (textOf env pf cfg st strict) pre R kvPre _ idx es hm
  exact quiescent_composed env pf cfg st strict R.checks R.catalog es _ tS dsM S' hne hsvc hman hS hM hf

/-- **First sentence, end to end**: when the KV tree holds no command (no keys, or comments only), the active
table has a target under (host, path) iff an instance that is eligible in the final state `R` — registered, with a
service check, healthy under the configured rule over all checks — offers it with one of its routing tags. -/
theorem end_to_end_iff_healthy (pre : List RegState) (R : RegState) (kvPre : List (Str × Nat))
    (pairs : List (Str × Str)) (idx : Nat) (es : List Event)
    (wf : WellFormed cfg R.checks R.catalog)
    (hexp : ∀ name, ∀ i ∈ R.catalog name, ∀ it ∈ intents cfg (regOf i), expressibleB env pf it = true)
    (hm : Merge es (svcEvents (watchTexts (textOf env pf cfg st strict) (pre ++ [R])))
      (manEvents (watchKVRun {} (kvPre ++ [(listKVText true pairs, idx)]))))
    (hM : parse pf (listKVText true pairs) = .ok [])
    (h p : Str) (x : Target) :
    (∃ y ∈ abs (run (loadOpt env pf) (init ([] : Table)) es).active h p, SameTarget y x) ↔
      ∃ i, Eligible st strict R.checks R.catalog i ∧ Offers env pf cfg i h p x := by
  obtain ⟨hne, hsvc, hman⟩ := system_last_texts (textOf env pf cfg st strict) pre R kvPre _ idx es hm
  exact quiescent_iff_healthy env pf cfg st strict R.checks R.catalog wf hexp es _ hne hsvc hman hM h p x

/-- **Second sentence, end to end.** The table loop consumed the text of state `R`; after it, service texts of the
states `Rs` (in any order, interleaved with manual texts) arrive. Every table installed from the consumption of `R`'s
text on is: some list of commands applied, by the specification machine, on top of the service table of one of the
states `R :: Rs`, and that service table has targets only for instances eligible *in that state*. An instance that is
unhealthy in `R` and stays so contributes no target to any of them. (Which commands, the statement leaves open; by
`loaded_on_svcText` they are those of the manual text current at that iteration.) -/
theorem end_to_end_unhealthy_absent (s0 : State Table) (before later : List Event) (e : Event)
    (R : RegState) (Rs : List RegState)
    (wf : ∀ R' ∈ R :: Rs, WellFormed cfg R'.checks R'.catalog)
    (hlater : ∀ S', Event.svc S' ∈ later ++ [e] → ∃ R' ∈ Rs, S' = textOf env pf cfg st strict R')
    (t : Table)
    (hinst : (stepOut (loadOpt env pf) (run (loadOpt env pf) s0
      (before ++ [Event.svc (textOf env pf cfg st strict R)] ++ later)) e).2 = some t) :
    ∃ R' ∈ R :: Rs, ∃ tS, loadTable env pf (textOf env pf cfg st strict R') = .ok tS ∧
      (∃ dsM : List RouteDef, dsM.foldlM (specApply env) (abs tS) = .ok (abs t)) ∧
      (∀ h p y, y ∈ abs tS h p → ∃ i, Eligible st strict R'.checks R'.catalog i ∧
        ∃ it ∈ intents cfg (regOf i), ∃ d u, wantDef pf it = some d ∧ env.normURL d.dst = some u ∧
          key d.src = (h, p) ∧ core y = core (newTarget d u)) := by
  obtain ⟨S', M, hS', hb⟩ := installed_after_svc (loadOpt env pf) s0 before later e _ t hinst
  have hR' : ∃ R' ∈ R :: Rs, S' = textOf env pf cfg st strict R' := by
    rcases hS' with rfl | hS'
    · exact ⟨R, by simp, rfl⟩
    · obtain ⟨R', hR', rfl⟩ := hlater S' hS'
      exact ⟨R', List.mem_cons_of_mem _ hR', rfl⟩
  obtain ⟨R', hmem, rfl⟩ := hR'
  obtain ⟨tS, hS, ⟨dsM, _, hf⟩, hs⟩ := loaded_on_svcText env pf cfg st strict R'.checks R'.catalog (wf R' hmem) M t hb
  exact ⟨R', hmem, tS, hS, ⟨dsM, hf⟩, hs⟩

end composed

section faults
open Fabio.Model.C01Compose Fabio.Props.C01Compose
open Fabio.Model.Route (Env RouteDef Table Target)
open Fabio.Model.C05Spec (abs key newTarget specApply Spec)
open Fabio.Model.C14 (Cfg intents expressibleB wantDef)
open Fabio.Model.Parse (parse loadTable ParseFloat)
open Fabio.Lemmas.C14 (core)
open Fabio.Lemmas.C01 (restrict mem_of_mem_restrict watchOnceF_eq_restrict)
variable (env : Env) (pf : ParseFloat) (cfg : Cfg) (st : List Str) (strict : Bool)

/-- a round of `Watch`: the state the health answer describes and the catalog lookups that fail in it -/
abbrev Round := RegState × (Str → Bool)

def roundText (r : Round) : Str := joinLines (svcLinesF env pf cfg st strict r.1.checks r.1.catalog r.2)

theorem roundText_eq (r : Round) :
    roundText env pf cfg st strict r =
      textOf env pf cfg st strict { checks := r.1.checks, catalog := restrict r.2 r.1.catalog } := by
  unfold roundText textOf svcText svcLinesF svcLines
  rw [watchOnceF_eq_restrict]

theorem wf_restrict {checks : List Check} {catalog : Str → List Instance} (wf : WellFormed cfg checks catalog)
    (fails : Str → Bool) : WellFormed cfg checks (restrict fails catalog) where
  byName := fun name i hi => wf.byName name i (mem_of_mem_restrict hi)
  tags := fun c hc name i hi => wf.tags c hc name i (mem_of_mem_restrict hi)

theorem eligible_of_restrict {checks : List Check} {catalog : Str → List Instance} (fails : Str → Bool)
    (i : Instance) (h : Eligible st strict checks (restrict fails catalog) i) : Eligible st strict checks catalog i :=
  ⟨h.1, mem_of_mem_restrict h.2.1, h.2.2⟩

/-- **Soundness of every table ever installed, failing lookups included.** Rounds `obs` of the monitor — each a
registry state and an arbitrary set of catalog lookups that fail in that round — and texts `kvTexts` of the KV
watcher, interleaved in any way. Every table handed to `SetTable` at any point is: some list of commands (the statement
leaves open which; in the proof, those of the manual text current then) applied, by the specification machine, on top
of a service table each of whose targets is what a routing tag of an instance asks for that is
`Eligible` — healthy under the configured rule — *in the registry state of one of the observed rounds*. Whatever
fails, no table ever holds a service target that no observed state justifies. (What the stream `c01.pipeline` demands
at every observation point, class `unhealthy-target-after-observation`.) -/
theorem end_to_end_sound_at_every_table (obs : List Round) (kvTexts : List Str)
    (wf : ∀ r ∈ obs, WellFormed cfg r.1.checks r.1.catalog)
    (es : List Event) (e : Event)
    (hm : Merge (es ++ [e]) (svcEvents (watchTexts (roundText env pf cfg st strict) obs)) (manEvents kvTexts))
    (t : Table)
    (hinst : (stepOut (loadOpt env pf) (run (loadOpt env pf) (init ([] : Table)) es) e).2 = some t) :
    ∃ tS, (∃ dsM : List RouteDef, dsM.foldlM (specApply env) (abs tS) = .ok (abs t)) ∧
      ∀ h p y, y ∈ abs tS h p → ∃ r ∈ obs, ∃ i, Eligible st strict r.1.checks r.1.catalog i ∧
        ∃ it ∈ intents cfg (regOf i), ∃ d u, wantDef pf it = some d ∧ env.normURL d.dst = some u ∧
          key d.src = (h, p) ∧ core y = core (newTarget d u) := by
  obtain ⟨S, M, hS, _, hb⟩ :=
    system_installed_from_observed (loadOpt env pf) (roundText env pf cfg st strict) ([] : Table) obs kvTexts es e hm t hinst
  rcases hS with rfl | ⟨r, hr, rfl⟩
  · -- the initial empty service text loads to the empty table
    obtain ⟨dsM, _, hf⟩ := operator_on_top env pf [] M [] t rfl ((loadOpt_some env pf _ t).1 hb)
    exact ⟨[], ⟨dsM, hf⟩, fun h p y hy => absurd hy List.not_mem_nil⟩
  · -- a round with failing lookups is a fault-free round over the restricted catalog
    rw [roundText_eq] at hb
    obtain ⟨tS, _, ⟨dsM, _, hf⟩, hsound⟩ := loaded_on_svcText env pf cfg st strict r.1.checks
      (restrict r.2 r.1.catalog) (wf_restrict cfg (wf r hr) r.2) M t hb
    refine ⟨tS, ⟨dsM, hf⟩, fun h p y hy => ?_⟩
    obtain ⟨i, hel, rest⟩ := hsound h p y hy
    exact ⟨r, hr, i, eligible_of_restrict st strict r.2 i hel, rest⟩

end faults

/-! non-vacuity of the composed statements: the two-node registry of `Props/C01Compose.lean` (`web-1` on `n1`
passing, `web-2` on `n2` critical) as the final state, a state with no checks at all before it -/

section witness
open Fabio.Props.C14 (envW pfW cfgW)
open Fabio.Props.C01Compose (checksW catalogW stW)
open Fabio.Model.C01Compose (loadOpt)
open Fabio.Model.Route (Table)

def stateW : RegState := { checks := checksW, catalog := catalogW }
def stateEmpty : RegState := { checks := [], catalog := fun _ => [] }

example : -- the hypotheses of `end_to_end_operator_on_top` hold for a concrete interleaving, and the table is the expected one
    let es := [Event.svc (textOf envW pfW cfgW stW false stateEmpty), Event.man "".toList,
               Event.svc (textOf envW pfW cfgW stW false stateW),
               Event.man (listKVText true [("fabio/config/a".toList, "route add static /s http://10.9.9.9:80/\n".toList)])]
    isMerge es (svcEvents (watchTexts (textOf envW pfW cfgW stW false) ([stateEmpty] ++ [stateW])))
      (manEvents (watchKVRun {} ([("".toList, 1000)] ++
        [(listKVText true [("fabio/config/a".toList, "route add static /s http://10.9.9.9:80/\n".toList)], 1001)]))) = true ∧
    (run (loadOpt envW pfW) (init ([] : Table)) es).active.map
        (fun kv => (kv.1, kv.2.map (fun r => (r.path, r.targets.map (·.url))))) =
      [("foo.com".toList, [("/".toList, ["http://10.0.0.1:8000/".toList])]),
       ("".toList, [("/s".toList, ["http://10.9.9.9:80/".toList])])] := by
  have hE : textOf envW pfW cfgW stW false stateEmpty = [] := rfl
  have hW : textOf envW pfW cfgW stW false stateW = _ := Fabio.Props.C01Compose.svcTextW
  simp only [watchTexts, List.cons_append, List.nil_append, List.map_cons, List.map_nil, hE, hW, toList_lit rfl]
  decide +kernel

example : -- rounds with failing lookups: the failing service contributes nothing, another name changes nothing
    roundText envW pfW cfgW stW false (stateW, fun n => n == "web".toList) = [] ∧
    roundText envW pfW cfgW stW false (stateW, fun n => n == "db".toList) = textOf envW pfW cfgW stW false stateW := by
  exact ⟨congrArg joinLines Fabio.Props.C01Compose.registryW.2.2.2.1,
    congrArg joinLines Fabio.Props.C01Compose.registryW.2.2.2.2.1⟩

end witness

end Fabio.Props.C01Sys
