import Fabio.Model.C18Exit
import Fabio.Lemmas.C18Exit
/-!
# C18 — how a shutdown begins: package `exit`

"After shutdown begins …" presupposes that the shutdown *does* begin: whichever way the process is told to stop
(SIGINT, SIGTERM, or `exit.Exit`/`Fatal`/`Fatalf` from inside — main.go's reaction to a failing listener), the exit
handler (deregister, grace period, `proxy.Shutdown(wait)`) must be started, exactly once, whatever ignored SIGHUPs
came before; and `exit.Exit` must get past its `wg.Wait()` once the handlers have returned. The theorems are about
the state machine of `Fabio.Model.C18Exit`; the stream `c18.exit` runs the same histories against the real package
in a child process, `C18Facts.exit_listen_always_watches_quit` pins the select the contract was read from.
-/
namespace Fabio.Props.C18Exit
open Fabio.Model.C18Exit Fabio.Lemmas.C18Exit

/-- Any number of SIGHUPs, under either contract: no handler has been called, `quit` is open,
every listener is still waiting. -/
theorem hups_are_ignored (c : ListenContract) (k n : Nat) :
    (run c (initial k) (List.replicate n .hup)).quitClosed = false ∧
    ∀ l ∈ (run c (initial k) (List.replicate n .hup)).listeners, handlerRan l = false := by
  rw [run_initial, hups_keep_waiting]
  refine ⟨by simp, ?_⟩
  intro l hl
  rw [List.eq_of_mem_replicate hl]
  rfl

theorem listener_reacts (n : Nat) (last : Ev) (h : last ≠ .hup) :
    runListener .reselects (.waiting false) (history n last) = .ran (sigOf last) := by
  rw [history, runListener_append, hups_keep_waiting]
  cases last with
  | hup => exact absurd rfl h
  | sig s => simp [runListener, stepListener, sigOf]
  | exitCall => simp [runListener, stepListener, sigOf, watchesQuit]

theorem run_history (k n : Nat) (last : Ev) (h : last ≠ .hup) :
    run .reselects (initial k) (history n last) =
      { listeners := List.replicate k (.ran (sigOf last)), quitClosed := decide (last = .exitCall) } := by
  rw [run_initial, listener_reacts n last h]
  simp [history]

/-- For every number `k` of registered handlers and every number `n` of earlier SIGHUPs, the
first SIGINT, SIGTERM or `exit.Exit`/`Fatal` call makes every handler run, with that signal (`nil` for `Exit`). -/
theorem shutdown_begins (k n : Nat) (last : Ev) (h : last ≠ .hup) :
    calledWith (run .reselects (initial k) (history n last)) (sigOf last) = true := by
  rw [run_history k n last h]
  simp [calledWith, List.all_replicate]

theorem handlers_all_ran (k n : Nat) (last : Ev) (h : last ≠ .hup) :
    (run .reselects (initial k) (history n last)).listeners.all handlerRan = true := by
  rw [run_history k n last h]
  simp [List.all_replicate, handlerRan]

/-- `exit.Exit` (or `Fatal`/`Fatalf`) after any number of SIGHUPs gets past `wg.Wait()`: `quit`
is closed and every handler has been called — the process ends once they have returned. -/
theorem exit_completes (k n : Nat) :
    exitCompletes (run .reselects (initial k) (history n .exitCall)) = true := by
  rw [exitCompletes, handlers_all_ran k n .exitCall (by decide), run_history k n .exitCall (by decide)]
  rfl

/-- Once every handler has been called, nothing that arrives later (a second SIGTERM, ^C
twice, an `exit.Fatal` from a listener that failed meanwhile) calls one again or changes what it was called with. -/
theorem handlers_run_once (c : ListenContract) (p : PState) (hp : p.listeners.all handlerRan = true) (es : List Ev) :
    (run c p es).listeners = p.listeners := by
  cases p with
  | mk ls q =>
    rw [run_eq]
    exact (List.map_congr_left fun l hl => ran_absorbing (List.all_eq_true.mp hp l hl) c es).trans (List.map_id ls)

theorem listener_deaf_after_hup (n m : Nat) (hn : 0 < n) :
    runListener .signalsOnly (.waiting false) (List.replicate n .hup ++ List.replicate m .exitCall) = .waiting true := by
  rw [runListener_append, hups_keep_waiting, Bool.false_or, decide_eq_true hn]
  -- having seen a SIGHUP it no longer watches `quit`: each `Exit` call leaves it where it is
  induction m with
  | zero => rfl
  | succ m ih => exact ih

/-- Under the `signalsOnly` contract (wait for the next *signal* after a SIGHUP), one
earlier SIGHUP is enough: however often `exit.Exit`/`Fatal` is called afterwards, no handler is ever called — no
deregistration, no `proxy.Shutdown`, the listeners keep accepting — and `Exit` never gets past `wg.Wait()`. -/
theorem signals_only_never_exits (k n m : Nat) (hk : 0 < k) (hn : 0 < n) :
    let p := run .signalsOnly (initial k) (List.replicate n .hup ++ List.replicate m .exitCall)
    (∀ l ∈ p.listeners, handlerRan l = false) ∧ exitCompletes p = false := by
  rw [run_initial, listener_deaf_after_hup n m hn]
  refine ⟨fun l hl => by rw [List.eq_of_mem_replicate hl]; rfl, ?_⟩
  simp [exitCompletes, List.all_replicate, handlerRan, Nat.ne_of_gt hk]

/-- the statement `exit_completes` is therefore false of the `signalsOnly` contract (witness: one handler, one
SIGHUP, then `exit.Exit` — the second line of `corpus/c18.exit.jsonl`) -/
theorem exit_completes_needs_reselect :
    ¬ ∀ (k n : Nat), exitCompletes (run .signalsOnly (initial k) (history n .exitCall)) = true := by
  intro h
  have := (signals_only_never_exits 1 1 1 (by decide) (by decide)).2.symm.trans (h 1 1)
  cases this

/-- without a SIGHUP the two contracts cannot be told apart — why a history of two steps is needed -/
theorem contracts_agree_without_hup (k : Nat) (last : Ev) :
    run .signalsOnly (initial k) [last] = run .reselects (initial k) [last] := by
  rw [run_initial, run_initial]
  cases last <;> rfl

/-- a schedule in bursts: the signals of each burst arrive before the goroutine runs once -/
def bursts (bs : List (List Ev)) : List Act := bs.flatMap (fun b => b.map Act.arrives ++ [.runs])

/-- One channel of capacity `cap`, registered once (`exit.Listen` after
5d789c0, `cap = 16`): as long as no more than `cap` signals arrive between two runs of the listener goroutine, the
delivery-level machine does what the event-level one does with all of them, in order. -/
theorem bursts_within_capacity_lose_nothing (c : ListenContract) (cap : Nat) (bs : List (List Ev))
    (h : ∀ b ∈ bs, b.length ≤ cap) :
    ∀ l : LState, (bursts bs).foldl (stepAct c cap) (l, []) = (runListener c l bs.flatten, []) := by
  induction bs with
  | nil => intro l; rfl
  | cons b bs ih =>
    intro l
    have ⟨hb, hbs⟩ := List.forall_mem_cons.mp h
    rw [show bursts (b :: bs) = (b.map Act.arrives ++ [Act.runs]) ++ bursts bs from List.flatMap_cons ..,
      List.foldl_append, burst_fold c hb, ih hbs, List.flatten_cons, runListener_append]

/-- If the goroutine gets to run between any two arrivals, a channel
of capacity ≥ 1 loses nothing — the hypothesis under which `shutdown_begins` speaks about the process. The schedule
is one of bursts of a single signal. -/
theorem sequential_delivery_is_the_event_machine (c : ListenContract) (cap : Nat) (hcap : 0 < cap) (es : List Ev) :
    ∀ l : LState, (sequential es).foldl (stepAct c cap) (l, []) = (runListener c l es, []) := by
  intro l
  have hs : sequential es = bursts (es.map fun e => [e]) := by simp [sequential, bursts, List.flatMap_map]
  have hb : ∀ b ∈ es.map (fun e => [e]), b.length ≤ cap := by
    intro b hb
    obtain ⟨e, _, rfl⟩ := List.mem_map.mp hb
    exact hcap
  rw [hs, bursts_within_capacity_lose_nothing c cap _ hb l, ← List.flatMap_def, List.flatMap_singleton']

/-- Full statement (false — `signal_right_after_sighup_is_lost`): for
every schedule of arrivals and runs of the goroutine in which `n` SIGHUPs are followed by a terminating event, the
handler is called. Forced hypothesis: the schedule is `sequential` — every signal is handled before the next one
arrives. -/
theorem shutdown_begins_if_handled_in_turn_partial (cap : Nat) (hcap : 0 < cap) (n : Nat) (last : Ev) (h : last ≠ .hup) :
    runActs .reselects cap (sequential (history n last)) = (.ran (sigOf last), []) := by
  rw [runActs, sequential_delivery_is_the_event_machine .reselects cap hcap, listener_reacts n last h]

/-- **Negation with witness (D32, fixed by 5d789c0).** Capacity 1, as in `exit.Listen` as shipped: a SIGTERM that arrives before the
goroutine has handled the preceding SIGHUP is dropped — when the goroutine runs it sees the SIGHUP only, goes back to
waiting, and the shutdown never begins. With capacity 2 the same schedule calls the handler. `exit.Exit` in the same
position is not lost. Replayed by `corpus/c18.exit.jsonl` (class `sigterm-right-after-sighup`). -/
theorem signal_right_after_sighup_is_lost :
    runActs .reselects 1 [.arrives .hup, .arrives (.sig .term), .runs] = (.waiting true, []) ∧
    runActs .reselects 2 [.arrives .hup, .arrives (.sig .term), .runs] = (.ran (some .term), []) ∧
    runActs .reselects 1 [.arrives .hup, .arrives .exitCall, .runs] = (.ran none, []) := by decide +kernel

/-- the negated statement is restricted to the one schedule of `signal_right_after_sighup_is_lost` (capacity 1) -/
theorem shutdown_begins_full_statement_fails :
    ¬ ∀ (acts : List Act), acts = [.arrives .hup, .arrives (.sig .term), .runs] →
        handlerRan (runActs .reselects 1 acts).1 = true := by
  intro h
  have := h _ rfl
  rw [signal_right_after_sighup_is_lost.1] at this
  cases this

example : runActs .reselects 1 (sequential (history 2 (.sig .int))) = (.ran (some .int), []) := by decide +kernel

theorem signal_right_after_sighup_is_received (cap : Nat) (hcap : 2 ≤ cap) (last : Ev) (h : last ≠ .hup) :
    runActs .reselects cap (bursts [[.hup, last]]) = (.ran (sigOf last), []) := by
  rw [runActs, bursts_within_capacity_lose_nothing .reselects cap [[.hup, last]] (by simpa using hcap)]
  exact congrArg (·, []) (listener_reacts 1 last h)

example : run .reselects (initial 2) (history 3 (.sig .term)) =
    { listeners := [.ran (some .term), .ran (some .term)], quitClosed := false } := by decide +kernel
example : exitCompletes (run .reselects (initial 2) (history 3 .exitCall)) = true := by decide +kernel
example : exitCompletes (run .signalsOnly (initial 2) (history 3 .exitCall)) = false := by decide +kernel
example : exitCompletes (run .signalsOnly (initial 2) (history 0 .exitCall)) = true := by decide +kernel
example : (run .reselects (run .reselects (initial 1) (history 1 (.sig .term))) [.sig .int, .exitCall]).listeners =
    [.ran (some .term)] := by decide +kernel

end Fabio.Props.C18Exit
