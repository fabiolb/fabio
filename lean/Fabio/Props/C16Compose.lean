import Fabio.Props.C16
import Fabio.Props.C03
import Fabio.Lemmas.Lit
/-!
C16 ∘ C03 — the gRPC interceptor composed with the routing model.

`Props/C16.lean` takes the table lookup as a parameter.  Here the parameter is instantiated with C03's
`Lookup` on the request the interceptor builds (`Props/C16Pins.lean: lookup_calls_table_lookup_once` and
`Props/C16Facts.lean: synthetic_request_has_no_tls` pin it): `Host` = `dstHost md`, `URL.Path` = parsed path of the
full method (the method itself for ordinary gRPC names), `TLS` = nil.  The C03 theorems then say *which* backend a
gRPC call reaches.
-/
namespace Fabio.Props.C16Compose
open Fabio Fabio.Model.Route Fabio.Model.C03 Fabio.Model.C16
open Fabio.Props.C03 (HostMatches PickOK NoEmptyRoutes NoSkip TableSorted matched look)

/-- the `http.Request` of `GrpcProxyInterceptor.lookup` as C03 sees it: no TLS -/
def grpcReq (md : MD) (path : Str) : Model.C03.Req := { host := dstHost md, tls := false, path := path }

/-- C03's `Lookup` as the lookup parameter of `intercept` (answer: host key, route, target) -/
def lookupFull (cfg : Cfg) (t : Table) : Str → Str → Option (Str × Route × Target) :=
  fun host path => Lookup cfg t { host := host, tls := false, path := path }

/-- the same as the lookup parameter of `World.call` (answer: the target's pool key `URL.String()`) -/
def lookupKey (cfg : Cfg) : Table → Str → Str → Option Str :=
  fun t host path => (lookupFull cfg t host path).map (fun a => a.2.2.url)

def grpcIntercept (cfg : Cfg) (t : Table) (pp : Str → Option Str) (md : MD) (method : Str) :
    Intercept (Str × Route × Target) :=
  intercept pp (lookupFull cfg t) true md method

theorem lookupFull_grpcReq (cfg : Cfg) (t : Table) (md : MD) (p : Str) :
    lookupFull cfg t (dstHost md) p = Lookup cfg t (grpcReq md p) := rfl

theorem grpcIntercept_eq (cfg : Cfg) (t : Table) (pp : Str → Option Str) (md : MD) (method p : Str)
    (hp : pp method = some p) :
    grpcIntercept cfg t pp md method =
      match Lookup cfg t (grpcReq md p) with
      | none => .notFound
      | some a => .forward a := by
  unfold grpcIntercept
  rw [(Props.C16.grpc_lookup_args pp md method p hp).1 (lookupFull cfg t), lookupFull_grpcReq]
  cases Lookup cfg t (grpcReq md p) <;> rfl

theorem forward_iff_lookup (cfg : Cfg) (t : Table) (pp : Str → Option Str) (md : MD) (method p : Str)
    (hp : pp method = some p) (a : Str × Route × Target) :
    grpcIntercept cfg t pp md method = .forward a ↔ Lookup cfg t (grpcReq md p) = some a := by
  rw [grpcIntercept_eq cfg t pp md method p hp]
  cases Lookup cfg t (grpcReq md p) <;> simp

theorem notFound_iff_lookup (cfg : Cfg) (t : Table) (pp : Str → Option Str) (md : MD) (method p : Str)
    (hp : pp method = some p) :
    grpcIntercept cfg t pp md method = .notFound ↔ Lookup cfg t (grpcReq md p) = none := by
  rw [grpcIntercept_eq cfg t pp md method p hp]
  cases Lookup cfg t (grpcReq md p) <;> simp

def Candidate (cfg : Cfg) (t : Table) (md : MD) (p : Str) (k : Str) (r : Route) : Prop :=
  (k = [] ∨ HostMatches cfg t (grpcReq md p) k) ∧ r ∈ t.get (lowerL k) ∧ cfg.pathMatch p r.path = true

theorem candidate_of_lookup {cfg : Cfg} {t : Table} {md : MD} {p : Str} (hpick : PickOK cfg.pick)
    {a : Str × Route × Target} (hl : Lookup cfg t (grpcReq md p) = some a) :
    Candidate cfg t md p a.1 a.2.1 ∧ a.2.2 ∈ a.2.1.targets :=
  have ⟨h1, h2, h3, h4⟩ := Props.C03.lookup_sound cfg t (grpcReq md p) hpick hl
  ⟨⟨h1, h2, h3⟩, h4⟩

theorem call_eq (cfg : Cfg) (pp : Str → Option Str) (w : World) (md : MD) (method p : Str) (d : Bool)
    (hp : pp method = some p) :
    w.call pp (lookupKey cfg) true md method d =
      match Lookup cfg w.table (grpcReq md p) with
      | none => (w, .status codeNotFound)
      | some a => ((w.get a.2.2.url d).1, .proxied a.2.2.url (w.get a.2.2.url d).2) := by
  rw [Lemmas.C16.call_eq, (Props.C16.grpc_lookup_args pp md method p hp).1]
  simp only [lookupKey, lookupFull_grpcReq]
  cases Lookup cfg w.table (grpcReq md p) <;> rfl

/-- **A call is forwarded only to a backend of a matching route.** If the interceptor forwards a call to
target `tg` of route `r` found under host key `h`, then `h` is empty or matches the `dsthost` value (as a
glob, case-insensitively; equality when host globbing is off), `r` is a route of that key whose path matches
the method path under the configured matcher, and `tg` is one of `r`'s targets. -/
theorem grpc_routed_to_matching_backend (cfg : Cfg) (t : Table) (pp : Str → Option Str) (md : MD)
    (method p : Str) (hp : pp method = some p) (hpick : PickOK cfg.pick)
    {h : Str} {r : Route} {tg : Target}
    (hf : grpcIntercept cfg t pp md method = .forward (h, r, tg)) :
    Candidate cfg t md p h r ∧ tg ∈ r.targets :=
  candidate_of_lookup hpick ((forward_iff_lookup cfg t pp md method p hp _).mp hf)

/-- the same through `World.call`: the pool is asked for exactly the key of a target of a matching route -/
theorem grpc_call_reaches_matching_backend (cfg : Cfg) (pp : Str → Option Str) (w : World) (md : MD)
    (method p : Str) (d : Bool) (hp : pp method = some p) (hpick : PickOK cfg.pick)
    {w' : World} {k : Str} {res : GetRes}
    (hc : w.call pp (lookupKey cfg) true md method d = (w', .proxied k res)) :
    ∃ h r tg, Candidate cfg w.table md p h r ∧ tg ∈ r.targets ∧ k = tg.url ∧ (w', res) = w.get k d := by
  rw [call_eq cfg pp w md method p d hp] at hc
  cases hl : Lookup cfg w.table (grpcReq md p) with
  | none => rw [hl] at hc; cases hc
  | some a =>
    rw [hl] at hc
    cases hc
    exact ⟨a.1, a.2.1, a.2.2, (candidate_of_lookup hpick hl).1, (candidate_of_lookup hpick hl).2, rfl, rfl⟩

/-- **NotFound ⇔ no candidate route.** For a table in which every route has a target (tables built by the
command language: C05) and a call whose method parses: the interceptor answers `NotFound` exactly when no
route stands under a key that is empty or matches the `dsthost` value with a path matching the method path.
(`hpick` is not used: a candidate does not mention the target.) -/
theorem grpc_notfound_iff_no_candidate (cfg : Cfg) (t : Table) (pp : Str → Option Str) (md : MD)
    (method p : Str) (hp : pp method = some p) (hpick : PickOK cfg.pick) (hns : NoSkip cfg)
    (hne : NoEmptyRoutes t) :
    grpcIntercept cfg t pp md method = .notFound ↔ ¬ ∃ k r, Candidate cfg t md p k r :=
  (notFound_iff_lookup cfg t pp md method p hp).trans
    (Props.C03.Lookup_eq_none_iff cfg t (grpcReq md p) (fun _ _ _ => congrFun hns _) hne)

/-- Without a candidate nothing of the proxy is touched: pool, dial log and id counter unchanged. -/
theorem grpc_no_candidate_notfound_no_backend (cfg : Cfg) (pp : Str → Option Str) (w : World) (md : MD)
    (method p : Str) (d : Bool) (hp : pp method = some p) (hno : ¬ ∃ k r, Candidate cfg w.table md p k r) :
    w.call pp (lookupKey cfg) true md method d = (w, .status codeNotFound) := by
  rw [call_eq cfg pp w md method p d hp, Props.C03.Lookup_eq_none_of_no_route (req := grpcReq md p) hno]

/-- **The most specific route is used.** For a forwarded call (answer under key `h`, route `r`):
(1) any other host key matching the `dsthost` value that could have answered stands after `h` in C03's
specificity order; (2) if some matching host key has a matching route, the answer does not come from the
host-less routes; (3) if an exact host key matches and has a matching route, the answer does not come from
a pattern key; (4) under the prefix and iprefix matchers, in a table in `newTable`'s order, no matching
route of the answer's host has a longer path than `r`. -/
theorem grpc_most_specific (cfg : Cfg) (t : Table) (pp : Str → Option Str) (md : MD)
    (method p : Str) (hp : pp method = some p) (hns : NoSkip cfg)
    {h : Str} {r : Route} {tg : Target}
    (hf : grpcIntercept cfg t pp md method = .forward (h, r, tg)) :
    (∀ k, k ∈ matched cfg t (grpcReq md p) → (look cfg t (grpcReq md p) k).isSome = true →
        h ∈ matched cfg t (grpcReq md p) ∧ (k = h ∨ Lemmas.C03.hostOrd h k)) ∧
    (∀ k, HostMatches cfg t (grpcReq md p) k → (look cfg t (grpcReq md p) k).isSome = true →
        HostMatches cfg t (grpcReq md p) h) ∧
    (∀ k, HostMatches cfg t (grpcReq md p) k → isGlobPat k = false →
        (look cfg t (grpcReq md p) k).isSome = true → isGlobPat h = false) ∧
    (∀ (pg : Str → Str → Bool) (kind : MatcherKind), kind ≠ .glob → cfg.pathMatch = pathMatch pg kind →
        TableSorted t → ∀ r' ∈ t.get (lowerL h), cfg.pathMatch p r'.path = true →
        r'.path.length ≤ r.path.length) := by
  have hres := (forward_iff_lookup cfg t pp md method p hp _).mp hf
  refine ⟨?_, ?_, ?_, ?_⟩
  · intro k hk hc; exact Props.C03.lookup_host_order cfg t _ hns hres hk hc
  · intro k hk hc; exact Props.C03.host_less_only_as_fallback cfg t _ hns hres hk hc
  · intro k hk he hc; exact Props.C03.exact_beats_wildcard cfg t _ hns hres hk he hc
  · intro pg kind hkind hcfg hs r' hr' hm'
    exact Props.C03.longest_path_wins cfg t _ pg kind hkind hcfg hs hres hr' hm'

theorem grpc_dsthost_case_insensitive (cfg : Cfg) (t : Table) (h p : Str) :
    lookupFull cfg t (lowerL h) p = lookupFull cfg t h p := by
  simpa [lookupFull] using Props.C03.host_case_insensitive cfg t h false p

namespace Ex

def tg (s u : String) : Target := { service := s.toList, tags := [], opts := [], url := u.toList, fixedWeight := 0 }
def rt (h p s u : String) : Route := { host := h.toList, path := p.toList, targets := [tg s u] }

def T : Table :=
  [ ([], [rt "" "/svc.A/M" "a2" "grpc://a2", rt "" "/svc.A" "a" "grpc://a"]),
    ("beta.example".toList, [rt "beta.example" "/svc.A" "b" "grpc://b"]),
    ("*.example".toList, [rt "*.example" "/" "c" "grpc://c"]) ]

def cfg : Cfg := { globMatch := globLib, pathMatch := pathMatch globLib .pfx, pick := fun r => r.targets.headD (tg "?" "?") }

def md1 (h : String) : MD := [("dsthost".toList, [h.toList])]

def ans (x : Intercept (Str × Route × Target)) : Option (String × String × String) :=
  match x with
  | .forward a => some (String.ofList a.1, String.ofList a.2.1.path, String.ofList a.2.2.url)
  | _ => none

/-- One evaluation for the seven examples below: what an evaluation pays for is decoding the string constants of the
models, once per declaration. -/
theorem intercept_vectors :
    ans (grpcIntercept cfg T some [] "/svc.A/M".toList) = some ("", "/svc.A/M", "grpc://a2") ∧
    ans (grpcIntercept cfg T some [] "/svc.A/Other".toList) = some ("", "/svc.A", "grpc://a") ∧
    ans (grpcIntercept cfg T some (md1 "BETA.example") "/svc.A/M".toList) = some ("beta.example", "/svc.A", "grpc://b") ∧
    ans (grpcIntercept cfg T some (md1 "x.example") "/svc.A/M".toList) = some ("*.example", "/", "grpc://c") ∧
    ans (grpcIntercept cfg T some (md1 "beta.example") "/svc.B/M".toList) = some ("*.example", "/", "grpc://c") ∧
    ans (grpcIntercept cfg T some [("dsthost".toList, ["beta.example".toList, "beta.example".toList])] "/svc.A/X".toList)
      = some ("", "/svc.A", "grpc://a") ∧
    grpcIntercept cfg T some [] "/svc.B/M".toList = .notFound := by
  simp only [T, rt, tg, md1, toList_lit rfl]; decide +kernel

example : ans (grpcIntercept cfg T some [] "/svc.A/M".toList) = some ("", "/svc.A/M", "grpc://a2") := intercept_vectors.1
example : ans (grpcIntercept cfg T some [] "/svc.A/Other".toList) = some ("", "/svc.A", "grpc://a") := intercept_vectors.2.1
example : ans (grpcIntercept cfg T some (md1 "BETA.example") "/svc.A/M".toList) = some ("beta.example", "/svc.A", "grpc://b") :=
  intercept_vectors.2.2.1
example : ans (grpcIntercept cfg T some (md1 "x.example") "/svc.A/M".toList) = some ("*.example", "/", "grpc://c") :=
  intercept_vectors.2.2.2.1
example : ans (grpcIntercept cfg T some (md1 "beta.example") "/svc.B/M".toList) = some ("*.example", "/", "grpc://c") :=
  intercept_vectors.2.2.2.2.1
-- two dsthost values: the empty host
example : ans (grpcIntercept cfg T some [("dsthost".toList, ["beta.example".toList, "beta.example".toList])] "/svc.A/X".toList)
    = some ("", "/svc.A", "grpc://a") := intercept_vectors.2.2.2.2.2.1
example : grpcIntercept cfg T some [] "/svc.B/M".toList = .notFound := intercept_vectors.2.2.2.2.2.2
-- the hypotheses are satisfiable
example : NoEmptyRoutes T := Props.C03.noEmptyRoutes_of_all T (by decide +kernel)
example : PickOK cfg.pick := Props.C03.pickOK_headD _
example : NoSkip cfg := rfl
example : Candidate cfg T (md1 "beta.example") "/svc.A/M".toList "beta.example".toList (rt "beta.example" "/svc.A" "b" "grpc://b") := by
  simp only [T, rt, tg, md1, toList_lit rfl]
  refine ⟨Or.inr ?_, ?_, ?_⟩
  · unfold HostMatches; decide +kernel
  · decide +kernel
  · decide +kernel
example :
    (World.run some (lookupKey cfg) { table := T }
      [.call true (md1 "beta.example") "/svc.A/M".toList true, .call true (md1 "Beta.Example") "/svc.A/N".toList true,
       .call true [] "/svc.B/M".toList true]).2 =
      [.call (.proxied "grpc://b".toList (.dialled 0)), .call (.proxied "grpc://b".toList (.reused 0)),
       .call (.status codeNotFound)] := by
  simp only [T, rt, tg, md1, toList_lit rfl]; decide +kernel
/-- an emptied route kept in the table (what `delRoute` must prune) shadows the general route: the
hypothesis `NoEmptyRoutes` of `grpc_notfound_iff_no_candidate` is necessary -/
example :
    let Tbad : Table := [([], [{ host := [], path := "/svc.A/M".toList, targets := [] }, rt "" "/svc.A" "a" "grpc://a"])]
    grpcIntercept cfg Tbad some [] "/svc.A/M".toList = .notFound ∧
      Candidate cfg Tbad [] "/svc.A/M".toList [] (rt "" "/svc.A" "a" "grpc://a") := by
  simp only [rt, tg, toList_lit rfl]
  exact ⟨by decide +kernel, Or.inl rfl, by decide +kernel, by decide +kernel⟩

end Ex
end Fabio.Props.C16Compose
