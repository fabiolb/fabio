import Fabio.Lemmas.C20Num
import Fabio.Lemmas.C20Lex
import Fabio.Lemmas.C20Log
import Fabio.Lemmas.C20Capture
/-!
C20 — access logging is accurate and can never disturb a request: the property theorems.

Model: `Fabio/Model/C20.lean` (every buffer index and slice of the Go code is a checked operation);
reference renderings ("what the standard library prints"): `Fabio/Model/C20Spec.lean`, built on
`Nat.toDigits` / `Nat.repr`, not on the loops of the code. Where the code cannot satisfy a statement the
full statement is kept in a comment next to the `_partial` theorem and its refutation.
-/
namespace Fabio.Props.C20
open Fabio Fabio.Model.C20

abbrev EventInRange := Lemmas.C20.EventInRange
abbrev EventCalendar := Lemmas.C20.EventCalendar

/-- `atoi` prints the sign and the zero-padded decimal digits (`Nat.toDigits 10`) of `|i|`, for every
int64 except MinInt64 and every pad that fits the 128-byte scratch array. -/
theorem atoi_eq_decimal (i : Int) (pad : Nat) (hlo : -2^63 < i) (hhi : i < 2^63) (hpad : pad ≤ 127) :
    atoi i pad = .ok (Spec.decimal i pad) := Lemmas.C20.atoi_eq_decimal i pad hlo hhi hpad

/-- At pad 0 that is `Nat.repr |i|`, what `toString` prints. -/
theorem atoi_eq_repr (i : Int) (hlo : -2^63 < i) (hhi : i < 2^63) :
    atoi i 0 = .ok ((if i < 0 then ['-'] else []) ++ (Nat.repr i.natAbs).toList) := by
  rw [atoi_eq_decimal i 0 hlo hhi (by omega)]
  simp [Spec.decimal, Spec.zpad]

/-- MinInt64: `-i` wraps, the digit loop is skipped: a bare sign (and the padding). No log field can take
this value (sizes and status codes are non-negative, durations are divided first, and `$time_unix_ns`, which prints
`End.UnixNano()` undivided, gets it from `time.Now()`). -/
theorem atoi_minInt64 (pad : Nat) (hpad : pad ≤ 127) :
    atoi minInt64 pad = .ok ('-' :: List.replicate pad '0') := Lemmas.C20.atoi_minInt64 pad hpad

/-- `atoi` never panics on an int64 with a pad that fits the scratch array; the package uses pads ≤ 9 (fact
`atoi_pads_pinned`). -/
theorem atoi_total (i : Int) (pad : Nat) (hlo : -2^63 ≤ i) (hhi : i < 2^63) (hpad : pad ≤ 127) :
    (atoi i pad).isPanic = false := Lemmas.C20.atoi_total i pad ⟨hlo, hhi⟩ hpad

/-- The bound on `pad` is forced: one more and the write before the array starts panics. -/
theorem atoi_pad_bound_forced : (atoi 7 129).isPanic = true ∧ (atoi (-7) 128).isPanic = true := by decide +kernel

/-- `i32toa` equals `strconv.Itoa` on every int32, MinInt32 included. -/
theorem i32toa_eq_decimal (n : Int) (hlo : -2^31 ≤ n) (hhi : n < 2^31) :
    i32toa n = .ok (Spec.itoa n) := Lemmas.C20.i32toa_eq_decimal n hlo hhi

/-- `uint16base16` equals `"0x" ++` the four lower-case hex digits, most significant first
(`Nat.toDigits 16` zero-padded to width 4), on every uint16. -/
theorem uint16base16_eq_hex4 (n : Nat) (h : n < 65536) :
    uint16base16 n = .ok (Spec.hex4 n) := Lemmas.C20.uint16base16_eq_hex4 n h

/-- The text is the 8-4-4-4-12 lower-hex rendering of the first 16 of the 24 bytes, in order; no index
of the position table leaves the 36-byte buffer. -/
theorem uuid_format (u : List UInt8) (h : u.length = 24) :
    uuidToString u = .ok (Spec.uuidText u) := Lemmas.C20.uuid_format u h

theorem uuid_shape (u : List UInt8) (h : u.length = 24) :
    (Spec.uuidText u).length = 36 ∧
    (∀ i, i ∈ [8, 13, 18, 23] → (Spec.uuidText u)[i]? = some '-') ∧
    (∀ i, i < 36 → i ∉ [8, 13, 18, 23] → ∃ c, (Spec.uuidText u)[i]? = some c ∧ Lemmas.C20.isLowerHex c = true) := by
  open Lemmas.C20 in
  have hd : ∀ i ∈ [8, 13, 18, 23], layout[i]? = some Cell.dash := by decide +kernel
  have hx : ∀ i : Fin 36, i.val ∉ [8, 13, 18, 23] → (layout[i.val]?.any Cell.isDigit) = true := by decide +kernel
  rw [uuidText_eq_layout u h]
  refine ⟨by rw [List.length_map, layout_eq]; rfl, fun i hi => by rw [List.getElem?_map, hd i hi]; rfl, ?_⟩
  intro i hi hni
  have := hx ⟨i, hi⟩ hni
  rw [List.getElem?_map]
  cases hc : layout[i]? with
  | none => rw [hc] at this; cases this
  | some c => rw [hc] at this; exact ⟨_, rfl, Cell.char_isLowerHex u c this⟩

/-- `hostport` never panics, whatever the address looks like (D24 repaired). -/
theorem hostport_total (s : List Char) : (hostport s).isPanic = false := Lemmas.C20.hostport_total s

/-- With a colon, `host:port` is the address and the port has no colon; without one the address is the
host and the port is empty. -/
theorem hostport_spec (s : List Char) :
    ∃ h p, hostport s = .ok (h, p) ∧ Spec.hostportOk s h p = true := Lemmas.C20.hostport_spec s

/-- `lex` consumes at least one rune of a non-empty input and never more than there is: the loop of
`parse` terminates and its slice expressions are in range. -/
theorem lex_progress (s : List Char) (h : s ≠ []) : 1 ≤ (lex s).2 ∧ (lex s).2 ≤ s.length :=
  ⟨(Lemmas.C20.lex_inv s h).1, (Lemmas.C20.lex_inv s h).2.1⟩

/-- `parse` never panics and never spins (fuel `len + 1` suffices), for every format and field table. -/
theorem parse_total (known : List Char → Bool) (format : List Char) :
    (parseWith known format).isPanic = false := Lemmas.C20.parse_total known format

/-- A successful parse contains known fields only: an unknown field is an error of `logger.New`. -/
theorem parse_known (known : List Char → Bool) (format : List Char) (p : List Item)
    (h : parseWith known format = .ok (.ok p)) : ∀ n, Item.field n ∈ p → known n = true :=
  (Lemmas.C20.parseLoop_accepts known _ _ _ _ h).2 (by simp)

/-- A successful parse splits the format: nothing is dropped or invented. -/
theorem parse_concat (known : List Char → Bool) (format : List Char) (p : List Item)
    (h : parseWith known format = .ok (.ok p)) : p.flatMap Lemmas.C20.itemSrc = format := by
  simpa using (Lemmas.C20.parseLoop_accepts known _ _ _ _ h).1

/-- `$response_time_{ms,us,ns}` for End ≥ Start: seconds, a dot, the truncated fraction zero-padded. -/
theorem durations (e : Event) (h0 : 0 ≤ e.durNs) (h1 : e.durNs < 2^63) :
    responseTime e 1000000 3 = .ok (Spec.refSeconds e.durNs 3) ∧
    responseTime e 1000 6 = .ok (Spec.refSeconds e.durNs 6) ∧
    responseTime e 1 9 = .ok (Spec.refSeconds e.durNs 9) := Lemmas.C20.durations e h0 h1

/-- All 31 fields of the table render what the reference does — `Nat.repr` for the numbers; for the time
fields the calendar fields *of End in UTC*, in RFC 3339 / common-log layout with `Z` / `+0000` (D25 repaired:
facts `time_fields_use_utc`); for the four that go through `hostport` the split at the last colon
(`hostport_eq_reference`). The hypothesis `hmin` is forced: `fields_eq_reference_fails_at_minInt64`. -/
theorem all_fields_eq_reference_partial (e : Event) (hr : EventInRange e) (hc : EventCalendar e) (hd : 0 ≤ e.durNs)
    (hmin : -2^63 < e.status ∧ -2^63 < e.contentLength ∧ -2^63 < e.unixNano)
    (name : String) (f : Event → Outcome (List Char)) (hf : fieldTable.lookup name = some f) :
    ∃ r, Spec.refField e name = some r ∧ f e = .ok r :=
  Lemmas.C20.fields_eq_reference_all e ⟨hr, hc, hd, hmin⟩ name f hf

/-- `all_fields_eq_reference_partial` for the fields other than the four that go through `hostport`. -/
theorem fields_eq_reference_partial (e : Event) (hr : EventInRange e) (hc : EventCalendar e) (hd : 0 ≤ e.durNs)
    (hmin : -2^63 < e.status ∧ -2^63 < e.contentLength ∧ -2^63 < e.unixNano)
    (name : String) (f : Event → Outcome (List Char)) (hf : fieldTable.lookup name = some f)
    (_ : name ∉ ["$remote_host", "$remote_port", "$upstream_host", "$upstream_port"]) :
    ∃ r, Spec.refField e name = some r ∧ f e = .ok r :=
  all_fields_eq_reference_partial e hr hc hd hmin name f hf

/-- The statement without `hmin` (every int64 the event can carry) is false: `EventInRange` allows a status of
MinInt64, which `atoi` prints as a bare `-` (`atoi_minInt64`) and the reference as `-9223372036854775808`. -/
theorem fields_eq_reference_fails_at_minInt64 :
    ¬ (∀ (e : Event) (_ : EventInRange e) (_ : EventCalendar e) (_ : 0 ≤ e.durNs)
        (name : String) (f : Event → Outcome (List Char)) (_ : fieldTable.lookup name = some f)
        (_ : name ∉ ["$remote_host", "$remote_port", "$upstream_host", "$upstream_port"]),
        ∃ r, Spec.refField e name = some r ∧ f e = .ok r) := by
  intro h
  obtain ⟨r, h1, h2⟩ := h { status := minInt64 } (by constructor <;> decide +kernel) (by constructor <;> decide +kernel)
    (by decide) "$response_status" (fun e => atoi e.status 0) rfl (by decide)
  have h3 : Spec.refField { status := minInt64 } "$response_status" = some (Spec.itoa minInt64) := rfl
  rw [h3] at h1
  cases h1
  exact absurd h2 (by decide +kernel)

/-- The time fields spelled out: with the UTC calendar fields of the instant as inputs, `$time_rfc3339` is
`YYYY-MM-DDTHH:MM:SSZ` and `$time_common` is `DD/Mon/YYYY:HH:MM:SS +0000`. -/
theorem time_fields_utc (e : Event) (hr : EventInRange e) (hc : EventCalendar e) (hd : 0 ≤ e.durNs)
    (hmin : -2^63 < e.status ∧ -2^63 < e.contentLength ∧ -2^63 < e.unixNano)
    (f g : Event → Outcome (List Char))
    (hf : fieldTable.lookup "$time_rfc3339" = some f) (hg : fieldTable.lookup "$time_common" = some g) :
    f e = .ok (Spec.refRfc3339 e ++ ['Z']) ∧
    ∃ r, Spec.refField e "$time_common" = some r ∧ g e = .ok r := by
  constructor
  · obtain ⟨r, h1, h2⟩ := all_fields_eq_reference_partial e hr hc hd hmin _ f hf
    have h1' : some (Spec.refRfc3339 e ++ ['Z']) = some r := h1
    rw [h2, ← Option.some.inj h1']
  · exact all_fields_eq_reference_partial e hr hc hd hmin _ g hg

/-- No field function panics and neither does `write`: logging cannot take the request handler down,
whatever the addresses, header values, sizes and times are. -/
theorem write_total (p : List Item) (e : Event) (hp : ∀ n, Item.field n ∈ p → knownField n = true)
    (he : EventInRange e) : (write p e).isPanic = false := by
  obtain ⟨b, hb⟩ := (Outcome.isPanic_false_iff _).1 (Lemmas.C20.render_total p e hp he)
  rw [Lemmas.C20.write_of_render hb]
  rfl

/-- `write_total` for every pattern `parse` accepts: `New` then `Log`, whatever the format. -/
theorem log_total (format : List Char) (e : Event) (he : EventInRange e) :
    (newAndLog format e).isPanic = false := by
  obtain ⟨r, hp⟩ := (Outcome.isPanic_false_iff _).1 (parse_total knownField format)
  match r, hp with
  | .ok (it :: rest), hp =>
    rw [Lemmas.C20.newAndLog_of_parse e hp, Outcome.isPanic_map]
    exact write_total _ e (parse_known knownField format _ hp) he
  -- a format that `New` refuses
  | .ok [], hp | .error _, hp => rw [newAndLog, show parse format = _ from hp]; rfl

/-
Full statement of the property sentence "writes exactly one line":
  ∀ p e b, p ≠ [] → render p e = .ok b → write p e = .ok (b ++ ['\n'])
It is false (`exactly_one_line_fails_on_empty_rendering`, D26): `pattern.write` returns before appending
the newline when the buffer is empty. The hypothesis `b ≠ []` is forced.
-/
theorem exactly_one_line_partial (p : List Item) (e : Event) (b : List Char) (h : render p e = .ok b) (hne : b ≠ []) :
    write p e = .ok (b ++ ['\n']) := by
  cases b with
  | nil => exact absurd rfl hne
  | cons c cs => exact Lemmas.C20.write_of_render h

theorem one_newline (b : List Char) (h : '\n' ∉ b) : (b ++ ['\n']).count '\n' = 1 := by
  simp [List.count_append, List.count_eq_zero.mpr h]

/-- An empty rendering writes nothing at all — not even the newline (D26). -/
theorem empty_rendering_writes_nothing (p : List Item) (e : Event) (h : render p e = .ok []) :
    write p e = .ok [] := Lemmas.C20.write_of_render h

/-- Witness: the valid format `$header.Referer` and a request without that header. -/
theorem exactly_one_line_fails_on_empty_rendering :
    ∃ (p : List Item) (e : Event), p ≠ [] ∧ parse "$header.Referer".toList = .ok (.ok p) ∧
      render p e = .ok [] ∧ write p e = .ok [] :=
  ⟨[.header "Referer".toList], {}, by decide +kernel, by rfl, by decide +kernel, by decide +kernel⟩

/-- `hostport` computes exactly the reference's split at the last colon (`Spec.splitLastColon`, written with
`reverse`/`takeWhile`): host and port of `$remote_*` / `$upstream_*` are what the reference prints, for every
address — empty, without a port, IPv6 in brackets, several colons. -/
theorem hostport_eq_reference (s : List Char) : hostport s = .ok (Spec.splitLastColon s) :=
  Lemmas.C20.hostport_eq_split s

/-
Full statement of the property's first sentence at the level of the model:
  ∀ format p e, parse format = ok p → p ≠ [] → EventInRange e → EventCalendar e → 0 ≤ e.durNs →
     newAndLog format e = ok (written (Spec.refLine p e ++ ['\n']))
It is false twice: at MinInt64 (`fields_eq_reference_fails_at_minInt64`) and for an empty rendering
(`exactly_one_line_fails_on_empty_rendering`, D26). Both hypotheses below are forced.
-/
/-- **The first sentence of the property, end to end**: for every format `logger.New` accepts and every event,
`Log` writes exactly the reference line — text items as they are, header items by `Header.Get`, every field as
`Nat.repr` / the UTC calendar fields / the last-colon split render it — followed by exactly one newline. -/
theorem log_line_eq_reference_partial (format : List Char) (p : List Item) (e : Event)
    (hp : parse format = .ok (.ok p)) (hr : EventInRange e) (hc : EventCalendar e) (hd : 0 ≤ e.durNs)
    (hmin : -2^63 < e.status ∧ -2^63 < e.contentLength ∧ -2^63 < e.unixNano) (hline : Spec.refLine p e ≠ []) :
    newAndLog format e = .ok (.written (Spec.refLine p e ++ ['\n'])) := by
  have hrd := Lemmas.C20.render_eq_reference p e (parse_known knownField format p hp) ⟨hr, hc, hd, hmin⟩
  cases p with
  | nil => exact absurd rfl hline
  | cons it rest => rw [Lemmas.C20.newAndLog_of_parse e hp, exactly_one_line_partial _ e _ hrd hline]; rfl

/-- The bytes written are one line if no text item, header value or address carries a newline of its own. -/
theorem log_line_is_one_line (p : List Item) (e : Event) (h : '\n' ∉ Spec.refLine p e) :
    (Spec.refLine p e ++ ['\n']).count '\n' = 1 := one_newline _ h

-- so that closed statements about a `ParseResult` can be evaluated
deriving instance DecidableEq for Except

/-- One evaluation for the three examples below that run `parse`, which are its projections: an evaluation decodes the
field names of the model once per declaration. -/
theorem parse_vectors :
    parse "$remote_host:$remote_port $response_status".toList =
      .ok (.ok [.field "$remote_host".toList, .text ":".toList, .field "$remote_port".toList, .text " ".toList,
        .field "$response_status".toList]) ∧
    Spec.refLine [.field "$remote_host".toList, .text ":".toList, .field "$remote_port".toList, .text " ".toList,
        .field "$response_status".toList] { remoteAddr := "[::1]:5000".toList, status := 204 } = "[::1]:5000 204".toList ∧
    parse "$remote_host [$time_common] $nope".toList = .ok (.error "$nope".toList) ∧
    newAndLog "$time_rfc3339_ms $response_time_ms|$header.x-y".toList
      { year := 2020, month := 2, day := 29, hour := 23, minute := 59, second := 59, nanos := 999999999, durNs := 1500000,
        header := some [("X-Y".toList, ["v".toList])] }
      = .ok (.written "2020-02-29T23:59:59.999Z 0.001|v\n".toList) := by
  simp only [toList_chars rfl]; decide +kernel

example : ∃ p, parse "$remote_host:$remote_port $response_status".toList = .ok (.ok p) ∧
    Spec.refLine p { remoteAddr := "[::1]:5000".toList, status := 204 } = "[::1]:5000 204".toList :=
  ⟨_, parse_vectors.1, parse_vectors.2.1⟩

/-- `Log` as micro-steps get; render; lock; write; unlock; put over a pool of shared buffers: for every
schedule of any number of request threads, every choice `sync.Pool` makes, every assignment of events and
every renderer, each line that reaches the sink is the rendering of the event whose `Log` call wrote it.
The pooled buffer is exclusively owned from `get` to `put`, and `put` comes after the write (the order is
pinned by the regenerated fact `log_call_order_pinned`). -/
theorem log_lines_intact_any_schedule {Ev : Type} (render : Ev → List Char) (evs : List (List Ev))
    (sched : List (Nat × Nat)) :
    Model.C20Log.SinkIntact render (Model.C20Log.run Model.C20Log.goodProg render sched (Model.C20Log.init evs)) :=
  (Lemmas.C20Log.inv_run render sched _ (Lemmas.C20Log.inv_init render evs)).sink

/-- The order matters: with `put` before `lock` (the buffer handed back while the bytes are still to be
written) there is a schedule of two requests in which the first request's line is replaced by the second's:
thread 0 renders and puts, thread 1 gets the same buffer and renders, thread 0 writes thread 1's bytes. -/
theorem early_put_loses_a_line :
    ¬ Model.C20Log.SinkIntact Lemmas.C20Log.r1
      (Model.C20Log.run Model.C20Log.earlyPutProg Lemmas.C20Log.r1 [(0,0),(0,0),(0,0),(1,0),(1,0),(0,0),(0,0)]
        (Model.C20Log.init [['A'],['B']])) := by
  decide

/-- a schedule in which both requests overlap (both hold a buffer at once) and both lines arrive intact -/
example : (Model.C20Log.run Model.C20Log.goodProg Lemmas.C20Log.r1
      [(0,0),(0,0),(1,0),(1,0),(0,0),(0,0),(0,0),(0,0),(0,0),(1,0),(1,0),(1,0),(1,0),(1,0)]
      (Model.C20Log.init [['A'],['B']])).sink = [(['A'], 'A'), (['B'], 'B')] := by decide +kernel

/-- The wrapper `ServeHTTP` puts around the client connection for the access log is transparent — the
connection receives every call of the handler, in order (a `Flush` only if it can flush), in particular an
informational 1xx header AND the final status after it — and what the log gets is the status of the last
`WriteHeader` and the number of bytes the connection accepted. -/
theorem capture_transparent (flusher : Bool) (ops : List Model.C20Capture.RWOp) :
    (Model.C20Capture.captureRun flusher ops).forwarded = Model.C20Capture.visible flusher ops ∧
    (Model.C20Capture.captureRun flusher ops).size = Model.C20Capture.accepted ops ∧
    (Model.C20Capture.captureRun flusher ops).code = ((Model.C20Capture.statuses ops).getLast?).getD 0 :=
  Lemmas.C20Capture.captureRun_spec flusher ops

example : (Model.C20Capture.captureRun true [.header 103, .header 404, .write 9 9]).code = 404 ∧
    (Model.C20Capture.captureRun true [.header 103, .header 404, .write 9 9]).forwarded = [.header 103, .header 404, .write 9 9] := by
  decide +kernel

example : atoi (-42) 4 = .ok "-0042".toList := by
  simp only [toList_chars rfl]
  decide +kernel
example : atoi 9223372036854775807 0 = .ok "9223372036854775807".toList := by
  simp only [toList_chars rfl]
  decide +kernel
example : -2^63 < (-9223372036854775807 : Int) ∧ (-9223372036854775807 : Int) < 2^63 := by decide +kernel
example : i32toa (-2147483648) = .ok "-2147483648".toList := by
  simp only [toList_chars rfl]
  decide +kernel
example : uint16base16 0x0301 = .ok "0x0301".toList := by
  simp only [toList_chars rfl]
  decide +kernel
example : uuidToString ((List.range 24).map UInt8.ofNat) = .ok "00010203-0405-0607-0809-0a0b0c0d0e0f".toList := by
  simp only [toList_chars rfl]
  decide +kernel
example : hostport "backend".toList = .ok ("backend".toList, []) := by
  simp only [toList_chars rfl]
  decide +kernel
example : hostport "[::1]:80".toList = .ok ("[::1]".toList, "80".toList) := by
  simp only [toList_chars rfl]
  decide +kernel
example : lex "$header.X-Y z".toList = (.header, 11) := by
  simp only [toList_chars rfl]
  decide +kernel
example : lex "$header.".toList = (.field, 7) := by
  simp only [toList_chars rfl]
  decide +kernel
example : parse "$remote_host [$time_common] $nope".toList = .ok (.error "$nope".toList) := parse_vectors.2.2.1
example : ∃ e : Event, EventInRange e ∧ EventCalendar e ∧ 0 ≤ e.durNs :=
  ⟨{ year := 2020, month := 2, day := 29, hour := 23, minute := 59, second := 59, nanos := 999999999, durNs := 1500000 },
   ⟨by decide, by decide, by decide, by decide, by decide, by decide, by decide, by decide, by decide, by decide, by decide⟩,
   ⟨by decide, by decide, by decide, by decide, by decide, by decide, by decide⟩, by decide⟩
example : newAndLog "$time_rfc3339_ms $response_time_ms|$header.x-y".toList
    { year := 2020, month := 2, day := 29, hour := 23, minute := 59, second := 59, nanos := 999999999, durNs := 1500000,
      header := some [("X-Y".toList, ["v".toList])] }
    = .ok (.written "2020-02-29T23:59:59.999Z 0.001|v\n".toList) := parse_vectors.2.2.2

end Fabio.Props.C20
