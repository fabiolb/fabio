import Fabio.Model.C16RelayLim
import Fabio.Props.C16Relay
/-!
C16 — the relay with message limits (`Model/C16RelayLim.lean`).  When every message the two ends send is within
the configured limits (`Serve.Limits.reqOK` / `repOK`) the relay with limits reaches exactly the state the relay
without reaches, so what `Props/C16Relay.lean` and `Props/C16RelayLive.lean` prove of that state carries over
(`limited_finished_call_is_transparent`); a message over a limit is *reported*: the step that meets it ends the call
with `ResourceExhausted`, it is not dropped silently, as `c16.serve` demands of the real binary.
-/
namespace Fabio.Props.C16RelayLim
open Fabio.Model.C16 Fabio.Model.C16.Spec Fabio.Model.C16.Relay Fabio.Model.C16.Serve Fabio.Model.C16.RelayLim
open Fabio.Lemmas.C16Relay Fabio.Props.C16Relay

/-- everything in flight towards a limit check is within that limit -/
def Small (l : Limits) (s : St) : Prop :=
  (∀ m ∈ s.qA, l.reqOK (size m) = true) ∧ (∀ m ∈ s.qC, l.repOK (size m) = true) ∧
  (∀ m ∈ s.c2s.held, l.repOK (size m) = true)

theorem small_init (l : Limits) (method : String) (md : SMD) : Small l (init method md) := by
  refine ⟨?_, ?_, ?_⟩ <;> intro m h <;> simp [init, C2S.held] at h

theorem stepL_eq_step (l : Limits) (s : St) (e : Ev) (h : Small l s) : stepL l s e = step s e := by
  obtain ⟨ha, hc, hh⟩ := h
  cases e with
  | s2cStep =>
    simp only [stepL]
    split
    · rename_i m r hs hq
      have : l.reqOK (size m) = true := ha m (by rw [hq]; exact List.mem_cons_self)
      simp [this]
    · rfl
  | c2sStep =>
    cases hs : s.c2s with
    | recv =>
      cases hq : s.qC with
      | nil => simp [stepL, hs, hq]
      | cons m r =>
        have : l.repOK (size m) = true := hc m (by rw [hq]; exact List.mem_cons_self)
        simp only [Limits.repOK, Bool.and_eq_true, decide_eq_true_eq] at this
        simp [stepL, hs, hq, this.1]
    | send m =>
      have : l.repOK (size m) = true := hh m (by rw [hs]; simp [C2S.held])
      simp only [Limits.repOK, Bool.and_eq_true, decide_eq_true_eq] at this
      cases hq : s.qC <;> simp [stepL, hs, hq, this.2]
    | hdr m => cases hq : s.qC <;> simp [stepL, hs, hq]
    | done tr st => cases hq : s.qC <;> simp [stepL, hs, hq]
  -- the limits are checked in the two forwarders only
  | _ => rfl

def evOK (l : Limits) : Ev → Bool
  | .callerSend m => l.reqOK (size m)
  | .backendSend m => l.repOK (size m)
  | _ => true

theorem small_step (l : Limits) (s : St) (e : Ev) (h : Small l s) (he : evOK l e = true) : Small l (step s e) := by
  rcases step_cases s e with ⟨hs, _⟩ | hf
  · rw [hs]; exact h
  generalize step s e = s' at hf
  obtain ⟨ha, hc, hh⟩ := h
  cases hf with
  | callerSend m _ => exact ⟨forall_mem_concat ha he, hc, hh⟩
  | backendSend m _ => exact ⟨ha, forall_mem_concat hc he, hh⟩
  | s2cTake m r _ _ hq => exact ⟨fun x hx => ha x (by rw [hq]; exact List.mem_cons_of_mem _ hx), hc, hh⟩
  | c2sTake m r _ hq =>
    have hm : l.repOK (size m) = true := hc m (by rw [hq]; exact List.mem_cons_self)
    refine ⟨ha, fun x hx => hc x (by rw [hq]; exact List.mem_cons_of_mem _ hx), fun x hx => ?_⟩
    have : x = m := by cases hf : s.first <;> simpa [hf, C2S.held] using hx
    rw [this]; exact hm
  | c2sFin _ _ _ _ _ => exact ⟨ha, hc, nofun⟩
  | c2sHdr m hs => exact ⟨ha, hc, by rw [hs] at hh; exact hh⟩
  | c2sPut m _ => exact ⟨ha, hc, nofun⟩
  | _ => exact ⟨ha, hc, hh⟩

/-- **Within the limits the limits are invisible**: for every event list whose messages are within the limits
the relay with limits reaches exactly the state the relay without limits reaches. -/
theorem within_limits_same_as_unlimited (l : Limits) (s : St) (es : List Ev) (hs : Small l s)
    (hw : es.all (evOK l) = true) : runL l s es = run s es ∧ Small l (run s es) :=
  List.foldl_rel (r := fun a b => a = b ∧ Small l b) ⟨rfl, hs⟩ fun e he a _ ⟨rfl, ha⟩ =>
    ⟨stepL_eq_step l a e ha, small_step l a e ha (List.all_eq_true.mp hw e he)⟩

theorem limited_finished_call_is_transparent (l : Limits) (method : String) (md : SMD) (es : List Ev)
    (hw : es.all (evOK l) = true) (tr : SMD) (st : Status)
    (h : (runL l (init method md) es).cFin = some (tr, st)) :
    ∃ st0, (runL l (init method md) es).bFin = some (tr, st0) ∧ st = st0.norm ∧
      (runL l (init method md) es).cGot = (runL l (init method md) es).bSent ∧
      ((runL l (init method md) es).bSent ≠ [] → (runL l (init method md) es).cHdr = some (runL l (init method md) es).bHdr) ∧
      ((runL l (init method md) es).bSent = [] → (runL l (init method md) es).cHdr = none) := by
  obtain ⟨e, _⟩ := within_limits_same_as_unlimited l (init method md) es (small_init l method md) hw
  rw [e] at h ⊢
  exact finished_call_is_transparent method md es tr st h

/-- a caller message over `rx` met by the forwarder: the call is answered `ResourceExhausted` at that step -/
theorem oversized_request_reported (l : Limits) (s : St) (m : Msg) (r : List Msg)
    (hs : s.s2c = .recv) (hq : s.qA = m :: r) (hd : s.dFin = none) (hm : l.rx < size m) :
    (stepL l s .s2cStep).dFin = some ([], exhausted) ∧ (stepL l s .s2cStep).qB = s.qB := by
  have : l.reqOK (size m) = false := by simp [Limits.reqOK]; omega
  simp [stepL, hs, hq, hd, this]

/-- a backend message over `rx` met by the forwarder: the backend's stream ends with `ResourceExhausted`, which
the handler hands to the caller like any backend status; nothing of the message reaches the caller -/
theorem oversized_reply_reported_rx (l : Limits) (s : St) (m : Msg) (r : List Msg)
    (hs : s.c2s = .recv) (hq : s.qC = m :: r) (hm : l.rx < size m) :
    (stepL l s .c2sStep).c2s = .done [] exhausted ∧ (stepL l s .c2sStep).qD = s.qD := by
  have : ¬ size m ≤ l.rx := by omega
  simp [stepL, hs, hq, this]

/-- a backend message over `tx` at the send to the caller: answered `ResourceExhausted`, not sent -/
theorem oversized_reply_reported_tx (l : Limits) (s : St) (m : Msg)
    (hs : s.c2s = .send m) (hd : s.dFin = none) (hm : l.tx < size m) :
    (stepL l s .c2sStep).dFin = some ([], exhausted) ∧ (stepL l s .c2sStep).qD = s.qD := by
  have : ¬ size m ≤ l.tx := by omega
  cases hq : s.qC <;> simp [stepL, hs, hq, hd, this]

/- Four runs with rx = 4, tx = 2 bytes: a 4-byte request and a 2-byte reply pass and the call is transparent; a 5-byte
request ends the call with `ResourceExhausted` before the backend sees it; a 3-byte reply ends it at the send. -/
example :
    let l : Limits := { rx := 4, tx := 2 }
    let up : List Ev := [.callerSend "01020304", .callerClose] ++ settle 3
    up.all (evOK l) = true ∧ (runL l (init "/m" []) up).bGot = ["01020304"] ∧ (runL l (init "/m" []) up).bEOF = true := by decide +kernel

example :
    let l : Limits := { rx := 4, tx := 2 }
    let dn : List Ev := [.backendSend "0a0b", .backendFinish [] {}] ++ settle 4
    dn.all (evOK l) = true ∧ (runL l (init "/m" []) dn).cFin = some ([], {}) ∧ (runL l (init "/m" []) dn).cGot = ["0a0b"] := by decide +kernel

example :
    let l : Limits := { rx := 4, tx := 2 }
    let big : List Ev := [.callerSend "0102030405", .callerClose] ++ settle 2
    (runL l (init "/m" []) big).cFin = some ([], exhausted) ∧ (runL l (init "/m" []) big).bGot = [] := by decide +kernel

example :
    let l : Limits := { rx := 4, tx := 2 }
    let big : List Ev := [.backendSend "0a0b0c", .backendFinish [] {}] ++ settle 4
    (runL l (init "/m" []) big).cFin = some ([], exhausted) ∧ (runL l (init "/m" []) big).cGot = [] := by decide +kernel

end Fabio.Props.C16RelayLim
