import Fabio.Generated.C10
import Fabio.Model.C10
import Fabio.Props.C10
import Fabio.Xlate.Cps
/-!
C10 — the tie by translation. `Fabio.Generated.C10.XBufSize` and `XUnmarshal` are produced on every run by the
Go→Lean translator (`tools/factgen/xlate.go`) from the current `proxy/tcp/tls_clienthello.go`; they are what the
code says now. The theorems below prove them equal — for every input — to the hand-written model
(`Model/C10.lean`) that the property theorems of `Props/C10.lean` are about, so those theorems hold of the
translated source. A change to the Go functions changes the generated definitions and these proofs are re-checked
against it (`lake build` on every run).

Only the classification is compared for rejections (the model names a rejection by its site, the code by its
error text); values and panics are compared exactly.
-/
namespace Fabio.Props.C10Xlate
open Fabio Fabio.Xlate Fabio.Model.C10 Fabio.Generated.C10

inductive Obs (α : Type) where
  | val (a : α)
  | rejected
  | panicked
deriving DecidableEq, Repr

def obsModel {α} : R α → Obs α
  | .ok a => .val a
  | .reject _ => .rejected
  | .panic _ => .panicked

/-- `clientHelloBufferSize` returns `(n, nil)` or `(0, err)`. -/
def obsBufSize : V (XBufSize.Rho × XBufSize.St) → Obs Nat
  | .ok ((n, none), _) => if 0 ≤ n then .val n.toNat else .panicked
  | .ok ((_, some _), _) => .rejected
  | .panic _ => .panicked

@[simp] theorem orI_ofNat (a b : Nat) : orI (Int.ofNat a) (Int.ofNat b) = Int.ofNat (a ||| b) := rfl

@[simp] theorem shlI_ofNat (a k : Nat) : shlI (Int.ofNat a) k = Int.ofNat (a <<< k) := by
  rw [Nat.shiftLeft_eq]; rfl

@[simp] theorem orI_be16 (a b : UInt8) : orI (shlI (↑a.toNat) 8) (↑b.toNat) = ((be16 a b : Nat) : Int) := by
  simp only [← Int.ofNat_eq_natCast, shlI_ofNat, orI_ofNat]; rfl

@[simp] theorem orI_be24 (a b c : UInt8) :
    orI (orI (shlI (↑a.toNat) 16) (shlI (↑b.toNat) 8)) (↑c.toNat) = ((be24 a b c : Nat) : Int) := by
  simp only [← Int.ofNat_eq_natCast, shlI_ofNat, orI_ofNat]; rfl

/-- `uint16(a)<<8 | uint16(b)`, the extension number, is `be16` as well. -/
theorem ext16_toNat (a b : UInt8) : ((a.toUInt16 <<< (8 : UInt16)) ||| b.toUInt16).toNat = be16 a b := by
  have ha := a.toNat_lt
  have : a.toNat * 256 % 65536 = a.toNat * 256 := by omega
  simp [be16, UInt16.toNat_or, UInt16.toNat_shiftLeft, Nat.shiftLeft_eq, this]

/-- The translated test `extension == 0`. -/
theorem ext16_zero (a b : UInt8) :
    ((a.toUInt16 <<< (8 : UInt16)) ||| b.toUInt16 == (0 : UInt16)) = decide (be16 a b = 0) := by
  rw [← ext16_toNat]
  generalize ((a.toUInt16 <<< (8 : UInt16)) ||| b.toUInt16) = x
  cases h : (x == (0 : UInt16)) <;> simp_all [← UInt16.toNat_inj]

@[simp] theorem R_bind_ok {α β} (a : α) (f : α → R β) : (R.ok a >>= f) = f a := Lemmas.C10.ok_bind a f
@[simp] theorem R_bind_reject {α β} (w : String) (f : α → R β) : ((R.reject w : R α) >>= f) = .reject w :=
  Lemmas.C10.reject_bind w f
@[simp] theorem R_bind_panic {α β} (w : String) (f : α → R β) : ((R.panic w : R α) >>= f) = .panic w :=
  Lemmas.C10.panic_bind w f


/-! The model (`Model/C10.lean`) is written statement by statement after the Go source, in the monad `R`, over checked
operations that are those of the translation: `idx`, `slice`, … give the same results and the same panics. So both
sides are the same chain of operations, and the proofs below only bring them into one form (`Xlate/Cps.lean`,
`simp only [cps]`): no bound is derived for either side. What differs is the integer type (Go's `int` is `Int` in
the translation, lengths are `Nat` in the model); the closing `simp` of each proof compares the conditions. -/

/-- go on with the result of a model stage; `r`, `p` take the site of a rejection, the text of a panic -/
def thenR {α β} (x : R α) (r p : String → β) (f : α → β) : β :=
  match x with
  | .ok a => f a
  | .reject w => r w
  | .panic w => p w

section
variable {α β γ : Type}
@[cps] theorem thenR_ok (a : α) (r p : String → β) (f : α → β) : thenR (.ok a) r p f = f a := by unfold thenR; exact rfl
@[cps] theorem thenR_reject (w : String) (r p : String → β) (f : α → β) : thenR (.reject w : R α) r p f = r w := by
  unfold thenR; exact rfl
@[cps] theorem thenR_bind (x : R α) (g : α → R γ) (r p : String → β) (f : γ → β) :
    thenR (x >>= g) r p f = thenR x r p fun a => thenR (g a) r p f := by cases x <;> rfl
@[cps] theorem thenR_ite (c : Prop) [Decidable c] (a b : R α) (r p : String → β) (f : α → β) :
    thenR (if c then a else b) r p f = if c then thenR a r p f else thenR b r p f := by split <;> rfl
@[cps] theorem obs_bind (F : R γ → β) (x : R α) (f : α → R γ) :
    obs F (x >>= f) = thenR x (fun w => obs F (.reject w)) (fun w => obs F (.panic w)) fun a => obs F (f a) := by
  cases x <;> rfl

/-! The checked operations of the model are those of the translation, panic for panic. -/
@[cps] theorem thenR_idx (d : List UInt8) (i : Nat) (r p : String → β) (f : UInt8 → β) :
    thenR (Model.C10.idx d i) r p f = thenV (Xlate.idx d (i : Int)) p f := by
  rw [idx_natCast]; unfold idxN Model.C10.idx; cases d[i]? <;> rfl
@[cps] theorem thenR_sliceFrom (d : List UInt8) (a : Nat) (r p : String → β) (f : List UInt8 → β) :
    thenR (Model.C10.sliceFrom d a) r p f = thenV (Xlate.sliceFrom d (a : Int)) p f := by
  rw [sliceFrom_natCast]; unfold Model.C10.sliceFrom; split <;> rfl
@[cps] theorem thenR_sliceTo (d : List UInt8) (a : Nat) (r p : String → β) (f : List UInt8 → β) :
    thenR (Model.C10.sliceTo d a) r p f = thenV (Xlate.sliceTo d (a : Int)) p f := by
  rw [sliceTo_natCast]; unfold Model.C10.sliceTo; split <;> rfl
@[cps] theorem thenR_slice (d : List UInt8) (a b : Nat) (r p : String → β) (f : List UInt8 → β) :
    thenR (Model.C10.slice d a b) r p f = thenV (Xlate.slice d (a : Int) (b : Int)) p f := by
  rw [slice_natCast]; unfold Model.C10.slice; split <;> rfl
end

theorem xbufsize_eq_model (data : List UInt8) :
    obsBufSize (XBufSize.run { p0 := data }) = obsModel (clientHelloBufferSize data) := by
  unfold XBufSize.run
  rw [run_obs obsBufSize]
  show _ = obs obsModel _
  unfold XBufSize.body clientHelloBufferSize
  simp only [cps]
  have a1 : ∀ n : Nat, ((n : Int) < 9) ↔ n < 9 := fun n => by omega
  have a2 : ∀ n : Nat, ((16384 : Int) < n) ↔ 16384 < n := fun n => by omega
  have a3 : ∀ n : Nat, (0 : Int) ≤ ↑n + 9 := fun n => by omega
  have a4 : ∀ n : Nat, ((n : Int) + 9).toNat = n + 9 := fun n => by omega
  simp [obs, runK, obsBufSize, obsModel, Xlate.len, peekLen, Model.C10.maxRecordLen, Model.C10.recTypeHandshake,
    Model.C10.hsTypeClientHello, a1, a2, a3, a4]

namespace U
open XUnmarshal

/-- The name loop (`for len(d) > 0`) in front of `k`, under an observation `K` that, like `k`, does not look at `d`,
`nameType`, `nameLen` (each is assigned before it is read again): it is the model's `nameLoop` on the state's `d`,
and a host_name entry found is stored in `m.serverName`. -/
theorem loop1_K (n : Nat) : ∀ (s : St) {β : Type} (K : Flow Bool St → β) {r p : β} (_ : ∀ s', K (.ret false s') = r)
    (_ : ∀ w, K (.panic w) = p) (k : Stmt Bool St)
    (_ : ∀ d t l nm, obs K (k { s with l6 := d, l8 := t, l9 := l, m_serverName := nm }) =
      obs K (k { s with m_serverName := nm })),
    obs K (seqK k (loopN loop1Cond loop1Body n s)) =
      thenR (nameLoop n s.l6) (fun _ => r) (fun _ => p) fun o => obs K (k { s with m_serverName := o.getD s.m_serverName }) := by
  induction n with
  | zero => intro s β K r p hR hP k hdead; simp [nameLoop, loopN, seqK, thenR, obs, hP]
  | succ n ih =>
    intro s β K r p hR hP k hdead
    rw [loopN_succ (fun fl => obs K (seqK k fl)), nameLoop]
    generalize hL : loopK loop1Cond loop1Body n = L
    have hN : ∀ s', obs (fun fl => obs K (seqK k (L fl))) (.next s') = obs K (seqK k (loopN loop1Cond loop1Body n s')) :=
      fun _ => by subst hL; rfl
    have hB : ∀ s', obs (fun fl => obs K (seqK k (L fl))) (.brk s') = obs K (k s') := fun _ => by subst hL; rfl
    have hR' : ∀ s', obs (fun fl => obs K (seqK k (L fl))) (.ret false s') = r := fun _ => by subst hL; exact hR _
    have hP' : ∀ w, obs (fun fl => obs K (seqK k (L fl))) (.panic w) = p := fun _ => by subst hL; exact hP _
    unfold loop1Cond loop1Body
    simp only [cps, hN, hB, hR', hP', ih _ K hR hP k, hdead, implies_true]
    have c3 : (s.l6.length : Int) < 3 ↔ s.l6.length < 3 := by omega
    simp [seqK, obs, Xlate.len, Model.C10.nameTypeHost, c3, List.length_pos_iff]

@[cps] theorem serverNameExt_eq (d cur : List UInt8) : serverNameExt d cur =
    (if d.length < 2 then .reject "sni-len" else
      Model.C10.idx d 0 >>= fun a => Model.C10.idx d 1 >>= fun b => Model.C10.sliceFrom d 2 >>= fun d =>
      if d.length ≠ be16 a b then .reject "sni-list-length" else
      nameLoop (d.length + 1) d >>= fun r => .ok (r.getD cur)) := by
  unfold serverNameExt
  split
  · rfl
  · simp only []
    congr; funext a; congr; funext b; congr; funext d; split
    · rfl
    · congr; funext r; cases r <;> rfl

/-- `m.unmarshal(data)` returns `true` with `m.serverName` set, or `false`. -/
def obsUnmarshal : V (Bool × St) → Obs (List UInt8)
  | .ok (true, s) => .val s.m_serverName
  | .ok (false, _) => .rejected
  | .panic _ => .panicked

/-- what `unmarshal` returns after the extension loop, its last statement before `return true` -/
def obsTail (fl : Flow Bool St) : Obs (List UInt8) :=
  obsUnmarshal (runK (fun _ => false) (seqK (Xlate.ret fun _ => .ok true) fl))

/-- The extension loop (`for len(data) != 0`) agrees with the model's `extLoop` on the state's `data` and
`m.serverName`, for every fuel; one round is the model's round, the name loop inside it by `loop1_K`. -/
theorem loop0_spec (n : Nat) (s : St) :
    obs (fun fl => obsUnmarshal (runK (fun _ => false) fl))
        (seqK (Xlate.ret fun _ => V.ok true) (loopN loop0Cond loop0Body n s)) =
      obsModel (extLoop n s.p0 s.m_serverName) := by
  show obsTail _ = _
  induction n generalizing s with
  | zero => simp [extLoop, loopN, obsTail, seqK, runK, obsUnmarshal, obsModel]
  | succ n ih =>
    rw [loopN_succ obsTail, extLoop]
    show _ = obs obsModel _
    generalize hL : loopK loop0Cond loop0Body n = L
    have hR : ∀ s', obsTail (L (.ret false s')) = .rejected := fun _ => by subst hL; rfl
    have hP : ∀ w, obsTail (L (.panic w)) = .panicked := fun _ => by subst hL; rfl
    have hN : ∀ s', obs (fun fl => obsTail (L fl)) (.next s') = obsModel (extLoop n s'.p0 s'.m_serverName) :=
      fun s' => by subst hL; exact ih s'
    unfold loop0Cond loop0Body
    simp only [cps, loop1_K _ _ (fun fl => obsTail (L fl)) hR hP, hN, implies_true]
    simp only [obs, hR, hP]
    have c4 : ∀ n : Nat, (n : Int) < 4 ↔ n < 4 := fun n => by omega
    have c2 : ∀ n : Nat, (n : Int) < 2 ↔ n < 2 := fun n => by omega
    simp [obsTail, seqK, runK, obsUnmarshal, Xlate.ret, obsModel, Xlate.len, Model.C10.extensionServerName, ext16_zero,
      c4, c2, Int.natCast_inj]

/-- **The translated `clientHelloMsg.unmarshal` equals the model's `unmarshal`, for every input.** -/
theorem xunmarshal_eq_model (data : List UInt8) :
    obsUnmarshal (XUnmarshal.run { p0 := data }) = obsModel (unmarshal data) := by
  unfold XUnmarshal.run
  rw [run_obs obsUnmarshal]
  show _ = obs obsModel _
  unfold XUnmarshal.body unmarshal parseHead parseCiphers parseCompression parseExtensions
  simp only [cps, loop0_spec]
  have htm : ∀ n : Nat, ((n : Int).tmod 2 = 1) ↔ n % 2 = 1 := fun n => by
    rw [Int.tmod_eq_emod_of_nonneg (Int.natCast_nonneg n)]; omega
  simp [obs, runK, obsUnmarshal, obsModel, Xlate.len, Model.C10.minHelloLen, Model.C10.randomOff, Model.C10.sidLenOff,
    Model.C10.maxSidLen, Model.C10.sidOff, htm]
  -- the conditions: `Int` comparisons of lengths and literals on the one side, `Nat` on the other
  simp only [← Int.cast_ofNat_Int, ← Int.natCast_add, Int.ofNat_lt, Int.natCast_inj]
  simp

end U

/-! What an equation `obsX v = obsModel r` carries over from the model result `r` to the translated run `v`. -/

theorem obsModel_val {α} {r : R α} {a : α} : obsModel r = .val a ↔ r = .ok a := by
  cases r <;> simp [obsModel]

theorem obsModel_panicked {α} {r : R α} : obsModel r = .panicked ↔ r.isPanic = true := by
  cases r <;> simp [obsModel]

/-- `obsX` is `obsBufSize` or `obsUnmarshal`: a panic of the run is observed as `.panicked`. -/
theorem no_panic_of_obs {α ρ} {obsX : V ρ → Obs α} (hp : ∀ w, obsX (.panic w) = .panicked) {v : V ρ} {r : R α}
    (e : obsX v = obsModel r) (np : r.isPanic = false) (w : String) : v ≠ .panic w := by
  rintro rfl
  rw [hp, eq_comm, obsModel_panicked, np] at e
  cases e

theorem U.obsUnmarshal_val {v : V (Bool × XUnmarshal.St)} {nm : List UInt8} :
    U.obsUnmarshal v = .val nm ↔ ∃ s, v = .ok (true, s) ∧ s.m_serverName = nm := by
  rcases v with ⟨_ | _, s⟩ | w <;> simp [U.obsUnmarshal]

open U in
/-- No input makes the translated `unmarshal` panic — in particular neither loop runs out of the fuel
(`len + 1`) the translator was told to supply: both loops terminate. -/
theorem xunmarshal_no_panic (data : List UInt8) (w : String) : XUnmarshal.run { p0 := data } ≠ .panic w :=
  no_panic_of_obs (fun _ => rfl) (xunmarshal_eq_model data) (Props.C10.unmarshal_no_panic data) w

/-- No input makes the translated `clientHelloBufferSize` panic. -/
theorem xbufsize_no_panic (data : List UInt8) (w : String) : XBufSize.run { p0 := data } ≠ .panic w :=
  no_panic_of_obs (fun _ => rfl) (xbufsize_eq_model data) (Props.C10.bufsize_no_panic data) w

open U in
/-- For every well-formed hello the translated `unmarshal` returns `true` with `m.serverName = sniOf h`
(`parse_encode` of the model, at full strength: every extension list). -/
theorem xparse_encode (h : Hello) (hw : WellFormed h) :
    ∃ s, XUnmarshal.run { p0 := encode h } = .ok (true, s) ∧ s.m_serverName = sniOf h := by
  have e := xunmarshal_eq_model (encode h)
  rw [Lemmas.C10.unmarshal_of_accepted (Props.C10.parse_encode h hw)] at e
  exact obsUnmarshal_val.mp e

/-- The size the translated `clientHelloBufferSize` answers never exceeds the first TLS record
(5-byte header + record length, the record length being at most 16384), and is at least 10. -/
theorem xbufsize_le_record (data : List UInt8) (n : Int) (s : XBufSize.St)
    (h : XBufSize.run { p0 := data } = .ok ((n, none), s)) :
    ∃ h9 : 9 ≤ data.length, 10 ≤ n ∧ n ≤ (be16 data[3] data[4] : Nat) + 5 ∧ be16 data[3] data[4] ≤ 16384 := by
  have e : (if 0 ≤ n then .val n.toNat else .panicked) = obsModel (clientHelloBufferSize data) := by
    rw [← xbufsize_eq_model, h]; rfl
  by_cases hn : 0 ≤ n
  · rw [if_pos hn, eq_comm, obsModel_val] at e
    obtain ⟨h9, _, h10, hle, hmax, _⟩ := Props.C10.bufsize_le_record data _ e
    exact ⟨h9, by omega, by omega, hmax⟩
  · rw [if_neg hn, eq_comm, obsModel_panicked, Props.C10.bufsize_no_panic] at e
    cases e

/-- Non-vacuity: a concrete hello header on which the translated function answers a size. -/
example : ∃ s, XBufSize.run { p0 := [0x16, 3, 1, 0, 50, 1, 0, 0, 46] } = .ok ((55, none), s) := ⟨_, rfl⟩

/-! Shape pins (change detectors): constants and ordered check lists of `clientHelloBufferSize` and of the parser, as
extracted by `tools/factgen/c10.go` (helpers inlined, hoisted offset locals resolved, `for { if C { break } … }` read as `for !C`, names erased). They notice
that the functions were edited; what the edit *means* is decided by the streams. A pattern the extractor no longer finds
leaves its constant undefined (`Generated.C10.shapeNotes`), and this module stops building. -/

theorem shape_found : Generated.C10.shapeNotes = [] := rfl

/-- `len(data) < 9` and `return handshakeLength + 9` are the model's `peekLen` (`Peek(9)` itself:
`C10Facts.peek_pinned`). -/
theorem bufsize_peek_pinned :
    Generated.C10.peekMin = Model.C10.peekLen ∧ Generated.C10.bufsizeAdd = Model.C10.peekLen := ⟨rfl, rfl⟩

/-- `recordLength-4`: the handshake header; with the 5 bytes of record header (the skip in `readServerName(buf[5:])`
is `C10Facts.peek_pinned`) it makes up the 9 peeked bytes. -/
theorem record_header_pinned :
    Generated.C10.hsHdrLen = Model.C10.hsHdrLen ∧ Model.C10.recHdrLen + Model.C10.hsHdrLen = Model.C10.peekLen := ⟨rfl, rfl⟩

/-- Record type 0x16 at offset 0, client_hello 0x01 at offset 5, record length limit 16384. -/
theorem header_constants_pinned :
    Generated.C10.recTypeOff = 0 ∧ Generated.C10.recTypeHandshake = Model.C10.recTypeHandshake.toNat ∧
    Generated.C10.hsTypeOff = 5 ∧ Generated.C10.hsTypeClientHello = Model.C10.hsTypeClientHello.toNat ∧
    Generated.C10.maxRecordLen = Model.C10.maxRecordLen := ⟨rfl, rfl, rfl, rfl, rfl⟩

/-- The two big-endian length fields are read from bytes 3,4 and 6,7,8 with the shifts of `be16`/`be24`. -/
theorem length_fields_pinned :
    (Generated.C10.recLenHiOff, Generated.C10.recLenShift, Generated.C10.recLenLoOff) = (3, 8, 4) ∧
    (Generated.C10.hsLenOff0, Generated.C10.hsLenShift0, Generated.C10.hsLenOff1, Generated.C10.hsLenShift1,
      Generated.C10.hsLenOff2) = (6, 16, 7, 8, 8) := ⟨rfl, rfl⟩

/-- The fixed offsets of `unmarshal`. -/
theorem unmarshal_offsets_pinned :
    Generated.C10.minHelloLen = Model.C10.minHelloLen ∧ Generated.C10.randomOff = Model.C10.randomOff ∧
    Generated.C10.randomEnd = Model.C10.sidLenOff ∧ Generated.C10.sidLenOff = Model.C10.sidLenOff ∧
    Generated.C10.maxSidLen = Model.C10.maxSidLen ∧ Generated.C10.sidOff = Model.C10.sidOff ∧
    Generated.C10.sidRebindOff = Model.C10.sidOff ∧ Generated.C10.cipherRebindOff = 2 ∧
    Generated.C10.compressionRebindOff = 1 := ⟨rfl, rfl, rfl, rfl, rfl, rfl, rfl, rfl, rfl⟩

/-- The store of the server name is guarded by exactly two tests: extension type `== 0` (outermost) and
name type `== 0` (innermost, followed by `break`); no other extension is looked at. -/
theorem sni_constants_pinned :
    Generated.C10.extensionServerName = Model.C10.extensionServerName ∧
    Generated.C10.nameTypeHost = Model.C10.nameTypeHost.toNat ∧
    Generated.C10.nameStoreGuards = ["if _ == 0 [name]", "if _ == 0 [name] -> break"] := ⟨rfl, rfl, rfl⟩

/-- The checks of `clientHelloBufferSize` as normalised events, in order (the model has one branch per `if`). -/
theorem bufsize_checks_pinned : Generated.C10.bufsizeEvents =
    ["if len(_) < 9 -> return 0, …", "if _[0] != 22 -> return 0, …", "let (int(_[3])<<8)|int(_[4])",
     "if _ == 0 || 16384 < _ -> return 0, …", "if _[5] != 1 -> return 0, …",
     "let ((int(_[6])<<16)|(int(_[7])<<8))|int(_[8])", "if _ == 0 || _ < _+4 -> return 0, …"] := rfl

/-- The checks, loops, byte reads and re-slicings of the parser `readServerName` calls (helpers inlined,
variable names erased, conditions in normal form), in order: the model has one branch per `if`/`for`, one
`idx` per byte read and one `sliceFrom` per `advance`. -/
theorem unmarshal_checks_pinned : Generated.C10.unmarshalEvents =
    ["if len(_) < 42 -> return false", "slice _[6:38]", "let int(_[38])",
     "if 32 < _ || len(_) < _+39 -> return false", "advance _[_+39:]",
     "if len(_) < 2 -> return false", "let (int(_[0])<<8)|int(_[1])",
     "if _&1 != 0 || len(_) < _+2 -> return false", "advance _[_+2:]",
     "if len(_) == 0 -> return false", "let int(_[0])", "if len(_) < _+1 -> return false", "advance _[_+1:]",
     "if len(_) == 0 -> return true", "if len(_) < 2 -> return false", "let (int(_[0])<<8)|int(_[1])",
     "advance _[2:]", "if _ != len(_) -> return false",
     "for len(_) != 0", "if len(_) < 4 -> return false", "let (uint16(_[0])<<8)|uint16(_[1])",
     "let (int(_[2])<<8)|int(_[3])", "advance _[4:]", "if len(_) < _ -> return false",
     "if _ == 0 [name]", "if len(_) < 2 -> return false", "let (int(_[0])<<8)|int(_[1])", "advance _[2:]",
     "if _ != len(_) -> return false", "for len(_) != 0", "if len(_) < 3 -> return false", "let _[0]",
     "let (int(_[1])<<8)|int(_[2])", "advance _[3:]", "if len(_) < _ -> return false",
     "if _ == 0 [name] -> break", "advance _[_:]", "advance _[_:]"] := rfl

end Fabio.Props.C10Xlate
