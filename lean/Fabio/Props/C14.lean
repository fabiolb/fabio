import Fabio.Lemmas.C14
import Fabio.Lemmas.Lit
/-!
C14 — every service registration yields route commands fabio itself accepts: property theorems.

Model: `Model/C14.lean` (`routecmd.build`, `parseURLPrefixTag`, `os.Expand`, `makeConfig`'s join) composed with
`Model/Parse.lean` (`route.Parse`) and `Model/Route.lean` (`route.NewTable`).

The theorems are about the **repaired** `build` (D19): a command is emitted only if fabio's own parser reads it
as exactly the `route add` that is meant and a table accepts it; tags and options are written raw between
double quotes. For the unrepaired `build` (`buildOld`: every line emitted, `strconv.Quote`) the same statements
are false; the witnesses are at the end of the file and in `corpus/c14.*.jsonl`.

External functions are parameters, universally quantified: `pf` = `strconv.ParseFloat(·,64)`, `env.normURL` =
`url.Parse` + `String`, `env.globOK` = "`glob.Compile` succeeds".
-/
/-! `TableOf` is the notion the theorems about `watchBackend` (`Props/C14Watch.lean`, whose namespace it is declared in)
are stated with; it stands here because `no_poisoning` below is the statement that every catalog has such a table. -/
namespace Fabio.Props.C14Watch
open Fabio.Model.Route Fabio.Model.C05Spec Fabio.Model.C14 Fabio.Lemmas.C14
open Fabio.Model.Parse hiding render config

/-- `t` is the table of the catalog `regs`: `NewTable` built it from the catalog's text, it holds the route of every
routing tag that fits the grammar, and every target in it was asked for by a routing tag of a named registration.
`no_poisoning` says that every catalog has one; the theorems about `watchBackend` say that it is the active table. -/
def TableOf (env : Env) (pf : ParseFloat) (c : Cfg) (regs : List Reg) (t : Table) : Prop :=
  loadTable env pf (config env pf c regs) = .ok t ∧
  (∀ r ∈ named regs, ∀ i ∈ intents c r, expressibleB env pf i = true →
    ∃ d u, wantDef pf i = some d ∧ env.normURL d.dst = some u ∧
      isDup (abs t (key d.src).1 (key d.src).2) (newTarget d u) = true) ∧
  (∀ h p x, x ∈ abs t h p →
    ∃ r ∈ named regs, ∃ i ∈ intents c r, ∃ d u, wantDef pf i = some d ∧ env.normURL d.dst = some u ∧
      key d.src = (h, p) ∧ core x = core (newTarget d u))

end Fabio.Props.C14Watch

namespace Fabio.Props.C14
open Fabio Fabio.Model.Route Fabio.Model.C05Spec Fabio.Model.C14 Fabio.Lemmas.C14
open Fabio.Model.Parse hiding render config
open Fabio.Lemmas.Route (parse_join_mem loadTable_of_parse)
open Fabio.Props.C14Watch (TableOf)

variable {env : Env} {pf : ParseFloat} {c : Cfg} {r : Reg}

theorem intent_of_registration {i : Intent} (h : i ∈ intents c r) :
    i.service = r.name ∧ i.tags = svcTags c r ∧ ∃ tag ∈ routeTags c r, intentOf c r tag = some i := by
  unfold intents at h
  obtain ⟨tag, htag, hi⟩ := List.mem_filterMap.1 h
  refine ⟨?_, ?_, tag, htag, hi⟩ <;>
  · unfold intentOf at hi
    split at hi
    · cases hi
    · simp only [Option.some.injEq] at hi
      rw [← hi]

theorem mem_build {cmd : Str} :
    cmd ∈ build env pf c r ↔ ∃ i ∈ intents c r, denotes env pf (render i) i = true ∧ cmd = render i := by
  unfold build
  constructor
  · intro h
    obtain ⟨i, hi, rfl⟩ := List.mem_map.1 h
    obtain ⟨h1, h2⟩ := List.mem_filter.1 hi
    exact ⟨i, h1, h2, rfl⟩
  · rintro ⟨i, h1, h2, rfl⟩
    exact List.mem_map.2 ⟨i, List.mem_filter.2 ⟨h1, h2⟩, rfl⟩

/-- Every command the repaired `build` emits for a registration is the line of one of the
registration's routing tags; fabio's own parser reads it as exactly one definition, a `route add` whose
service is the registered name, whose source, destination, weight and options are those the tag states and
whose tags are the registration's other tags; and `addRoute` accepts that definition. No hypothesis on the
registration: names, addresses, ports and tags are arbitrary. -/
theorem build_denotes {cmd : Str} (h : cmd ∈ build env pf c r) :
    ∃ i ∈ intents c r, cmd = render i ∧ ∃ d, parse pf cmd = .ok [d] ∧ (∃ t, addRoute env [] d = .ok t) ∧
      d.cmd = .add ∧ d.service = r.name ∧ d.src = i.src ∧ d.dst = i.dst ∧ d.tags = svcTags c r ∧
      d.opts = optsOfPairs (i.opts.map splitKV) ∧ parseWeight pf i.weight = .ok d.weight := by
  obtain ⟨i, hin, hden, rfl⟩ := mem_build.1 h
  obtain ⟨d, hp, hw, ha⟩ := (denotes_iff env pf _ i).1 hden
  obtain ⟨w, hwt, rfl⟩ := wantDef_eq hw
  obtain ⟨hn, htags, _⟩ := intent_of_registration hin
  exact ⟨i, hin, rfl, _, hp, (accepted_iff env _ rfl).1 ha, rfl, hn, rfl, rfl, htags, rfl, hwt⟩

/-- A routing tag whose fields fit the grammar (`expressibleB`: non-empty `\S+`
service and source, a destination `url.Parse` accepts, a finite weight, tags without `"`, `,`, newline, options
without `"`, a line under 64 KiB, host and path `glob.Compile` accepts) gets its command. -/
theorem expressible_not_dropped {i : Intent} (hi : i ∈ intents c r) (he : expressibleB env pf i = true) :
    render i ∈ build env pf c r :=
  mem_build.2 ⟨i, hi, denotes_of_expressible (expressible_of_B he), rfl⟩

theorem expressible_reads_back {i : Intent} (he : expressibleB env pf i = true) :
    ∃ d, wantDef pf i = some d ∧ parse pf (render i) = .ok [d] ∧ ∃ t, addRoute env [] d = .ok t := by
  obtain ⟨d, hp, hw, ha⟩ := (denotes_iff env pf _ i).1 (denotes_of_expressible (expressible_of_B he))
  exact ⟨d, hw, hp, (accepted_iff env d (wantDef_cmd hw)).1 ha⟩

/-- A registration none of whose routing tags can be expressed contributes
nothing: the commands of the catalog are those of the catalog without it. -/
theorem inexpressible_dropped_alone (pre post : List Reg)
    (h : ∀ i ∈ intents c r, denotes env pf (render i) i = false) :
    commands env pf c (pre ++ r :: post) = commands env pf c (pre ++ post) := by
  have hb : build env pf c r = [] := List.eq_nil_iff_forall_not_mem.2 (fun cmd hc => by
    obtain ⟨i, hi, hd, _⟩ := mem_build.1 hc
    rw [h i hi] at hd
    cases hd)
  unfold commands named
  simp only [List.filter_append, List.filter_cons, List.flatMap_append]
  split
  · simp [List.flatMap_cons, hb]
  · rfl

/-- Whether a line is among the commands of a catalog is decided by its own tag, not by the other tags of the
registration or by other registrations (`commands` is a `flatMap` of a `filter`). -/
theorem other_commands_unaffected (regs : List Reg) {cmd : Str} :
    cmd ∈ commands env pf c regs ↔
      ∃ r ∈ named regs, ∃ i ∈ intents c r, denotes env pf (render i) i = true ∧ cmd = render i := by
  simp only [commands, List.mem_flatMap, mem_build]

theorem config_defs (env : Env) (pf : ParseFloat) (c : Cfg) (regs : List Reg) :
    ∃ defs, parse pf (config env pf c regs) = .ok defs ∧
      ∀ d, d ∈ defs ↔ ∃ r ∈ named regs, ∃ i ∈ intents c r, denotes env pf (render i) i = true ∧ wantDef pf i = some d := by
  have hmem : ∀ cmd, cmd ∈ sortDesc (commands env pf c regs) ↔
      ∃ r ∈ named regs, ∃ i ∈ intents c r, denotes env pf (render i) i = true ∧ cmd = render i :=
    fun cmd => (mem_sortDesc _ _).trans (other_commands_unaffected regs)
  obtain ⟨defs, hp, hd⟩ := parse_join_mem pf (sortDesc (commands env pf c regs)) (fun cmd hc => by
    obtain ⟨_, _, i, _, hden, rfl⟩ := (hmem cmd).1 hc
    obtain ⟨d, hp, _⟩ := (denotes_iff env pf _ i).1 hden
    exact ⟨[d], hp⟩)
  refine ⟨defs, hp, fun d => (hd d).trans ⟨?_, ?_⟩⟩
  · rintro ⟨cmd, hc, l, hl, hdl⟩
    obtain ⟨r, hr, i, hi, hden, rfl⟩ := (hmem cmd).1 hc
    obtain ⟨d', hp', hw, _⟩ := (denotes_iff env pf _ i).1 hden
    rw [hp'] at hl
    cases hl
    rw [List.mem_singleton.1 hdl]
    exact ⟨r, hr, i, hi, hden, hw⟩
  · rintro ⟨r, hr, i, hi, hden, hw⟩
    exact ⟨render i, (hmem _).2 ⟨r, hr, i, hi, hden, rfl⟩, [d], (denotes_wantDef hden hw).1, List.mem_singleton.2 rfl⟩

/-- `md`: any `route add` definitions an empty table accepts (an operator's manual text), next to those of the
catalog's text; a target of the table may then stem from `md`. -/
theorem config_table (env : Env) (pf : ParseFloat) (c : Cfg) (regs : List Reg) {md : List RouteDef}
    (hmd : ∀ d ∈ md, Addable env d) :
    ∃ defs t, parse pf (config env pf c regs) = .ok defs ∧ newTable env (defs ++ md) = .ok t ∧
      (∀ r ∈ named regs, ∀ i ∈ intents c r, expressibleB env pf i = true →
        ∃ d u, wantDef pf i = some d ∧ env.normURL d.dst = some u ∧
          isDup (abs t (key d.src).1 (key d.src).2) (newTarget d u) = true) ∧
      (∀ h p x, x ∈ abs t h p →
        (∃ r ∈ named regs, ∃ i ∈ intents c r, ∃ d u, wantDef pf i = some d ∧ env.normURL d.dst = some u ∧
          key d.src = (h, p) ∧ core x = core (newTarget d u)) ∨
        (∃ d ∈ md, ∃ u, env.normURL d.dst = some u ∧ key d.src = (h, p) ∧ core x = core (newTarget d u))) := by
  obtain ⟨defs, hp, hdefs⟩ := config_defs env pf c regs
  have hok : ∀ d ∈ defs ++ md, Addable env d := by
    intro d hd
    rcases List.mem_append.1 hd with hd | hd
    · obtain ⟨_, _, i, _, hden, hw⟩ := (hdefs d).1 hd
      exact (accepted_iff_addable env d (wantDef_cmd hw)).1 (denotes_wantDef hden hw).2
    · exact hmd d hd
  obtain ⟨t, ht, hE⟩ := newTable_adds (defs ++ md) hok
  refine ⟨defs, t, hp, ht, ?_, ?_⟩
  · intro r hr i hi he
    have hx := expressible_of_B he
    obtain ⟨d, hd⟩ := hx.wantDef_some
    obtain ⟨u, hu, hpres⟩ := hE.present d
      (List.mem_append_left _ ((hdefs d).2 ⟨r, hr, i, hi, denotes_of_expressible hx, hd⟩))
    exact ⟨d, u, hd, hu, hpres⟩
  · intro h p x hx
    obtain ⟨d, hd, u, hu, hk, hc⟩ := hE.asked h p x hx
    rcases List.mem_append.1 hd with hd | hd
    · obtain ⟨r, hr, i, hi, _, hw⟩ := (hdefs d).1 hd
      exact .inl ⟨r, hr, i, hi, d, u, hw, hu, hk, hc⟩
    · exact .inr ⟨d, hd, u, hu, hk, hc⟩

/-- For every catalog — hostile registrations included — fabio's `NewTable` accepts the text
`makeConfig` produces (so `watchBackend` installs the new table: no update is lost or delayed), the table
holds the route of every routing tag that fits the grammar (a target with the registered service, the URL of the
destination, the fixed weight and the tags, under the (host, path) of the prefix), and every target in it is the
target of some routing tag of some registration — service, URL, weight, tags and options (no injected or altered
command). In short: `∃ t, TableOf env pf c regs t`. -/
theorem no_poisoning (env : Env) (pf : ParseFloat) (c : Cfg) (regs : List Reg) :
    ∃ t, loadTable env pf (config env pf c regs) = .ok t ∧
      (∀ r ∈ named regs, ∀ i ∈ intents c r, expressibleB env pf i = true →
        ∃ d u, wantDef pf i = some d ∧ env.normURL d.dst = some u ∧
          isDup (abs t (key d.src).1 (key d.src).2) (newTarget d u) = true) ∧
      (∀ h p x, x ∈ abs t h p →
        ∃ r ∈ named regs, ∃ i ∈ intents c r, ∃ d u, wantDef pf i = some d ∧ env.normURL d.dst = some u ∧
          key d.src = (h, p) ∧ core x = core (newTarget d u)) := by
  obtain ⟨defs, t, hp, ht, h1, h2⟩ := config_table env pf c regs (md := []) (fun _ h => nomatch h)
  rw [List.append_nil] at ht
  refine ⟨t, loadTable_of_parse hp ht, h1, fun h p x hx => ?_⟩
  rcases h2 h p x hx with hr | ⟨_, hd, _⟩
  · exact hr
  · nomatch hd

/-- `k` is the slot (node, service id): a registration, first or repeated, is in the catalog under it, with some
health status -/
theorem register_replaces (k : Nat) (r : Reg) (cat : Catalog) :
    ∃ p, (k, r, p) ∈ applyEv cat (.register k r) := by
  show ∃ p, (k, r, p) ∈ catInsert k r cat
  induction cat with
  | nil => exact ⟨true, by simp [catInsert]⟩
  | cons e rest ih =>
    obtain ⟨k', r', p'⟩ := e
    unfold catInsert
    split
    · exact ⟨p', by simp⟩
    · split
      · exact ⟨true, by simp⟩
      · obtain ⟨p, hp⟩ := ih
        exact ⟨p, List.mem_cons_of_mem _ hp⟩

/-- **histories.** Whatever sequence of registrations, re-registrations, health changes and deregistrations a
history is made of, every text handed out along it is the text of one of the catalogs the history went through
(`catalogs [] steps`: the catalog after each step), and `no_poisoning` holds of the registrations current in that
catalog (`∃ t, TableOf env pf c (current cat) t`). Which catalog goes with which step is said by
`C14Watch.watch_follows_history`. -/
theorem history_denotes_current (env : Env) (pf : ParseFloat) (c : Cfg) (steps : List (List Ev)) :
    ∀ txt ∈ historyTexts env pf c steps, ∃ cat ∈ catalogs [] steps, txt = config env pf c (current cat) ∧
      ∃ t, loadTable env pf txt = .ok t ∧
        (∀ r ∈ named (current cat), ∀ i ∈ intents c r, expressibleB env pf i = true →
          ∃ d u, wantDef pf i = some d ∧ env.normURL d.dst = some u ∧
            isDup (abs t (key d.src).1 (key d.src).2) (newTarget d u) = true) ∧
        (∀ h p x, x ∈ abs t h p →
          ∃ r ∈ named (current cat), ∃ i ∈ intents c r, ∃ d u, wantDef pf i = some d ∧ env.normURL d.dst = some u ∧
            key d.src = (h, p) ∧ core x = core (newTarget d u)) := by
  intro txt h
  unfold historyTexts at h
  obtain ⟨cat, hc, rfl⟩ := List.mem_map.1 h
  exact ⟨cat, hc, rfl, no_poisoning env pf c (current cat)⟩

theorem expandAux_no_dollar (m : Str → Str) : ∀ (fuel : Nat) (s : Str), '$' ∉ s → expandAux m fuel s = s := by
  intro fuel
  induction fuel with
  | zero => intro s _; rfl
  | succ n ih =>
    intro s hs
    cases s with
    | nil => rfl
    | cons c rest =>
      have hc : (c == '$') = false := by
        apply Bool.eq_false_iff.2
        intro h
        exact hs (by simp [beq_iff_eq.1 h])
      simp only [expandAux, hc, Bool.false_and, Bool.false_eq_true, if_false]
      rw [ih rest (fun h => hs (List.mem_cons_of_mem _ h))]

theorem expand_no_dollar (m : Str → Str) (s : Str) (h : '$' ∉ s) : expand m s = s :=
  expandAux_no_dollar m _ s h

theorem expand_DC (dc : Str) (rest : Str) (hr : '$' ∉ rest) (h0 : ∀ c, rest.head? = some c → isAlphaNum c = false) :
    expand (envLookup [("DC".toList, dc)]) ("$DC".toList ++ rest) = dc ++ rest := by
  simp only [expand]
  show expandAux _ _ ('$' :: 'D' :: 'C' :: rest) = _
  -- `getShellName` takes `DC`, stopping at the end or at `c`; what follows has no `$` and is copied
  have hD : isAlphaNum 'D' = true := by decide
  have hC : isAlphaNum 'C' = true := by decide
  have hsD : isShellSpecial 'D' = false := by decide
  cases rest with
  | nil => simp [expandAux, getShellName, hsD, hD, hC, envLookup, List.lookup, List.takeWhile]
  | cons c r =>
    have hc := h0 c rfl
    simp [expandAux, getShellName, hsD, hD, hC, hc, envLookup, List.lookup, List.takeWhile,
      expandAux_no_dollar _ _ _ hr]

theorem expand_braced_DC (dc : Str) (rest : Str) (hr : '$' ∉ rest) :
    expand (envLookup [("DC".toList, dc)]) ("${DC}".toList ++ rest) = dc ++ rest := by
  simp only [expand]
  show expandAux _ _ ('$' :: '{' :: 'D' :: 'C' :: '}' :: rest) = _
  simp [expandAux, getShellName, envLookup, List.lookup, expandAux_no_dollar _ _ _ hr]

/-- external functions of the examples: every URL parses to itself, `glob.Compile` rejects an unclosed `[` -/
def envW : Env := { normURL := fun s => some s, globOK := fun s => !s.contains '[' }

/-- `strconv.ParseFloat` on the few texts the examples use -/
def pfW : ParseFloat := fun s =>
  if s == "0.5".toList then some (.fin ⟨1, 2, by decide, by decide⟩) else if s == "1".toList then some (.fin 1)
  else if s == "Inf".toList then some .posInf else none

def cfgW : Cfg := { pfx := "urlprefix-".toList, env := [("DC".toList, "dc1".toList)] }

def mk (name : String) (tags : List String) : Reg :=
  { name := name.toList, svcAddr := "10.0.0.1".toList, nodeAddr := "10.9.9.9".toList, port := 8080,
    tags := tags.map String.toList }

def victim : Reg := mk "victim" ["urlprefix-/v", "prod"]

def web : Reg := mk "web" ["urlprefix-${DC}.Foo.com/$DC proto=https weight=0.5 strip=/dc1", " v1 "]

/-- One evaluation for the examples on `web`, `victim` and the backslash below: each evaluation decodes the string
constants of the models once more, whatever it computes. -/
theorem build_outcomes :
    (intents cfgW web).map (expressibleB envW pfW) = [true] ∧
    build envW pfW cfgW web =
      ["route add web dc1.foo.com/dc1 https://10.0.0.1:8080 weight 0.5 tags \"v1\" opts \"strip=/dc1\"".toList] ∧
    build envW pfW cfgW { victim with svcAddr := [], nodeAddr := "fe80::1".toList } =
      ["route add victim /v http://[fe80::1]:8080/ tags \"prod\"".toList] ∧
    config envW pfW cfgW [victim] = "route add victim /v http://10.0.0.1:8080/ tags \"prod\"".toList ∧
    (parse pfW (config envW pfW cfgW [mk "svc" ["urlprefix-/x", "back\\slash"]])).toOption.map
      (fun l => l.map (·.tags)) = some [["back\\slash".toList]] := by
  unfold web victim mk cfgW
  simp only [List.map_cons, List.map_nil, toList_lit rfl]; decide +kernel

/-- a registration with `${DC}`, an upper-case host, a protocol, a weight, an option and another tag: the tag is
expressible and its command is emitted -/
example : (intents cfgW web).map (expressibleB envW pfW) = [true] := build_outcomes.1

example : build envW pfW cfgW web =
    ["route add web dc1.foo.com/dc1 https://10.0.0.1:8080 weight 0.5 tags \"v1\" opts \"strip=/dc1\"".toList] :=
  build_outcomes.2.1

/-- the address falls back to the node address and an IPv6 address is bracketed -/
example : build envW pfW cfgW { victim with svcAddr := [], nodeAddr := "fe80::1".toList } =
    ["route add victim /v http://[fe80::1]:8080/ tags \"prod\"".toList] := build_outcomes.2.2.1

set_option maxRecDepth 8000 in
/-- a history: `web` registers, then registers again under the same service id with another port, another tag and
a second prefix, fails its check, passes again, deregisters — every text denotes the registration of the moment -/
example : historyTexts envW pfW cfgW
      [[.register 0 victim, .register 1 (mk "web" ["urlprefix-web.example.com/", "v1"])],
       [.register 1 { mk "web" ["urlprefix-web.example.com/", "urlprefix-web.example.com/v2 strip=/v2", "v2"] with port := 9090 }],
       [.fail 1], [.pass 1], [.deregister 1]] =
    ["route add web web.example.com/ http://10.0.0.1:8080/ tags \"v1\"\nroute add victim /v http://10.0.0.1:8080/ tags \"prod\"".toList,
     "route add web web.example.com/v2 http://10.0.0.1:9090/ tags \"v2\" opts \"strip=/v2\"\nroute add web web.example.com/ http://10.0.0.1:9090/ tags \"v2\"\nroute add victim /v http://10.0.0.1:8080/ tags \"prod\"".toList,
     "route add victim /v http://10.0.0.1:8080/ tags \"prod\"".toList,
     "route add web web.example.com/v2 http://10.0.0.1:9090/ tags \"v2\" opts \"strip=/v2\"\nroute add web web.example.com/ http://10.0.0.1:9090/ tags \"v2\"\nroute add victim /v http://10.0.0.1:8080/ tags \"prod\"".toList,
     "route add victim /v http://10.0.0.1:8080/ tags \"prod\"".toList] := by
  unfold victim mk cfgW
  simp only [List.map_cons, List.map_nil, toList_lit rfl]; decide +kernel

def attacker : Reg :=
  mk "attacker" ["urlprefix-/x\thttp://evil:1/\nroute\tdel\tvictim\nroute\tadd\tattacker\t/y"]

/-- the hostile registrations of D19: bad weight, quote in a plain tag, empty prefix, uncompilable path, a name
with a space, an infinite weight, tab/newline injection -/
def hostile : List Reg :=
  [mk "svc" ["urlprefix-/x weight=abc"], mk "svc" ["urlprefix-/x", "ta\"g"], mk "svc" ["urlprefix-"],
   mk "svc" ["urlprefix-/["], mk "s v c" ["urlprefix-/x"], mk "svc" ["urlprefix-/x weight=Inf"], attacker]

theorem hostile_outcomes :
    (∀ r ∈ hostile, ∀ i ∈ intents cfgW r, denotes envW pfW (render i) i = false) ∧
    (loadTable envW pfW (config envW pfW cfgW [victim, attacker])).toOption.map (fun t =>
      ((abs t [] "/v".toList).map (·.service), (abs t [] "/x".toList).map (·.url), t.length)) =
      some (["victim".toList], [], 1) := by
  unfold hostile victim attacker mk cfgW
  simp only [List.map_cons, List.map_nil, toList_lit rfl]; decide +kernel

theorem hostile_dropped : ∀ r ∈ hostile, ∀ i ∈ intents cfgW r, denotes envW pfW (render i) i = false :=
  hostile_outcomes.1

/-- the hypothesis of `inexpressible_dropped_alone` -/
example : hostile.all (fun r => (intents cfgW r).all (fun i => !denotes envW pfW (render i) i)) = true := by
  simpa only [List.all_eq_true, Bool.not_eq_true'] using hostile_dropped

/-- each of them, placed next to a well-formed service, leaves exactly that service's command -/
example : hostile.map (fun r => config envW pfW cfgW [victim, r]) =
    hostile.map (fun _ => "route add victim /v http://10.0.0.1:8080/ tags \"prod\"".toList) := by
  exact List.map_congr_left fun r hr =>
    (congrArg configText (inexpressible_dropped_alone [victim] [] (hostile_dropped r hr))).trans build_outcomes.2.2.2.1

/-- a backslash is an ordinary character of a tag: emitted raw and read back unchanged -/
example : (parse pfW (config envW pfW cfgW [mk "svc" ["urlprefix-/x", "back\\slash"]])).toOption.map
    (fun l => l.map (·.tags)) = some [["back\\slash".toList]] := build_outcomes.2.2.2.2

/-! ### the unrepaired `build` (D19): the same statements are false — witnesses

`buildOld` emits every line and quotes with `strconv.Quote`. One hostile registration makes `NewTable` reject the
text of **all** services (the old table stays: no service is updated), changes a tag, or injects commands. -/

def printAll : Char → Bool := fun _ => true

def loadOld (regs : List Reg) : Except LoadErr Table := loadTable envW pfW (configOld printAll cfgW regs)

def errOf (x : Except LoadErr Table) : Option LoadErr :=
  match x with
  | .ok _ => none
  | .error e => some e

theorem old_outcomes :
    hostile.dropLast.map (fun r => errOf (loadOld [victim, r])) =
      [some (.parse (.syn 2 .weightValue)), some (.parse (.syn 2 .addInvalid)), some (.parse (.syn 2 .addInvalid)),
       some (.table .badGlob), some (.parse (.syn 2 .addInvalid)), some (.parse (.nonFinite 2 .posInf))] ∧
    (parse pfW (configOld printAll cfgW [mk "svc" ["urlprefix-/x", "back\\slash"]])).toOption.map
      (fun l => l.map (·.tags)) = some [["back\\\\slash".toList]] ∧
    (parse pfW (configOld printAll cfgW [victim, attacker])).toOption.map
      (fun l => l.map (fun d => (d.cmd, d.service, d.src, d.dst))) =
      some [(.add, "victim".toList, "/v".toList, "http://10.0.0.1:8080/".toList),
            (.add, "attacker".toList, "/x".toList, "http://evil:1/".toList),
            (.del, "victim".toList, [], []),
            (.add, "attacker".toList, "/y".toList, "http://10.0.0.1:8080/".toList)] ∧
    (loadOld [victim, attacker]).toOption.map (fun t =>
      ((abs t [] "/v".toList).map (·.service), (abs t [] "/x".toList).map (·.url))) =
      some ([], ["http://evil:1/".toList]) := by
  unfold hostile loadOld victim attacker mk cfgW
  simp only [List.map_cons, List.map_nil, toList_lit rfl]; decide +kernel

/-- What `NewTable` says to the unrepaired text of the victim next to each hostile registration but the last; the six
theorems below are its rows. -/
theorem old_errors : hostile.dropLast.map (fun r => errOf (loadOld [victim, r])) =
    [some (.parse (.syn 2 .weightValue)), some (.parse (.syn 2 .addInvalid)), some (.parse (.syn 2 .addInvalid)),
     some (.table .badGlob), some (.parse (.syn 2 .addInvalid)), some (.parse (.nonFinite 2 .posInf))] := old_outcomes.1

/-- `weight=abc`: the whole text is rejected (`build_denotes` and `no_poisoning` fail for the old code) -/
theorem old_bad_weight_poisons :
    errOf (loadOld [victim, mk "svc" ["urlprefix-/x weight=abc"]]) = some (.parse (.syn 2 .weightValue)) :=
  Option.some.inj (congrArg (·[0]?) old_errors)

theorem old_quote_in_tag_poisons :
    errOf (loadOld [victim, mk "svc" ["urlprefix-/x", "ta\"g"]]) = some (.parse (.syn 2 .addInvalid)) :=
  Option.some.inj (congrArg (·[1]?) old_errors)

theorem old_empty_prefix_poisons :
    errOf (loadOld [victim, mk "svc" ["urlprefix-"]]) = some (.parse (.syn 2 .addInvalid)) :=
  Option.some.inj (congrArg (·[2]?) old_errors)

/-- a path `glob.Compile` rejects: the parser accepts the line, the table aborts -/
theorem old_bad_glob_poisons : errOf (loadOld [victim, mk "svc" ["urlprefix-/["]]) = some (.table .badGlob) :=
  Option.some.inj (congrArg (·[3]?) old_errors)

theorem old_name_with_space_poisons :
    errOf (loadOld [victim, mk "s v c" ["urlprefix-/x"]]) = some (.parse (.syn 2 .addInvalid)) :=
  Option.some.inj (congrArg (·[4]?) old_errors)

/-- `weight=Inf`: accepted by `ParseFloat`, rejected for the whole text (before the repair of D02: a panic) -/
theorem old_infinite_weight_poisons :
    errOf (loadOld [victim, mk "svc" ["urlprefix-/x weight=Inf"]]) = some (.parse (.nonFinite 2 .posInf)) :=
  Option.some.inj (congrArg (·[5]?) old_errors)

/-- one backslash is written as two and read back as two: the table holds a tag nobody registered -/
theorem old_backslash_alters_tag :
    (parse pfW (configOld printAll cfgW [mk "svc" ["urlprefix-/x", "back\\slash"]])).toOption.map
      (fun l => l.map (·.tags)) = some [["back\\\\slash".toList]] := old_outcomes.2.1

/-- a tab/newline in the route field injects commands: the text of the two services is read as four commands,
one of them `route del victim` -/
theorem old_tab_newline_injects :
    (parse pfW (configOld printAll cfgW [victim, attacker])).toOption.map
      (fun l => l.map (fun d => (d.cmd, d.service, d.src, d.dst))) =
    some [(.add, "victim".toList, "/v".toList, "http://10.0.0.1:8080/".toList),
          (.add, "attacker".toList, "/x".toList, "http://evil:1/".toList),
          (.del, "victim".toList, [], []),
          (.add, "attacker".toList, "/y".toList, "http://10.0.0.1:8080/".toList)] := old_outcomes.2.2.1

/-- the table built from that text has lost the victim's route and routes `/x` to a destination of the attacker's
choosing -/
theorem old_injection_table :
    (loadOld [victim, attacker]).toOption.map (fun t =>
      ((abs t [] "/v".toList).map (·.service), (abs t [] "/x".toList).map (·.url))) =
    some ([], ["http://evil:1/".toList]) := old_outcomes.2.2.2

/-- the repaired code on the same catalog: the victim's route is there, nothing of the attacker's -/
example : (loadTable envW pfW (config envW pfW cfgW [victim, attacker])).toOption.map (fun t =>
      ((abs t [] "/v".toList).map (·.service), (abs t [] "/x".toList).map (·.url), t.length)) =
    some (["victim".toList], [], 1) := hostile_outcomes.2

end Fabio.Props.C14
