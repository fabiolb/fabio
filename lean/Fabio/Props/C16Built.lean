import Fabio.Props.C16Relay
import Fabio.Props.C03Compose
import Fabio.Lemmas.Lit
/-!
The C16 ∘ C03 theorems of `Props/C16Compose.lean` carry the hypotheses `NoEmptyRoutes t` and `TableSorted t`.
Every table fabio ever routes with is built by the command language (`route.NewTable` on a configuration text,
`NewTableCustom` on a definition list), and for those C05 and C03 prove both (`Props/C03Compose.lean:
built_loadTable`, `built_newTable`).  Here the gRPC statements are restated for every configuration text that loads
and every definition list, without hypotheses on the table.
-/
namespace Fabio.Props.C16Built
open Fabio Fabio.Model.Route Fabio.Model.Parse Fabio.Model.C05Spec Fabio.Model.C03 Fabio.Model.C16
open Fabio.Props.C03 (PickOK NoSkip)
open Fabio.Props.C03Compose (Built built_loadTable built_newTable)
open Fabio.Props.C16Compose

theorem grpc_notfound_iff_no_candidate_built (cfg : Cfg) (t : Table) (hb : Built t) (pp : Str → Option Str) (md : MD)
    (method p : Str) (hp : pp method = some p) (hpick : PickOK cfg.pick) (hns : NoSkip cfg) :
    grpcIntercept cfg t pp md method = .notFound ↔ ¬ ∃ k r, Candidate cfg t md p k r :=
  grpc_notfound_iff_no_candidate cfg t pp md method p hp hpick hns hb.noEmpty

theorem grpc_notfound_iff_no_candidate_text (env : Env) (pf : ParseFloat) (text : Str) (t : Table)
    (hl : loadTable env pf text = .ok t) (cfg : Cfg) (pp : Str → Option Str) (md : MD)
    (method p : Str) (hp : pp method = some p) (hpick : PickOK cfg.pick) (hns : NoSkip cfg) :
    grpcIntercept cfg t pp md method = .notFound ↔ ¬ ∃ k r, Candidate cfg t md p k r :=
  grpc_notfound_iff_no_candidate_built cfg t (built_loadTable hl) pp md method p hp hpick hns

theorem grpc_notfound_iff_no_candidate_defs (env : Env) (defs : List RouteDef) (t : Table)
    (hl : newTable env defs = .ok t) (cfg : Cfg) (pp : Str → Option Str) (md : MD)
    (method p : Str) (hp : pp method = some p) (hpick : PickOK cfg.pick) (hns : NoSkip cfg) :
    grpcIntercept cfg t pp md method = .notFound ↔ ¬ ∃ k r, Candidate cfg t md p k r :=
  grpc_notfound_iff_no_candidate_built cfg t (built_newTable hl) pp md method p hp hpick hns

/-- **Longest path wins**, for every built table: under the prefix and iprefix matchers no matching route of
the answer's host has a longer path than the route a call is forwarded to. -/
theorem grpc_longest_path_wins_built (cfg : Cfg) (t : Table) (hb : Built t) (pp : Str → Option Str) (md : MD)
    (method p : Str) (hp : pp method = some p) (hns : NoSkip cfg)
    (pg : Str → Str → Bool) (kind : MatcherKind) (hkind : kind ≠ .glob) (hcfg : cfg.pathMatch = pathMatch pg kind)
    {h : Str} {r : Route} {tg : Target}
    (hf : grpcIntercept cfg t pp md method = .forward (h, r, tg)) :
    ∀ r' ∈ t.get (lowerL h), cfg.pathMatch p r'.path = true → r'.path.length ≤ r.path.length :=
  (grpc_most_specific cfg t pp md method p hp hns hf).2.2.2 pg kind hkind hcfg hb.sorted

/-- **A call is forwarded iff a candidate route exists**, for every built table: a parsable call is forwarded
exactly when `Lookup` answers (`forward_iff_lookup`), and that is C03's `Lookup_isSome_iff`. -/
theorem grpc_forwarded_iff_candidate_built (cfg : Cfg) (t : Table) (hb : Built t) (pp : Str → Option Str) (md : MD)
    (method p : Str) (hp : pp method = some p) (hns : NoSkip cfg) :
    (∃ a, grpcIntercept cfg t pp md method = .forward a) ↔ ∃ k r, Candidate cfg t md p k r := by
  simp only [forward_iff_lookup cfg t pp md method p hp, ← Option.isSome_iff_exists]
  exact Props.C03.Lookup_isSome_iff cfg t (grpcReq md p) (fun _ _ _ => congrFun hns _) hb.noEmpty

/-- **End to end on a built table**: the first part of `Props.C16Relay.grpc_call_end_to_end` as an equivalence —
in a world whose table was loaded from a configuration text, a call with a parsable method is answered
`NotFound` with the world unchanged **iff** no candidate route exists, and otherwise reaches the pool. -/
theorem grpc_call_notfound_iff_text (env : Env) (pf : ParseFloat) (text : Str) (w : World)
    (hl : loadTable env pf text = .ok w.table) (cfg : Cfg) (pp : Str → Option Str) (md : MD)
    (method p : Str) (d : Bool) (hp : pp method = some p) (hpick : PickOK cfg.pick) (hns : NoSkip cfg) :
    (w.call pp (lookupKey cfg) true md method d = (w, .status codeNotFound) ↔ ¬ ∃ k r, Candidate cfg w.table md p k r) ∧
    ((∃ k r, Candidate cfg w.table md p k r) →
      ∃ k res, (w.call pp (lookupKey cfg) true md method d).2 = .proxied k res) := by
  have hnf := Props.C03.Lookup_eq_none_iff cfg w.table (grpcReq md p) (fun _ _ _ => congrFun hns _)
    (built_loadTable hl).noEmpty
  rw [call_eq cfg pp w md method p d hp]
  cases hla : Lookup cfg w.table (grpcReq md p) with
  | none => exact ⟨⟨fun _ => hnf.mp hla, fun _ => rfl⟩, fun hc => absurd hc (hnf.mp hla)⟩
  | some a =>
    have hc : ∃ k r, Candidate cfg w.table md p k r := ⟨a.1, a.2.1, (candidate_of_lookup hpick hla).1⟩
    exact ⟨⟨(fun h => by injection h with _ h2; cases h2), fun hno => absurd hc hno⟩, fun _ => ⟨_, _, rfl⟩⟩

namespace Ex

def defs : List RouteDef :=
  [{ cmd := .add, service := "svc-a".toList, src := "/svc.A".toList, dst := "grpc://b0".toList, opts := [("proto".toList, "grpc".toList)] },
   { cmd := .add, service := "svc-b".toList, src := "beta.example/svc.A".toList, dst := "grpc://b1".toList, tags := ["b".toList] },
   { cmd := .add, service := "svc-c".toList, src := "/svc.A/M".toList, dst := "grpc://b2".toList, tags := ["c".toList] },
   { cmd := .del, service := "svc-c".toList, tags := ["c".toList] }]

def env : Env := { normURL := some, globOK := fun _ => true }

/-- non-vacuity: the script builds a table (so `built_newTable` applies to it); the route `/svc.A/M` it added and
emptied again with `route del … tags "c"` is gone, and the call is served by the general route -/
def holds : Bool :=
  match newTable env defs with
  | .ok t =>
    Props.C16Compose.Ex.ans (grpcIntercept Props.C16Compose.Ex.cfg t some [] "/svc.A/M".toList)
        == some ("", "/svc.A", "grpc://b0") &&
      Props.C16Compose.Ex.ans (grpcIntercept Props.C16Compose.Ex.cfg t some
        [("dsthost".toList, ["Beta.Example".toList])] "/svc.A/M".toList) == some ("beta.example", "/svc.A", "grpc://b1") &&
      (match grpcIntercept Props.C16Compose.Ex.cfg t some [] "/svc.B/M".toList with
       | .notFound => true
       | _ => false)
  | .error _ => false

example : holds = true := by
  -- `rw`, not `unfold`: a definitional step under the `match` makes the kernel compare the two matches by evaluating both
  rw [holds, defs]; simp only [toList_lit rfl]; decide +kernel

end Ex
end Fabio.Props.C16Built
