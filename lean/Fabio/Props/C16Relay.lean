import Fabio.Lemmas.C16Relay
import Fabio.Props.C16Compose
import Fabio.Lemmas.Lit
/-!
C16 — the relay: theorems about `Model/C16Relay.lean`, for **every** event list (every schedule of the
proxy's two forwarding goroutines and its `select` loop, every behaviour of caller and backend), and the
end-to-end statement composed of interceptor (C16), routing (C03), pool (C16) and relay.
-/
namespace Fabio.Props.C16Relay
open Fabio.Model.C16 Fabio.Model.C16.Spec Fabio.Model.C16.Relay Fabio.Lemmas.C16Relay

def reach (method : String) (md : SMD) (es : List Ev) : St := run (init method md) es

theorem reach_inv (method : String) (md : SMD) (es : List Ev) : Inv (reach method md es) :=
  inv_run _ es (inv_init method md)

/-- **The backend's stream is opened for the caller's full method name with the caller's metadata**, and
nothing that happens later changes that. -/
theorem backend_called_with_callers_method_and_metadata (method : String) (md : SMD) (es : List Ev) :
    (reach method md es).bMethod = method ∧ (reach method md es).bMD = md :=
  ⟨(run_ends _ es).bMethod, (run_ends _ es).bMD⟩

/-- **The backend receives the caller's messages in order and unmodified**: at every moment of every history
what the backend has received is a prefix of what the caller has sent; the rest is in flight, in order
(`∃ rest`: second stream, the forwarder's hands, first stream). -/
theorem backend_receives_callers_messages_in_order (method : String) (md : SMD) (es : List Ev) :
    ∃ rest, (reach method md es).cSent = (reach method md es).bGot ++ rest := by
  have h := (reach_inv method md es).fwd
  exact ⟨(reach method md es).qB ++ (reach method md es).s2c.held ++ (reach method md es).qA, by
    rw [h]; simp only [List.append_assoc]⟩

/-- A backend that has read to the end of the stream has received **all** the caller's messages, after the caller
has half-closed: the end of the stream is not reported early and overtakes no message. -/
theorem backend_at_eof_has_everything (method : String) (md : SMD) (es : List Ev)
    (h : (reach method md es).bEOF = true) :
    (reach method md es).bGot = (reach method md es).cSent ∧ (reach method md es).cClosed = true := by
  have inv := reach_inv method md es
  obtain ⟨hq, hc⟩ := inv.eofB h
  have he := inv.closedB hc
  obtain ⟨ha, hcl⟩ := inv.eofA he
  refine ⟨?_, hcl⟩
  rw [inv.fwd, hq, ha, he]; simp [S2C.held]

/-- **The caller receives the backend's messages in order and unmodified** (prefix at every moment). -/
theorem caller_receives_backends_messages_in_order (method : String) (md : SMD) (es : List Ev) :
    ∃ rest, (reach method md es).bSent = (reach method md es).cGot ++ rest := by
  have h := (reach_inv method md es).bwd
  exact ⟨msgsOf (reach method md es).qD ++ (reach method md es).c2s.held ++ (reach method md es).qC, by
    rw [h]; simp only [List.append_assoc]⟩

/-- The caller sees no header before the backend has sent a message, and never another header than the
backend's. -/
theorem caller_header_is_backends (method : String) (md : SMD) (es : List Ev) (h : SMD)
    (hh : (reach method md es).cHdr = some h) :
    h = (reach method md es).bHdr ∧ (reach method md es).bSent ≠ [] := by
  rcases (reach_inv method md es).header_cases with ⟨h1, _⟩ | ⟨h1, hne⟩
  · rw [h1] at hh; cases hh
  · rw [h1] at hh; cases hh; exact ⟨rfl, hne⟩

/-- **A finished call.** When the caller has seen the end of the call, then the backend has finished, and the
caller has received *all* the backend's messages, the backend's trailers, its status code and message
(`norm`: OK carries no message), and the backend's header exactly when the backend sent at least one message. -/
theorem finished_call_is_transparent (method : String) (md : SMD) (es : List Ev) (tr : SMD) (st : Status)
    (h : (reach method md es).cFin = some (tr, st)) :
    ∃ st0, (reach method md es).bFin = some (tr, st0) ∧ st = st0.norm ∧
      (reach method md es).cGot = (reach method md es).bSent ∧
      ((reach method md es).bSent ≠ [] → (reach method md es).cHdr = some (reach method md es).bHdr) ∧
      ((reach method md es).bSent = [] → (reach method md es).cHdr = none) := by
  have inv := reach_inv method md es
  obtain ⟨hd, hq⟩ := inv.cfin _ h
  obtain ⟨tr0, st0, hc, hf⟩ := inv.dfin _ hd
  injection hf with e1 e2
  subst e1
  obtain ⟨hb, hqc⟩ := inv.done _ _ hc
  have hall : (reach method md es).cGot = (reach method md es).bSent := by
    rw [inv.bwd, hq, hc, hqc]; simp [C2S.held]
  refine ⟨st0, hb, e2, hall, ?_, ?_⟩
  · intro hne
    rcases inv.header_cases with ⟨_, h2⟩ | ⟨h1, _⟩
    · exact absurd (hall.symm.trans h2) hne
    · exact h1
  · intro he
    rcases inv.header_cases with ⟨h1, _⟩ | ⟨_, hne⟩
    · exact h1
    · exact absurd he hne

/-- The proxy never ends a call by itself (in this model: no cancellation, no transport failure): an outcome
reaches the caller only after the backend has produced one. -/
theorem no_outcome_before_the_backends (method : String) (md : SMD) (es : List Ev)
    (h : (reach method md es).bFin = none) : (reach method md es).cFin = none := by
  cases hc : (reach method md es).cFin with
  | none => rfl
  | some f =>
    obtain ⟨_, hb, _⟩ := finished_call_is_transparent method md es f.1 f.2 hc
    rw [h] at hb; cases hb

theorem smdGet_beq_self (a : SMD) (k : String) : (smdGet a k == smdGet a k) = true := by simp

theorem mdCarried_self (a : SMD) : mdCarried a a = true := by
  simp [mdCarried]

theorem sameMsgs_self (l : List String) : Wire.sameMsgs l l = true := by
  induction l with
  | nil => rfl
  | cons a l ih => simp [Wire.sameMsgs, Wire.sameMsg, ih]

def didOf (s : St) (tr : SMD) (st : Status) : BackendDid :=
  { header := s.bHdr, msgs := s.bSent, trailer := tr, code := st.norm.code, message := st.norm.message }

def sawOf (s : St) (tr : SMD) (st : Status) : CallerSaw :=
  { header := s.cHdr.getD [], msgs := s.cGot, trailer := tr, code := st.code, message := st.message }

/-- The predicate the correspondence evaluates on the real proxy's recorded observations (`Spec.backwardOK`)
holds of every finished call of the model. -/
theorem finished_call_satisfies_backwardOK (method : String) (md : SMD) (es : List Ev) (tr : SMD) (st : Status)
    (h : (reach method md es).cFin = some (tr, st)) :
    ∃ st0, (reach method md es).bFin = some (tr, st0) ∧
      backwardOK (didOf (reach method md es) tr st0) (sawOf (reach method md es) tr st) = true := by
  obtain ⟨st0, hb, hst, hall, hh1, _⟩ := finished_call_is_transparent method md es tr st h
  refine ⟨st0, hb, ?_⟩
  subst hst
  simp only [backwardOK, didOf, sawOf, hall, sameMsgs_self, mdCarried_self, Bool.true_and, Bool.and_true, beq_self_eq_true]
  cases hs : (reach method md es).bSent with
  | nil => simp
  | cons a l =>
    have := hh1 (by rw [hs]; simp)
    rw [this]; simp [mdCarried_self]

/-- `Spec.forwardOK` holds of every backend that has read to the end of the stream. -/
theorem drained_backend_satisfies_forwardOK (method : String) (md : SMD) (es : List Ev)
    (h : (reach method md es).bEOF = true) :
    forwardOK method md (reach method md es).cSent
      { method := (reach method md es).bMethod, md := (reach method md es).bMD, msgs := (reach method md es).bGot } = true := by
  obtain ⟨h1, h2⟩ := backend_called_with_callers_method_and_metadata method md es
  obtain ⟨h3, _⟩ := backend_at_eof_has_everything method md es h
  simp [forwardOK, h1, h2, h3, sameMsgs_self, mdCarried_self]

section EndToEnd
open Fabio.Model.Route (Str Table Route Target)
open Fabio.Model.C03 Fabio.Props.C16Compose
open Fabio.Props.C03 (PickOK)

/-- the metadata as the interceptor's model reads it -/
def mdOf (m : SMD) : MD := m.map fun e => (e.1.toList, e.2.map String.toList)

/-- **The property, sentence by sentence, for one call** with metadata `md` and full method name `method`
(path `p`) arriving in world `w` (table, pool), with the routing of C03 as the table lookup:

1. if no route is a candidate for (dsthost value, method path) the call is answered `NotFound` and table,
   pool, dial log and dial counter are untouched — no backend is contacted;
2. if the call reaches the pool, it does so for the URL of a target of a candidate route, and the pool answers
   as `World.get` says (a live pooled connection is reused, otherwise one dial);
3. for **every** history `es` of the relay started with the call's method and metadata (`reach method md es`; the
   relay model mentions neither pool nor connection, so this part stands beside 2 and does not depend on it): the
   backend was called with the caller's method and metadata; what it has received is a prefix of the caller's
   messages, all of them once it has read to the end; what the caller has received is a prefix of the backend's
   messages; and once the caller has seen the end of the call it has all the backend's messages, its trailers, its
   status code and message, and its header iff the backend sent a message. -/
theorem grpc_call_end_to_end (cfg : Cfg) (pp : Str → Option Str) (w : World) (md : SMD)
    (method : String) (p : Str) (d : Bool) (hp : pp method.toList = some p) (hpick : PickOK cfg.pick) :
    ((¬ ∃ k r, Candidate cfg w.table (mdOf md) p k r) →
      w.call pp (lookupKey cfg) true (mdOf md) method.toList d = (w, .status codeNotFound)) ∧
    (∀ w' k res, w.call pp (lookupKey cfg) true (mdOf md) method.toList d = (w', .proxied k res) →
      (∃ h r tg, Candidate cfg w.table (mdOf md) p h r ∧ tg ∈ r.targets ∧ k = tg.url ∧ (w', res) = w.get k d) ∧
      ∀ es : List Ev,
        (reach method md es).bMethod = method ∧ (reach method md es).bMD = md ∧
        (∃ rest, (reach method md es).cSent = (reach method md es).bGot ++ rest) ∧
        ((reach method md es).bEOF = true → (reach method md es).bGot = (reach method md es).cSent) ∧
        (∃ rest, (reach method md es).bSent = (reach method md es).cGot ++ rest) ∧
        (∀ tr st, (reach method md es).cFin = some (tr, st) →
          ∃ st0, (reach method md es).bFin = some (tr, st0) ∧ st = st0.norm ∧
            (reach method md es).cGot = (reach method md es).bSent ∧
            ((reach method md es).bSent ≠ [] → (reach method md es).cHdr = some (reach method md es).bHdr) ∧
            ((reach method md es).bSent = [] → (reach method md es).cHdr = none))) := by
  refine ⟨fun hno => grpc_no_candidate_notfound_no_backend cfg pp w (mdOf md) method.toList p d hp hno, ?_⟩
  intro w' k res hc
  refine ⟨grpc_call_reaches_matching_backend cfg pp w (mdOf md) method.toList p d hp hpick hc, ?_⟩
  intro es
  obtain ⟨h1, h2⟩ := backend_called_with_callers_method_and_metadata method md es
  exact ⟨h1, h2, backend_receives_callers_messages_in_order method md es,
    fun h => (backend_at_eof_has_everything method md es h).1,
    caller_receives_backends_messages_in_order method md es,
    fun tr st h => finished_call_is_transparent method md es tr st h⟩

/-- the hypotheses of `grpc_call_end_to_end` are satisfiable and its second part is not vacuous: on the table of
`Props/C16Compose.lean` a call with `dsthost: beta.example` reaches the pool for that host's backend -/
example :
    (({ table := Ex.T } : World).call some (lookupKey Ex.cfg) true (mdOf [("dsthost", ["beta.example"])])
      "/svc.A/M".toList true).2 = .proxied "grpc://b".toList (.dialled 0) := by
  simp only [mdOf, List.map, Ex.T, Ex.rt, Ex.tg, toList_lit rfl]; decide +kernel
/-- the hypothesis of its first part, for a method no route matches -/
example : ¬ ∃ k r, Candidate Ex.cfg Ex.T (mdOf []) "/svc.B/M".toList k r := by
  intro h
  have := (grpc_notfound_iff_no_candidate Ex.cfg Ex.T some (mdOf []) "/svc.B/M".toList "/svc.B/M".toList rfl
    (Props.C03.pickOK_headD _) rfl (Props.C03.noEmptyRoutes_of_all Ex.T (by decide +kernel))).1 (by decide +kernel)
  exact this h

end EndToEnd

namespace Ex

def hdr : SMD := [("x-h", ["1", "2"])]
def trl : SMD := [("x-t", ["end"]), ("t-bin", ["00ff"])]

def pingpong : List Ev :=
  [.callerSend "0801", .s2cStep, .s2cStep, .backendRecv, .backendHeader hdr, .backendSend "0a00", .c2sStep, .c2sStep,
   .c2sStep, .callerRecv, .callerRecv, .callerSend "0802", .callerClose, .s2cStep, .s2cStep, .s2cStep, .selS2C,
   .backendRecv, .backendSend "0a01", .backendRecv, .backendFinish trl { code := 9, message := "boom" },
   .c2sStep, .c2sStep, .c2sStep, .selC2S, .callerRecv, .callerRecv]

example :
    let s := reach "/svc.A/M" [("x-a", ["1"])] pingpong
    s.cFin = some (trl, { code := 9, message := "boom" }) ∧ s.cGot = ["0a00", "0a01"] ∧ s.cHdr = some hdr ∧
    s.bGot = ["0801", "0802"] ∧ s.bEOF = true ∧ s.bMethod = "/svc.A/M" ∧ s.bMD = [("x-a", ["1"])] := by decide +kernel

/-- a backend that answers early, without reading and without a message: its header is not forwarded (the
property promises headers only when a message is sent), trailers and status are; the caller's message stays in
flight -/
example :
    let s := reach "/svc.A/M" [] ([.backendHeader hdr, .backendFinish trl { code := 14, message := "later" },
      .callerSend "0801"] ++ settle 3)
    s.cFin = some (trl, { code := 14, message := "later" }) ∧ s.cHdr = none ∧ s.cGot = [] ∧ s.bGot = [] ∧ s.bEOF = false := by decide +kernel

/-- OK carries no message -/
example :
    let s := reach "/svc.A/M" [] ([.callerClose, .backendSend "00", .backendFinish [] { code := 0, message := "ignored" }] ++ settle 4)
    s.cFin = some ([], {}) ∧ s.cGot = ["00"] ∧ s.cHdr = some [] := by decide +kernel

/-- a blocked goroutine stutters: events that are not enabled change nothing -/
example : reach "/m" [] [.s2cStep, .c2sStep, .selS2C, .selC2S, .callerRecv, .backendRecv] = init "/m" [] := by decide +kernel

end Ex
end Fabio.Props.C16Relay
