import Fabio.Props.System
/-!
System-level composition, with the operator's commands.

`System.forwarded_after_history` covers a manual text without commands. Here the manual text is arbitrary: by C01's
`operator_on_top` the active table is the operator's parsed commands applied, in order, by C05's specification
machine to the service table — and an invariant of that machine (declared in `Lemmas/C05From.lean`, in this namespace)
says where a target can come from:

* `ident`                         — what no command changes about a target: service, URL, tags, options (`route weight`
                                    rewrites the fixed weight, every command recomputes the effective weight);
* `specApply_origin`              — one command: a target of the result is a target of the spec before (same `ident`,
                                    same (host, path)) or — only for `route add` — the command's own new target, stored
                                    under the command's (host, path);
* `specFold_origin`               — any command list: a target of the result is a target of the initial spec or the
                                    new target of one of the list's `route add` commands;
* `forwarded_to_eligible_or_operator` — after ANY finite history of service/manual events whose last service text is
                                    that of registry state R and whose last manual text parses to commands `dsM` that
                                    apply: a forwarded request goes to a target that is, up to weights, the `route add`
                                    of a routing tag of an instance eligible in R, or the `route add` of one of the
                                    operator's own commands. Nothing else can receive traffic — in particular no instance
                                    that is unhealthy in R, unless the operator names its URL explicitly.
-/
namespace Fabio.Props.SystemOps
open Fabio Fabio.Model Fabio.Model.ServeHTTP
open Fabio.Model.Route (Env RouteDef Table Target Route Err Cmd weigh)
open Fabio.Model.C05Spec
open Fabio.Model.C01 Fabio.Model.C01Compose Fabio.Props.C01Compose
open Fabio.Model.C14 (Intent intents wantDef)
open Fabio.Model.Parse (loadTable ParseFloat parse)
open Fabio.Lemmas.C14 (core)
open Fabio.Props.System (forward_on_served_table)

section
variable (env : Env) (pf : ParseFloat) (ccfg : Fabio.Model.C14.Cfg) (st : List (List Char)) (strict : Bool)
variable (checks : List Check) (catalog : List Char → List Instance)

theorem forwarded_to_eligible_or_operator (wf : WellFormed ccfg checks catalog)
    (es : List Event) (M : List Char) (dsM : List RouteDef) (S' : Spec) (hne : es ≠ [])
    (hsvc : (lastSvc es).getD [] = svcText env pf ccfg st strict checks catalog)
    (hman : (lastMan es).getD [] = M) (hM : parse pf M = .ok dsM)
    (pcfg : ServeHTTP.Cfg) (hpick : Props.C03.PickOK pcfg.lookup.pick) (r : Request) {f : Forward}
    (hf : serveHTTP pcfg (run (loadOpt env pf) (init ([] : Table)) es).active r = .forward f)
    (tS : Table) (hS : loadTable env pf (svcText env pf ccfg st strict checks catalog) = .ok tS)
    (hfold : dsM.foldlM (specApply env) (abs tS) = .ok S') :
    ∃ h ro tg, select pcfg (run (loadOpt env pf) (init ([] : Table)) es).active r = some (h, ro, tg) ∧
      f.upstream = targetHost pcfg tg ∧
      ((∃ i, Eligible st strict checks catalog i ∧
          ∃ it ∈ intents ccfg (regOf i), ∃ d u, wantDef pf it = some d ∧ env.normURL d.dst = some u ∧
            key d.src = (lowerL h, ro.path) ∧ ident tg = ident (newTarget d u)) ∨
       (∃ d ∈ dsM, d.cmd = .add ∧ ∃ u, env.normURL d.dst = some u ∧ key d.src = (lowerL h, ro.path) ∧
            ident tg = ident (newTarget d u))) := by
  obtain ⟨h, ro, tg, hsel, hup, hin⟩ :=
    forward_on_served_table env pf es _ M dsM hne hsvc hman hM hS hfold pcfg hpick r hf
  refine ⟨h, ro, tg, hsel, hup, ?_⟩
  rcases specFold_origin env dsM (abs tS) S' hfold (lowerL h) ro.path tg hin with ⟨y0, hy0, hi⟩ | hop
  · left
    obtain ⟨i, he, it, hit, d, u, hw, hu, hk, hc⟩ :=
      table_sound env pf ccfg st strict checks catalog wf tS hS (lowerL h) ro.path y0 hy0
    exact ⟨i, he, it, hit, d, u, hw, hu, hk, hi.symm.trans (congrArg ident hc :)⟩
  · right; exact hop

end

/-! ### non-vacuity: the two-node registry, the operator adds a route to a third machine and deletes nothing -/
namespace Demo
open Fabio.Props.C14 (envW pfW cfgW)
open Fabio.Props.C01Compose (checksW catalogW stW wellFormedW svcTextW)
open Fabio.Props.System.Demo (pcfgW reqW)

def manW : List Char := "route add ops foo.com/ops http://10.0.0.9:9000/".toList

def esW : List Event :=
  [.svc "route add old /old http://1.1.1.1:1/".toList, .man "rubbish".toList,
   .svc (svcText envW pfW cfgW stW false checksW catalogW), .man manW]

/-- the manual text parses to one `route add` (`activeW` shows it applied on top of the service table) -/
example : (parse pfW manW).toOption.map (fun ds => ds.map (fun d => (d.cmd == Cmd.add, d.src, d.dst))) =
    some [(true, "foo.com/ops".toList, "http://10.0.0.9:9000/".toList)] := by
  unfold manW
  simp only [toList_lit rfl]
  decide +kernel

/-- the table the loop serves after that history, evaluated once: the operator's route on top of n1's -/
theorem activeW : (run (loadOpt envW pfW) (init ([] : Table)) esW).active =
    [("foo.com".toList,
      [{ host := "foo.com".toList, path := "/ops".toList,
         targets := [{ service := "ops".toList, tags := [], opts := [], url := "http://10.0.0.9:9000/".toList,
                       fixedWeight := 0, weight := 1 }] },
       { host := "foo.com".toList, path := "/".toList,
         targets := [{ service := "web".toList, tags := ["v1".toList], opts := [],
                       url := "http://10.0.0.1:8000/".toList, fixedWeight := 0, weight := 1 }] }])] := by
  unfold esW manW
  rw [svcTextW]
  simp only [toList_lit rfl]
  decide +kernel

/-- a request under the operator's prefix is forwarded on the table the loop serves after that history (the demo
`parseURL` maps every target URL to one host, so only the outcome class is shown) -/
example : (serveHTTP pcfgW (run (loadOpt envW pfW) (init ([] : Table)) esW).active
    (Props.ServeHTTP.Demo.req "foo.com" "/ops/1")).cls = "forward" := by
  rw [activeW]
  simp only [pcfgW, Props.ServeHTTP.Demo.cfg, Props.ServeHTTP.Demo.req, Model.C13.lit, toList_lit rfl]
  decide +kernel

/-- and the selected target is the operator's -/
example : ((select pcfgW (run (loadOpt envW pfW) (init ([] : Table)) esW).active
    (Props.ServeHTTP.Demo.req "foo.com" "/ops/1")).map (fun x => x.2.2.url)) = some "http://10.0.0.9:9000/".toList := by
  rw [activeW]
  simp only [pcfgW, Props.ServeHTTP.Demo.cfg, Props.ServeHTTP.Demo.req, Model.C13.lit, toList_lit rfl]
  decide +kernel

/-- while a request outside it still goes to the healthy instance -/
example : ((select pcfgW (run (loadOpt envW pfW) (init ([] : Table)) esW).active reqW).map (fun x => x.2.2.url)) =
    some "http://10.0.0.1:8000/".toList := by
  rw [activeW]
  simp only [pcfgW, reqW, Props.ServeHTTP.Demo.cfg, Props.ServeHTTP.Demo.req, Model.C13.lit, toList_lit rfl]
  decide +kernel

end Demo

end Fabio.Props.SystemOps
