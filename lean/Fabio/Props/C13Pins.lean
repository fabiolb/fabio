import Fabio.Generated.C13
import Fabio.Model.C13
import Fabio.Lemmas.Lit
/-!
CHANGE DETECTORS for C13 (`"pins_module"` in checks/C13.json): the shape of sequential, deterministic code whose
input/output behaviour a correspondence stream compares with the model on every run. When one of these stops
building nothing is claimed broken — the streams run at the widened budget with a second seed and decide. Each
statement names the streams that carry the tie.
-/
namespace Fabio.Props.C13Pins
open Fabio Fabio.Model.C13 Fabio.Generated.C13

/-- extraction problems in the pinned code (a construct the extractor no longer recognises) -/
theorem no_extraction_notes : pinNotes = [] := rfl

/-- the pseudo-variables of `BuildRedirectURL` — its string literals that hold a `$` — are the model's.
Tie: `c13.build`, `c13.sequence`, `c13.http`, `c13.tag` compare the built URL and the Location for every template form
(a new fast path, a renamed variable or an extra variable shows as a disagreement: seeded m9). -/
theorem build_literals_pinned :
    buildVarLits.map (fun s => lit s) = [vHost, vPath, vSlashPath] := by
  simp only [buildVarLits, List.map, lit, toList_lit rfl]
  decide

/-- the redirect option: `strconv.Atoi` of the `"redirect"` option, bounds 300 and 399, code reset to 0 on an
`Atoi` error (D27) and outside the bounds. Tie: `c13.build` / `c13.tag` evaluate `codeSpecOpt` (the plain decimal
reading of the option text) on the real target for every code 290..409 and the `Atoi` edge spellings (seeded m7). -/
theorem redirect_code_bounds_pinned :
    codeLo = 300 ∧ codeHi = 399 ∧ codeAtoiOfRedirectOption = true ∧ codeResetOnAtoiError = true ∧
    codeResetWhenOutOfRange = true :=
  ⟨rfl, rfl, rfl, rfl, rfl⟩

/-- the redirect branch of `ServeHTTP`: taken when the target has a code and a URL, and
`http.Redirect(w, r, target.RedirectURL.String(), target.RedirectCode)`. Tie: `c13.http` (status, Location and hit
counter over real connections, with and without the headers that choose the upstream handler), `c13.sequence`, `c13.tag`. -/
theorem serve_redirect_call_pinned :
    serveRedirectCond = ["call:Lookup.RedirectCode != 0", "call:Lookup.RedirectURL != nil"] ∧
    serveRedirectArgs = ["p0", "p1", "call:Lookup.RedirectURL.String()", "call:Lookup.RedirectCode"] :=
  ⟨rfl, rfl⟩

/-- the self-redirect skip compares scheme, host and path of the copy's redirect URL with the request, drops the
skipped target (D18c) and continues; the request's scheme comes from a helper of the request: `X-Forwarded-Proto`,
else the connection (D18). Tie: `c13.http` (plain and TLS listeners × header, self-pointing templates:
`skip-then-proxy`, `skip-then-noroute`, "no answered redirect points at the request itself"), `c13.sequence`, `c13.tag`. -/
theorem self_redirect_comparison_pinned :
    lookupSelfRedirectContinues = true ∧ lookupSkipClearsTarget = true ∧
    lookupSelfRedirectComparisons = ["copy.RedirectURL.Host == p0.Host", "copy.RedirectURL.Path == p0.URL.Path",
      "copy.RedirectURL.Scheme == helper(p0)"] ∧
    requestSchemeLits = ["", "X-Forwarded-Proto", "http", "https"] ∧ requestSchemeReadsTLS = true :=
  ⟨rfl, rfl, rfl, rfl, rfl⟩

end Fabio.Props.C13Pins
