import Fabio.Model.C08Main
import Fabio.Props.C08Serve
/-!
C08 — the sentences of the property **from the operator's options to what the upstream receives**: `config.Load`
for the header options (command line / environment / properties file, with their precedence and the handling of
values that do not parse), `main.startServers` (every HTTP listener, plain or TLS, serves a proxy with the loaded
configuration; `r.TLS` is set on the TLS listener only) and `HTTPProxy.ServeHTTP` composed.

"For every header-related configuration" quantifies over what an operator can write (`Opts`), not over
`config.Proxy` values, and "exactly when the client connection used TLS" over the listener the client connected
to. The model is tied to the code by the stream `c08.main`, which runs the real executable.
-/
namespace Fabio.Props.C08Main
open Fabio Fabio.Model.C08 Fabio.Props.C08 Fabio.Props.C08Serve

theorem loadCfg_fields {d : Str} {o : Opts} {cfg : Cfg} (h : loadCfg d o = some cfg) :
    cfg.clientIPHeader = optStr optClientIP o ∧ cfg.tlsHeader = optStr optTLS o ∧
    cfg.tlsHeaderValue = optStr optTLSValue o ∧ cfg.requestID = optStr optRequestID o ∧
    cfg.localIP = (optGet optLocalIP o).getD d ∧
    optInt optSTSMaxAge o = some cfg.stsMaxAge ∧ optBool optSTSSubdomains o = some cfg.stsSubdomains ∧
    optBool optSTSPreload o = some cfg.stsPreload := by
  unfold loadCfg at h
  split at h
  · rename_i age sub pre ha hs hp
    cases h
    exact ⟨rfl, rfl, rfl, rfl, rfl, ha, hs, hp⟩
  · cases h

/-- The machine's address matters only when `proxy.localip` is not set. -/
theorem loadCfg_localIP_set {o : Opts} {v : Str} (h : optGet optLocalIP o = some v) (d d' : Str) :
    loadCfg d o = loadCfg d' o := by
  unfold loadCfg; simp only [h, Option.getD_some]

/-- **Without configuration fabio adds none of the optional headers**: no client-IP header, no TLS header, no
request id, no Strict-Transport-Security; `Forwarded` carries `by=<this machine>`. -/
theorem loadCfg_defaults (d : Str) : loadCfg d [] = some { localIP := d } := rfl

/-- fabio starts unless one of the three typed header options has no value (`optInt` / `optBool` give `none`); for the
number that happens only on the command line (`optInt_none_only_from_cmdline`). -/
theorem loadCfg_none_iff (d : Str) (o : Opts) :
    loadCfg d o = none ↔
      optInt optSTSMaxAge o = none ∨ optBool optSTSSubdomains o = none ∨ optBool optSTSPreload o = none := by
  unfold loadCfg
  cases optInt optSTSMaxAge o <;> cases optBool optSTSSubdomains o <;> cases optBool optSTSPreload o <;> simp

theorem optInt_none_only_from_cmdline (name : Str) (o : Opts) (h : optInt name o = none) :
    ∃ s, optFind name o = some (.arg, s) ∧ (∀ v, parseInt64 s ≠ .ok v) := by
  unfold optInt at h
  split at h
  · cases h
  · rename_i src s hf
    split at h
    · cases h
    · exact ⟨s, by rw [hf], fun v hv => by simp_all⟩
    · cases h
    · cases h

theorem optFind_cmdline_wins (name v : Str) (o : Opts) (h : lastOf .arg name o = some v) :
    optFind name o = some (.arg, v) := by
  simp [optFind, h]

/-- `FABIO_<NAME>` wins over the bare `<NAME>` and over the file when the command line is silent. -/
theorem optFind_env_over_file (name v : Str) (o : Opts) (ha : lastOf .arg name o = none)
    (he : lastOf .envFabio name o = some v) : optFind name o = some (.envFabio, v) := by
  simp [optFind, ha, he]

theorem optFind_absent (name : Str) (o : Opts) (h : ∀ e ∈ o, e.name ≠ name) : optFind name o = none := by
  have hl : ∀ src, lastOf src name o = none := by
    intro src
    induction o with
    | nil => rfl
    | cons e t ih =>
      have ht := ih (fun e' he' => h e' (List.mem_cons_of_mem _ he'))
      have hne : (e.name == name) = false := by
        have := h e List.mem_cons_self
        simpa using this
      simp [lastOf, ht, hne]
  simp [optFind, hl]

theorem onListener_tls (l : Listener) (st : TLS) (r : Req) : (onListener l st r).tls.isSome = l.tls := by
  cases l <;> rfl

theorem onListener_host (l : Listener) (st : TLS) (r : Req) : (onListener l st r).host = r.host := rfl

theorem mainServe_loaded {d : Str} {o : Opts} {cfg : Cfg} (h : loadCfg d o = some cfg) (l : Listener) (st : TLS)
    (uuid : Str) (route : Option Route) (r : Req) :
    mainServe d o l st uuid route r = some (serveHTTP cfg uuid route (onListener l st r)) := by
  simp [mainServe, h]

theorem main_refused_serves_nothing {d : Str} {o : Opts} (h : loadCfg d o = none) (l : Listener) (st : TLS)
    (uuid : Str) (route : Option Route) (r : Req) : mainServe d o l st uuid route r = none := by
  simp [mainServe, h]

/-- **Sentence 2 end to end.** The operator wrote `proxy.header.tls = name` (in whatever source wins) and
`proxy.header.tls.value = value`; then, for every client request on every HTTP listener, the upstream finds
`name` with `value`, once, when the client connected to the TLS listener, and not at all when it connected to the
plain listener — whatever copies of the header (any casing, repeated) and whatever `Connection` header the
client sent. In particular the plain listener's proxy *has* the TLS header configured (seeded change m12 removed
it there "because such a listener never sees TLS": the forged copies then pass). -/
theorem main_tls_header_iff_tls_listener (d : Str) (o : Opts) (cfg : Cfg) (l : Listener) (st : TLS) (uuid : Str)
    (t : Route) (r : Req) (ip port name : Str)
    (hload : loadCfg d o = some cfg)
    (hname : optGet optTLS o = some name) (hne : name ≠ [])
    (hred : (t.redirectCode != 0 && t.hasRedirectURL) = false)
    (hsplit : splitHostPort r.remoteAddr = some (ip, port))
    (hcn : canonicalKey name ≠ connection) (hx : canonicalKey name ≠ xForwardedFor)
    (hf : canonicalKey name ∉ fixedHopByHop) :
    ∃ k host sent resp, mainServe d o l st uuid (some t) r = some (.forward k host sent resp) ∧
      (l.tls = true → entries (canonicalKey name) sent = [(canonicalKey name, [optStr optTLSValue o])]) ∧
      (l.tls = false → entries (canonicalKey name) sent = []) := by
  obtain ⟨_, htl, htv, _⟩ := loadCfg_fields hload
  have hn : name = cfg.tlsHeader := by rw [htl, optStr, hname]; rfl
  subst hn
  have h := upstream_tls_header_iff_tls cfg uuid t (onListener l st r) ip port hred hsplit hne hcn hx hf
  rw [onListener_tls, htv] at h
  simpa only [mainServe_loaded hload, Option.some.injEq] using h

/-- **Sentence 1 end to end, client-IP header.** `proxy.header.clientip = name` ⇒ on every listener the upstream
finds the peer address under `name`, once, whatever the client sent. -/
theorem main_clientip_is_peer (d : Str) (o : Opts) (cfg : Cfg) (l : Listener) (st : TLS) (uuid : Str)
    (t : Route) (r : Req) (ip port name : Str)
    (hload : loadCfg d o = some cfg)
    (hname : optGet optClientIP o = some name) (hne : name ≠ [])
    (hxf : name ≠ xForwardedFor) (hxr : name ≠ xRealIp)
    (hred : (t.redirectCode != 0 && t.hasRedirectURL) = false)
    (hsplit : splitHostPort r.remoteAddr = some (ip, port))
    (hk : canonicalKey name ∉
      [xRealIp, xForwardedFor, xForwardedProto, xForwardedPort, xForwardedHost, xForwardedPrefix, forwarded, connection])
    (ht : optStr optTLS o = [] ∨ canonicalKey (optStr optTLS o) ≠ canonicalKey name)
    (hf : canonicalKey name ∉ fixedHopByHop) :
    ∃ k host sent resp, mainServe d o l st uuid (some t) r = some (.forward k host sent resp) ∧
      entries (canonicalKey name) sent = [(canonicalKey name, [ip])] := by
  obtain ⟨hci, htl, _⟩ := loadCfg_fields hload
  have hn : name = cfg.clientIPHeader := by rw [hci, optStr, hname]; rfl
  subst hn
  simp only [mainServe_loaded hload, Option.some.injEq]
  exact upstream_clientip_is_peer cfg uuid t (onListener l st r) ip port hred hsplit hne hxf hxr hk
    (by unfold TLSKeyFree; rw [htl]; exact ht) hf

/-- **Sentence 1 end to end, X-Forwarded-For.** Whatever the operator configured (as long as no configured
header is itself called `Upgrade` or `X-Forwarded-For`), on every listener, for every routed request, websocket
or not: the upstream's X-Forwarded-For is one line ending in the peer address. -/
theorem main_xff_last_is_peer (d : Str) (o : Opts) (cfg : Cfg) (l : Listener) (st : TLS) (uuid : Str)
    (t : Route) (r : Req) (ip port : Str)
    (hload : loadCfg d o = some cfg)
    (hred : (t.redirectCode != 0 && t.hasRedirectURL) = false)
    (hsplit : splitHostPort r.remoteAddr = some (ip, port))
    (hcu : ClientIPKeyFree cfg upgrade) (htu : TLSKeyFree cfg upgrade)
    (hcx : ClientIPKeyFree cfg xForwardedFor) (htx : TLSKeyFree cfg xForwardedFor) (hqx : RequestIDKeyFree cfg xForwardedFor)
    (hnil : vals xForwardedFor r.headers ≠ some [])
    (hc : ',' ∉ ip) (hs : ip.head? ≠ some ' ') :
    ∃ k host sent resp v, mainServe d o l st uuid (some t) r = some (.forward k host sent resp) ∧
      entries xForwardedFor sent = [(xForwardedFor, [v])] ∧ lastElem v = ip := by
  simp only [mainServe_loaded hload, Option.some.injEq]
  exact upstream_xff_last_is_peer cfg uuid t (onListener l st r) ip port hred hsplit hcu htu hcx htx hqx hnil hc hs

/-- **Sentence 5 end to end.** A client of the plain listener never reads Strict-Transport-Security, whatever the
operator configured and whatever route or exit handles the request. -/
theorem main_sts_never_on_plain_listener (d : Str) (o : Opts) (st : TLS) (uuid : Str) (route : Option Route) (r : Req)
    (s : Served) (h : mainServe d o .http st uuid route r = some s) : clientSTS s = [] := by
  cases hl : loadCfg d o with
  | none => rw [main_refused_serves_nothing hl] at h; cases h
  | some cfg =>
    rw [mainServe_loaded hl] at h
    cases h
    exact client_sts_only_on_tls cfg uuid route _ rfl

/-- On the TLS listener, with `proxy.header.sts.maxage` a positive number, every response fabio writes
itself carries the header once, with that number (capped at MaxInt32) and the configured directives. -/
theorem main_sts_on_tls_listener (d : Str) (o : Opts) (cfg : Cfg) (l : Listener) (st : TLS) (uuid : Str) (t : Route) (r : Req)
    (ip port : Str) (age : Int) (hl : l.tls = true)
    (hload : loadCfg d o = some cfg)
    (hage : optInt optSTSMaxAge o = some age) (hpos : age > 0)
    (hred : (t.redirectCode != 0 && t.hasRedirectURL) = false)
    (hsplit : splitHostPort r.remoteAddr = some (ip, port))
    (hws : isWebsocket (withRequestID cfg uuid r).headers = false)
    (hcu : ClientIPKeyFree cfg upgrade) (htu : TLSKeyFree cfg upgrade) :
    ∃ s, mainServe d o l st uuid (some t) r = some s ∧ clientSTS s = [stsValue cfg] ∧ cfg.stsMaxAge = age := by
  obtain ⟨_, _, _, _, _, ha, _⟩ := loadCfg_fields hload
  have hae : cfg.stsMaxAge = age := by rw [hage] at ha; exact (Option.some.inj ha).symm
  refine ⟨_, mainServe_loaded hload _ _ _ _ _, ?_, hae⟩
  exact client_sts_on_tls cfg uuid t (onListener l st r) ip port hred hsplit (by rw [onListener_tls, hl])
    (by rw [hae]; exact hpos) hws hcu htu

/-- **X-Forwarded-Host / -Port end to end**: the host the client asked for and its port (else 443 on the TLS
listener, 80 on the plain one), for every `host=` option of the route. -/
theorem main_xfhost_xfport (d : Str) (o : Opts) (cfg : Cfg) (l : Listener) (st : TLS) (uuid : Str)
    (t : Route) (r : Req) (ip port : Str)
    (hload : loadCfg d o = some cfg)
    (hred : (t.redirectCode != 0 && t.hasRedirectURL) = false)
    (hsplit : splitHostPort r.remoteAddr = some (ip, port))
    (hxh : get1 xForwardedHost r.headers = []) (hxp : get1 xForwardedPort r.headers = []) (hh : r.host ≠ [])
    (hqh : RequestIDKeyFree cfg xForwardedHost) (hch : ClientIPKeyFree cfg xForwardedHost) (hth : TLSKeyFree cfg xForwardedHost)
    (hqp : RequestIDKeyFree cfg xForwardedPort) (hcp : ClientIPKeyFree cfg xForwardedPort) (htp : TLSKeyFree cfg xForwardedPort) :
    ∃ kind sent resp, mainServe d o l st uuid (some t) r =
        some (.forward kind (overrideHost t.hostOpt t.targetHost r.host) sent resp) ∧
      entries xForwardedHost sent = [(xForwardedHost, [r.host])] ∧
      entries xForwardedPort sent = [(xForwardedPort, [localPort r.host l.tls])] := by
  have h := upstream_xfhost_xfport cfg uuid t (onListener l st r) ip port hred hsplit hxh hxp hh hqh hch hth hqp hcp htp
  rw [onListener_tls, onListener_host] at h
  simpa only [mainServe_loaded hload, Option.some.injEq] using h

def digitsOf (ds : List Nat) : Str := ds.map fun d => Char.ofNat (48 + d)

def decValue (ds : List Nat) : Nat := ds.foldl (fun a d => a * 10 + d) 0

theorem digitVal_digit : ∀ x, x < 10 → digitVal (Char.ofNat (48 + x)) = some x := by decide

theorem digit_char_ne : ∀ x, x < 10 → 0 < x →
    Char.ofNat (48 + x) ≠ '0' ∧ Char.ofNat (48 + x) ≠ '-' ∧ Char.ofNat (48 + x) ≠ '+' := by decide

theorem parseNatBase_digits_aux (ds : List Nat) (hd : ∀ x ∈ ds, x < 10) (a : Nat) :
    (digitsOf ds).foldl (fun acc c =>
      match acc, digitVal c with
      | some a, some d => if d < 10 then some (a * 10 + d) else none
      | _, _ => none) (some a) = some (ds.foldl (fun a d => a * 10 + d) a) := by
  induction ds generalizing a with
  | nil => rfl
  | cons x xs ih =>
    have hx : x < 10 := hd x List.mem_cons_self
    simp only [digitsOf, List.map_cons, List.foldl_cons]
    rw [digitVal_digit x hx]
    simp only [hx, if_true]
    exact ih (fun y hy => hd y (List.mem_cons_of_mem _ hy)) _

theorem parseUnsigned0_cons {c : Char} (t : Str) (h : c ≠ '0') : parseUnsigned0 (c :: t) = parseNatBase 10 (c :: t) := by
  unfold parseUnsigned0
  split <;> first | rfl | (rename_i heq; exact absurd (List.cons.inj heq).1 h)

theorem signSplit_cons {c : Char} (t : Str) (hm : c ≠ '-') (hp : c ≠ '+') : signSplit (c :: t) = (false, c :: t) := by
  unfold signSplit
  split <;> first | rfl | (rename_i heq; exact absurd (List.cons.inj heq).1 hm) |
    (rename_i heq; exact absurd (List.cons.inj heq).1 hp)

theorem parseInt64_decimal (x : Nat) (xs : List Nat) (hx : 0 < x ∧ x < 10) (hd : ∀ y ∈ xs, y < 10)
    (hr : decValue (x :: xs) ≤ 9223372036854775807) :
    parseInt64 (digitsOf (x :: xs)) = .ok (decValue (x :: xs)) := by
  have hall : ∀ y ∈ x :: xs, y < 10 := List.forall_mem_cons.mpr ⟨hx.2, hd⟩
  obtain ⟨h0, hm, hp⟩ := digit_char_ne x hx.2 hx.1
  have hshape : digitsOf (x :: xs) = Char.ofNat (48 + x) :: digitsOf xs := rfl
  have hpn : parseNatBase 10 (Char.ofNat (48 + x) :: digitsOf xs) = some (decValue (x :: xs)) := by
    rw [← hshape]
    exact parseNatBase_digits_aux (x :: xs) hall 0
  unfold parseInt64
  rw [hshape, signSplit_cons _ hm hp, parseUnsigned0_cons _ h0, hpn]
  have h1 : ¬ ((decValue (x :: xs) : Int) < -9223372036854775808) := by omega
  have h2 : ¬ ((decValue (x :: xs) : Int) > 9223372036854775807) := by omega
  simp only [Bool.false_eq_true, if_false, h1, h2]

theorem optFind_lone (name : Str) (src : Source) (s : Str) : optFind name [⟨src, name, s⟩] = some (src, s) := by
  cases src <;> simp [optFind, lastOf]

theorem sts_option_names : optSTSSubdomains ≠ optSTSMaxAge ∧ optSTSPreload ≠ optSTSMaxAge := by
  unfold optSTSSubdomains optSTSPreload optSTSMaxAge; simp only [toList_lit rfl]; decide +kernel

/-- A configuration that sets nothing but `proxy.header.sts.maxage`: fabio starts iff the number is accepted, and the
field holds what `flag.IntVar` was left with. -/
theorem loadCfg_lone_maxage (d : Str) (src : Source) (s : Str) :
    (loadCfg d [⟨src, optSTSMaxAge, s⟩]).map (·.stsMaxAge) = optInt optSTSMaxAge [⟨src, optSTSMaxAge, s⟩] := by
  have hb : ∀ n, n ≠ optSTSMaxAge → optBool n [⟨src, optSTSMaxAge, s⟩] = some false := fun n hn => by
    rw [optBool, optFind_absent n _ (by simpa using hn.symm)]
  unfold loadCfg
  rw [hb _ sts_option_names.1, hb _ sts_option_names.2]
  cases optInt optSTSMaxAge [⟨src, optSTSMaxAge, s⟩] <;> rfl

def exOpts : Opts :=
  [⟨.file, optTLS, "X-File".toList⟩, ⟨.envFabio, optTLS, "X-Env".toList⟩, ⟨.arg, optTLS, "x-tls".toList⟩,
   ⟨.envBare, optTLSValue, "on".toList⟩, ⟨.arg, optClientIP, "X-Client-Ip".toList⟩,
   ⟨.file, optSTSMaxAge, "31536000".toList⟩, ⟨.envFabio, optSTSSubdomains, "T".toList⟩,
   ⟨.file, optRequestID, "X-Request-Id".toList⟩, ⟨.arg, optLocalIP, "5.6.7.8".toList⟩]

deriving instance DecidableEq for Cfg

/-- On every machine, `proxy.localip` being set; the command line wins for the TLS header. -/
theorem loadCfg_exOpts (d : Str) : loadCfg d exOpts = some exCfg := by
  have h : optGet optLocalIP exOpts = some "5.6.7.8".toList ∧ loadCfg [] exOpts = some exCfg := by
    unfold exOpts exCfg optTLS optTLSValue optClientIP optSTSMaxAge optSTSSubdomains optRequestID optLocalIP
    simp only [toList_lit rfl]; decide +kernel
  rw [loadCfg_localIP_set h.1 d [], h.2]

example : (loadCfg "192.0.2.2".toList exOpts).map (fun c => (c.clientIPHeader, c.tlsHeader, c.tlsHeaderValue, c.localIP,
      c.stsMaxAge, c.stsSubdomains, c.stsPreload, c.requestID)) =
    some (exCfg.clientIPHeader, exCfg.tlsHeader, exCfg.tlsHeaderValue, exCfg.localIP, exCfg.stsMaxAge, exCfg.stsSubdomains,
      exCfg.stsPreload, exCfg.requestID) := by
  rw [loadCfg_exOpts]; rfl
theorem exOpts_tls : lastOf .arg optTLS exOpts = some "x-tls".toList := by
  unfold exOpts optTLS optTLSValue optClientIP optSTSMaxAge optSTSSubdomains optRequestID optLocalIP
  simp only [toList_lit rfl]; decide +kernel
example : optFind optTLS exOpts = some (.arg, "x-tls".toList) := optFind_cmdline_wins _ _ _ exOpts_tls
-- the plain listener removes the forged copies, the TLS listener overwrites them
example : (match mainServe [] exOpts .http ⟨0x0303, 0xc02f⟩ "id".toList (some exRoute) (exReq none) with
    | some (.forward _ _ sent _) => entries "X-Tls".toList sent | _ => [("?".toList, [])]) = [] := by
  have hname : optGet optTLS exOpts = some exCfg.tlsHeader := by
    rw [optGet, optFind_cmdline_wins _ _ _ exOpts_tls]; rfl
  have hx := List.not_mem_of_not_mem_cons exCfg_tlsKey_fresh
  obtain ⟨k, host, sent, resp, hs, -, hp⟩ := main_tls_header_iff_tls_listener [] exOpts exCfg .http ⟨0x0303, 0xc02f⟩
    "id".toList exRoute (exReq none) _ _ _ (loadCfg_exOpts []) hname (by decide) rfl (exReq_split none)
    (List.ne_of_not_mem_cons exCfg_tlsKey_fresh) (List.ne_of_not_mem_cons hx) (List.not_mem_of_not_mem_cons hx)
  rw [hs, ← exCfg_tlsKey]
  exact hp rfl
example : (match mainServe [] exOpts .https ⟨0x0303, 0xc02f⟩ "id".toList (some exRoute) (exReq none) with
    | some (.forward _ _ sent _) => entries "X-Tls".toList sent | _ => []) = [("X-Tls".toList, ["on".toList])] := by
  have hr : onListener .https ⟨0x0303, 0xc02f⟩ (exReq none) = exReq (some ⟨0x0303, 0xc02f⟩) := by
    simp only [onListener, exReq, Listener.tls, if_true]
  rw [mainServe_loaded (loadCfg_exOpts []), hr, serveHTTP_exReq_tls]
  unfold hmap; simp only [List.map, toList_lit rfl]; decide +kernel
example : (match mainServe [] exOpts .https ⟨0x0303, 0xc02f⟩ "id".toList (some exRoute) exListReq with
    | some s => clientSTS s | none => []) = ["max-age=31536000; includeSubdomains".toList] := by
  rw [mainServe_loaded (loadCfg_exOpts [])]; exact clientSTS_exListReq_tls
example : (match mainServe [] exOpts .http ⟨0x0303, 0xc02f⟩ "id".toList (some exRoute) exListReq with
    | some s => clientSTS s | none => ["?".toList]) = [] := by
  rw [mainServe_loaded (loadCfg_exOpts [])]; exact client_sts_only_on_tls exCfg _ _ _ rfl
-- values that do not parse: refused on the command line, zero / saturated from the other sources
example : loadCfg [] [⟨.arg, optSTSMaxAge, "abc".toList⟩] = none := by
  rw [loadCfg_none_iff]; left; rw [optInt, optFind_lone]; simp only [toList_lit rfl]; decide +kernel
example : (loadCfg [] [⟨.envFabio, optSTSMaxAge, "abc".toList⟩]).map (·.stsMaxAge) = some 0 := by
  rw [loadCfg_lone_maxage, optInt, optFind_lone]; simp only [toList_lit rfl]; decide +kernel
example : (loadCfg [] [⟨.file, optSTSMaxAge, "99999999999999999999".toList⟩]).map (·.stsMaxAge) = some 9223372036854775807 := by
  rw [loadCfg_lone_maxage, optInt, optFind_lone]; simp only [toList_lit rfl]; decide +kernel
example : (loadCfg [] [⟨.file, optSTSMaxAge, "0x10".toList⟩]).map (·.stsMaxAge) = some 16 := by
  rw [loadCfg_lone_maxage, optInt, optFind_lone]; simp only [toList_lit rfl]; decide +kernel
example : (loadCfg [] [⟨.file, optSTSMaxAge, "010".toList⟩]).map (·.stsMaxAge) = some 8 := by
  rw [loadCfg_lone_maxage, optInt, optFind_lone]; simp only [toList_lit rfl]; decide +kernel
example : loadCfg [] [⟨.arg, optSTSPreload, "yes".toList⟩] = none := by
  rw [loadCfg_none_iff]; right; right; unfold optSTSPreload; simp only [toList_lit rfl]; decide +kernel
example : parseInt64 (digitsOf [3, 1, 5, 3, 6, 0, 0, 0]) = .ok 31536000 := by decide +kernel
example : optFind optTLS [⟨.file, optClientIP, "X".toList⟩] = none := by
  unfold optTLS optClientIP; simp only [toList_lit rfl]; decide +kernel

end Fabio.Props.C08Main
