import Fabio.Lemmas.C09Compose
import Fabio.Props.C09
import Fabio.Props.C10
/-!
C09 ∘ C10 — the tcp+sni sentence of C09 end to end.

`Model.C09.sniServe` leaves the size function and the name extraction abstract (own `helloSize`, parameter
`routed`). Here they are C10's `clientHelloBufferSize` and `readServerName` (`Model/C09Compose.lean`), and the
statement is about C10's abstract `Hello`, its wire form `record`, and *every* script (= segmentation and
ending) carrying `record h ++ s`.
-/
namespace Fabio.Props.C09Compose
open Fabio Fabio.Model.C09 Fabio.Model.C09Compose Fabio.Lemmas.C09Compose
open Fabio.Model.C10 (clientHelloBufferSize readServerName unmarshal sniRoute Hello WellFormed FitsRecord record encode sniOf)

theorem size_agrees (d : Bytes) : helloSize d = sizeC10 d := by
  unfold sizeC10
  match d with
  | [] | [_] | [_, _] | [_, _, _] | [_, _, _, _] | [_, _, _, _, _] | [_, _, _, _, _, _]
  | [_, _, _, _, _, _, _] | [_, _, _, _, _, _, _, _] => rfl
  | t :: a :: b :: l1 :: l2 :: ht :: h1 :: h2 :: h3 :: r =>
    -- On nine bytes and more C10's function is `headerSize` of the four header fields: the same four tests on the
    -- same two numbers as `helloSize`, once its sums are written back as `be16`/`be24`.
    rw [Fabio.Lemmas.C10.bufsize_cons]
    simp only [helloSize, ← Fabio.Lemmas.C10.be16_eq, ← Fabio.Lemmas.C10.be24_eq, Fabio.Lemmas.C10.headerSize]
    generalize Fabio.Model.C10.be16 l1 l2 = recLen
    generalize Fabio.Model.C10.be24 h1 h2 h3 = hsLen
    by_cases c1 : t ≠ 22
    · rw [if_pos c1, if_pos c1]
    rw [if_neg c1, if_neg c1]
    by_cases c2 : recLen = 0 ∨ recLen > 16384
    · rw [if_pos c2, if_pos c2]
    rw [if_neg c2, if_neg c2]
    by_cases c3 : ht ≠ 1
    · rw [if_pos c3, if_pos c3]
    rw [if_neg c3, if_neg c3]
    by_cases c4 : hsLen = 0 ∨ hsLen + 4 > recLen
    · rw [if_pos c4, if_pos c4]
    rw [if_neg c4, if_neg c4]

theorem helloSize_eq_some (d : Bytes) (n : Nat) : helloSize d = some n ↔ clientHelloBufferSize d = .ok n := by
  rw [size_agrees]
  unfold sizeC10
  cases clientHelloBufferSize d <;> simp

/-- **Refinement.** For every script (every segmentation, every ending) and every route table, the proxy
reaches the tunnel stage exactly when C10's `sniRoute` of the client's stream yields a non-empty name that
the table routes; in every other case — fewer than 9 bytes, a header C10 rejects, fewer bytes than
announced, a hello C10's parser rejects, no server name, no route — no upstream is dialled and nothing is
forwarded. -/
theorem proxy_refines_sniRoute (src : CopySrc) (table : Bytes → Bool) (line : Bytes) (script : Script) :
    let r := sniProxy src table line script
    (r.stage = .tunnel ↔ ∃ nm, sniRoute (streamOf script) = .ok nm ∧ nm ≠ [] ∧ table nm = true) ∧
    (r.stage ≠ .tunnel → r.upstream = []) := by
  simp only
  rw [sniProxy_eq]
  refine ⟨?_, Lemmas.C09.sniServe_upstream_nil _ _ _ _⟩
  -- both sides say: the size checks pass, and the parser finds a routed name in the bytes they delimit
  rw [Lemmas.C09.sniServe_tunnel_iff, routedBy_eq_true_iff]
  simp only [Fabio.Lemmas.C10.sniRoute_ok_iff, ← helloSize_eq_some]
  constructor
  · rintro ⟨⟨nm, hnm, hne, ht⟩, want, h9, hsz, hle⟩
    rw [Lemmas.C09.frontOf_hello _ _ want h9 hsz] at hnm
    exact ⟨nm, ⟨want, hsz, hle, hnm⟩, hne, ht⟩
  · rintro ⟨nm, ⟨want, hsz, hle, hu⟩, hne, ht⟩
    have h10 := Fabio.Lemmas.C10.bufsize_ge _ _ ((helloSize_eq_some _ _).mp hsz)
    have h9 : 9 ≤ (streamOf script).length := by omega
    rw [Lemmas.C09.frontOf_hello _ _ want h9 hsz]
    exact ⟨⟨nm, hu, hne, ht⟩, want, h9, hsz, hle⟩

/-- **The tcp+sni sentence, end to end.** For every well-formed ClientHello `h` that fits a record and names a
routed host, every continuation `s`, and EVERY script carrying `record h ++ s` — the hello split across
segments, the hello plus trailing bytes in one segment, 1-byte segments, any ending — with or without a PROXY
line: the proxy consumes exactly the record through the buffered reader, looks up exactly `sniOf h`, and the
upstream receives `line ++ record h ++ s`: every byte once, in order, from the first byte. -/
theorem sni_end_to_end (vMaj vMin : UInt8) (h : Hello) (hw : WellFormed h) (hf : FitsRecord h)
    (table : Bytes → Bool) (hne : sniOf h ≠ []) (ht : table (sniOf h) = true)
    (line s : Bytes) (script : Script) (hs : streamOf script = record vMaj vMin h ++ s) :
    let r := sniProxy codeCopySrc table line script
    r.stage = .tunnel ∧
    r.hello = record vMaj vMin h ∧
    lookedUp r.hello = some (sniOf h) ∧
    sniLookup script = some (sniOf h) ∧
    r.upstream = line ++ record vMaj vMin h ++ s := by
  have hrl := Fabio.Lemmas.C10.record_length vMaj vMin h
  have h9 : 9 ≤ (streamOf script).length := by rw [hs, List.length_append]; omega
  have hsz : helloSize ((streamOf script).take 9) = some (record vMaj vMin h).length :=
    (helloSize_eq_some _ _).mpr (hs ▸ Fabio.Props.C10.bufsize_exact vMaj vMin h hf s)
  have hle : (record vMaj vMin h).length ≤ (streamOf script).length := by rw [hs, List.length_append]; omega
  -- what `ServeTCP` does is a function of the stream (`frontOf`): here the tunnel stage, with the record as hello
  have htun : (Lemmas.C09.frontOf true (streamOf script)).1 = .tunnel :=
    (Lemmas.C09.frontOf_tunnel_iff true _).mpr ⟨rfl, _, h9, hsz, hle⟩
  have hhello : (Lemmas.C09.frontOf true (streamOf script)).2 = record vMaj vMin h := by
    rw [Lemmas.C09.frontOf_hello _ _ _ h9 hsz, hs, List.take_append_of_le_length (Nat.le_refl _), List.take_length]
  have hlook : lookedUp (record vMaj vMin h) = some (sniOf h) :=
    lookedUp_eq_some_iff.2 ⟨by rw [Fabio.Lemmas.C10.record_drop5]; exact Fabio.Lemmas.C10.unmarshal_encode h hw, hne⟩
  have hrouted : routedBy table (record vMaj vMin h) = true := by
    unfold routedBy
    rw [hlook]; exact ht
  simp only
  rw [sniProxy_eq, sniLookup_eq, Lemmas.C09.sniServe_hello_eq, htun, hhello, hrouted, if_pos rfl]
  have hst : (sniServe codeCopySrc true line script).stage = .tunnel :=
    (Lemmas.C09.sniServe_eq codeCopySrc true line script).1.trans htun
  refine ⟨hst, rfl, hlook, hlook, ?_⟩
  rw [Fabio.Props.C09.upstream_prefix_sni_code line script true hst, hs, List.append_assoc]

theorem not_routed_dropped (src : CopySrc) (table : Bytes → Bool) (line : Bytes) (script : Script)
    (h : ∀ nm, sniRoute (streamOf script) = .ok nm → nm ≠ [] → table nm = true → False) :
    (sniProxy src table line script).stage ≠ .tunnel ∧ (sniProxy src table line script).upstream = [] := by
  have hp := proxy_refines_sniRoute src table line script
  simp only at hp
  have hne : (sniProxy src table line script).stage ≠ .tunnel := fun hst =>
    have ⟨nm, hnm, hnon, ht⟩ := hp.1.mp hst
    h nm hnm hnon ht
  exact ⟨hne, hp.2 hne⟩

/-- A hello without a server name is not tunnelled (`host == ""`: the proxy returns before dialling). -/
theorem sni_no_name_dropped (vMaj vMin : UInt8) (h : Hello) (hw : WellFormed h) (hf : FitsRecord h)
    (hempty : sniOf h = []) (src : CopySrc) (table : Bytes → Bool) (line s : Bytes) (script : Script)
    (hs : streamOf script = record vMaj vMin h ++ s) :
    (sniProxy src table line script).stage ≠ .tunnel ∧ (sniProxy src table line script).upstream = [] := by
  refine not_routed_dropped src table line script fun nm hnm hnon _ => ?_
  rw [hs, Fabio.Props.C10.route_encode vMaj vMin h hw hf s] at hnm
  cases hnm; exact hnon hempty

/-- **Rejection side, truncation.** For every strict prefix of the record followed by EOF (or an error),
however segmented: no upstream is dialled and nothing is forwarded. -/
theorem sni_truncated_dropped (vMaj vMin : UInt8) (h : Hello) (hf : FitsRecord h) (k : Nat)
    (hk : k < (record vMaj vMin h).length) (src : CopySrc) (table : Bytes → Bool) (line : Bytes)
    (script : Script) (hs : streamOf script = (record vMaj vMin h).take k) :
    (sniProxy src table line script).stage ≠ .tunnel ∧ (sniProxy src table line script).upstream = [] := by
  refine not_routed_dropped src table line script fun nm hnm _ _ => ?_
  have := Fabio.Props.C10.truncation_rejected vMaj vMin h hf k hk
  rw [← hs, hnm] at this
  cases this

/-- **Rejection side, in general.** Every byte string `sniRoute` rejects (short, not a handshake record, bad
lengths, fragmented, a hello the parser rejects): no upstream, nothing forwarded. -/
theorem sni_rejected_dropped (src : CopySrc) (table : Bytes → Bool) (line : Bytes) (script : Script)
    (hr : (sniRoute (streamOf script)).isOk = false) :
    (sniProxy src table line script).stage ≠ .tunnel ∧ (sniProxy src table line script).upstream = [] := by
  refine not_routed_dropped src table line script fun nm hnm _ _ => ?_
  rw [hnm] at hr; cases hr

theorem one_byte_segments (bs : Bytes) : streamOf (bs.map (fun b => ReadEv.chunk [b])) = bs := by
  induction bs with
  | nil => rfl
  | cons b t ih => simp [streamOf, ih]

-- The hypotheses of `sni_end_to_end` are satisfiable: C10's `exHello`.

open Fabio.Props.C10 (exHello exName)

def exTable : Bytes → Bool := fun nm => nm == exName

private theorem exHello_sni : sniOf exHello = exName := by decide +kernel

private theorem ex_end_to_end (line s : Bytes) (script : Script) (hs : streamOf script = record 3 1 exHello ++ s) :
    sniLookup script = some exName ∧
    (sniProxy codeCopySrc exTable line script).upstream = line ++ record 3 1 exHello ++ s := by
  have := sni_end_to_end 3 1 exHello Fabio.Props.C10.exHello_wf Fabio.Props.C10.exHello_fits exTable
    (by rw [exHello_sni]; decide) (by rw [exHello_sni]; decide) line s script hs
  rw [exHello_sni] at this
  exact ⟨this.2.2.2.1, this.2.2.2.2⟩

example :
    let rec_ := record 3 1 exHello
    let script : Script := [.chunk (rec_.take 40), .chunk (rec_.drop 40 ++ [0xAA, 0xBB]), .chunk [0xCC], .eof]
    (sniProxy codeCopySrc exTable [0x50] script).upstream = [0x50] ++ rec_ ++ [0xAA, 0xBB, 0xCC] ∧
    sniLookup script = some exName := by
  have := ex_end_to_end [0x50] [0xAA, 0xBB, 0xCC]
    [.chunk ((record 3 1 exHello).take 40), .chunk ((record 3 1 exHello).drop 40 ++ [0xAA, 0xBB]), .chunk [0xCC], .eof]
    (by simp only [streamOf, List.append_nil, List.append_assoc]
        rw [← List.append_assoc, List.take_append_drop]; rfl)
  exact ⟨this.2, this.1⟩

example : (sniProxy codeCopySrc exTable [] ((record 3 1 exHello ++ [1, 2, 3]).map (fun b => .chunk [b]))).upstream
    = record 3 1 exHello ++ [1, 2, 3] :=
  (ex_end_to_end [] [1, 2, 3] _ (one_byte_segments _)).2

example : (sniProxy codeCopySrc exTable [] [.chunk (record 3 1 exHello ++ [7, 8]), .chunk [9]]).upstream
    = record 3 1 exHello ++ [7, 8, 9] :=
  (ex_end_to_end [] [7, 8, 9] _ (by simp [streamOf])).2

example : (sniProxy codeCopySrc exTable [] [.chunk ((record 3 1 exHello).take 100), .eof]).upstream = [] :=
  (sni_truncated_dropped 3 1 exHello Fabio.Props.C10.exHello_fits 100 (by decide +kernel) _ _ _ _
    (by simp [streamOf])).2

example : (sniProxy codeCopySrc exTable [] [.chunk [0x17, 3, 3, 0, 5, 1, 0, 0, 1, 0]]).stage ≠ .tunnel :=
  (sni_rejected_dropped _ _ _ _ (by decide +kernel)).1

example : (sniProxy codeCopySrc (fun _ => false) [] [.chunk (record 3 1 exHello)]).upstream = [] := by
  decide +kernel

end Fabio.Props.C09Compose
