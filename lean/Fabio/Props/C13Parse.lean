import Fabio.Model.C13Parse
import Fabio.Lemmas.Basic
import Fabio.Lemmas.Lit
import Fabio.Props.C13
/-!
C13 — what `url.Parse` (model: `Model/C13Parse.lean`, compared with `net/url` on every case of `c13.build`) makes
of a redirect template *text*, so that the statements about the `Location` start from the text an operator
writes in `route add … <template> opts "redirect=…"` and not from an already parsed record.
-/
namespace Fabio.Props.C13Parse
open Fabio Fabio.Model.C13 Fabio.Lemmas.C13

theorem getScheme_ok (c : UInt8) (r rest : Str) (hl : isLetter c = true) (hs : ∀ x ∈ c :: r, schemeByte x = true) :
    getScheme ((c :: r) ++ 58 :: rest) = some (c :: r, rest) := by
  have ht : ((c :: r) ++ 58 :: rest).takeWhile schemeByte = c :: r := takeWhile_stop _ _ _ hs (by decide)
  unfold getScheme
  simp only [ht]
  have hd : ((c :: r) ++ 58 :: rest).drop (c :: r).length = 58 :: rest := by simp
  rw [hd]
  simp [hl]

def clean (seps : List UInt8) (s : Str) : Prop := ∀ c ∈ s, ¬ (c < 32 ∨ c = 127) ∧ c ∉ seps

theorem clean_nil (seps : List UInt8) : clean seps [] := fun _ h => nomatch h

theorem clean_cons {seps : List UInt8} {c : UInt8} {s : Str} (hc : ¬ (c < 32 ∨ c = 127) ∧ c ∉ seps) (hs : clean seps s) :
    clean seps (c :: s) := by
  intro x hx
  rcases List.mem_cons.1 hx with rfl | h
  · exact hc
  · exact hs x h

theorem clean_append {seps : List UInt8} {a b : Str} (ha : clean seps a) (hb : clean seps b) : clean seps (a ++ b) := by
  intro x hx
  rcases List.mem_append.1 hx with h | h
  · exact ha x h
  · exact hb x h

theorem clean_mono {seps seps' : List UInt8} {s : Str} (hsub : ∀ x ∈ seps', x ∈ seps) (h : clean seps s) : clean seps' s :=
  fun c hc => ⟨(h c hc).1, fun hm => (h c hc).2 (hsub c hm)⟩

theorem clean_ne {seps : List UInt8} {s : Str} (h : clean seps s) {sep : UInt8} (hsep : sep ∈ seps) : ∀ c ∈ s, c ≠ sep :=
  fun c hc e => (h c hc).2 (e ▸ hsep)

theorem hasCTL_clean {seps : List UInt8} {s : Str} (h : clean seps s) : hasCTL s = false := by
  simp only [hasCTL, List.any_eq_false]
  intro x hx
  simpa [not_or] using (h x hx).1

/-- a scheme byte is a letter, a digit or one of `+ - .`; the proof compares the bytes as numbers -/
theorem clean_scheme {s : Str} (hs : ∀ x ∈ s, schemeByte x = true) : clean [58, 35, 63] s := by
  intro x hx
  have h := hs x hx
  simp only [schemeByte, isLetter, isDigit, Bool.or_eq_true, Bool.and_eq_true, decide_eq_true_eq, beq_iff_eq,
    UInt8.le_iff_toNat_le, ← UInt8.toNat_inj, UInt8.reduceToNat] at h
  simp only [List.mem_cons, List.not_mem_nil, or_false, UInt8.lt_iff_toNat_lt, ← UInt8.toNat_inj, UInt8.reduceToNat]
  omega

/-- **`url.Parse` of an absolute template** `scheme "://" authority path [ "?" query ]`: scheme lower-cased, the
authority through `parseHost`, the path through `setPath`, the query verbatim — for every scheme that starts with
a letter, every authority without `/ ? # @` that is no bracketed IP literal, every path that is empty or starts
with `/` (no `? #`), every query (no `#`), no control byte anywhere. The route command is rejected exactly when
`parseHost` rejects the authority (a malformed port, a malformed or forbidden escape, a byte host mode escapes) or the
path's escaping is malformed. -/
theorem parse_absolute (c : UInt8) (r auth p q : Str) (hasQ : Bool)
    (hl : isLetter c = true) (hs : ∀ x ∈ c :: r, schemeByte x = true)
    (ha : clean [47, 63, 35, 64] auth) (hb : auth.head? ≠ some 91)
    (hp : clean [63, 35] p) (hp0 : p = [] ∨ p.head? = some 47)
    (hq : clean [35] q) :
    parseTemplate ((c :: r) ++ 58 :: 47 :: 47 :: (auth ++ (p ++ (if hasQ then 63 :: q else [])))) =
      match parseHost auth, setPath p with
      | some h, some (path, raw) =>
          .ok { scheme := (c :: r).map lowerByte, host := h, path := path, rawPath := raw, rawQuery := if hasQ then q else [] }
      | _, _ => .error := by
  let qpart : Str := if hasQ then 63 :: q else []
  let rest : Str := 47 :: 47 :: (auth ++ (p ++ qpart))
  let text : Str := (c :: r) ++ 58 :: rest
  -- the text holds no `#` and no control byte; in front of the query there is no `?`
  have hq' : clean [35] qpart := by
    cases hasQ
    · exact clean_nil _
    · exact clean_cons (by decide) hq
  have htext : clean [35] text :=
    clean_append (clean_mono (by simp) (clean_scheme hs)) (clean_cons (by decide) (clean_cons (by decide) (clean_cons (by decide)
      (clean_append (clean_mono (by simp) ha) (clean_append (clean_mono (by simp) hp) hq')))))
  have hnoq : clean [63] (47 :: 47 :: (auth ++ p)) :=
    clean_cons (by decide) (clean_cons (by decide) (clean_append (clean_mono (by simp) ha) (clean_mono (by simp) hp)))
  -- no fragment is cut off, the control-byte test passes, the text is not the `*` form
  have h1 : cut 35 text = (text, [], false) := cut_none 35 text (clean_ne htext (by simp))
  have h2 : hasCTL text = false := hasCTL_clean htext
  have h3 : (text == [42]) = false := by
    simp [text]
  -- the scheme ends at the first `:`, the query starts at the first `?`
  have h4 : getScheme text = some (c :: r, rest) := getScheme_ok c r _ hl hs
  have h5 : cut 63 rest = (47 :: 47 :: (auth ++ p), if hasQ then q else [], hasQ) := by
    cases hasQ with
    | false => simpa [rest, qpart] using cut_none 63 _ (clean_ne hnoq (by simp))
    | true => simpa [rest, qpart] using cut_append 63 _ q (clean_ne hnoq (by simp))
  -- the authority ends at the first `/`; it has no userinfo and is no IP literal
  have hauth47 : ∀ x ∈ auth, (x != 47) = true := fun x hx => by simpa using clean_ne ha (by simp) x hx
  have h6 : (auth ++ p).takeWhile (· != 47) = auth := by
    rcases hp0 with rfl | hp0
    · simpa using List.takeWhile_append_of_pos (l₂ := []) hauth47
    · cases p with
      | nil => simp at hp0
      | cons y ys =>
        simp only [List.head?_cons, Option.some.injEq] at hp0
        subst hp0
        exact takeWhile_stop auth 47 ys hauth47 (by decide)
  have h7 : auth.contains 64 = false := by
    simpa using fun h : (64 : UInt8) ∈ auth => clean_ne ha (by simp) 64 h rfl
  have h8 : (auth.head? == some 91) = false := by simpa using hb
  have h9 : (unescape ([] : Str)).isSome = true := rfl
  show parseTemplate text = _
  unfold parseTemplate
  simp only [h1, h2, h3, h4, h5, h6, h7, h8, h9, Bool.false_eq_true, if_false, List.isEmpty_cons, Bool.false_and,
    List.drop_left', if_true]
  cases parseHost auth with
  | none => rfl
  | some h =>
    cases setPath p with
    | none => rfl
    | some pr => rfl

/-- a host text without `%`, `:` and `[`, of ASCII bytes host mode lets through (letters, digits, `- . _ ~`,
`$` and the other sub-delimiters): `parseHost` returns it unchanged -/
def hostPlain (h : Str) : Bool := h.all (fun c => c != 37 && c != 58 && c != 91 && c < 128 && !shouldEscape c .host)

theorem hostBytesOK_plain (h : Str) (hh : hostPlain h = true) : hostBytesOK h = true := by
  induction h with
  | nil => rfl
  | cons c cs ih =>
    simp only [hostPlain, List.all_cons, Bool.and_eq_true, bne_iff_ne, ne_eq, decide_eq_true_eq, Bool.not_eq_true'] at hh
    obtain ⟨⟨⟨⟨⟨h37, _⟩, _⟩, _⟩, hesc⟩, hrest⟩ := hh
    have := ih (by simpa [hostPlain] using hrest)
    -- `c` is not `%`: the last equation of `hostBytesOK`
    rw [hostBytesOK.eq_5 c cs (fun _ _ _ e _ => h37 e) (fun e _ => h37 e) (fun _ e _ => h37 e)]
    simp [hesc, this]

theorem parseHost_plain (h : Str) (hh : hostPlain h = true) : parseHost h = some h := by
  have hmem : ∀ c ∈ h, c ≠ 37 ∧ c ≠ 58 ∧ c ≠ 91 := by
    intro c hc
    have := List.all_eq_true.1 hh c hc
    simp only [Bool.and_eq_true, bne_iff_ne, ne_eq] at this
    exact ⟨this.1.1.1.1, this.1.1.1.2, this.1.1.2⟩
  have h91 : (h.head? == some 91) = false := by
    cases h with
    | nil => rfl
    | cons c cs => have := (hmem c (by simp)).2.2; simpa using this
  have h58 : lastIndexOfB 58 h = none := by
    unfold lastIndexOfB
    have : h.reverse.contains 58 = false := by
      simpa using fun hc : (58 : UInt8) ∈ h => (hmem 58 hc).2.1 rfl
    dsimp only; rw [this]; rfl
  unfold parseHost
  simp only [h91, Bool.false_eq_true, if_false, h58, unescapeHost, hostBytesOK_plain h hh, if_true]
  exact unescape_nopct h (fun c hc => (hmem c hc).1)

theorem setPath_plain (p : Str) (hp : Lemmas.C13.plain p = true) : setPath p = some (p, []) := by
  have hu : unescape p = some p := unescape_nopct p (fun c hc => ((plain_iff p).1 hp c hc).1)
  unfold setPath
  simp [hu, escape_plain p hp]

theorem ctl_escaped (b : UInt8) (m : Mode) (h : b < 32 ∨ b = 127) : shouldEscape b m = true := by
  have low : ∀ n : Fin 32, shouldEscape (UInt8.ofNat n.val) .path = true ∧ shouldEscape (UInt8.ofNat n.val) .host = true := by
    decide +kernel
  rcases h with h | rfl
  · have := low ⟨b.toNat, h⟩
    rw [UInt8.ofNat_toNat] at this
    cases m
    · exact this.1
    · exact this.2
  · cases m <;> decide

theorem clean_of_unescaped (m : Mode) (seps : List UInt8) (hseps : ∀ x ∈ seps, shouldEscape x m = true) (s : Str)
    (hs : ∀ c ∈ s, shouldEscape c m = false) : clean seps s := by
  intro c hc
  have hne := hs c hc
  refine ⟨fun h => ?_, fun hm => ?_⟩
  · rw [ctl_escaped c m h] at hne; cases hne
  · rw [hseps c hm] at hne; cases hne

theorem plain_clean (p : Str) (hp : Lemmas.C13.plain p = true) : clean [63, 35] p :=
  clean_of_unescaped .path _ (by decide) p (fun c hc => ((plain_iff p).1 hp c hc).2)

theorem hostPlain_clean (h : Str) (hh : hostPlain h = true) : clean [47, 63, 35, 64] h ∧ h.head? ≠ some 91 := by
  have hall : ∀ c ∈ h, c ≠ 91 ∧ shouldEscape c .host = false := by
    intro c hc
    have := List.all_eq_true.1 hh c hc
    simp only [Bool.and_eq_true, bne_iff_ne, ne_eq, Bool.not_eq_true'] at this
    exact ⟨this.1.1.2, this.2⟩
  refine ⟨clean_of_unescaped .host _ (by decide) h (fun c hc => (hall c hc).2), ?_⟩
  cases h with
  | nil => simp
  | cons c cs => simpa using (hall c (by simp)).1

/-- `scheme://host$path` (host may hold `$host`): the variable stays in the *host* of the record — the form
`BuildRedirectURL` takes apart first (`stage2`). -/
theorem parse_hostPath_text (c : UInt8) (r h : Str) (hl : isLetter c = true) (hs : ∀ x ∈ c :: r, schemeByte x = true)
    (hh : hostPlain h = true) :
    parseTemplate ((c :: r) ++ 58 :: 47 :: 47 :: (h ++ vPath)) =
      .ok { scheme := (c :: r).map lowerByte, host := h ++ vPath } := by
  have hv : hostPlain (h ++ vPath) = true := by
    simp only [hostPlain, List.all_append, Bool.and_eq_true]
    exact ⟨hh, by decide⟩
  have hc := hostPlain_clean _ hv
  have := parse_absolute c r (h ++ vPath) [] [] false hl hs hc.1 hc.2 (by intro x hx; simp at hx) (Or.inl rfl) (by intro x hx; simp at hx)
  simp only [List.append_nil, Bool.false_eq_true, if_false, parseHost_plain _ hv] at this
  rw [this]; rfl

/-- `scheme "://" host path [ "?" query ]` with a path that starts with `/` and needs no escaping: the record holds the
parts of the text and no raw-path hint. `/prefix/$path` and `/prefix$path` with such a prefix are paths of this kind
(`$` needs no escaping). -/
theorem parse_pathTemplate_text (c : UInt8) (r h p q : Str) (hasQ : Bool) (hl : isLetter c = true)
    (hs : ∀ x ∈ c :: r, schemeByte x = true) (hh : hostPlain h = true)
    (hp : Lemmas.C13.plain p = true) (hp0 : p.head? = some 47) (hq : clean [35] q) :
    parseTemplate ((c :: r) ++ 58 :: 47 :: 47 :: (h ++ (p ++ (if hasQ then 63 :: q else [])))) =
      .ok { scheme := (c :: r).map lowerByte, host := h, path := p, rawQuery := if hasQ then q else [] } := by
  have hc := hostPlain_clean _ hh
  have := parse_absolute c r h p q hasQ hl hs hc.1 hc.2 (plain_clean p hp) (Or.inr hp0) hq
  rw [this, parseHost_plain _ hh, setPath_plain _ hp]

/-- non-vacuity: the documentation's templates, and what is rejected -/
example : parseTemplate (lit "https://$host$path") = .ok { scheme := lit "https", host := lit "$host$path" } := by simp only [Model.C13.lit, toList_lit rfl]; decide +kernel
example : parseTemplate (lit "HTTPS://www.Example.com:8443/a/b/$path?x=1#top") =
    .ok { scheme := lit "https", host := lit "www.Example.com:8443", path := lit "/a/b/$path", rawQuery := lit "x=1" } := by simp only [Model.C13.lit, toList_lit rfl]; decide +kernel
example : parseTemplate (lit "https://bar.com/a%2Fb/$path") =
    .ok { scheme := lit "https", host := lit "bar.com", path := lit "/a/b/$path", rawPath := lit "/a%2Fb/$path" } := by simp only [Model.C13.lit, toList_lit rfl]; decide +kernel
example : parseTemplate (lit "https://bar.com:80a/") = .error := by simp only [Model.C13.lit, toList_lit rfl]; decide +kernel
example : parseTemplate (lit "https://b%41r.com/") = .error := by simp only [Model.C13.lit, toList_lit rfl]; decide +kernel
example : parseTemplate (lit "https://user@bar.com/") = .outside := by simp only [Model.C13.lit, toList_lit rfl]; decide +kernel

/-- **The documented `https://$host$path` family, from the text of the route to the bytes of the `Location`.**
A route whose target is written `scheme://host$path` (any host text that needs no escaping, `$host` allowed), with
any `strip` (no `%`: D17d) and `prepend`, answers a request whose escaped path is `strip ++ r'` (and whose decoded
path is `strip ++ p'` with `prepend ++ p'` starting with `/`; the host that results not empty) with

`Location = lower(scheme) "://" host' [ "/" ] escaped(prepend) r' [ "?" request query ]`. -/
theorem location_from_hostPath_text (c : UInt8) (r h strip prepend : Str) (code : Int) (u : URL) (req : URL) (r' p' : Str)
    (hl : isLetter c = true) (hsb : ∀ x ∈ c :: r, schemeByte x = true) (hh : hostPlain h = true)
    (hparse : parseTemplate ((c :: r) ++ 58 :: 47 :: 47 :: (h ++ vPath)) = .ok u)
    (hs : ∀ x ∈ strip, x ≠ 37)
    (hraw : escapedPath req = strip ++ r') (hpath : req.path = strip ++ p')
    (habs : hasPrefix (prepend ++ p') slash = true)
    (hhost : (buildRedirectURL { url := u, strip := strip, prepend := prepend, code := code } req).host ≠ []) :
    let t : RTarget := { url := u, strip := strip, prepend := prepend, code := code }
    let host' := if contains vHost h then replace1 vHost req.host h else h
    let P := Props.C13.escPrepend t ++ r'
    location t req = hexEscapeNonASCII ((c :: r).map lowerByte ++ [58] ++ ([47, 47] ++ escape .host host') ++
      (if P ≠ [] && P.head? != some 47 then [47] else []) ++ P ++ (if req.rawQuery ≠ [] then 63 :: req.rawQuery else [])) := by
  intro t host' P
  have hu : u = { scheme := (c :: r).map lowerByte, host := h ++ vPath } := by
    have := parse_hostPath_text c r h hl hsb hh
    rw [this] at hparse
    exact (Parsed.ok.inj hparse).symm
  have ht : t.url.host = h ++ vPath := by simp [t, hu]
  have hD := Props.C13.documented_redirect_location t req [] r' p' (Or.inl ⟨h, ht, rfl⟩) (by intro x hx; simp at hx) hs hraw hpath
    (by simpa using habs) (by simp [t, hu]) hhost
  have hst : (stage2 (stage1 t)).host = h := by rw [Lemmas.C13.stage2_of_suffix t h ht]
  simp only [hst] at hD
  have hq : t.url.rawQuery = [] := by simp [t, hu]
  have hsc : t.url.scheme = (c :: r).map lowerByte := by simp [t, hu]
  simp only [hq, hsc, if_true] at hD
  simpa [host', P, escape] using hD

/-- non-vacuity: `route add svc / https://$host$path opts "strip=/s prepend=/p redirect=301"`, `GET /s/a%2Fb?q=1`,
`Host: foo.com` — the hypotheses hold and the `Location` is `https://foo.com/p/a%2Fb?q=1` -/
example :
    let req : URL := { host := lit "foo.com", path := lit "/s/a/b", rawPath := lit "/s/a%2Fb", rawQuery := lit "q=1" }
    ∃ u, parseTemplate (lit "https://$host$path") = .ok u ∧
      escapedPath req = lit "/s" ++ lit "/a%2Fb" ∧ req.path = lit "/s" ++ lit "/a/b" ∧
      (buildRedirectURL { url := u, strip := lit "/s", prepend := lit "/p", code := 301 } req).host ≠ [] ∧
      location { url := u, strip := lit "/s", prepend := lit "/p", code := 301 } req = lit "https://foo.com/p/a%2Fb?q=1" := by
  refine ⟨{ scheme := lit "https", host := lit "$host$path" }, ?_⟩
  simp only [Model.C13.lit, toList_lit rfl]; decide +kernel

end Fabio.Props.C13Parse
