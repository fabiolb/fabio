import Fabio.Model.C12Parse
import Fabio.Lemmas.C12
import Fabio.Lemmas.C12Serve
import Fabio.Lemmas.Lit
import Fabio.Props.C12
/-!
C12 — theorems about the glue around the gate: `addTarget`'s option handling, routes with several
targets (the upstream a connection is attempted to is the upstream of the very target whose rules and scheme
judged the request — also when that attempt fails), and first requests arriving together on a fresh target.
All statements hold for every `Parsers`, every table, every lookup sequence, every schedule.
-/
namespace Fabio.Props.C12Serve
open Fabio Fabio.Model.C12 Fabio.Lemmas.C12

/-- `addTarget` keeps a redirect code only from the 3xx range: whatever the option text, the target either has no
redirect answer or one with a status in 300…399. -/
theorem redirect_code_in_range (s : List Char) (h : redirectCode s ≠ 0) :
    300 ≤ redirectCode s ∧ redirectCode s ≤ 399 := by
  unfold redirectCode at h ⊢
  cases hg : goAtoi s with
  | none => simp [hg] at h
  | some n =>
    simp only [hg] at h ⊢
    by_cases hr : 300 ≤ n ∧ n ≤ 399
    · rw [if_pos hr]; omega
    · rw [if_neg hr] at h; exact absurd rfl h

/-- A value that is not a (signed) decimal number — blanks, `3xx`, `0x12d`, `3_01`, the empty text — gives none. -/
theorem redirect_needs_a_number (s : List Char) (h : goAtoi s = none) : redirectCode s = 0 := by
  simp [redirectCode, h]

/-- A target built by `addTarget` from options whose processing fails is served to nobody, whichever proxy finds
it, whoever the peer is and whatever else is in the table. -/
theorem malformed_target_serves_nobody (P : Parsers) (o : Opts) (up : Nat) (e : RuleErr)
    (h : (processAccessRules P o.allow o.deny).2 = some e) :
    (∀ p lk alive peer, lookupPhase p lk = some (addTarget P o up) → serveTCP p lk alive peer = .forbidden) ∧
    (∀ lk alive remote xff authOK, lk 0 = some (addTarget P o up) →
      serveHTTP P lk alive remote xff authOK = .forbidden) := by
  obtain ⟨hh, ht⟩ := Props.C12.unparsable_rule_never_widens P o.allow o.deny e h
  exact ⟨fun _ _ _ peer hl => serveTCP_denied hl (ht peer), fun _ _ remote xff _ hl => serveHTTP_denied hl (hh remote xff)⟩

/-- TCP, TCP+SNI, dynamic TCP: a connection to an upstream is attempted only if the lookup found a target, the
upstream is that target's, and that target's rules admit the peer. -/
theorem attempted_is_checked_tcp (p : Proto) (lk : Nat → Option TargetM) (alive : Nat → Bool) (peer : TCPPeer)
    (u : Nat) (h : (serveTCP p lk alive peer).attempted = some u) :
    ∃ t, lookupPhase p lk = some t ∧ t.up = u ∧ accessDeniedTCP t.rules peer = false :=
  (serveTCP_attempted_iff p lk alive peer u).mp h

theorem attempted_is_checked_http (P : Parsers) (lk : Nat → Option TargetM) (alive : Nat → Bool)
    (remote : List Char) (xff : List (List Char)) (authOK : TargetM → Bool) (u : Nat)
    (h : (serveHTTP P lk alive remote xff authOK).attempted = some u) :
    ∃ t, lk 0 = some t ∧ t.up = u ∧ accessDeniedHTTP P t.rules remote xff = false ∧ authOK t = true ∧
      t.redirect = 0 :=
  (serveHTTP_attempted_iff P lk alive remote xff authOK u).mp h

/-- When the upstream of the judged target cannot be reached, the connection attempt to it is the only one: the
result is `dialFailed` for that upstream — no other instance of the route is tried in its place. -/
theorem dial_failure_tries_nobody_else (p : Proto) (lk : Nat → Option TargetM) (alive : Nat → Bool) (peer : TCPPeer)
    (t : TargetM) (hl : lookupPhase p lk = some t) (hd : accessDeniedTCP t.rules peer = false)
    (ha : alive t.up = false) : serveTCP p lk alive peer = .dialFailed t.up := by
  simp [serveTCP, hl, hd, ha]

/-- What later lookups would return (other instances of the route, with other rules) has no influence. -/
theorem later_lookups_irrelevant (p : Proto) (lk lk' : Nat → Option TargetM) (alive : Nat → Bool) (peer : TCPPeer)
    (h0 : lk 0 = lk' 0) (h1 : lk 1 = lk' 1) : serveTCP p lk alive peer = serveTCP p lk' alive peer := by
  have : lookupPhase p lk = lookupPhase p lk' := by
    cases p <;> simp [lookupPhase, h0, h1]
  simp [serveTCP, this]

theorem later_lookups_irrelevant_http (P : Parsers) (lk lk' : Nat → Option TargetM) (alive : Nat → Bool)
    (remote : List Char) (xff : List (List Char)) (authOK : TargetM → Bool) (h0 : lk 0 = lk' 0) :
    serveHTTP P lk alive remote xff authOK = serveHTTP P lk' alive remote xff authOK := by
  simp [serveHTTP, h0]

theorem refused_attempts_nothing (r : Result)
    (h : r = .noRoute ∨ r = .forbidden ∨ r = .unauthorized ∨ ∃ c, r = .redirected c) : r.attempted = none := by
  rcases h with h | h | h | ⟨c, h⟩ <;> subst h <;> rfl

/-- The table-level proxies refine the sequential gate of `Model/C12.lean`: projecting the result to (reply class,
upstream statement reached) gives `runGate` on the environment read off the looked-up target. The statement lists are
the regenerated `httpOrder` resp. `tcpOrder`/`sniOrder`/`dynOrder` read as steps (`C12Pins.orders_pinned`). -/
theorem serveHTTP_refines_gate (P : Parsers) (lk : Nat → Option TargetM) (alive : Nat → Bool)
    (remote : List Char) (xff : List (List Char)) (authOK : TargetM → Bool) :
    (serveHTTP P lk alive remote xff authOK).toGate =
      runGate { found := (lk 0).isSome,
                denied := match lk 0 with | some t => accessDeniedHTTP P t.rules remote xff | none => false,
                authorized := match lk 0 with | some t => authOK t | none => true,
                redirect := match lk 0 with | some t => t.redirect != 0 | none => false }
        [.lookup, .access, .auth, .redirect, .upstream] false := by
  unfold serveHTTP
  cases lk 0 with
  | none => rfl
  | some t =>
    cases hd : accessDeniedHTTP P t.rules remote xff <;> cases ha : authOK t <;> cases hr : (t.redirect != 0) <;>
      cases hv : alive t.up <;> simp [hd, ha, hr, hv, runGate, Result.toGate]

theorem serveTCP_refines_gate (p : Proto) (lk : Nat → Option TargetM) (alive : Nat → Bool) (peer : TCPPeer) :
    (serveTCP p lk alive peer).toGate =
      runGate { found := (lookupPhase p lk).isSome,
                denied := match lookupPhase p lk with | some t => accessDeniedTCP t.rules peer | none => false,
                authorized := true }
        [.lookup, .access, .upstream] false := by
  unfold serveTCP
  cases lookupPhase p lk with
  | none => rfl
  | some t =>
    cases hd : accessDeniedTCP t.rules peer <;> cases hv : alive t.up <;> simp [hd, hv, runGate, Result.toGate]

/-- However the micro-steps of any number of request threads on one target are interleaved — as long as nobody
stores into the rule map `cell` (in fabio: after `addTarget` built the target) — the map is unchanged and every thread
that finishes holds `accessDeniedTCP cell peer`, the decision a single connection gets. -/
theorem first_requests_agree (peer : TCPPeer) (cell : Rules) (n : Nat) (sched : List Action)
    (hs : sched.all Action.isRead = true) :
    (runSched peer (cell, List.replicate n {}) sched).1 = cell ∧
    ∀ rd ∈ (runSched peer (cell, List.replicate n {}) sched).2, rd.pc = 2 →
      rd.result = some (accessDeniedTCP cell peer) := by
  obtain ⟨hc, hr⟩ := runSched_reads_ok peer cell _ sched hs
    fun rd hrd => List.eq_of_mem_replicate hrd ▸ ReaderOK.init cell peer
  exact ⟨hc, fun rd hrd hpc => (hr rd hrd).done hpc⟩

/-- The hypothesis is needed: if the rule map is filled in only while requests are already under way (parsing on
first use), a request can finish "admitted" although the rules being installed deny its peer. -/
theorem late_store_admits :
    ∃ (rules : Rules) (peer : TCPPeer) (sched : List Action),
      accessDeniedTCP rules peer = true ∧
      (runSched peer ({}, [{}, {}]) sched).1 = rules ∧
      (runSched peer ({}, [{}, {}]) sched).2 = [{ pc := 2, result := some false }, { pc := 2, result := some true }] := by
  refine ⟨{ deny := some [⟨⟨false, 0x0a000000⟩, 32, 8⟩] }, .addr (some ⟨false, 0x0a010203⟩),
    [.read 0, .write { deny := some [⟨⟨false, 0x0a000000⟩, 32, 8⟩] }, .read 1, .read 1], ?_, ?_, ?_⟩ <;> decide

section examples
open Parse

example : redirectCode "301".toList = 301 := by
  simp only [toList_lit rfl]; decide +kernel
example : redirectCode "+308".toList = 308 := by
  simp only [toList_lit rfl]; decide +kernel
example : redirectCode "0399".toList = 399 := by
  simp only [toList_lit rfl]; decide +kernel
example : redirectCode "400".toList = 0 := by
  simp only [toList_lit rfl]; decide +kernel
example : redirectCode "-301".toList = 0 := by
  simp only [toList_lit rfl]; decide +kernel
example : redirectCode "3_01".toList = 0 := by
  simp only [toList_lit rfl]; decide +kernel
example : redirectCode " 301".toList = 0 := by
  simp only [toList_lit rfl]; decide +kernel
example : redirectCode [] = 0 := by decide +kernel
example : goAtoi "+".toList = none := by
  simp only [toList_lit rfl]; decide +kernel

private def t1 : TargetM := addTarget goParsers { allow := "ip:127.0.0.0/8".toList } 0
private def t2 : TargetM := addTarget goParsers { deny := "ip:127.0.0.0/8".toList } 1
private def rr (k : Nat) : Option TargetM := if k % 2 = 0 then some t1 else some t2
private def lo : TCPPeer := .addr (some ⟨false, 0x7f000001⟩)

-- the instance that admits the client is down, the next one is up but denies it: nobody is served
example : serveTCP .tcp rr (fun u => u == 1) lo = .dialFailed 0 := by
  unfold rr t1 t2; simp only [toList_lit rfl]; decide +kernel
example : serveTCP .tcp rr (fun _ => true) lo = .served 0 := by
  unfold rr t1 t2; simp only [toList_lit rfl]; decide +kernel
example : serveTCP .dyn (fun k => if k = 0 then none else some t2) (fun _ => true) lo = .forbidden := by
  unfold t2; simp only [toList_lit rfl]; decide +kernel
example : (addTarget goParsers { allow := "ip:10.0.0.0/33".toList } 0).rules = Rules.denyAll := by
  simp only [toList_lit rfl]; decide +kernel
example : serveHTTP goParsers rr (fun _ => true) "127.0.0.1:9".toList [] (fun _ => true) = .served 0 := by
  unfold rr t1 t2; simp only [toList_lit rfl]; decide +kernel
example : serveHTTP goParsers (fun _ => some (addTarget goParsers { allow := "ip:10.0.0.0/8".toList, redirect := "301".toList } 0))
    (fun _ => true) "127.0.0.1:9".toList [] (fun _ => true) = .forbidden := by
  simp only [toList_lit rfl]; decide +kernel
example : serveHTTP goParsers (fun _ => some (addTarget goParsers { redirect := "301".toList } 0))
    (fun _ => true) "127.0.0.1:9".toList [] (fun _ => true) = .redirected 301 := by
  simp only [toList_lit rfl]; decide +kernel
-- schedules: three threads, interleaved, all get the sequential answer
example : (runSched lo (t2.rules, List.replicate 3 {}) [.read 2, .read 0, .read 2, .read 1, .read 0, .read 1]).2
    = List.replicate 3 { pc := 2, result := some true } := by
  unfold t2; simp only [toList_lit rfl]; decide +kernel
end examples

end Fabio.Props.C12Serve
