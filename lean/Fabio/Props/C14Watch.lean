import Fabio.Props.C14
import Fabio.Props.C05
import Fabio.Lemmas.C14Watch
/-!
C14 — the property's sentences end to end: catalog → `routecmd.build` → `makeConfig`'s text →
`watchBackend` (`route.ParseAliases`, `registry.Default.Register`, `route.NewTable`, `route.SetTable`) → the active
routing table. Models: `Model/C14.lean`, `Model/C14Watch.lean` (the loop iteration), `Model/C05Glue.lean`
(`ParseAliases`), `Model/Parse.lean`, `Model/Route.lean`.

"A registration that cannot be expressed is dropped on its own and never prevents or delays route updates for other
services": after the iteration of `watchBackend` that receives the text of a catalog — whatever hostile
registrations it holds, whatever happened before — the ACTIVE table is the table of that catalog
(`watch_installs_current`, `watch_follows_history`); both readers of the command language accept the text
(`config_parses`, `config_aliases_ok`).

Scope of the manual text: `watch_installs_current` / `watch_follows_history` are stated for `mancfg = ""`;
`watch_installs_current_with_manual` for any manual text made of `route add` commands a table accepts (plus comments
and blank lines). An operator's `route del` / `route weight` may of course remove or re-weigh a service's routes —
property C01/C02 territory.
-/
namespace Fabio.Props.C14Watch
open Fabio Fabio.Model.Route Fabio.Model.C05Spec Fabio.Model.C14 Fabio.Model.C14Watch Fabio.Lemmas.C14
open Fabio.Lemmas.C14Watch Fabio.Props.C14
open Fabio.Model.Parse hiding render config
open Fabio.Model.C05Glue (parseAliases registerNames kRegister)
open Fabio.Lemmas.Route (parse_snoc_nl parse_concat loadTable_of_parse)

variable {env : Env} {pf : ParseFloat} {c : Cfg}

/-- `route.Parse` reads the text of every catalog; every definition it reads is the definition
some routing tag of some named registration means, and a table accepts it. -/
theorem config_parses (env : Env) (pf : ParseFloat) (c : Cfg) (regs : List Reg) :
    ∃ defs, parse pf (config env pf c regs) = .ok defs ∧
      ∀ d ∈ defs, ∃ r ∈ named regs, ∃ i ∈ intents c r, wantDef pf i = some d ∧ accepted env d = true := by
  obtain ⟨defs, hp, hdefs⟩ := config_defs env pf c regs
  refine ⟨defs, hp, fun d hd => ?_⟩
  obtain ⟨r, hr, i, hi, hden, hw⟩ := (hdefs d).1 hd
  exact ⟨r, hr, i, hi, hw, (denotes_wantDef hden hw).2⟩

/-- `route.ParseAliases` — the reader `watchBackend` runs first — accepts the text the loop
builds from every catalog (`svccfg + "\n"`), and the names it hands to `registry.Default.Register` are the
`register=` options of routing tags of the catalog's named registrations: no hostile registration makes this
reader fail, none can smuggle in a name through anything but a `register=` option of its own tag. -/
theorem config_aliases_ok (env : Env) (pf : ParseFloat) (c : Cfg) (regs : List Reg) :
    ∃ names, parseAliases pf (config env pf c regs ++ ['\n']) = .ok names ∧
      registerArg pf (config env pf c regs ++ ['\n']) = names ∧
      ∀ n ∈ names, ∃ r ∈ named regs, ∃ i ∈ intents c r,
        (optsOfPairs (i.opts.map splitKV)).lookup kRegister = some n := by
  obtain ⟨defs, hp, hd⟩ := config_parses env pf c regs
  have ha : parseAliases pf (config env pf c regs ++ ['\n']) = .ok (registerNames defs) :=
    Fabio.Props.C05.aliases_agree_with_parse (by rw [parse_snoc_nl]; exact hp)
  refine ⟨registerNames defs, ha, ?_, ?_⟩
  · unfold registerArg; rw [ha]
  · intro n hn
    unfold registerNames at hn
    obtain ⟨d, hdm, hl⟩ := List.mem_filterMap.1 hn
    obtain ⟨r, hr, i, hi, hw, _⟩ := hd d hdm
    obtain ⟨_, _, rfl⟩ := wantDef_eq hw
    exact ⟨r, hr, i, hi, hl⟩

/-- Let the loop be in any state it can reach (`Inv`: the remembered text is `""` or
the text of the active table) with no manual overrides. After the iteration that receives the text of a catalog —
hostile registrations included — the ACTIVE table is the table `NewTable` builds from that text: it holds the
route of every routing tag that fits the grammar and nothing no registration asked for. The update is neither
prevented (`NewTable` accepts, `ParseAliases`' verdict is not consulted) nor delayed (this very iteration). -/
theorem watch_installs_current {s : WState} (hs : Inv env pf s) (hm : s.mancfg = []) (regs : List Reg) :
    TableOf env pf c regs (step env pf s (.svc (config env pf c regs))).table := by
  obtain ⟨t, ht⟩ : ∃ t, TableOf env pf c regs t := no_poisoning env pf c regs
  rw [(step_accepted (loadTable_next_svc hm ht.1)).2.1 hs]
  exact ht

/-- `first` stays closed: `Started` is an invariant of the loop (`started_init`, `started_step`) -/
theorem update_keeps_fabio_serving {s : WState} (hs : Started s) (hm : s.mancfg = []) (regs : List Reg) :
    (step env pf s (.svc (config env pf c regs))).started = true := by
  obtain ⟨t, ht, _⟩ := no_poisoning env pf c regs
  exact (step_accepted (loadTable_next_svc hm ht)).2.2 hs

/-- `main` starts the listeners only after `watchBackend` has closed `first`, which it
does after its first successful `route.SetTable`. Whatever is registered when fabio starts — hostile registrations
included — the first text `makeConfig` produces gets there: fabio starts serving. (Before the repair of D19 one
instance with `weight=abc` kept a starting fabio from ever serving.) -/
theorem first_update_starts_fabio (env : Env) (pf : ParseFloat) (c : Cfg) (regs : List Reg) :
    (step env pf init (.svc (config env pf c regs))).started = true :=
  update_keeps_fabio_serving started_init rfl regs

/-- The property's second sentence in one line: a registration none of
whose routing tags can be expressed, placed anywhere in a catalog, leaves the loop in exactly the state the catalog
without it leaves it in — same active table, same remembered text, same `Register` calls. (No hypothesis on the
state or on the manual text.) -/
theorem hostile_registration_changes_nothing (s : WState) (pre post : List Reg) {r : Reg}
    (h : ∀ i ∈ intents c r, denotes env pf (render i) i = false) :
    step env pf s (.svc (config env pf c (pre ++ r :: post))) = step env pf s (.svc (config env pf c (pre ++ post))) := by
  unfold config
  rw [inexpressible_dropped_alone pre post h]

/-- an update that was accepted is not processed twice: delivering the same text again changes nothing (this is
what lets stream `c14.watch` deliver every text twice to know that the loop has finished with it) -/
theorem step_idempotent_of_accepted (s : WState) (e : WEv)
    (h : (step env pf s e).lastTable = nextText (receive s e)) :
    step env pf (step env pf s e) e = step env pf s e := by
  -- the state after the iteration has already received `e`, and builds the same text from it
  have hr : receive (step env pf s e) e = step env pf s e ∧ nextText (step env pf s e) = nextText (receive s e) := by
    rcases step_cases env pf s e with ⟨_, hs⟩ | ⟨_, ⟨_, _, hs⟩ | ⟨_, _, hs⟩⟩ <;> rw [hs] <;> cases e <;> exact ⟨rfl, rfl⟩
  rcases step_cases env pf (step env pf s e) e with ⟨_, hs⟩ | ⟨hne, _⟩
  · rw [hs, hr.1]
  · rw [hr.1, hr.2, h] at hne
    exact absurd rfl hne

/-- `f` = `id` for bare lists of registrations, `current` for the catalogs of a history -/
theorem watch_follows {α : Type} (f : α → List Reg) (xs : List α) :
    ∀ {s : WState}, Inv env pf s → s.mancfg = [] →
      ∀ p ∈ (trace env pf s (xs.map (fun x => WEv.svc (config env pf c (f x))))).zip xs,
        TableOf env pf c (f p.2) p.1.table := by
  induction xs with
  | nil => intro s _ _ p hp; simp [trace] at hp
  | cons x rest ih =>
    intro s hs hm p hp
    simp only [List.map_cons, trace, List.zip_cons_cons, List.mem_cons] at hp
    rcases hp with rfl | hp
    · exact watch_installs_current hs hm (f x)
    · exact ih (inv_step hs _) (by rw [step_svc_mancfg]; exact hm) p hp

/-- One long-lived monitor, one long-lived `watchBackend` loop, any history of
registrations, re-registrations, health changes and deregistrations: after every step the active routing table
is the table of the registrations that are current at that step. -/
theorem watch_follows_history (env : Env) (pf : ParseFloat) (c : Cfg) (steps : List (List Ev)) :
    ∀ p ∈ (trace env pf init ((historyTexts env pf c steps).map WEv.svc)).zip (catalogs [] steps),
      TableOf env pf c (current p.2) p.1.table := by
  unfold historyTexts
  rw [List.map_map]
  exact watch_follows current (catalogs [] steps) (inv_init env pf) rfl

/-- the operator's text: `route add` commands an empty table accepts, comments, blank lines -/
def ManAdds (env : Env) (pf : ParseFloat) (man : Str) (md : List RouteDef) : Prop :=
  parse pf man = .ok md ∧ ∀ d ∈ md, d.cmd = .add ∧ accepted env d = true

/-- As `watch_installs_current`, with a manual text of `route add` commands in
force: the update of the services is installed in this very iteration, and every target of the table was asked for
by a routing tag of the catalog or by a command of the operator's text. -/
theorem watch_installs_current_with_manual {s : WState} (hs : Inv env pf s) {man : Str} {md : List RouteDef}
    (hman : ManAdds env pf man md) (hm : s.mancfg = man) (regs : List Reg) :
    ∃ t, (step env pf s (.svc (config env pf c regs))).table = t ∧
      loadTable env pf (config env pf c regs ++ '\n' :: man) = .ok t ∧
      (∀ r ∈ named regs, ∀ i ∈ intents c r, expressibleB env pf i = true →
        ∃ d u, wantDef pf i = some d ∧ env.normURL d.dst = some u ∧
          isDup (abs t (key d.src).1 (key d.src).2) (newTarget d u) = true) ∧
      (∀ h p x, x ∈ abs t h p →
        (∃ r ∈ named regs, ∃ i ∈ intents c r, ∃ d u, wantDef pf i = some d ∧ env.normURL d.dst = some u ∧
          key d.src = (h, p) ∧ core x = core (newTarget d u)) ∨
        (∃ d ∈ md, ∃ u, env.normURL d.dst = some u ∧ key d.src = (h, p) ∧ core x = core (newTarget d u))) := by
  obtain ⟨defs, t, hp, ht, h1, h2⟩ := config_table env pf c regs (md := md)
    (fun d hd => (accepted_iff_addable env d (hman.2 d hd).1).1 (hman.2 d hd).2)
  have hload : loadTable env pf (config env pf c regs ++ '\n' :: man) = .ok t :=
    loadTable_of_parse (parse_concat hp hman.1) ht
  refine ⟨t, (step_accepted ?_).2.1 hs, hload, h1, h2⟩
  show loadTable env pf (config env pf c regs ++ '\n' :: s.mancfg) = .ok t
  rw [hm]
  exact hload

/-- One evaluation for the two examples below that need one: each evaluation decodes the string constants of the models
once more, whatever it computes. -/
theorem loop_outcomes :
    (trace envW pfW init ((historyTexts envW pfW cfgW
      [[.register 0 victim, .register 1 (mk "web" ["urlprefix-web.example.com/"]), .register 2 (mk "svc" ["urlprefix-/x weight=abc"])],
       [.register 1 { mk "web" ["urlprefix-web.example.com/ register=web-alias"] with port := 9090 }],
       [.deregister 2, .fail 0]]).map WEv.svc)).map
      (fun s => (s.table.flatMap (fun h => h.2.flatMap (fun r => r.targets.map (fun x => (x.service, x.url)))),
                 s.registered.getLast?)) =
    [([("web".toList, "http://10.0.0.1:8080/".toList), ("victim".toList, "http://10.0.0.1:8080/".toList)], some []),
     ([("web".toList, "http://10.0.0.1:9090/".toList), ("victim".toList, "http://10.0.0.1:8080/".toList)], some ["web-alias".toList]),
     ([("web".toList, "http://10.0.0.1:9090/".toList)], some ["web-alias".toList])] ∧
    (step envW pfW init (.svc (configOld printAll cfgW [victim, mk "svc" ["urlprefix-/x weight=abc"]]))).started = false := by
  unfold victim mk cfgW
  simp only [List.map_cons, List.map_nil, toList_lit rfl]; decide +kernel

set_option maxRecDepth 8000 in
/-- the loop on a history: `victim` and `web` register next to a hostile instance (`weight=abc`), `web` registers
again with another port and an alias, the hostile instance leaves — after every step the active table routes
exactly the current well-formed services, and `Register` got the alias while `web` asked for it -/
example :
    (trace envW pfW init ((historyTexts envW pfW cfgW
      [[.register 0 victim, .register 1 (mk "web" ["urlprefix-web.example.com/"]), .register 2 (mk "svc" ["urlprefix-/x weight=abc"])],
       [.register 1 { mk "web" ["urlprefix-web.example.com/ register=web-alias"] with port := 9090 }],
       [.deregister 2, .fail 0]]).map WEv.svc)).map
      (fun s => (s.table.flatMap (fun h => h.2.flatMap (fun r => r.targets.map (fun x => (x.service, x.url)))),
                 s.registered.getLast?)) =
    [([("web".toList, "http://10.0.0.1:8080/".toList), ("victim".toList, "http://10.0.0.1:8080/".toList)], some []),
     ([("web".toList, "http://10.0.0.1:9090/".toList), ("victim".toList, "http://10.0.0.1:8080/".toList)], some ["web-alias".toList]),
     ([("web".toList, "http://10.0.0.1:9090/".toList)], some ["web-alias".toList])] := loop_outcomes.1

/-- hypotheses of `watch_installs_current` on a state reached after an update: the invariant holds with the
second disjunct -/
example : (let s := step envW pfW init (.svc (config envW pfW cfgW [victim]))
    !s.lastTable.isEmpty && s.mancfg.isEmpty &&
      (match loadTable envW pfW s.lastTable with
       | .ok t => t.map (fun h => (h.1, h.2.map (·.path))) == s.table.map (fun h => (h.1, h.2.map (·.path))) && !t.isEmpty
       | .error _ => false)) = true := by
  -- no unfolding of the literals here: a rewrite under `match` makes the kernel evaluate both versions of the match
  decide +kernel

/-- `hostile_registration_changes_nothing` on the seven hostile registrations of D19 (their hypothesis is shown in
`Props/C14.lean`): the loop remembers the same text with and without each of them -/
example : hostile.map (fun r => (step envW pfW init (.svc (config envW pfW cfgW [victim, r]))).lastTable) =
    hostile.map (fun _ => (step envW pfW init (.svc (config envW pfW cfgW [victim]))).lastTable) :=
  List.map_congr_left fun r hr => congrArg WState.lastTable
    (hostile_registration_changes_nothing init [victim] [] (hostile_dropped r hr))

/-- the unrepaired `build` (D19): with one instance carrying `weight=abc` the first text is rejected, `first` stays
open — a starting fabio never serves; the repaired code starts -/
example : (step envW pfW init (.svc (configOld printAll cfgW [victim, mk "svc" ["urlprefix-/x weight=abc"]]))).started = false ∧
    (step envW pfW init (.svc (config envW pfW cfgW [victim, mk "svc" ["urlprefix-/x weight=abc"]]))).started = true :=
  ⟨loop_outcomes.2, first_update_starts_fabio _ _ _ _⟩

/-- hypothesis of `step_idempotent_of_accepted` on an accepted update -/
example : (step envW pfW init (.svc (config envW pfW cfgW [victim, web]))).lastTable =
    nextText (receive init (.svc (config envW pfW cfgW [victim, web]))) := by
  obtain ⟨t, ht, _⟩ := no_poisoning envW pfW cfgW [victim, web]
  exact (step_accepted (loadTable_next_svc rfl ht)).1

def manW : Str := "# operator\n\nroute add manual /manual http://9.9.9.9:1/ tags \"op\"".toList

/-- `manW` meets `ManAdds`: `route.Parse` reads one definition from it, a `route add` a table accepts -/
example : (match parse pfW manW with
    | .ok md => md.length == 1 && md.all (fun d => d.cmd == .add && accepted envW d)
    | .error _ => false) = true := by
  -- evaluated next to the `match`, not under it: a rewrite under `match` makes the kernel evaluate both versions
  have h : (parse pfW manW).toOption.map
      (fun md => md.length == 1 && md.all (fun d => d.cmd == .add && accepted envW d)) = some true := by
    unfold manW
    simp only [toList_lit rfl]; decide +kernel
  cases hp : parse pfW manW with
  | error e => rw [hp] at h; cases h
  | ok md => rw [hp] at h; exact Option.some.inj h

/-- with `manW` in force the loop installs the services' update next to the operator's route, a hostile instance
notwithstanding -/
example : ((step envW pfW { init with mancfg := manW } (.svc (config envW pfW cfgW [victim, attacker]))).table.flatMap
      (fun h => h.2.flatMap (fun r => r.targets.map (fun x => (x.service, r.path))))) =
    [("victim".toList, "/v".toList), ("manual".toList, "/manual".toList)] := by
  unfold manW victim attacker mk cfgW
  simp only [List.map_cons, List.map_nil, toList_lit rfl]; decide +kernel

end Fabio.Props.C14Watch
