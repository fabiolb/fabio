import Fabio.Props.C02Buf
import Fabio.Props.C02Loop
import Fabio.Props.C02Compose
import Fabio.Props.C02Custom
/-!
C02 — the property's sentences on the MOST DETAILED model of the update loop, all stages composed.

The stages, each refining the next: `stepOB`/`runOB` (glue calls that can panic AND the long-lived buffer,
`Model/C02Buf.lean`) → `stepO`/`runO` (glue calls, `Model/C02Loop.lean`) → `WB.step`/`WB.run` with `WB.installs`
(`Model/C02.lean`) → cell + readers + ONE writer programmed with the installs, every schedule (`Props/C02Compose.lean`).
`text_sources_end_to_end` chains them: the `SetTable` effects of the detailed loop (`runOB` with `ParseAliases` and
`NewTable` modelled, `Register`/`logRoutes`/the scanner's left-over arbitrary parameters that return) are the program of
the writer thread of the cell machine. The custom source is `Props/C02Custom.lean`.
-/
namespace Fabio.Props.C02Top
open Fabio Fabio.Model.Route Fabio.Model.Parse Fabio.Model.C02 Fabio.Model.C02Loop Fabio.Model.C02Buf
open Fabio.Model.C02Compose Fabio.Props.C02Compose Fabio.Lemmas.C02

section refine
variable {T : Type}

/-- **One iteration with glue and buffer = the iteration with glue**, effects and outcome, whatever `NewTable` leaves in
the buffer and whatever the buffer held. -/
theorem stepOB_refines_stepO (g : GlueB T) (st : WBB T) (e : Ev) :
    stepO g.toGlue st.wb e = ((stepOB g st e).1, (stepOB g st e).2.map (·.wb)) := by
  unfold stepOB stepO GlueB.toGlue
  simp only [Fabio.Props.C02Buf.fill_string]
  by_cases hs : (st.wb.recv e).nextText = (st.wb.recv e).lastTable
  · simp [hs, Outcome.map]
  · simp only [hs, if_false]
    generalize (st.wb.recv e).nextText = next
    cases ha : g.aliases next with
    | panic w => simp [Outcome.map]
    | ok al =>
      cases hr : g.register al with
      | panic w => simp [hr, Outcome.map]
      | ok u =>
        cases hn : g.newTable next with
        | panic w => simp [hr, Outcome.map]
        | ok o =>
          cases o with
          | none => simp [hr, Outcome.map]
          | some t =>
            cases hl : g.log t (st.wb.recv e).lastTable next with
            | panic w => simp [hr, hl, Outcome.map]
            | ok u' => simp [hr, hl, Outcome.map]

theorem runOB_refines_runO (g : GlueB T) (es : List Ev) (st : WBB T) :
    (runOB g st es).1 = (runO g.toGlue st.wb es).1 ∧
    (runOB g st es).2.map (·.wb) = (runO g.toGlue st.wb es).2 := by
  fun_induction runOB g st es with
  | case1 st => exact ⟨rfl, rfl⟩
  | case2 st e es effs w hstep => unfold runO; rw [stepOB_refines_stepO, hstep]; exact ⟨rfl, rfl⟩
  | case3 st e es effs st1 hstep r ih =>
    unfold runO; rw [stepOB_refines_stepO, hstep]; exact ⟨congrArg (effs ++ ·) ih.1, ih.2⟩

end refine

/-- the detailed loop of the text backends: `ParseAliases` and `NewTable` are the Lean models, `Register`, `logRoutes`
and the scanner's left-over are parameters -/
abbrev loopGlue (env : Env) (pf : ParseFloat) (rest : Text → Text) (register : List Str → Outcome Unit)
    (log : Table → Text → Text → Outcome Unit) : GlueB Table :=
  realGlueB pf (build env pf) rest register log

theorem loopGlue_runO (env : Env) (pf : ParseFloat) (rest : Text → Text) (register : List Str → Outcome Unit)
    (log : Table → Text → Text → Outcome Unit)
    (hreg : ∀ a, (register a).isPanic = false) (hlog : ∀ t a b, (log t a b).isPanic = false) (es : List Ev) (st : WB Table) :
    (runO (loopGlue env pf rest register log).toGlue st es).2 = .ok (WB.run (build env pf) st es) :=
  Fabio.Props.C02Loop.runO_never_panics _ ⟨fun _ => rfl, hreg, fun _ => rfl, hlog⟩ es st

/-- **Third sentence, for the loop.** If `Register` and `logRoutes` return, the detailed loop survives EVERY history of
configuration texts — whatever the texts are, whatever rejected texts left in the buffer — and ends in the state of the
plain step machine. -/
theorem update_loop_never_dies (env : Env) (pf : ParseFloat) (rest : Text → Text) (register : List Str → Outcome Unit)
    (log : Table → Text → Text → Outcome Unit)
    (hreg : ∀ a, (register a).isPanic = false) (hlog : ∀ t a b, (log t a b).isPanic = false)
    (junk : Buf) (es : List Ev) :
    ∃ st', (runOB (loopGlue env pf rest register log) (WBB.init [] junk) es).2 = .ok st' ∧
      st'.wb = WB.run (build env pf) (WB.init []) es := by
  have h2 := (runOB_refines_runO (loopGlue env pf rest register log) es (WBB.init [] junk)).2
  rw [loopGlue_runO env pf rest register log hreg hlog es] at h2
  exact Outcome.map_eq_ok h2

theorem detailed_installs (env : Env) (pf : ParseFloat) (rest : Text → Text) (register : List Str → Outcome Unit)
    (log : Table → Text → Text → Outcome Unit)
    (hreg : ∀ a, (register a).isPanic = false) (hlog : ∀ t a b, (log t a b).isPanic = false)
    (junk : Buf) (es : List Ev) :
    installsOf (runOB (loopGlue env pf rest register log) (WBB.init [] junk) es).1 =
      WB.installs (build env pf) (WB.init []) es := by
  rw [(runOB_refines_runO (loopGlue env pf rest register log) es (WBB.init [] junk)).1]
  exact Fabio.Props.C02Loop.installs_are_effects _ es _ _ (loopGlue_runO env pf rest register log hreg hlog es _)

def detailedSystem (env : Env) (pf : ParseFloat) (rest : Text → Text) (register : List Str → Outcome Unit)
    (log : Table → Text → Text → Outcome Unit) (junk : Buf) (es : List Ev)
    (rs : List (Thread Table Model.C03.Req (Option (Str × Route × Target)))) :
    Sys Table Model.C03.Req (Option (Str × Route × Target)) :=
  Sys.start [] (rs ++ [.writer ((installsOf (runOB (loopGlue env pf rest register log) (WBB.init [] junk) es).1).map some)])

/-- **Sentences one and two, text sources, all stages composed.** The update loop as written — buffer reset and filled,
`ParseAliases`, `Register`, `NewTable` on the buffer, `SetTable`, `logRoutes`, whatever the scanner leaves unread,
whatever junk the buffer starts with, `Register` and `logRoutes` any functions that return — runs over any history
while any request goroutines look requests up under any schedule. Then
(a) every lookup is answered as `C03.Lookup` (C04 pickers) on ONE table of the cell's history, the initial empty table
or `loadTable` of the concatenated text after one of the events: the complete previous or the complete new
configuration, never a mixture, never a text that failed to load;
(b) once the loop has made its `SetTable` calls the cell holds `loadTable` of the LAST text that loads. -/
theorem text_sources_end_to_end (env : Env) (pf : ParseFloat) (le : LookupEnv) (k : Model.C03.Req → Nat)
    (rest : Text → Text) (register : List Str → Outcome Unit) (log : Table → Text → Text → Outcome Unit)
    (hreg : ∀ a, (register a).isPanic = false) (hlog : ∀ t a b, (log t a b).isPanic = false)
    (junk : Buf) (es : List Ev)
    (rs : List (Thread Table Model.C03.Req (Option (Str × Route × Target)))) (hr : Readers rs) (sch : List Nat) :
    (∀ th ∈ (Sys.run (lk le k) sch (detailedSystem env pf rest register log junk es rs)).threads, ∀ r ∈ th.results,
      ∃ T, (Sys.run (lk le k) sch (detailedSystem env pf rest register log junk es rs)).cell.hist[r.idx]? = some T ∧
        Installed env pf es T ∧ r.ans = Model.C03.Lookup (le.cfg r.req) T r.req) ∧
    ((∃ th, (Sys.run (lk le k) sch (detailedSystem env pf rest register log junk es rs)).threads[rs.length]? = some th ∧
        th.finished = true) →
      (Sys.run (lk le k) sch (detailedSystem env pf rest register log junk es rs)).cell.val =
        lastGood (build env pf) [] (texts es)) := by
  have hsys : detailedSystem env pf rest register log junk es rs = system env pf es rs := by
    unfold detailedSystem system
    rw [detailed_installs env pf rest register log hreg hlog junk es]
  rw [hsys]
  exact serving_table_is_last_good_config env pf le k es rs hr sch

/-- **From any source**, sentence (b) for the text sources and the custom backend's poll loop side by side. (Sentence
(a): `text_sources_end_to_end`, `Props.C02Custom.custom_serving_table_under_concurrency`.) -/
theorem any_source (env : Env) (pf : ParseFloat) (le : LookupEnv) (k : Model.C03.Req → Nat)
    (rest : Text → Text) (register : List Str → Outcome Unit) (log : Table → Text → Text → Outcome Unit)
    (hreg : ∀ a, (register a).isPanic = false) (hlog : ∀ t a b, (log t a b).isPanic = false)
    (junk : Buf) (es : List Ev) (ps : List (Poll (List RouteDef)))
    (rs : List (Thread Table Model.C03.Req (Option (Str × Route × Target)))) (hr : Readers rs) (sch : List Nat) :
    ((Sys.run (lk le k) sch (detailedSystem env pf rest register log junk es rs)).threads[rs.length]?.map Thread.finished
        = some true →
      (Sys.run (lk le k) sch (detailedSystem env pf rest register log junk es rs)).cell.val =
        lastGood (build env pf) [] (texts es)) ∧
    ((Sys.run (lk le k) sch (Fabio.Props.C02Custom.system env ps rs)).threads[rs.length]?.map Thread.finished
        = some true →
      (Sys.run (lk le k) sch (Fabio.Props.C02Custom.system env ps rs)).cell.val = lastGoodDoc env [] ps) :=
  ⟨fun h => (text_sources_end_to_end env pf le k rest register log hreg hlog junk es rs hr sch).2
      (Option.map_eq_some_iff.1 h),
    fun h => (Fabio.Props.C02Custom.custom_serving_table_under_concurrency env le k ps rs hr sch).2
      (Option.map_eq_some_iff.1 h)⟩

section examples
open Fabio.Props.C02Compose.Ex

/-- a scanner that leaves everything but the first character of a rejected text -/
def restEx : Text → Text := fun s => s.drop 1
def regEx : List Str → Outcome Unit := fun _ => .ok ()
def logEx : Table → Text → Text → Outcome Unit := fun _ _ _ => .ok ()

example : (∀ a, (regEx a).isPanic = false) ∧ (∀ t a b, (logEx t a b).isPanic = false) := ⟨fun _ => rfl, fun _ _ _ => rfl⟩

/-- over the three-event history of `C02Compose.Ex` (good, broken, repaired), started with junk in the buffer, the detailed
loop performs two `SetTable`s and three `Register`s and survives -/
example :
    ((installsOf (runOB (loopGlue env pf restEx regEx logEx) (WBB.init [] "junk".toList) events).1).length,
     (registeredOf (runOB (loopGlue env pf restEx regEx logEx) (WBB.init [] "junk".toList) events).1).length,
     (runOB (loopGlue env pf restEx regEx logEx) (WBB.init [] "junk".toList) events).2.isPanic) = (2, 3, false) := by
  unfold events textA pf; simp only [toList_lit rfl]; decide +kernel

/-- a `logRoutes` that panics kills the loop AFTER the swap: the effects end with the `SetTable` -/
example :
    ((runOB (loopGlue env pf restEx regEx (fun _ _ _ => .panic "boom")) (WBB.init [] []) events).2.isPanic,
     (installsOf (runOB (loopGlue env pf restEx regEx (fun _ _ _ => .panic "boom")) (WBB.init [] []) events).1).length)
      = (true, 1) := by
  unfold events textA pf; simp only [toList_lit rfl]; decide +kernel

end examples

end Fabio.Props.C02Top
