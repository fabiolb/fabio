import Fabio.Model.C11Load
import Fabio.Props.C11
import Fabio.Lemmas.C11Load
import Fabio.Lemmas.Lit
/-!
C11 — the loaders behind a certificate source (`loadURL`, `loadPath`) and what the watcher does
with their answers: an HTTP or path source that fails, or fails partly, publishes nothing and leaves the
working set in force; a successful load holds exactly the announced / selected files.
Nothing is bounded: every list, every server behaviour (`fetch` is an arbitrary function), every tree (every
sequence of walk invocations), every history.
-/
namespace Fabio.Props.C11Load
open Fabio Fabio.Model.C11 Fabio.Props.C11

section url
open Fabio.Lemmas.C11
variable {B : Type}

theorem fetchBody_none_iff (f : Fetch B) :
    fetchBody true f = none ↔ f = .fail ∨ ∃ s b, f = .resp s b ∧ s ≠ 200 := by
  cases f with
  | fail => simp [fetchBody]
  | resp s b => by_cases h : s = 200 <;> simp [fetchBody, h]

theorem fetchBody_some_iff (f : Fetch B) (b : B) : fetchBody true f = some b ↔ f = .resp 200 b := by
  cases f with
  | fail => simp [fetchBody]
  | resp s b' => by_cases h : s = 200 <;> simp [fetchBody, h]

/-- What the server does during one load: how it answers each URL. -/
abbrev Server (B : Type) := Name → Fetch B

/-- The HTTP source is broken during this load: the list, or one of the files it announces, is not answered with
`200 OK` (error page, redirect without target, connection refused or reset, truncated body). -/
def httpBroken (base : Name → Option Name) (text : B → List Char) (listURL : Name) (srv : Server B) : Prop :=
  base listURL = none ∨ fetchBody true (srv listURL) = none ∨
    ∃ b list, base listURL = some b ∧ fetchBody true (srv listURL) = some list ∧
      ∃ p ∈ listedNames (text list), fetchBody true (srv (b ++ p)) = none

theorem loadURL_empty (chk : Bool) (base : Name → Option Name) (fetch : Name → Fetch B) (text : B → List Char) :
    loadURLRun chk base fetch text [] = ([], .blocks none) := rfl

/-- **A failing or partly failing HTTP source fails the whole load.** The repaired `loadURL` returns an error
exactly when the URL is not empty and: the URL cannot be parsed, or the request for the list fails or is answered
with anything but `200 OK`, or the same happens for at least one of the listed files. -/
theorem loadURL_err_iff (base : Name → Option Name) (fetch : Name → Fetch B) (text : B → List Char)
    (listURL : Name) :
    loadURL true base fetch text listURL = .err ↔ listURL ≠ [] ∧ httpBroken base text listURL fetch := by
  by_cases hu : listURL = []
  · simp [hu, loadURL, loadURL_empty]
  · rw [loadURL_eq true base fetch text listURL hu, httpBroken]
    cases base listURL with
    | none => exact ⟨fun _ => ⟨hu, .inl rfl⟩, fun _ => rfl⟩
    | some b =>
      cases fetchBody true (fetch listURL) with
      | none => exact ⟨fun _ => ⟨hu, .inr (.inl rfl)⟩, fun _ => rfl⟩
      | some list =>
        rw [blocks_or_err_eq_err, List.all_eq_false]
        simp [hu]

/-- **An answer set is exactly the listed files.** When the repaired `loadURL` delivers a map, the list was
answered with `200 OK`, every listed file was, and the map holds for every non-empty line `p` of the list the key
`base + p` with the body of *its* `200 OK` answer — and no other key (no error page, nothing unlisted). -/
theorem loadURL_ok_exact (base : Name → Option Name) (fetch : Name → Fetch B) (text : B → List Char)
    (listURL : Name) (m : PemMap B) (h : loadURL true base fetch text listURL = .blocks (some m)) :
    ∃ b list, base listURL = some b ∧ fetch listURL = .resp 200 list ∧
      (∀ p ∈ listedNames (text list), ∃ body, fetch (b ++ p) = .resp 200 body ∧ (b ++ p, body) ∈ m) ∧
      (∀ k body, (k, body) ∈ m → ∃ p ∈ listedNames (text list), k = b ++ p ∧ fetch k = .resp 200 body) := by
  have hu : listURL ≠ [] := by rintro rfl; cases h
  rw [loadURL_eq true base fetch text listURL hu] at h
  split at h
  · rename_i b list hb hl
    split at h
    · rename_i hall
      obtain rfl : _ = m := by simpa using h
      have hall := List.all_eq_true.mp hall
      have hmem : ∀ k body, (k, body) ∈ ((listedNames (text list)).filterMap (entryOf true fetch b)).reverse ↔
          ∃ p ∈ listedNames (text list), k = b ++ p ∧ fetchBody true (fetch (b ++ p)) = some body := by
        simp only [List.mem_reverse, List.mem_filterMap, entryOf_eq_some_iff, implies_true]
      refine ⟨b, list, hb, (fetchBody_some_iff _ _).mp hl, fun p hp => ?_, fun k body hk => ?_⟩
      · obtain ⟨body, hbody⟩ := Option.isSome_iff_exists.mp (hall p hp)
        exact ⟨body, (fetchBody_some_iff _ _).mp hbody, (hmem _ _).mpr ⟨p, hp, rfl, hbody⟩⟩
      · obtain ⟨p, hp, rfl, hx⟩ := (hmem _ _).mp hk
        exact ⟨p, hp, rfl, (fetchBody_some_iff _ _).mp hx⟩
    · cases h
  · cases h

/-- The first component of `loadURLRun` is the log of requests: the list first, then one per listed name in list
order, none after the first failure. -/
theorem loadURL_requests (chk : Bool) (base : Name → Option Name) (fetch : Name → Fetch B) (text : B → List Char)
    (listURL b : Name) (list : B) (hu : listURL ≠ []) (hb : base listURL = some b)
    (hl : fetchBody chk (fetch listURL) = some list) :
    ∃ rest, (loadURLRun chk base fetch text listURL).1 = listURL :: rest ∧
      rest <+: (listedNames (text list)).map (b ++ ·) ∧
      ((loadURLRun chk base fetch text listURL).2 ≠ .err → rest = (listedNames (text list)).map (b ++ ·)) := by
  have hu' : listURL.isEmpty = false := by simpa using hu
  simp only [loadURLRun, hu', hb, hl, Bool.false_eq_true, if_false]
  refine ⟨_, rfl, fetchNames_requests_prefix chk fetch b _ [], fun h =>
    fetchNames_requests_ok chk fetch b _ [] fun hn => ?_⟩
  rw [hn] at h
  exact h rfl

end url

section path
open Fabio.Lemmas.C11
variable {B : Type}

/-! In the theorems below that keep the model's name for it, `strict` is the parameter of `Model.C11.walkFold` /
`loadPath` that is handed to `pathCallback` as `onlyNotExist` (the repair `e63514f`); it has nothing to do with a
listener's `strictmatch`. -/

theorem loadPath_empty_root (strict : Bool) (maxSize : Nat) (vs : List (Visit B)) :
    loadPath strict maxSize [] vs = .blocks none := rfl

/-- The path source is broken during this load: some path cannot be stat'ed or some directory not be listed (other
than a root that does not exist, which is an empty directory), or a selected file cannot be read. -/
def pathBroken (maxSize : Nat) (root : Name) (vs : List (Visit B)) : Prop :=
  ∃ v ∈ vs, (∃ e, v.err = some e ∧ ¬(v.path = root ∧ e = .notExist)) ∨
    (selected maxSize v = true ∧ ∃ size, v.kind = .file size none)

/-- **`loadPath` fails exactly when** (for a non-empty root) some path cannot be stat'ed or some directory not be
listed — unless it is the root itself and the root does not exist — or a selected file (`*.pem`, no dot-file,
not larger than `MaxSize`) cannot be read. -/
theorem loadPath_err_iff (maxSize : Nat) (root : Name) (vs : List (Visit B)) :
    loadPath true maxSize root vs = .err ↔ root ≠ [] ∧ pathBroken maxSize root vs := by
  by_cases hr : root = []
  · simp [hr, loadPath_empty_root]
  · rw [loadPath_eq true maxSize root vs hr, blocks_or_err_eq_err, List.all_eq_false]
    simp [hr, pathBroken, CbRes.isFail_iff, pathCallback_fail_iff, swallowed_true_eq_false_iff]

/-- **A loaded directory is exactly the selected files.** The map holds `(path, content)` for every visited
non-directory whose name has the extension `.pem`, does not start with a dot, whose size does not exceed
`MaxSize` — and nothing else: no directory, no other extension, no dot-file, no oversized file. -/
theorem loadPath_ok_exact (strict : Bool) (maxSize : Nat) (root : Name) (vs : List (Visit B)) (m : PemMap B)
    (h : loadPath strict maxSize root vs = .blocks (some m)) :
    ∀ k b, (k, b) ∈ m ↔
      ∃ v ∈ vs, v.path = k ∧ selected maxSize v = true ∧ ∃ size, v.kind = .file size (some b) := by
  have hr : root ≠ [] := by rintro rfl; cases h
  rw [loadPath_eq strict maxSize root vs hr] at h
  split at h
  · obtain rfl : _ = m := by simpa using h
    intro k b
    simp only [List.mem_reverse, List.mem_filterMap, addOf_eq_some_iff, pathCallback_add_iff, eq_comm (a := k)]
  · cases h

/-- A root that does not exist is an empty directory to the code: the empty (non-nil) map, no error. -/
theorem loadPath_missing_root (strict : Bool) (maxSize : Nat) (root name : Name) (hr : root ≠ []) :
    loadPath strict maxSize root ((Root.absent name .notExist : Root B).visits root) = .blocks (some []) := by
  have hr' : root.isEmpty = false := by simpa using hr
  simp [loadPath, hr', Root.visits, walkFold, pathCallback]

/-- A root that exists but cannot be reached or listed is an *error* (since the repair `e63514f`), whatever it holds. -/
theorem loadPath_unreachable_root (maxSize : Nat) (root name : Name) (es : List (Node B)) (hr : root ≠ []) :
    loadPath true maxSize root ((Root.node (.dir name false es)).visits root) = .err ∧
    loadPath true maxSize root ((Root.absent name .other : Root B).visits root) = .err := by
  have hr' : root.isEmpty = false := by simpa using hr
  simp [loadPath, hr', Root.visits, Node.visits, walkFold, pathCallback]

end path

section compose
variable {B M : Type} [DecidableEq M]

omit [DecidableEq M] in
theorem badLoad_err {S : Type} (mk : M → Option S) : badLoad mk (LoadResult.err : LoadResult M) = true := rfl

theorem failing_loads_keep_working_set {A X : Type} (load : A → LoadResult X) (sleepOnMakeErr : Bool) (canon : X → M)
    (mk : M → Option CertSet) (refresh : Int) (st : St M) (cell : Published) (history : List A)
    (herr : ∀ a ∈ history, load a = .err) :
    let script := history.map fun a => (load a).map canon
    applyOuts cell (outsOf (trace sleepOnMakeErr mk refresh st script)) = cell ∧
    runSt sleepOnMakeErr mk refresh st script = st ∧
    ∀ server strict, getCertificateP (applyOuts cell (outsOf (trace sleepOnMakeErr mk refresh st script))) server strict
        = getCertificateP cell server strict := by
  intro script
  apply bad_material_keeps_working_set
  intro r hr
  obtain ⟨a, ha, rfl⟩ := List.mem_map.mp hr
  rw [herr a ha]; exact badLoad_err mk

/-- **An HTTP source that answers error pages keeps the working set.** Take any history of loads during each of
which the server fails the list or at least one listed file (any status other than 200, any transport failure,
in any combination and number). The watcher publishes nothing, keeps its state, and every handshake is answered
from the set that was in force before.
(`canon` turns the loaded map into the material the watcher compares; `mk` is `loadCertificates`; both arbitrary.) -/
theorem http_errors_keep_working_set (sleepOnMakeErr : Bool) (canon : Option (PemMap B) → M)
    (mk : M → Option CertSet) (refresh : Int) (st : St M) (cell : Published)
    (base : Name → Option Name) (text : B → List Char) (listURL : Name) (hu : listURL ≠ [])
    (history : List (Server B)) (hbad : ∀ srv ∈ history, httpBroken base text listURL srv) :
    let script := history.map fun srv => (loadURL true base srv text listURL).map canon
    applyOuts cell (outsOf (trace sleepOnMakeErr mk refresh st script)) = cell ∧
    runSt sleepOnMakeErr mk refresh st script = st ∧
    ∀ server strict, getCertificateP (applyOuts cell (outsOf (trace sleepOnMakeErr mk refresh st script))) server strict
        = getCertificateP cell server strict :=
  failing_loads_keep_working_set (fun srv => loadURL true base srv text listURL) sleepOnMakeErr canon mk refresh st cell
    history fun srv hs => (loadURL_err_iff base srv text listURL).mpr ⟨hu, hbad srv hs⟩

/-- **A path source that cannot read its directory keeps the working set** — whatever goes wrong: the root
cannot be reached or listed (no permission, a parent that is a file, an I/O error), something below it cannot,
or a selected file cannot be read; in any combination, for any history. (Before the repair `e63514f` this held only
for failures *below* the root: `root_error_lost_the_working_set_before_repair`.) -/
theorem path_errors_keep_working_set (sleepOnMakeErr : Bool) (canon : Option (PemMap B) → M)
    (mk : M → Option CertSet) (refresh : Int) (st : St M) (cell : Published)
    (maxSize : Nat) (root : Name) (hroot : root ≠ [])
    (history : List (List (Visit B))) (hbad : ∀ vs ∈ history, pathBroken maxSize root vs) :
    let script := history.map fun vs => (loadPath true maxSize root vs).map canon
    applyOuts cell (outsOf (trace sleepOnMakeErr mk refresh st script)) = cell ∧
    runSt sleepOnMakeErr mk refresh st script = st ∧
    ∀ server strict, getCertificateP (applyOuts cell (outsOf (trace sleepOnMakeErr mk refresh st script))) server strict
        = getCertificateP cell server strict :=
  failing_loads_keep_working_set (fun vs => loadPath true maxSize root vs) sleepOnMakeErr canon mk refresh st cell
    history fun vs hs => (loadPath_err_iff maxSize root vs).mpr ⟨hroot, hbad vs hs⟩

end compose

/-- the material of the concrete instances below: the canonical map; `none` = nil map -/
abbrev Mat := Option (PemMap Body)

def canonMat : Option (PemMap Body) → Mat
  | none => none
  | some m => some (canonMap m)

def pemFile (c k : Option Nat) : Body := ⟨[], ⟨c, k, 0⟩⟩
def textFile (s : String) : Body := ⟨s.toList, ⟨none, none, 0⟩⟩

def wsURL : Name := "S/list".toList
def wsBase : Name → Option Name := fun _ => some "S/".toList
def goodServer : Server Body := fun u =>
  if u = "S/list".toList then .resp 200 (textFile "a.pem\n")
  else if u = "S/a.pem".toList then .resp 200 (pemFile (some 7) (some 7))
  else .resp 404 (textFile "404 page not found\n")
def unavailableServer : Server Body := fun _ => .resp 503 (textFile "Service Unavailable\n")

/-- **Before `ea73618`** (`checkStatus = false`) the statement `http_errors_keep_working_set` was false: after a
good load a server answering 503 to everything makes the watcher publish the *empty* set — the error page of the
list is split into "file names", the error pages fetched for them are stored under names that are no `.pem`
files, `loadCertificates` finds nothing wrong with that — and every handshake gets `ErrNoCertsStored`. -/
theorem status_unchecked_loses_working_set :
    let script := [goodServer, unavailableServer].map fun srv =>
      (loadURL false wsBase srv Body.text wsURL).map canonMat
    let cell := applyOuts (mkPublished []) (outsOf (trace true mkFromMap second ⟨none, false⟩ script))
    publications (trace true mkFromMap second ⟨(none : Mat), false⟩ script) = [[⟨7, []⟩], []] ∧
    getCertificateP cell "x.test".toList false = .errNoCerts := by
  unfold goodServer unavailableServer wsURL wsBase textFile pemFile
  simp only [toList_lit rfl]
  decide +kernel

/-- The same history with the repaired loader: one publication, the working set stays. -/
theorem status_checked_keeps_working_set :
    let script := [goodServer, unavailableServer, unavailableServer].map fun srv =>
      (loadURL true wsBase srv Body.text wsURL).map canonMat
    let cell := applyOuts (mkPublished []) (outsOf (trace true mkFromMap second ⟨none, false⟩ script))
    publications (trace true mkFromMap second ⟨(none : Mat), false⟩ script) = [[⟨7, []⟩]] ∧
    getCertificateP cell "x.test".toList false = .cert ⟨7, []⟩ := by
  unfold goodServer unavailableServer wsURL wsBase textFile pemFile
  simp only [toList_lit rfl]
  decide +kernel

/-- **Before the repair `e63514f`** (`onlyNotExist = false`) `path_errors_keep_working_set` was false: a good load,
then the root directory cannot be listed — the walk function swallowed *every* error on the root, the watcher
published the empty set and the working set was lost. -/
theorem root_error_lost_the_working_set_before_repair :
    let root : Name := "R".toList
    let good : Root Body := .node (.dir "R".toList true [.file "a.pem".toList 10 (some (pemFile (some 7) (some 7)))])
    let locked : Root Body := .node (.dir "R".toList false [.file "a.pem".toList 10 (some (pemFile (some 7) (some 7)))])
    let script := [good, locked].map fun t => (loadPath false maxSize root (t.visits root)).map canonMat
    let cell := applyOuts (mkPublished []) (outsOf (trace true mkFromMap second ⟨none, false⟩ script))
    publications (trace true mkFromMap second ⟨(none : Mat), false⟩ script) = [[⟨7, []⟩], []] ∧
    getCertificateP cell "x.test".toList false = .errNoCerts := by
  unfold pemFile
  simp only [toList_lit rfl]
  decide +kernel

/-- The same history with the repaired walk function: one publication, the working set stays. A root that is
*gone* still is an empty directory (the reading the code documents): the empty set is published. -/
theorem root_error_keeps_the_working_set :
    let root : Name := "R".toList
    let good : Root Body := .node (.dir "R".toList true [.file "a.pem".toList 10 (some (pemFile (some 7) (some 7)))])
    let locked : Root Body := .node (.dir "R".toList false [.file "a.pem".toList 10 (some (pemFile (some 7) (some 7)))])
    let run (h : List (Root Body)) := publications (trace true mkFromMap second ⟨(none : Mat), false⟩
      (h.map fun t => (loadPath true maxSize root (t.visits root)).map canonMat))
    run [good, locked, .absent "R".toList .other] = [[⟨7, []⟩]] ∧
    run [good, .absent "R".toList .notExist] = [[⟨7, []⟩], []] := by
  unfold pemFile
  simp only [toList_lit rfl]
  decide +kernel

-- a list with an empty line, a CRLF-free body, three files; one file answered 404 fails the whole load
example :
    let srv : Server Body := fun u =>
      if u = "S/list".toList then .resp 200 (textFile "a-cert.pem\n\na-key.pem\nz.pem\n")
      else if u = "S/a-cert.pem".toList then .resp 200 (pemFile (some 1) none)
      else if u = "S/a-key.pem".toList then .resp 200 (pemFile none (some 1))
      else if u = "S/z.pem".toList then .resp 200 (pemFile (some 2) (some 2))
      else .resp 404 (textFile "nf")
    let srv404 : Server Body := fun u => if u = "S/a-key.pem".toList then .resp 404 (textFile "nf") else srv u
    (loadURLRun true wsBase srv Body.text wsURL).1
        = ["S/list".toList, "S/a-cert.pem".toList, "S/a-key.pem".toList, "S/z.pem".toList] ∧
    ((loadURL true wsBase srv Body.text wsURL).map (fun m => mkFromMap (canonMat m)))
        = .blocks (some [⟨1, []⟩, ⟨2, []⟩]) ∧
    loadURLRun true wsBase srv404 Body.text wsURL = (["S/list".toList, "S/a-cert.pem".toList, "S/a-key.pem".toList], .err) ∧
    httpBroken wsBase Body.text wsURL srv404 := by
  unfold wsURL wsBase textFile pemFile
  simp only [toList_lit rfl]
  -- the source is broken because the load fails
  suffices h : _ ∧ _ ∧ _ from ⟨h.1, h.2.1, h.2.2, ((loadURL_err_iff _ _ _ _).mp (congrArg Prod.snd h.2.2)).2⟩
  decide +kernel

-- a tree with a sub-directory, a dot-file, another extension, an oversized file and a link that cannot be read
example :
    let f (n : String) (c : Nat) : Node Body := .file n.toList 10 (some (pemFile (some c) (some c)))
    let tree : Node Body := .dir "R".toList true
      [f "a.pem" 1, f ".hidden.pem" 2, f "notes.txt" 3, .file "big.pem".toList (maxSize + 1) (some (pemFile (some 4) (some 4))),
       .dir "sub".toList true [f "z.pem" 5, f "a.PEM" 6], .dir ".git".toList true [f "k.pem" 8]]
    let broken : Node Body := .dir "R".toList true [f "a.pem" 1, .file "dangling.pem".toList 7 none]
    (loadPath true maxSize "R".toList (tree.visits "R".toList)).map (fun m => (canonMat m).map (·.map (·.1)))
      = .blocks (some ["R/.git/k.pem".toList, "R/a.pem".toList, "R/sub/z.pem".toList]) ∧
    loadPath true maxSize "R".toList (broken.visits "R".toList) = .err ∧
    pathBroken maxSize "R".toList (broken.visits "R".toList) := by
  unfold pemFile
  simp only [toList_lit rfl]
  suffices h : _ ∧ _ from ⟨h.1, h.2, ((loadPath_err_iff _ _ _).mp h.2).2⟩
  decide +kernel

end Fabio.Props.C11Load
