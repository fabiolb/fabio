import Fabio.Props.C04
import Fabio.Props.C06
import Fabio.Lemmas.C04Compose
/-!
C04 ∘ C06 — the property's round-robin sentence end to end and under concurrency, and the share a
`route weight` command hands to the targets it matches.

* table: any table a command script (or configuration text, after parsing) builds — `newTable env defs = ok t`;
* ring: `every_route_ring` (any placement order of the unstable sort);
* concurrency: the interleaving model of `Model/C06.lean` — any number of goroutines, `ks[i]` round-robin
  picks by goroutine `i`, each pick one atomic fetch-add on the route's cursor (`rrThreadRepaired`, the form
  `/repo` has since the repair of D09), **every** schedule (also one that stops half-way), any start cursor.
  The cursor is an unbounded natural there (no uint64 wrap-around).

`K` = number of picks performed, `N` = ring length = Σ nᵢ, `nᵢ` = slots of target `i`.
-/
namespace Fabio.Props.C04Compose
open Fabio Fabio.Model.Route Fabio.Model.C04 Fabio.Lemmas.C04 Fabio.Props.C04

/-- The share of a target in the interleaving model (`rr_target_share_any_schedule`) read on a ring of C04 without
nil slots; `⌈K/N⌉` is written `(K + N − 1) / N`. -/
theorem hits_bounds (ring : Ring) (hl : 0 < ring.length) (h3 : ∀ s ∈ ring, s ≠ none) (ks : List Nat)
    (s : Model.C06.State) (sch : List Nat) (i : Nat) :
    picksDone ring ks s sch / ring.length * ring.count (some i) ≤ hitsOf ring ks s sch i ∧
    hitsOf ring ks s sch i ≤ (picksDone ring ks s sch + ring.length - 1) / ring.length * ring.count (some i) ∧
    (picksDone ring ks s sch % ring.length = 0 →
      hitsOf ring ks s sch i = picksDone ring ks s sch / ring.length * ring.count (some i)) := by
  have hC := Props.C06.rr_target_share_any_schedule (slotTargets ring) (by rw [slotTargets_length]; exact hl) ks s sch i
  simp only [slotTargets_length, slotTargets_count ring h3] at hC
  obtain ⟨hlo, hhi, hex, _⟩ := hC
  refine ⟨hlo, ?_, hex⟩
  by_cases hm : picksDone ring ks s sch % ring.length = 0
  · exact Nat.le_trans (Nat.le_of_eq (hex hm)) (Nat.mul_le_mul_right _ (Nat.div_le_div_right (Nat.le_sub_one_of_lt (Nat.lt_add_of_pos_right hl))))
  · exact Nat.le_trans hhi (Nat.mul_le_mul_right _ (succ_div_le_ceil _ _ hl hm))

/-- Round-robin share under every schedule: target `i` receives between `⌊K/N⌋·nᵢ` and `⌈K/N⌉·nᵢ` of the `K`
picks, exactly `nᵢ` per cycle over whole cycles, where `|nᵢ − 10⁴·wᵢ| < 1` (and `nᵢ = 1`, `wᵢ = 1/n` exactly, when
no target has a fixed weight). -/
theorem rr_share_any_schedule (env : Env) (defs : List RouteDef) (t : Table) (h : newTable env defs = .ok t) :
    ∀ kv ∈ t, ∀ r ∈ kv.2, ∀ pl : List (Int × Nat), pl.Perm (entries (slotCounts r.targets)) →
      ∃ ring, ringOf r.targets pl = .ok ring ∧ 0 < ring.length ∧
        ∀ (ks : List Nat) (s : Model.C06.State) (sch : List Nat) (i : Nat) (tg : Target),
          r.targets[i]? = some tg →
          picksDone ring ks s sch / ring.length * ring.count (some i) ≤ hitsOf ring ks s sch i ∧
          hitsOf ring ks s sch i ≤ (picksDone ring ks s sch + ring.length - 1) / ring.length * ring.count (some i) ∧
          (picksDone ring ks s sch % ring.length = 0 →
            hitsOf ring ks s sch i = picksDone ring ks s sch / ring.length * ring.count (some i)) ∧
          ring.count (some i) = (if nFixed r.targets = 0 then 1 else (slotCount tg.weight).toNat) ∧
          (nFixed r.targets ≠ 0 → |((ring.count (some i) : Nat) : Rat) - 10000 * tg.weight| < 1) ∧
          (nFixed r.targets = 0 → tg.weight = 1 / (r.targets.length : Rat)) := by
  intro kv hkv r hr pl hperm
  obtain ⟨ring, h1, h2, h3, h4⟩ := every_route_ring env defs t h kv hkv r hr pl hperm
  obtain ⟨ts, _, hts⟩ := route_weighed env defs t h kv hkv r hr
  have hl : 0 < ring.length := List.length_pos_iff.mpr h2
  refine ⟨ring, h1, hl, fun ks s sch i tg hi => ?_⟩
  obtain ⟨hlo, hhi, hex⟩ := hits_bounds ring hl h3 ks s sch i
  have hc := (h4 i tg hi).1
  rw [hts] at hi hc ⊢
  rw [nFixed_weigh] at hc ⊢
  rw [weigh_length]
  obtain ⟨s0, sn⟩ := share_of_count hi hc
  exact ⟨hlo, hhi, hex, hc, sn, fun h0 => (s0 h0).2⟩

/-- Under every schedule that performs at least one full cycle of picks, every target with positive weight
is picked at least once. -/
theorem positive_weight_never_starved_any_schedule (env : Env) (defs : List RouteDef) (t : Table)
    (h : newTable env defs = .ok t) :
    ∀ kv ∈ t, ∀ r ∈ kv.2, ∀ pl : List (Int × Nat), pl.Perm (entries (slotCounts r.targets)) →
      ∃ ring, ringOf r.targets pl = .ok ring ∧
        ∀ (ks : List Nat) (s : Model.C06.State) (sch : List Nat) (i : Nat) (tg : Target),
          r.targets[i]? = some tg → 0 < tg.weight → ring.length ≤ picksDone ring ks s sch →
          1 ≤ hitsOf ring ks s sch i := by
  intro kv hkv r hr pl hperm
  obtain ⟨ring, h1, h2, h3, h4⟩ := every_route_ring env defs t h kv hkv r hr pl hperm
  have hl : 0 < ring.length := List.length_pos_iff.mpr h2
  refine ⟨ring, h1, fun ks s sch i tg hi hp hK => ?_⟩
  have hc : 1 ≤ ring.count (some i) := List.count_pos_iff.mpr ((h4 i tg hi).2.1 hp)
  have hq : 1 ≤ picksDone ring ks s sch / ring.length := (Nat.le_div_iff_mul_le hl).mpr (by omega)
  calc 1 = 1 * 1 := rfl
    _ ≤ picksDone ring ks s sch / ring.length * ring.count (some i) := Nat.mul_le_mul hq hc
    _ ≤ _ := (hits_bounds ring hl h3 ks s sch i).1

/-- Under every schedule a target with weight zero is never picked. -/
theorem zero_weight_never_picked_any_schedule (env : Env) (defs : List RouteDef) (t : Table)
    (h : newTable env defs = .ok t) :
    ∀ kv ∈ t, ∀ r ∈ kv.2, ∀ pl : List (Int × Nat), pl.Perm (entries (slotCounts r.targets)) →
      ∃ ring, ringOf r.targets pl = .ok ring ∧
        ∀ (ks : List Nat) (s : Model.C06.State) (sch : List Nat) (i : Nat) (tg : Target),
          r.targets[i]? = some tg → tg.weight = 0 → hitsOf ring ks s sch i = 0 := by
  intro kv hkv r hr pl hperm
  obtain ⟨ring, h1, h2, h3, h4⟩ := every_route_ring env defs t h kv hkv r hr pl hperm
  refine ⟨ring, h1, fun ks s sch i tg hi hz => ?_⟩
  have hhi := (hits_bounds ring (List.length_pos_iff.mpr h2) h3 ks s sch i).2.1
  rw [List.count_eq_zero.mpr ((h4 i tg hi).2.2 hz), Nat.mul_zero] at hhi
  exact Nat.le_zero.mp hhi

/-! `route weight <svc> <src> weight w tags "…"` on a route with `k ≥ 1` matching targets and `w > 0`: the
matching targets are given the requested weight `w/k` each (`setWeight_spreads`), the sum of the requested
weights becomes `S = w + Σ (positive requested weights of the non-matching targets)`, and the matching
targets **together** receive

* `w`      when `S ≤ 1` and some target is dynamic, or `S = 1`   (honoured as given),
* `w / S`  when `S > 1`                                            (scaled down proportionally),
* `w / S`  when every target is fixed and `S < 1`                  (scaled up),

so with a dynamic target present the combined share is `w / max(1, S) = min(w, w/S) ≤ 1`. (For `w ≤ 0` the
matching targets become dynamic: `dynamic_share_equal`.) -/

theorem route_weight_share (r : Route) (service : Str) (w : Rat) (tags : List Str) (hw : 0 < w)
    (hk : (r.targets.filter (matchesWeight service tags)).length ≠ 0) :
    let m := matchesWeight service tags
    let r' := (r.setWeight service w tags).1
    let S := w + sumFixed (r.targets.filter (fun t => !m t))
    sumFixed r'.targets = S ∧
    shareOf m r'.targets =
      (if 1 < S ∨ (nFixed r'.targets = r'.targets.length ∧ S < 1) then w / S else w) := by
  intro m r' S
  have hkQ : ((r.targets.filter m).length : Rat) ≠ 0 := by exact_mod_cast hk
  have hc : 0 < w / ((r.targets.filter m).length : Rat) :=
    div_pos hw (by exact_mod_cast Nat.pos_of_ne_zero hk)
  have hr' : r'.targets = weigh (spread m (w / ((r.targets.filter m).length : Rat)) r.targets) := by
    show (r.setWeight service w tags).1.targets = _
    rw [setWeight_eq r service w tags rfl, if_neg hk]
  have hS : sumFixed (spread m (w / ((r.targets.filter m).length : Rat)) r.targets) = S := by
    rw [sumFixed_spread m _ hc]
    show _ = w + _
    field_simp
  have hm : OnlyServiceTags m := by
    intro t t' hs ht
    show matchesWeight service tags t = matchesWeight service tags t'
    simp [matchesWeight, hs, ht]
  refine ⟨by rw [hr', sumFixed_weigh, hS], ?_⟩
  rw [hr', shareOf_weigh_spread m _ hc r.targets hm hk, nFixed_weigh, weigh_length]
  unfold scaleOf
  rw [hS]
  have e : w / ((r.targets.filter m).length : Rat) * ((r.targets.filter m).length : Rat) = w := by
    field_simp
  rw [e]
  split
  · rw [mul_one_div]
  · rw [mul_one]

theorem route_weight_share_honoured (r : Route) (service : Str) (w : Rat) (tags : List Str) (hw : 0 < w)
    (hk : (r.targets.filter (matchesWeight service tags)).length ≠ 0)
    (hS : w + sumFixed (r.targets.filter (fun t => !matchesWeight service tags t)) ≤ 1)
    (hd : nFixed (r.setWeight service w tags).1.targets < (r.setWeight service w tags).1.targets.length) :
    shareOf (matchesWeight service tags) (r.setWeight service w tags).1.targets = w := by
  have h := (route_weight_share r service w tags hw hk).2
  rw [h, if_neg]
  intro hc
  rcases hc with hc | ⟨hc, _⟩
  · exact absurd hS (not_le.mpr hc)
  · omega

theorem route_weight_share_scaled_down (r : Route) (service : Str) (w : Rat) (tags : List Str) (hw : 0 < w)
    (hk : (r.targets.filter (matchesWeight service tags)).length ≠ 0)
    (hS : 1 < w + sumFixed (r.targets.filter (fun t => !matchesWeight service tags t))) :
    shareOf (matchesWeight service tags) (r.setWeight service w tags).1.targets =
      w / (w + sumFixed (r.targets.filter (fun t => !matchesWeight service tags t))) := by
  have h := (route_weight_share r service w tags hw hk).2
  rw [h, if_pos (Or.inl hS)]

def tg (svc : Char) (fw : Rat) : Target := { service := [svc], tags := [], opts := [], url := [svc], fixedWeight := fw }
def rt (ts : List Target) : Route := { host := [], path := ['/'], targets := weigh ts }

-- `route weight a / weight 3` then `route weight b / weight 1` ⇒ 75 % / 25 %
example : (((rt [tg 'a' 0, tg 'b' 0]).setWeight ['a'] 3 []).1.setWeight ['b'] 1 []).1.targets.map (·.weight) = [3/4, 1/4] := by
  decide +kernel
-- two of three targets match `weight 0.5`: 0.25 each, the dynamic one gets the other half
example : ((rt [tg 'a' 0, tg 'a' 0, tg 'b' 0]).setWeight ['a'] (1/2) []).1.targets.map (·.weight) = [1/4, 1/4, 1/2] := by
  decide +kernel
example : shareOf (matchesWeight ['a'] []) ((rt [tg 'a' 0, tg 'a' 0, tg 'b' 0]).setWeight ['a'] (1/2) []).1.targets = 1/2 := by
  decide +kernel
-- share 2 next to a fixed 0.5: S = 2.5, combined share 2/2.5 = 4/5
example : shareOf (matchesWeight ['a'] []) ((rt [tg 'a' 0, tg 'b' (1/2)]).setWeight ['a'] 2 []).1.targets = 4/5 := by
  decide +kernel
-- two goroutines, 3 + 4 picks, interleaved, on a ring of 4 (3 slots for target 0, 1 for target 1): 7 picks from
-- cursor 0 ⇒ 5 and 2 (between ⌊7/4⌋·nᵢ and ⌈7/4⌉·nᵢ: 3…6 and 1…2)
example : hitsOf [some 1, some 0, some 0, some 0] [3, 4] {} [0, 1, 1, 0, 1, 0, 1] 0 = 5 ∧
    hitsOf [some 1, some 0, some 0, some 0] [3, 4] {} [0, 1, 1, 0, 1, 0, 1] 1 = 2 ∧
    picksDone [some 1, some 0, some 0, some 0] [3, 4] {} [0, 1, 1, 0, 1, 0, 1] = 7 := by decide +kernel
-- a table with a weighted route exists (hypothesis of the schedule theorems)
example : ∃ t, newTable ⟨fun s => some s, fun _ => true⟩
    [{ cmd := .add, service := ['a'], src := ['/'], dst := ['x'], weight := 1/4 },
     { cmd := .add, service := ['b'], src := ['/'], dst := ['y'] }] = .ok t ∧ t ≠ [] := ⟨_, rfl, by decide +kernel⟩

end Fabio.Props.C04Compose
