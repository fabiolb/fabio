import Fabio.Lemmas.C02Lines
import Fabio.Lemmas.C02Drain
import Fabio.Props.C02Buf
import Fabio.Lemmas.Lit
/-!
C02 — `bufio.Scanner` reads the raw lines of the parser model.

`Model/Parse.lean` (the model of `route.Parse` used by every theorem about `loadTable`) reads a text as
`rawLines text` — the pieces between newlines, a final empty piece dropped — and reports `ErrTooLong` at the first
raw line of 65536 bytes or more. That reading of `bufio.Scanner` is not an assumption: `Model/C02Buf.lean` models
`Scanner.Scan` on a `bytes.Buffer` statement by statement (compared with the real one per case by stream `c02.buffer`);
this file proves that the two models agree, through the maximal newline-free byte segments `segs` of the flag array
(`Lemmas/C02ScanAll.lean`).
-/
namespace Fabio.Props.C02Lines
open Fabio Fabio.Model.C02Buf Fabio.Model.Parse Fabio.Model.Route
open Fabio.Lemmas.C02Scan Fabio.Lemmas.C02ScanAll Fabio.Lemmas.C02Lines Fabio.Lemmas.C02Drain

/-- **The chunked scanner delivers the raw lines**: the tokens `bufio.Scanner` (4096-byte start buffer doubling to
64 KiB, shifts, reads of whatever fits) delivers over all its calls have the byte lengths of `Parse.rawLines text`, in
order, up to the first raw line of 65536 bytes or more, where it ends with `ErrTooLong`. Since tokens and raw lines are
consecutive pieces of the same text separated by single newlines, equal lengths mean equal content. -/
theorem scanner_reads_the_raw_lines (text : Str) (n : Nat) (hn : byteLen text < n) :
    ((scanAll goCfg (nlFlags text) n {}).1.map (·.2), (scanAll goCfg (nlFlags text) n {}).2.tooLong) =
      cutLens 65536 ((rawLines text).map byteLen) :=
  (scanAll_rawLines text n hn).1

/-- the flag of `cutLens` (the scanner's `ErrTooLong` in `scanner_reads_the_raw_lines`) is the condition under which
`parseLines` reports `tooLong` -/
theorem cutLens_is_the_parser_check (ls : List Str) :
    (cutLens maxToken (ls.map byteLen)).2 = ls.any (fun r => decide (maxToken ≤ byteLen r)) := by
  induction ls with
  | nil => rfl
  | cons r rs ih =>
    simp only [List.map_cons, cutLens, List.any_cons]
    by_cases h : maxToken ≤ byteLen r
    · simp [h]
    · simp [h, ih]

/-- **An accepted text is read to its end.** When the parser model accepts a text, the model of `bufio.Scanner` has taken
every byte out of the buffer it was handed: nothing of an accepted configuration stays behind in `tableBuffer`. This is
the statement stream `c02.buffer` evaluates on the real `route.NewTable` per case (`accepted-text-not-read-to-end`), and
the reason the loop without `Reset` (`noReset_refines_when_drained`) goes wrong only after a REJECTED text. -/
theorem accepted_text_is_read_to_end (pf : ParseFloat) (text : Str) (ds : List RouteDef) (h : parse pf text = .ok ds) :
    leftAfterParse pf text = 0 := by
  have h' : parseLines pf 1 (rawLines text) = .ok ds := h
  have hstop : stopLineAux pf 1 (rawLines text) = none := by rw [stopLineAux_eq pf _ 1 (by simp [h']), h']
  have hcut := parseLines_ok_no_long_line pf _ 1 ds h'
  obtain ⟨hlines, hdrain⟩ := scanAll_rawLines text (byteLen text + 2) (by omega)
  have htl : (scanAll goCfg (nlFlags text) (byteLen text + 2) {}).2.tooLong = false :=
    (congrArg Prod.snd hlines).trans hcut
  unfold leftAfterParse consumed
  rw [show stopLine pf text = none from hstop, show (fun i => (none : Option Nat) == some i) = (fun _ => false) from rfl]
  show byteLen text - (scanLoop goCfg (nlFlags text) (fun _ => false) ((nlFlags text).size + 2) 0 {}).1.off = 0
  rw [scanLoop_eq_scanAll, nlFlags_size, hdrain htl, Nat.sub_self]

theorem loadTable_past_parse_drains (env : Env) (pf : ParseFloat) (text : Str)
    (h : ∀ e, loadTable env pf text ≠ .error (.parse e)) : leftAfterParse pf text = 0 := by
  unfold loadTable at h
  cases hp : parse pf text with
  | error e => exact absurd (by simp [hp]) (h e)
  | ok ds => exact accepted_text_is_read_to_end pf text ds hp

section examples

example : ∃ ds, parse (fun _ => none) "# c\n\n".toList = .ok ds := ⟨[], by rfl⟩

/-- three lines and an empty one, CRLF untouched at this level; a text ending in a newline has no extra line -/
example : cutLens 65536 ((rawLines "ab\r\ncd\n\nx".toList).map byteLen) = ([3, 2, 0, 1], false) := by
  simp only [toList_lit rfl]; decide +kernel
example : (rawLines "ab\n".toList).map byteLen = [2] := by simp only [toList_lit rfl]; decide +kernel
/-- with an 8-byte limit the second line is too long: both sides stop after the first -/
example : cutLens 8 ((rawLines "ab\n0123456789\nzz".toList).map byteLen) = ([2], true) := by
  simp only [toList_lit rfl]; decide +kernel

end examples

end Fabio.Props.C02Lines
