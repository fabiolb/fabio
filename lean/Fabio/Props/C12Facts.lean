import Fabio.Generated.C12
import Fabio.Props.C12
/-!
OBLIGATIONS over the facts regenerated from `/repo` on every run (`tools/factgen/c12.go`): what the proof chain needs
and no correspondence stream can establish by running the code — the control-flow contract of the gates (before the
dial / the handler / the redirect answer on every path, no lookup after them) and what holds under concurrency (the
request path only reads the rule map, the auth schemes store nothing). Each names the breaking change it excludes and
is stated as a relation between events, not as equality with a spelled-out list; those live in `C12Pins.lean`.
-/
namespace Fabio.Props.C12Facts
open Fabio Fabio.Model.C12 Fabio.Generated.C12

def steps (xs : List String) : Option (List Step) := xs.mapM stepOfString

/-- no target is looked up once the access check has run: the target that is dialled (redirected to, handed to the
handler) is the one the gate judged -/
def lookupOnlyBeforeGate (ss : List Step) : Bool := (ss.dropWhile (· != .access)).all (· != .lookup)

def gated (gates : List Step) (xs : List String) : Bool :=
  match steps xs with
  | some ss => gateOrdered gates ss && redirectOrdered gates ss && ss.contains .upstream && lookupOnlyBeforeGate ss
  | none => false

theorem gated_ordered {gates : List Step} {xs : List String} {ss : List Step} (hg : gated gates xs = true)
    (hs : steps xs = some ss) : gateOrdered gates ss = true ∧ redirectOrdered gates ss = true := by
  simp only [gated, hs, Bool.and_eq_true] at hg
  exact ⟨hg.1.1.1, hg.1.1.2⟩

/-- `HTTPProxy.ServeHTTP` (events = callee names in visit order, unexported helpers and local closures followed at
their call sites): lookup, access check and authentication happen before the first thing that contacts an upstream
(a dial function, the handler's `ServeHTTP`) and before `http.Redirect`, and the target is not looked up again.
Excludes: the redirect answer or the reverse proxy moved ahead of a gate (seeded m6); a second lookup after the
gate whose target is used unchecked, on a path no stream provokes (retry on a timeout, on a 5xx, …). -/
theorem http_gates_precede_upstream : gated [.lookup, .access, .auth] httpOrder = true := by decide +kernel

/-- Both gates are links `if <check> { http.Error(…); return }` of a top-level if / else-if chain whose earlier links
all return. Excludes: a gate that answers but falls through, or sits behind a non-returning branch (seeded m3). -/
theorem http_gates_return : httpGatesReturn = true := rfl

/-- Hence (`gate_before_upstream` at the regenerated order) `ServeHTTP` reaches an upstream only for a request that
found a route, passed the access rules and was authorized. -/
theorem http_gate_before_upstream (env : Env) (ss : List Step) (hs : steps httpOrder = some ss)
    (h : (runGate env ss false).2 = true) :
    env.found = true ∧ env.denied = false ∧ env.authorized = true :=
  Props.C12.gate_before_upstream env ss (gated_ordered http_gates_precede_upstream hs).1 h

/-- … and answers with the route's redirect only such a request: a denied or unauthenticated request to a
redirect route gets 403/401, not 3xx. -/
theorem http_gate_before_redirect (env : Env) (ss : List Step) (hs : steps httpOrder = some ss)
    (h : (runGate env ss false).1 = .redirected) :
    env.found = true ∧ env.denied = false ∧ env.authorized = true :=
  Props.C12.gate_before_redirect env ss false (gated_ordered http_gates_precede_upstream hs).2 h

/-- The three TCP proxies: lookup and access check before the dial, no lookup afterwards.
Excludes: the check moved behind the dial; a replacement target fetched after a failed dial and connected to
without asking its rules (seeded m8 — a stream sees it only for the failure it provokes, a refused connection). -/
theorem tcp_gates_precede_dial :
    gated [.lookup, .access] tcpOrder = true ∧ gated [.lookup, .access] sniOrder = true ∧
    gated [.lookup, .access] dynOrder = true := by decide +kernel

/-- … and the body of the gate returns (the deferred `Close` then ends the inbound connection). -/
theorem tcp_gates_return : (tcpGateReturns && sniGateReturns && dynGateReturns) = true := rfl

theorem tcp_gate_before_upstream (env : Env) (ss : List Step)
    (hs : steps tcpOrder = some ss ∨ steps sniOrder = some ss ∨ steps dynOrder = some ss)
    (h : (runGate env ss false).2 = true) : env.found = true ∧ env.denied = false := by
  obtain ⟨h1, h2, h3⟩ := tcp_gates_precede_dial
  rcases hs with hs | hs | hs
  · exact Props.C12.gate_before_upstream_tcp env ss (gated_ordered h1 hs).1 h
  · exact Props.C12.gate_before_upstream_tcp env ss (gated_ordered h2 hs).1 h
  · exact Props.C12.gate_before_upstream_tcp env ss (gated_ordered h3 hs).1 h

/-- `GrpcProxyInterceptor.Stream`: lookup, the access check on the peer address and the route's auth scheme on the
call's `authorization` metadata come before the call of the handler (the 4th parameter), which runs the director
and dials (repairs of D31). -/
theorem grpc_gates_precede_handler : gated [.lookup, .access, .auth] grpcOrder = true := by decide +kernel

/-- … and the access gate is a top-level `if … { return status.Error(…) }`. -/
theorem grpc_gate_returns : grpcGateReturns = true := rfl

/-- Hence the gRPC path reaches a backend only for a call that found a route, whose peer the rules admit and
whose credentials the route's scheme accepts. -/
theorem grpc_gate_before_upstream (env : Env) (ss : List Step) (hs : steps grpcOrder = some ss)
    (h : (runGate env ss false).2 = true) :
    env.found = true ∧ env.denied = false ∧ env.authorized = true :=
  Props.C12.gate_before_upstream env ss (gated_ordered grpc_gates_precede_handler hs).1 h

/-- The request path only READS the rule map: none of `AccessDeniedHTTP`, `AccessDeniedTCP`, `AccessDeniedAddr`,
`denyByIP`, `Authorized` stores into `accessRules` or reaches, through calls inside package route, a function that
does; the stores sit behind `addTarget`, which runs before the target is published in a table. This is the
hypothesis of `first_requests_agree` (any number of requests, any interleaving: everyone gets the sequential
decision). Excludes: rules parsed on first use / a cache filled in on the request path (seeded m9) — right for every
single request, wrong only when the first requests for a fresh target overlap. -/
theorem request_path_reads_only :
    requestPathReachesRuleMapStore = [] ∧ addTargetReachesRuleMapStore = true := ⟨rfl, rfl⟩

/-- `Authorized` of every auth scheme (helpers inlined) stores into nothing but its own local variables — no
field, no package variable, no map element, no channel, no goroutine. The decision on an attempt is a function of
the attempt and the htpasswd file (`auth_decision_depends_only_on_attempt`), also when attempts overlap.
Excludes: a cache of accepted credentials, a counter, a "last user" field (seeded m5). -/
theorem authorized_stores_nothing : 0 < authSchemeTypes ∧ authorizedWrites = 0 := ⟨by decide, rfl⟩

def within (allowed xs : List String) : Bool := xs.all allowed.contains

/-- Of the request, the decision functions read the peer address and the `X-Forwarded-For` lines
(`Target.AccessDeniedHTTP`, helpers and local aliases followed), hand it to the scheme (`Target.Authorized`), and the
schemes read `BasicAuth()` — the first `Authorization` line — and nothing else: not the method, not the path, no
other header. This is what entitles the model to judge a `Req` by `RemoteAddr`, `headerValues "X-Forwarded-For"` and
`headerGet "Authorization"` alone (`auth_reads_only_authorization`, `forwarded_only_if`).
Excludes: an exemption keyed on anything else a client controls — the method, `Origin`, a cookie, an "internal"
header, a path suffix (seeded m11: CORS preflight requests exempted from authentication). A stream exposes such an
exemption only if its generator happens to produce the key. -/
theorem gate_reads_only_peer_forwarded_credentials :
    within ["RemoteAddr", "Header.Values:X-Forwarded-For", "Header[]:X-Forwarded-For"] accessDeniedHTTPReads = true ∧
    within ["pass:Authorized"] targetAuthorizedReads = true ∧
    within ["BasicAuth()", "Header.Get:Authorization", "Header[]:Authorization"] schemeAuthorizedReads = true := by
  decide +kernel

end Fabio.Props.C12Facts
