import Fabio.Generated.C03
import Fabio.Model.C03
import Fabio.Lemmas.Lit
/-! C03 — obligations over the facts regenerated from `/repo` on every run: what the model in
`Model/C03.lean` (and `Model/Route.lean`'s `pathLt`) silently assumes about the source.

The facts are *canonical guarded events* (tools/factgen/c03canon.go): receiver `recv`, parameters `p0 p1 …`,
named results `res0 …`, single-assignment locals replaced by their defining expression, locals from a
multi-value call named after the callee (`Get.0`, `Get.1`), range variables `key(X)`/`val(X)`, other locals
`var0 …`; single-`return` helpers are inlined, other unexported helpers are looked into; each event lists
(sorted, after `|`) the conditions under which it is reached, including the negations contributed by earlier
guard clauses; named constants are folded and switches rewritten to if-chains. So the obligations below pin
what the code does, not how it is spelled. `scanHost` is the role name of `Table.lookup` ("the method
`LookupHost` returns a call of"), `matcher:prefix` of `prefixMatcher` ("the value of `route.Matcher["prefix"]`). -/
namespace Fabio.Props.C03Facts
open Fabio Fabio.Model.C03 Fabio.Generated.C03

/-- the three configurable matchers and what each returns for (uri = `p0`, route = `p1`): `pathMatch` -/
theorem matcher_table : matcherTable =
    ["glob => return globMatch(p1.Glob, p0)",
      "iprefix => return strings.HasPrefix(strings.ToLower(p0), strings.ToLower(p1.Path))",
      "prefix => return strings.HasPrefix(p0, p1.Path)"] := rfl

/-- `globMatch(g, s)` is `g.Match(s)`, with a panic of the library turned into "no match" (the model's glob
parameters are total functions) -/
theorem glob_match_recovers : globMatchEvents =
    ["call recover()",
      "assign res0 = false | nil != recover()",
      "return p0.Match(p1)"] := rfl

/-- default ports: `:80` is stripped exactly when the TLS flag (2nd parameter) is false, `:443` exactly when
it is true — in either of the equivalent forms `if c && HasSuffix(h,s) { return h[:len(h)-len(s)] }` /
`strings.TrimSuffix(h, s)`; every other return gives the host back unchanged. The literals are the model's
`port80` / `port443`. `normalizeHost` lower-cases the result. -/
theorem default_ports :
    defaultPortRules = ["plain strip \"" ++ String.ofList port80 ++ "\"", "tls strip \"" ++ String.ofList port443 ++ "\""] ∧
    (defaultPortOtherReturns = [] ∨ defaultPortOtherReturns = ["p0"]) ∧
    normalizeHostEvents = ["return strings.ToLower(normalizeHostNoLower(p0, p1))"] :=
  ⟨by decide +kernel, by decide +kernel, rfl⟩

/-- `matchingHosts`: walks the table's keys; compiles the *normalised* key through the glob cache; a key is
appended only if it compiled (`Get.1 == nil`: D03 — and no `MustCompile` event exists) and `globMatch`es the
normalised request host; the list is sorted by `sortHostsReverseHostPort` -/
theorem host_selection_glob : matchingHostsEvents =
    ["range recv",
      "call p1.Get(strings.ToLower(normalizeHostNoLower(key(recv), nil != p0.TLS)))",
      "assign res0 = append(res0, key(recv)) | Get.1 == nil & globMatch(Get.0, strings.ToLower(normalizeHostNoLower(p0.Host, nil != p0.TLS)))",
      "assign res0 = sortHostsReverseHostPort(res0)",
      "return "] := rfl

/-- `matchingHostNoGlob`: the lower-cased key is appended iff its normalised form equals the normalised
request host (D05: both sides go through `normalizeHost`) -/
theorem host_selection_noglob : matchingHostNoGlobEvents =
    ["range recv",
      "assign res0 = append(res0, strings.ToLower(key(recv))) | strings.ToLower(normalizeHostNoLower(key(recv), nil != p0.TLS)) == strings.ToLower(normalizeHostNoLower(p0.Host, nil != p0.TLS))",
      "assign res0 = sortHostsReverseHostPort(res0)",
      "return "] := rfl

/-- the model's `isGlobPat` holds of each of `*`, `?`, `[`, `{`, `\` taken as a one-character key and of the empty
key, and not of the key `az09.-:]}!,`. The source's own list of metacharacters is the argument of
`strings.ContainsAny` in `C03Pins.host_order`. -/
theorem glob_metacharacters :
    "*?[{\\".toList.all (fun c => isGlobPat [c]) = true ∧ isGlobPat "az09.-:]}!,".toList = false ∧ isGlobPat [] = true := by
  simp only [toList_lit rfl]; decide +kernel

/-- `Lookup`: `matchingHostNoGlob(req)` when `globDisabled` (6th parameter), else `matchingHosts(req, globCache)`;
then `""` is appended to that list; then every host of the list is scanned in order with the request path, the
configured picker and matcher; the function returns its result variable -/
theorem lookup_shape : lookupEvents =
    ["call recv.matchingHostNoGlob(p0) | p5",
      "call recv.matchingHosts(p0, p4) | !p5",
      "call append(var0, \"\")",
      "range var0",
      "call recv.scanHost(val(var0), p0.URL.Path, p1, p2, p3)",
      "return res0"] := rfl

/-- `LookupHost` is the scan with the prefix matcher on "/" -/
theorem lookup_host : lookupHostEvents =
    ["return recv.scanHost(p0, \"/\", \"\", p1, matcher:prefix)"] := rfl

/-- the HTTP handler (main.go) and the gRPC interceptor hand `Lookup` the configured picker, matcher, glob
cache and `GlobMatchingDisabled` -/
theorem lookup_callers : lookupCallers =
    ["route.Picker[p0.Proxy.Strategy], route.Matcher[p0.Proxy.Matcher], route.NewGlobCache(p0.GlobCacheSize), p0.GlobMatchingDisabled",
      "route.Picker[recv.Config.Proxy.Strategy], route.Matcher[recv.Config.Proxy.Matcher], recv.GlobCache, recv.Config.GlobMatchingDisabled"] := rfl

end Fabio.Props.C03Facts
