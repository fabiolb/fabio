/-!
Run-time support for Lean code **generated from Go source** by `tools/factgen/xlate.go` (the translator).

The translator maps a Go function of a small imperative subset (locals of type `[]byte`, `string`, `int`, `uintN`,
`bool`; fields of a pointer receiver; assignment, `if`, `for cond {}`, `switch` on a value, `break`, `continue`,
`return`; index and slice expressions; integer arithmetic and comparisons) to a term built from the combinators
below — a compositional denotational semantics:

* the state `σ` is a generated structure with one field per parameter, result, local (one per *declaration*, so
  shadowing is resolved by the translator) and receiver field;
* an expression denotes `σ → V α`: a value or a run-time panic (index / slice out of range);
* a statement denotes `σ → Flow ρ σ`: fall through with a new state, `break`, `continue`, `return r` (with the state,
  so that a caller can read fields written through a pointer receiver), or a panic;
* a loop is `loop fuel cond body`: `fuel` is supplied by the translator's caller per loop as an expression of the
  state at loop entry; running out of fuel is a *panic* value, so a "never panics" theorem also proves termination.

Integer model. Go's signed integers (`int` as 64 bits, `int64`, `int32`, …) are translated to Lean's unbounded `Int`.
The translator runs an interval analysis over every signed expression of the function (`int(byte)` ∈ [0,255],
literals, `+ - * << |` of those, `len(x)` ∈ [0,2^62], variables by a fixpoint over their assignments, parameters at
the full range of their type). Where the interval fits the expression's type, machine arithmetic and `Int`
arithmetic coincide and the plain operation is emitted; where it may not, the result is reduced by `wrapI bits`
(Go's two's-complement wrap-around, `wrapI` below). It **refuses to translate** when `|`/`&`/`<<`/`>>`
is applied to a possibly negative operand, a shift may overflow, or a divisor may be zero. Fixed-width unsigned
types (`byte`, `uint16`, …) are translated to Lean's `UInt8`, `UInt16`, … whose operations wrap exactly like Go's
(shift counts are literal and smaller than the width, checked by the translator).

Slices. `d[a:b]` is checked against the *length* (Go checks the upper bound against the capacity, which is never
smaller): a Go panic implies a panic here. Byte strings (`string(d[:n])`) are `List UInt8`.
-/
namespace Fabio.Xlate

abbrev Bytes := List UInt8

/-- Value of an expression: a value or a run-time panic. -/
inductive V (α : Type) where
  | ok (a : α)
  | panic (why : String)
deriving Repr, BEq, DecidableEq

namespace V
@[inline] def bind {α β} (x : V α) (f : α → V β) : V β :=
  match x with
  | .ok a => f a
  | .panic w => .panic w
instance : Monad V where
  pure := .ok
  bind := bind
@[simp] theorem bind_ok {α β} (a : α) (f : α → V β) : (V.ok a >>= f) = f a := rfl
@[simp] theorem bind_panic {α β} (w : String) (f : α → V β) : ((V.panic w : V α) >>= f) = .panic w := rfl
@[simp] theorem pure_eq {α} (a : α) : (pure a : V α) = .ok a := rfl
end V

/-- Outcome of a stretch of statements in a function returning `ρ` over state `σ`. -/
inductive Flow (ρ σ : Type) where
  | next (s : σ)
  | brk (s : σ)
  | cont (s : σ)
  | ret (r : ρ) (s : σ)
  | panic (why : String)

abbrev Stmt (ρ σ : Type) := σ → Flow ρ σ

/-- `a; b` -/
@[inline] def seq {ρ σ} (a b : Stmt ρ σ) : Stmt ρ σ := fun s =>
  match a s with
  | .next s' => b s'
  | .brk s' => .brk s'
  | .cont s' => .cont s'
  | .ret r s' => .ret r s'
  | .panic w => .panic w

/-- the empty statement -/
@[inline] def skip {ρ σ} : Stmt ρ σ := fun s => .next s

/-- `x = e` (the translator supplies the record update) -/
@[inline] def assign {ρ σ α} (e : σ → V α) (upd : σ → α → σ) : Stmt ρ σ := fun s =>
  match e s with
  | .ok v => .next (upd s v)
  | .panic w => .panic w

/-- `if c { a } else { b }` -/
@[inline] def ifS {ρ σ} (c : σ → V Bool) (a b : Stmt ρ σ) : Stmt ρ σ := fun s =>
  match c s with
  | .ok true => a s
  | .ok false => b s
  | .panic w => .panic w

/-- `return e` -/
@[inline] def ret {ρ σ} (e : σ → V ρ) : Stmt ρ σ := fun s =>
  match e s with
  | .ok r => .ret r s
  | .panic w => .panic w

@[inline] def brk {ρ σ} : Stmt ρ σ := fun s => .brk s
@[inline] def cont {ρ σ} : Stmt ρ σ := fun s => .cont s

/-- `for c { body }` with explicit fuel. -/
def loopN {ρ σ} (c : σ → V Bool) (body : Stmt ρ σ) : Nat → Stmt ρ σ
  | 0, _ => .panic "fuel"
  | n+1, s =>
    match c s with
    | .panic w => .panic w
    | .ok false => .next s
    | .ok true =>
      match body s with
      | .next s' => loopN c body n s'
      | .cont s' => loopN c body n s'
      | .brk s' => .next s'
      | .ret r s' => .ret r s'
      | .panic w => .panic w

/-- `for c { body }`; the fuel is an expression of the state at loop entry. -/
@[inline] def loop {ρ σ} (fuel : σ → Nat) (c : σ → V Bool) (body : Stmt ρ σ) : Stmt ρ σ := fun s =>
  loopN c body (fuel s) s

/-- A `break` inside a `switch` (without label) leaves the switch, not the loop; the translator wraps switch
bodies that contain one. -/
@[inline] def catchBrk {ρ σ} (a : Stmt ρ σ) : Stmt ρ σ := fun s =>
  match a s with
  | .brk s' => .next s'
  | o => o

/-- Result of running a function body: the returned value and the final state, or a panic. Falling off the end
of a function with results is impossible in Go (compile error); `bare` is the value of a bare `return`/the end of
a function without results. -/
def run {ρ σ} (body : Stmt ρ σ) (bare : σ → ρ) (s : σ) : V (ρ × σ) :=
  match body s with
  | .ret r s' => .ok (r, s')
  | .next s' => .ok (bare s', s')
  | .brk s' => .ok (bare s', s')
  | .cont s' => .ok (bare s', s')
  | .panic w => .panic w

/-! ### Checked operations -/

/-- `d[i]` for a natural index -/
def idxN (d : Bytes) (i : Nat) : V UInt8 :=
  match d[i]? with
  | some b => .ok b
  | none => .panic "index out of range"

/-- `d[i]` -/
def idx (d : Bytes) (i : Int) : V UInt8 :=
  if 0 ≤ i then idxN d i.toNat else .panic "index out of range"

theorem idxN_lt (d : Bytes) (i : Nat) (h : i < d.length) : idxN d i = .ok d[i] := by
  simp [idxN, List.getElem?_eq_getElem h]

/-! Models count in `Nat`, the translation in `Int`: the `_natCast` lemmas, here and below, give each checked operation
at a natural-number argument, bounds check included, in terms of `Nat` alone. -/

theorem idx_natCast (d : Bytes) (i : Nat) : idx d (i : Int) = idxN d i := by
  simp [idx]

theorem idx_lt (d : Bytes) (i : Nat) (h : i < d.length) : idx d (i : Int) = .ok d[i] := by
  rw [idx_natCast, idxN_lt d i h]

/-- `d[a:b]` -/
def slice (d : Bytes) (a b : Int) : V Bytes :=
  if 0 ≤ a ∧ a ≤ b ∧ b ≤ d.length then .ok ((d.take b.toNat).drop a.toNat) else .panic "slice bounds out of range"

/-- `d[a:]` -/
def sliceFrom (d : Bytes) (a : Int) : V Bytes :=
  if 0 ≤ a ∧ a ≤ d.length then .ok (d.drop a.toNat) else .panic "slice bounds out of range"

/-- `d[:b]` -/
def sliceTo (d : Bytes) (b : Int) : V Bytes :=
  if 0 ≤ b ∧ b ≤ d.length then .ok (d.take b.toNat) else .panic "slice bounds out of range"

theorem slice_natCast (d : Bytes) (a b : Nat) : slice d (a : Int) (b : Int) =
    if a ≤ b ∧ b ≤ d.length then .ok ((d.take b).drop a) else .panic "slice bounds out of range" := by
  simp [slice]

theorem sliceFrom_natCast (d : Bytes) (a : Nat) : sliceFrom d (a : Int) =
    if a ≤ d.length then .ok (d.drop a) else .panic "slice bounds out of range" := by
  simp [sliceFrom]

theorem sliceTo_natCast (d : Bytes) (b : Nat) : sliceTo d (b : Int) =
    if b ≤ d.length then .ok (d.take b) else .panic "slice bounds out of range" := by
  simp [sliceTo]

/-- `len(d)` -/
@[inline] def len (d : Bytes) : Int := d.length

/-- Comparisons of ints as Boolean functions (so that a condition is a plain function application whose arguments
`simp` can rewrite, instead of a `decide` carrying a `Decidable` instance that mentions the unreduced operands). -/
@[inline] def ltI (a b : Int) : Bool := decide (a < b)
@[inline] def leI (a b : Int) : Bool := decide (a ≤ b)
@[inline] def gtI (a b : Int) : Bool := decide (a > b)
@[inline] def geI (a b : Int) : Bool := decide (a ≥ b)
@[simp] theorem ltI_eq (a b : Int) : ltI a b = decide (a < b) := rfl
@[simp] theorem leI_eq (a b : Int) : leI a b = decide (a ≤ b) := rfl
@[simp] theorem gtI_eq (a b : Int) : gtI a b = decide (b < a) := rfl
@[simp] theorem geI_eq (a b : Int) : geI a b = decide (b ≤ a) := rfl

/-- `a | b` on ints the translator has shown non-negative -/
@[inline] def orI (a b : Int) : Int := Int.ofNat (a.toNat ||| b.toNat)

/-- `a & b` on ints the translator has shown non-negative -/
@[inline] def andI (a b : Int) : Int := Int.ofNat (a.toNat &&& b.toNat)

/-- `a << k` for a literal `k` on an int the translator has shown non-negative and small enough -/
@[inline] def shlI (a : Int) (k : Nat) : Int := a * (2 ^ k : Nat)

/-- `a >> k` for a literal `k` on a non-negative int -/
@[inline] def shrI (a : Int) (k : Nat) : Int := Int.ofNat (a.toNat >>> k)

/-! ### Signed overflow, stores, `range`

Go defines overflow of signed arithmetic as two's-complement wrap-around. Where the translator's interval analysis
cannot show that the mathematical result of a signed operation fits the operation's type it emits `wrapI bits`
around it (`int` counts as 64 bits); where it can, the plain `Int` operation stands. -/

/-- two's-complement reduction of a mathematical integer to `bits` bits -/
def wrapI (bits : Nat) (x : Int) : Int := (x + 2 ^ (bits - 1)) % 2 ^ bits - 2 ^ (bits - 1)

theorem wrapI_64 (x : Int) : wrapI 64 x = (x + 9223372036854775808) % 18446744073709551616 - 9223372036854775808 := by
  simp [wrapI]

theorem wrapI_32 (x : Int) : wrapI 32 x = (x + 2147483648) % 4294967296 - 2147483648 := by
  simp [wrapI]

theorem wrapI64_id (x : Int) (h0 : -9223372036854775808 ≤ x) (h1 : x < 9223372036854775808) : wrapI 64 x = x := by
  rw [wrapI_64]; omega

/-- conversion of a signed value to `uintN`: the low bits -/
def toU8 (x : Int) : UInt8 := UInt8.ofNat (x % 256).toNat
def toU16 (x : Int) : UInt16 := UInt16.ofNat (x % 65536).toNat
def toU32 (x : Int) : UInt32 := UInt32.ofNat (x % 4294967296).toNat
def toU64 (x : Int) : UInt64 := UInt64.ofNat (x % 18446744073709551616).toNat

/-- `d[i] = v` on a fixed-size array or an unshared slice (the translator refuses variables that may have an
alias): the updated array, or the panic of Go's bounds check. -/
def upd (d : Bytes) (i : Int) (v : UInt8) : V Bytes :=
  if 0 ≤ i ∧ i < d.length then .ok (d.set i.toNat v) else .panic "index out of range"

theorem upd_natCast (d : Bytes) (i : Nat) (v : UInt8) : upd d (i : Int) v =
    if i < d.length then .ok (d.set i v) else .panic "index out of range" := by
  simp [upd]

theorem upd_ok (d : Bytes) (i : Nat) (v : UInt8) (h : i < d.length) : upd d (i : Int) v = .ok (d.set i v) := by
  rw [upd_natCast, if_pos h]

theorem upd_neg (d : Bytes) (i : Int) (v : UInt8) (h : i < 0) : ∃ w, upd d i v = .panic w :=
  ⟨"index out of range", by unfold upd; rw [if_neg (by omega)]⟩

/-- `for k, x := range xs { body }`: `bind k x` stores the iteration variables. Structural recursion on the list:
a `range` loop terminates by construction (the translator refuses bodies that write the list). -/
def forEachL {ρ σ α} (bind : Nat → α → σ → σ) (body : Stmt ρ σ) : List α → Nat → Stmt ρ σ
  | [], _, s => .next s
  | x :: xs, k, s =>
    match body (bind k x s) with
    | .next s' => forEachL bind body xs (k+1) s'
    | .cont s' => forEachL bind body xs (k+1) s'
    | .brk s' => .next s'
    | .ret r s' => .ret r s'
    | .panic w => .panic w

@[inline] def forEach {ρ σ α} (xs : σ → List α) (bind : Nat → α → σ → σ) (body : Stmt ρ σ) : Stmt ρ σ := fun s =>
  forEachL bind body (xs s) 0 s

def lastIndexByteGo (c : UInt8) : Bytes → Nat → Int → Int
  | [], _, best => best
  | x :: xs, i, best => lastIndexByteGo c xs (i+1) (if x == c then (i : Int) else best)

/-- `strings.LastIndexByte(s, c)`: index of the last `c`, -1 if there is none -/
def lastIndexByte (d : Bytes) (c : UInt8) : Int := lastIndexByteGo c d 0 (-1)

def indexByteGo (c : UInt8) : Bytes → Nat → Int
  | [], _ => -1
  | x :: xs, i => if x == c then (i : Int) else indexByteGo c xs (i+1)

/-- `strings.IndexByte(s, c)` -/
def indexByte (d : Bytes) (c : UInt8) : Int := indexByteGo c d 0

/-! ### lists of other elements (`[]rune`, `[]int` as `List Int`): the checked operations again -/

/-- `d[i]` -/
def lidx {α} (d : List α) (i : Int) : V α :=
  if 0 ≤ i then (match d[i.toNat]? with | some b => .ok b | none => .panic "index out of range") else .panic "index out of range"

/-- `d[a:b]` -/
def lslice {α} (d : List α) (a b : Int) : V (List α) :=
  if 0 ≤ a ∧ a ≤ b ∧ b ≤ d.length then .ok ((d.take b.toNat).drop a.toNat) else .panic "slice bounds out of range"

/-- `d[a:]` -/
def lsliceFrom {α} (d : List α) (a : Int) : V (List α) :=
  if 0 ≤ a ∧ a ≤ d.length then .ok (d.drop a.toNat) else .panic "slice bounds out of range"

/-- `d[:b]` -/
def lsliceTo {α} (d : List α) (b : Int) : V (List α) :=
  if 0 ≤ b ∧ b ≤ d.length then .ok (d.take b.toNat) else .panic "slice bounds out of range"

theorem lsliceTo_natCast {α} (d : List α) (b : Nat) : lsliceTo d (b : Int) =
    if b ≤ d.length then .ok (d.take b) else .panic "slice bounds out of range" := by
  simp [lsliceTo]

/-- `len(d)` -/
@[inline] def llen {α} (d : List α) : Int := d.length

end Fabio.Xlate
