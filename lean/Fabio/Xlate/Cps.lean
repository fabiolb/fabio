import Fabio.Basic
import Fabio.Xlate.Rt
import Fabio.Xlate.CpsAttr
/-!
Translated code in continuation form. `obs K fl` is `K fl` — what the observation `K` sees of a flow, or of a model
result — under a name of its own, so that the equations below have a head to be found by. `simp only [cps]` moves
`obs K` over a right-nested `seq` statement by statement and leaves the expressions as they are (`thenV x p f`: `f` of
the value of `x`, or `p` of the text of its panic; `thenO`: the same for a model stage in `Outcome`), so nothing has to be
known about whether an index is in range. A model written over the same checked operations normalises to the same
chain, and a slice that the code rebinds is a bound variable of the chain, not a growing term.
-/
namespace Fabio.Xlate
variable {ρ σ α β γ : Type}

def obs (K : α → β) (a : α) : β := K a

def thenV (x : V α) (p : String → β) (f : α → β) : β :=
  match x with
  | .ok a => f a
  | .panic w => p w

-- Not by a bare `rfl`: `simp` would use the equation as a definitional rewrite and leave no proof term, and the
-- kernel would re-check the step by unfolding both sides, that is by running what is left of the program `f`
-- stands for, down to its numerals. The same holds for every equation below that `rfl` alone would prove.
@[cps] theorem thenV_ok (a : α) (p : String → β) (f : α → β) : thenV (.ok a) p f = f a := by unfold thenV; exact rfl
@[cps] theorem thenV_pure (a : α) (p : String → β) (f : α → β) : thenV (pure a) p f = f a := by unfold thenV; exact rfl
@[cps] theorem thenV_bind (x : V α) (g : α → V γ) (p : String → β) (f : γ → β) :
    thenV (x >>= g) p f = thenV x p fun a => thenV (g a) p f := by cases x <;> rfl

def thenO (x : Outcome α) (p : String → β) (f : α → β) : β :=
  match x with
  | .ok a => f a
  | .panic w => p w

@[cps] theorem thenO_ok (a : α) (p : String → β) (f : α → β) : thenO (.ok a) p f = f a := by unfold thenO; exact rfl
@[cps] theorem thenO_bind (x : Outcome α) (g : α → Outcome γ) (p : String → β) (f : γ → β) :
    thenO (x.bind g) p f = thenO x p fun a => thenO (g a) p f := by cases x <;> rfl
@[cps] theorem obs_bindO (F : Outcome γ → β) (x : Outcome α) (g : α → Outcome γ) :
    obs F (x.bind g) = thenO x (fun w => obs F (.panic w)) fun a => obs F (g a) := by cases x <;> rfl

@[cps] theorem obs_ite (K : α → β) (c : Prop) [Decidable c] (a b : α) :
    obs K (if c then a else b) = if c then obs K a else obs K b := by split <;> rfl

section
variable (K : Flow ρ σ → β)

@[cps] theorem obs_seq_assign {e : σ → V α} {u : σ → α → σ} {k : Stmt ρ σ} {s : σ} :
    obs K (seq (assign e u) k s) = thenV (e s) (fun w => obs K (.panic w)) fun v => obs K (k (u s v)) := by
  unfold obs seq assign thenV; cases e s <;> rfl

@[cps] theorem obs_assign {e : σ → V α} {u : σ → α → σ} {s : σ} :
    obs K (assign e u s) = thenV (e s) (fun w => obs K (.panic w)) fun v => obs K (.next (u s v)) := by
  unfold obs assign thenV; cases e s <;> rfl

@[cps] theorem obs_seq_ifS {c : σ → V Bool} {a b k : Stmt ρ σ} {s : σ} :
    obs K (seq (ifS c a b) k s) =
      thenV (c s) (fun w => obs K (.panic w)) fun t => if t then obs K (seq a k s) else obs K (seq b k s) := by
  unfold obs thenV seq ifS
  cases c s with
  | panic w => rfl
  | ok t => cases t <;> rfl

@[cps] theorem obs_ifS {c : σ → V Bool} {a b : Stmt ρ σ} {s : σ} :
    obs K (ifS c a b s) = thenV (c s) (fun w => obs K (.panic w)) fun t => if t then obs K (a s) else obs K (b s) := by
  unfold obs thenV ifS
  cases c s with
  | panic w => rfl
  | ok t => cases t <;> rfl

@[cps] theorem obs_ret {e : σ → V ρ} {s : σ} :
    obs K (ret e s) = thenV (e s) (fun w => obs K (.panic w)) fun r => obs K (.ret r s) := by
  unfold obs ret thenV; cases e s <;> rfl
end

@[cps] theorem seq_ret (e : σ → V ρ) (k : Stmt ρ σ) (s : σ) : seq (ret e) k s = ret e s := by
  unfold seq ret; cases e s <;> rfl
@[cps] theorem seq_skip (k : Stmt ρ σ) (s : σ) : seq skip k s = k s := by unfold seq skip; exact rfl
@[cps] theorem seq_brk (k : Stmt ρ σ) (s : σ) : seq brk k s = .brk s := by unfold seq brk; exact rfl
@[cps] theorem seq_seq (a b k : Stmt ρ σ) (s : σ) : seq (seq a b) k s = seq a (seq b k) s := by
  unfold seq; cases a s <;> rfl

/-- what `seq · k` does with the flow of its first statement -/
def seqK (k : Stmt ρ σ) : Flow ρ σ → Flow ρ σ
  | .next s' => k s'
  | .brk s' => .brk s'
  | .cont s' => .cont s'
  | .ret r s' => .ret r s'
  | .panic w => .panic w

@[cps] theorem seq_loop (f : σ → Nat) (c : σ → V Bool) (b k : Stmt ρ σ) (s : σ) :
    seq (loop f c b) k s = seqK k (loopN c b (f s) s) := by
  unfold seq loop seqK; cases loopN c b (f s) s <;> rfl

/-- what `loopN` does with the flow of one round -/
def loopK (c : σ → V Bool) (b : Stmt ρ σ) (n : Nat) : Flow ρ σ → Flow ρ σ
  | .next s' => loopN c b n s'
  | .cont s' => loopN c b n s'
  | .brk s' => .next s'
  | .ret r s' => .ret r s'
  | .panic w => .panic w

theorem loopN_succ (F : Flow ρ σ → β) (c : σ → V Bool) (b : Stmt ρ σ) (n : Nat) (s : σ) :
    F (loopN c b (n+1) s) =
      thenV (c s) (fun w => F (.panic w)) fun t => if t then obs (fun fl => F (loopK c b n fl)) (b s) else F (.next s) := by
  rw [loopN]; unfold thenV obs loopK
  cases c s with
  | panic w => rfl
  | ok t => cases t <;> simp <;> cases b s <;> rfl

/-- what `run` makes of the flow of a body -/
def runK (bare : σ → ρ) : Flow ρ σ → V (ρ × σ)
  | .ret r s' => .ok (r, s')
  | .next s' => .ok (bare s', s')
  | .brk s' => .ok (bare s', s')
  | .cont s' => .ok (bare s', s')
  | .panic w => .panic w

theorem run_obs (F : V (ρ × σ) → β) (body : Stmt ρ σ) (bare : σ → ρ) (s : σ) :
    F (run body bare s) = obs (fun fl => F (runK bare fl)) (body s) := by
  unfold run runK obs; cases body s <;> rfl

end Fabio.Xlate
