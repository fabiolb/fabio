import Lean.Meta.Tactic.Simp.RegisterCommand

/-- The equations that bring translated code (`Xlate/Cps.lean`) and a model written over the same checked operations
into one form: expressions and `>>=` stages are not evaluated but left as the heads of a chain
`thenV (idx d 4) p fun a => thenV (idx d 5) p fun b => if … then … else …`. A package adds the equations that turn
its model's operations into the translation's. -/
register_simp_attr cps
